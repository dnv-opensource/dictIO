import DictIO.Model.Chars
import DictIO.Model.Cli
import DictIO.Model.Counter
import DictIO.Model.Dict
import DictIO.Model.Grammar
import DictIO.Model.KeyPath
import DictIO.Model.NativeFormat
import DictIO.Model.NativeParse
import DictIO.Model.Order
import DictIO.Model.Path
import DictIO.Model.Reader
import DictIO.Model.Scalar
import DictIO.Model.Value
import DictIO.Model.Writer
import DictIO.Model.Written
import DictIO.Model.Xml
import DictIO.Model.GrammarC
import DictIO.Model.Api
