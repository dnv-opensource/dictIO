/-
  `substPh` (Model/NativeFormat.lean), the `re.sub` of a placeholder entry `ph \s+ ph ;`, and the loop of
  `insert_block_comments` built on it (`insertBlock_single`: one comment).  The scan copies a stretch of text in which
  the placeholder word starts nowhere (`substFuel_skip'`, `substPh_skip`; `substPh_noInfix` when that is the whole
  text), replaces an entry it stands in front of (`substFuel_hit`, `matchPhEntry_hit`), and its found-flag does not
  depend on the replacement (`substPh_flag`).
-/
import DictIO.Model.NativeFormat
import DictIO.Lemmas.Str

namespace DictIO

theorem matchPhEntry_lt {ph s rest : Str} (h : matchPhEntry ph s = some rest) : rest.length < s.length := by
  unfold matchPhEntry at h
  split at h
  · simp only [] at h
    split at h
    · next hc =>
      split at h
      · next r2 e =>
        simp only [Option.some.injEq] at h
        subst h
        have h1 := congrArg List.length e
        simp only [List.length_drop, List.length_cons, Bool.and_eq_true, decide_eq_true_eq] at h1 hc
        omega
      · cases h
    · cases h
  · cases h

theorem substFuel_flag (ph r1 r2 : Str) : ∀ (fuel : Nat) (s : Str),
    (substPhEntryFuel ph r1 fuel s).2 = (substPhEntryFuel ph r2 fuel s).2
  | 0, _ => rfl
  | _ + 1, [] => rfl
  | fuel + 1, c :: r => by
    simp only [substPhEntryFuel]
    split
    · rfl
    · exact substFuel_flag ph r1 r2 fuel r

theorem substPh_flag (kw : Str) (i : Nat) (r1 r2 s : Str) : (substPh kw i r1 s).2 = (substPh kw i r2 s).2 :=
  substFuel_flag _ _ _ _ _

theorem substFuel_enough (ph repl : Str) : ∀ (f1 f2 : Nat) (s : Str), s.length < f1 → s.length < f2 →
    substPhEntryFuel ph repl f1 s = substPhEntryFuel ph repl f2 s
  | 0, _, _, h, _ => by omega
  | _ + 1, 0, _, _, h => by omega
  | _ + 1, _ + 1, [], _, _ => rfl
  | f1 + 1, f2 + 1, c :: r, h1, h2 => by
    simp only [substPhEntryFuel]
    simp only [List.length_cons] at h1 h2
    split
    · next rest hm =>
      have := matchPhEntry_lt hm
      simp only [List.length_cons] at this
      rw [substFuel_enough ph repl f1 f2 rest (by omega) (by omega)]
    · rw [substFuel_enough ph repl f1 f2 r (by omega) (by omega)]

theorem substFuel_skip' (ph repl : Str) : ∀ (h : Str) (fuel : Nat) (s : Str),
    (∀ h1 h2, h = h1 ++ h2 → h2 ≠ [] → ph.isPrefixOf (h2 ++ s) = false) →
    substPhEntryFuel ph repl (fuel + h.length) (h ++ s) =
      (h ++ (substPhEntryFuel ph repl fuel s).1, (substPhEntryFuel ph repl fuel s).2)
  | [], fuel, s, _ => by simp
  | x :: h, fuel, s, hp => by
    have hm : matchPhEntry ph (x :: (h ++ s)) = none := by
      have := hp [] (x :: h) rfl (by simp)
      simp only [List.cons_append] at this
      simp [matchPhEntry, this]
    have e : fuel + (x :: h).length = (fuel + h.length) + 1 := by simp; omega
    rw [e, List.cons_append, substPhEntryFuel, hm]
    simp only []
    rw [substFuel_skip' ph repl h fuel s (fun h1 h2 e2 hne => hp (x :: h1) h2 (by rw [e2]; rfl) hne)]
    rfl

theorem substFuel_skip {ph : Str} (repl : Str) {c : Char} {ph' : Str} (hph : ph = c :: ph') (h : Str) (fuel : Nat)
    (s : Str) (hc : c ∉ h) :
    substPhEntryFuel ph repl (fuel + h.length) (h ++ s) =
      (h ++ (substPhEntryFuel ph repl fuel s).1, (substPhEntryFuel ph repl fuel s).2) := by
  refine substFuel_skip' ph repl h fuel s fun h1 h2 e hne => ?_
  cases h2 with
  | nil => exact absurd rfl hne
  | cons x h2 =>
    have hx : (c == x) = false := by
      simp only [beq_eq_false_iff_ne, ne_eq]; rintro rfl; exact hc (by rw [e]; simp)
    simp [hph, List.isPrefixOf, hx]

theorem substPh_skip {kw : Str} (i : Nat) (repl : Str) {c : Char} {kw' : Str} (hkw : kw = c :: kw')
    (h s : Str) (hc : c ∉ h) :
    substPh kw i repl (h ++ s) = (h ++ (substPh kw i repl s).1, (substPh kw i repl s).2) := by
  unfold substPh
  have : (h ++ s).length + 1 = (s.length + 1) + h.length := by simp; omega
  rw [this]
  exact substFuel_skip repl (ph' := kw' ++ padSix i) (by rw [hkw]; rfl) h _ s hc

theorem substFuel_noInfix (ph repl : Str) : ∀ (fuel : Nat) (s : Str), isInfix ph s = false →
    substPhEntryFuel ph repl fuel s = (s, false)
  | 0, _, _ => rfl
  | _ + 1, [], _ => rfl
  | fuel + 1, c :: r, h => by
    rw [isInfix_cons] at h
    simp only [Bool.or_eq_false_iff] at h
    have hm : matchPhEntry ph (c :: r) = none := by simp [matchPhEntry, h.1]
    rw [substPhEntryFuel, hm]
    simp only []
    rw [substFuel_noInfix ph repl fuel r h.2]

theorem substPh_noInfix (kw : Str) (i : Nat) (repl s : Str) (h : isInfix (kw ++ padSix i) s = false) :
    substPh kw i repl s = (s, false) := substFuel_noInfix _ _ _ _ h

theorem substPh_none {kw : Str} (i : Nat) (repl : Str) {c : Char} {kw' : Str} (hkw : kw = c :: kw')
    (s : Str) (hc : c ∉ s) : substPh kw i repl s = (s, false) :=
  substPh_noInfix kw i repl s (by rw [hkw]; exact isInfix_false_of_head hc)

theorem matchPhEntry_hit {ph : Str} {c : Char} {ph' : Str} (hph : ph = c :: ph') (hc : isWs c = false)
    (ws post : Str) (hws : ws ≠ []) (hall : ws.all isWs = true) :
    matchPhEntry ph (ph ++ (ws ++ (ph ++ ';' :: post))) = some post := by
  have h1 : ph.isPrefixOf (ph ++ (ws ++ (ph ++ ';' :: post))) = true := by
    rw [List.isPrefixOf_iff_prefix]; exact List.prefix_append _ _
  have h2 : (ph ++ (ws ++ (ph ++ ';' :: post))).drop ph.length = ws ++ (ph ++ ';' :: post) := List.drop_left
  have h3 : (ws ++ (ph ++ ';' :: post)).dropWhile isWs = ph ++ ';' :: post := by
    rw [hph, List.cons_append, dropWhile_append_stop isWs hc,
      dropWhile_eq_nil_of_all (l := ws) (by simpa using hall)]
    rfl
  have h4 : ph.isPrefixOf (ph ++ ';' :: post) = true := by
    rw [List.isPrefixOf_iff_prefix]; exact List.prefix_append _ _
  have h5 : (ph ++ ';' :: post).drop ph.length = ';' :: post := List.drop_left
  have h6 : (ph ++ ';' :: post).length < (ws ++ (ph ++ ';' :: post)).length := by
    cases ws with
    | nil => exact absurd rfl hws
    | cons w ws => simp; omega
  unfold matchPhEntry
  simp only [h1, if_true, h2, h3, h4, h5, h6, decide_true, Bool.and_self]

theorem substFuel_hit {ph repl s rest : Str} (fuel : Nat) (hm : matchPhEntry ph s = some rest) :
    substPhEntryFuel ph repl (fuel + 1) s = (repl ++ (substPhEntryFuel ph repl fuel rest).1, true) := by
  cases s with
  | nil => have := matchPhEntry_lt hm; simp at this
  | cons c r => rw [substPhEntryFuel, hm]

theorem insertBlock_single (fl : Flavor) (i : Nat) (bc txt : Str)
    (hfound : (substPh kwBlock i [] txt).2 = true) (hne : makeDefaultBlockComment fl bc ≠ []) :
    insertBlockComments fl [(i, bc)] txt = (substPh kwBlock i (makeDefaultBlockComment fl bc) txt).1 := by
  have hinf : isInfix (makeDefaultBlockComment fl bc) [] = false := by
    cases hm : makeDefaultBlockComment fl bc with
    | nil => exact absurd hm hne
    | cons c r => simp [isInfix, tails, List.isPrefixOf]
  have hf : (substPh kwBlock i (makeDefaultBlockComment fl bc) txt).2 = true := by
    rw [substPh_flag kwBlock i _ [] txt]; exact hfound
  have hemp : (makeDefaultBlockComment fl bc).isEmpty = false := by
    cases hm : makeDefaultBlockComment fl bc with
    | nil => exact absurd hm hne
    | cons c r => rfl
  simp only [insertBlockComments, List.foldl_cons, List.foldl_nil, if_true, hinf, Bool.false_eq_true, if_false]
  rcases hs : substPh kwBlock i (makeDefaultBlockComment fl bc) txt with ⟨s', found⟩
  rw [hs] at hf
  simp only [] at hf
  subst hf
  simp [hemp]

end DictIO
