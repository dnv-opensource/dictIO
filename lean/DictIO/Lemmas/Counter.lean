/-
  The id counter: what `Counter.next` and `alloc` hand out, for every counter state (no validity hypothesis: a state
  above the limit wraps to 0 at the next draw), and from the states that can occur (`C13.ValidCounter`): consecutive
  numbers modulo `limit + 1`.  `C02.adv limit k c` is the state after `k` draws: a run of `m + n` draws is one of `m`
  and one of `n` from where the first ends (`alloc_add`), and validity is kept (`adv_valid`).
-/
import DictIO.Model.Counter

namespace DictIO

theorem next_le (limit : Nat) (c : Counter) : (Counter.next limit c).1 ≤ limit := by
  cases c with
  | none => exact Nat.zero_le _
  | some n =>
    rw [Counter.next]
    split
    · exact Nat.zero_le _
    · exact Nat.not_lt.mp ‹_›

theorem alloc_succ (limit k : Nat) (c : Counter) :
    alloc limit (k + 1) c = (Counter.next limit c).1 :: alloc limit k (Counter.next limit c).2 := rfl

theorem alloc_length (limit : Nat) : ∀ (k : Nat) (c : Counter), (alloc limit k c).length = k
  | 0, _ => rfl
  | k + 1, c => by rw [alloc_succ, List.length_cons, alloc_length limit k]

theorem alloc_le (limit : Nat) : ∀ (k : Nat) (c : Counter), ∀ i ∈ alloc limit k c, i ≤ limit
  | k + 1, c, i, h => by
    rw [alloc_succ] at h
    rcases List.mem_cons.mp h with rfl | h
    · exact next_le limit c
    · exact alloc_le limit k _ i h

namespace C13

/-- a counter state that can occur: freshly reset, or a value not above the limit -/
def ValidCounter (limit : Nat) (c : Counter) : Prop := c = none ∨ ∃ n, c = some n ∧ n ≤ limit

/-- the id the counter hands out next, before wrapping -/
def startOf : Counter → Nat
  | none => 0
  | some n => n + 1

theorem next_valid {limit : Nat} {c : Counter} (hc : ValidCounter limit c) : ValidCounter limit (Counter.next limit c).2 := by
  rcases hc with rfl | ⟨n, rfl, _⟩
  · exact Or.inr ⟨0, rfl, Nat.zero_le _⟩
  · simp only [Counter.next]
    split
    · exact Or.inr ⟨0, rfl, Nat.zero_le _⟩
    · exact Or.inr ⟨n + 1, rfl, by omega⟩

theorem next_start {limit : Nat} {c : Counter} (hc : ValidCounter limit c) :
    (Counter.next limit c).1 = startOf c % (limit + 1) ∧
      startOf (Counter.next limit c).2 % (limit + 1) = (startOf c + 1) % (limit + 1) := by
  rcases hc with rfl | ⟨n, rfl, hn⟩
  · exact ⟨(Nat.zero_mod _).symm, rfl⟩
  · simp only [Counter.next, startOf]
    split
    · obtain rfl : n = limit := by omega
      exact ⟨(Nat.mod_self _).symm, (Nat.add_mod_left _ _).symm⟩
    · exact ⟨(Nat.mod_eq_of_lt (by omega)).symm, rfl⟩

/-- the ids handed out are consecutive modulo `limit + 1` -/
theorem alloc_eq_range {limit : Nat} {c : Counter} (hc : ValidCounter limit c) (k : Nat) :
    alloc limit k c = (List.range k).map fun i => (startOf c + i) % (limit + 1) := by
  induction k generalizing c with
  | zero => rfl
  | succ k ih =>
    obtain ⟨h1, h2⟩ := next_start hc
    rw [alloc_succ, ih (next_valid hc), List.range_succ_eq_map, List.map_cons, List.map_map, h1]
    refine congrArg _ (List.map_congr_left fun i _ => ?_)
    rw [Function.comp, Nat.add_mod, h2, ← Nat.add_mod, Nat.add_right_comm]; rfl

/-- `% m` is injective on a window of at most `m` consecutive numbers -/
theorem mod_window_inj {m s a b : Nat} (hab : a < b) (hb : b < m) : (s + a) % m ≠ (s + b) % m := by
  intro e
  have h := Nat.sub_mod_eq_zero_of_mod_eq e.symm
  rw [show s + b - (s + a) = b - a by omega, Nat.mod_eq_of_lt (by omega)] at h
  omega

end C13

namespace C02

/-- the counter after `k` draws -/
def adv (limit : Nat) : Nat → Counter → Counter
  | 0, c => c
  | k + 1, c => adv limit k (Counter.next limit c).2

theorem adv_add (limit : Nat) : ∀ (m n : Nat) (c : Counter), adv limit (m + n) c = adv limit n (adv limit m c)
  | 0, n, c => by simp [adv]
  | m + 1, n, c => by
    rw [show m + 1 + n = (m + n) + 1 by omega]
    simp only [adv]
    exact adv_add limit m n _

theorem alloc_add (limit : Nat) : ∀ (m n : Nat) (c : Counter),
    alloc limit (m + n) c = alloc limit m c ++ alloc limit n (adv limit m c)
  | 0, n, c => by simp [alloc, adv]
  | m + 1, n, c => by
    rw [show m + 1 + n = (m + n) + 1 by omega, alloc_succ, alloc_succ, alloc_add limit m n]
    simp [adv]

theorem adv_valid {limit : Nat} : ∀ (k : Nat) {c : Counter}, C13.ValidCounter limit c → C13.ValidCounter limit (adv limit k c)
  | 0, _, h => h
  | k + 1, _, h => adv_valid k (C13.next_valid h)

end C02

end DictIO
