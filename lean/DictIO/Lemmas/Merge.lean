/-
  `_recursive_merge` (`mergeD` of Model/Dict.lean) in a form proofs can use.

  The merge is a loop over the items of `other`; `mstep` is one round of it and `mergeVal` the value the merge leaves
  under one key.  `mergeD` itself is unfolded in `mergeD_nil`/`mergeD_cons` only.  What a round does: `mstep_none`,
  `mstep_some`, `mstep_dict_dict` (by cases), `mem_mstep`, `lookup_mstep`, `keys_mstep`; `mergeD_induct` follows the
  loop and the recursion into a dict present on both sides.  Consequences: `merge_lookup_mergeVal`, `mergeD_absorb`
  (when the merge changes nothing), `mergeD_forall` (a property of the form "every entry is good" is kept as soon as it
  is kept where two dicts meet), `selMap_mergeD` (a traversal whose value map respects dicts commutes with the merge).
  What the merge does not look at: `mergeD_cons_front`, `mergeD_top_eq`, `mergeD_false_ex`.  The names under `C07`
  are the vocabulary of Props/C07.lean, which states the merge algebra.
-/
import DictIO.Lemmas.Assoc
import DictIO.Lemmas.SelMap
import DictIO.Lemmas.Induct

namespace DictIO

/-- Induction over nested dicts: a statement holds for a dict if it holds for every dict that is the value of one of
    its entries. -/
theorem Entries.ind_sub {P : Entries → Prop} (h : ∀ es, (∀ e ∈ es, ∀ d, e.2 = .dict d → P d) → P es) : ∀ es, P es := by
  suffices H : ∀ es : Entries, ∀ e ∈ es, ∀ d, e.2 = Val.dict d → P d from fun es => h es (H es)
  intro es
  induction es using Entries.ind with
  | nil => intro e he; cases he
  | leaf k x r ih => intro e he d hd; rcases List.mem_cons.mp he with rfl | he; cases hd; exact ih e he d hd
  | list k xs r ih => intro e he d hd; rcases List.mem_cons.mp he with rfl | he; cases hd; exact ih e he d hd
  | dict k es r ih1 ih2 =>
    intro e he d hd
    rcases List.mem_cons.mp he with rfl | he
    · cases hd; exact h _ ih1
    · exact ih2 e he d hd

namespace C07

/-- what `_recursive_merge` does with one `(key, value)` item of `other` -/
def mstep (top : Bool) (exprs : Tbl ExprEntry) (t : Entries) (k : Key) (v : Val) : Entries :=
  match lookup k t, v with
  | some (.dict td), .dict od => setKey k (.dict (mergeD false exprs td od)) t
  | some tv, _ => if top && selfRef exprs k tv then setKey k v t else t
  | none, _ => t ++ [(k, v)]

/-- value of key `k` after merging an item `(k, bv)` into a dict where `k` has value `av` -/
def mergeVal (top : Bool) (exprs : Tbl ExprEntry) (k : Key) : Option Val → Option Val → Option Val
  | some (.dict ad), some (.dict bd) => some (.dict (mergeD false exprs ad bd))
  | some av, some bv => if top && selfRef exprs k av then some bv else some av
  | some av, none => some av
  | none, bv => bv

theorem mergeD_nil (top : Bool) (exprs : Tbl ExprEntry) (t : Entries) : mergeD top exprs t [] = t := by
  rw [mergeD]

theorem mergeD_cons (top : Bool) (exprs : Tbl ExprEntry) (t : Entries) (k : Key) (v : Val) (o : Entries) :
    mergeD top exprs t ((k, v) :: o) = mergeD top exprs (mstep top exprs t k v) o := by
  rw [mergeD.eq_def]; rfl

theorem mergeD_induct (exprs : Tbl ExprEntry) {motive : Bool → Entries → Entries → Prop}
    (nil : ∀ top t, motive top t [])
    (cons : ∀ top t k v o,
      (∀ td od, lookup k t = some (.dict td) → v = .dict od → motive false td od) →
      motive top (mstep top exprs t k v) o → motive top t ((k, v) :: o)) :
    ∀ top t o, motive top t o
  | top, t, [] => nil top t
  | top, t, (k, v) :: o =>
    cons top t k v o (fun td od _ _ => mergeD_induct exprs nil cons false td od)
      (mergeD_induct exprs nil cons top _ o)
termination_by _ _ o => sizeOf o
decreasing_by
  · subst_vars; simp; omega
  · simp; omega

theorem selfRef_dict (exprs : Tbl ExprEntry) (k : Key) (es : Entries) : selfRef exprs k (.dict es) = false := by
  cases k <;> rfl

theorem selfRef_isDict {exprs : Tbl ExprEntry} {k : Key} {v : Val} (h : selfRef exprs k v = true) : v.isDict = false := by
  cases v with
  | dict es => rw [selfRef_dict] at h; exact absurd h (by decide)
  | _ => rfl

theorem mergeVal_none_right (top : Bool) (exprs : Tbl ExprEntry) (k : Key) (x : Option Val) :
    mergeVal top exprs k x none = x := by
  cases x with
  | none => rfl
  | some v => cases v <;> rfl

theorem mergeVal_dict_dict (top : Bool) (exprs : Tbl ExprEntry) (k : Key) (ad bd : Entries) :
    mergeVal top exprs k (some (.dict ad)) (some (.dict bd)) = some (.dict (mergeD false exprs ad bd)) := rfl

theorem mergeVal_some_some (top : Bool) (exprs : Tbl ExprEntry) (k : Key) {av bv : Val}
    (h : av.isDict = false ∨ bv.isDict = false) :
    mergeVal top exprs k (some av) (some bv) = if top && selfRef exprs k av then some bv else some av := by
  cases av <;> cases bv <;> first | rfl | simp [Val.isDict] at h

theorem mergeVal_isSome (top : Bool) (exprs : Tbl ExprEntry) (k : Key) (x : Option Val) (v : Val) :
    (mergeVal top exprs k x (some v)).isSome = true := by
  cases x with
  | none => rfl
  | some av =>
    by_cases h : av.isDict = false ∨ v.isDict = false
    · rw [mergeVal_some_some top exprs k h]; split <;> rfl
    · cases av <;> cases v <;> first | rfl | simp [Val.isDict] at h

theorem mstep_dict_dict (top : Bool) (exprs : Tbl ExprEntry) {t : Entries} {k : Key} {td : Entries} (od : Entries)
    (h : lookup k t = some (.dict td)) :
    mstep top exprs t k (.dict od) = setKey k (.dict (mergeD false exprs td od)) t := by
  simp only [mstep, h]

theorem mstep_some (top : Bool) (exprs : Tbl ExprEntry) {t : Entries} {k : Key} {tv v : Val}
    (h : lookup k t = some tv) (hnd : tv.isDict = false ∨ v.isDict = false) :
    mstep top exprs t k v = if top && selfRef exprs k tv then setKey k v t else t := by
  cases tv <;> cases v <;> first | (simp only [mstep, h]; done) | simp [Val.isDict] at hnd

theorem mstep_none (top : Bool) (exprs : Tbl ExprEntry) {t : Entries} {k : Key} (v : Val)
    (h : lookup k t = none) : mstep top exprs t k v = t ++ [(k, v)] := by
  simp only [mstep, h]

/-- the entries after one merge step: those of `t`, the new item, or — a dict on both sides — the merged dict -/
theorem mem_mstep {top : Bool} {exprs : Tbl ExprEntry} {t : Entries} {k : Key} {v : Val} {e : Key × Val}
    (h : e ∈ mstep top exprs t k v) :
    e ∈ t ∨ e = (k, v) ∨
      ∃ td od, lookup k t = some (.dict td) ∧ v = .dict od ∧ e = (k, .dict (mergeD false exprs td od)) := by
  unfold mstep at h
  split at h
  · next td od hl =>
    rcases mem_setKey h with h | h
    · exact Or.inr (Or.inr ⟨td, od, hl, rfl, h⟩)
    · exact Or.inl h
  · split at h
    · exact (mem_setKey h).elim (fun h => Or.inr (Or.inl h)) Or.inl
    · exact Or.inl h
  · rcases List.mem_append.mp h with h | h
    · exact Or.inl h
    · exact Or.inr (Or.inl (List.mem_singleton.mp h))

theorem lookup_mstep (top : Bool) (exprs : Tbl ExprEntry) (t : Entries) (k : Key) (v : Val) (k' : Key) :
    lookup k' (mstep top exprs t k v) = if k = k' then mergeVal top exprs k (lookup k t) (some v) else lookup k' t := by
  cases h : lookup k t with
  | none =>
    rw [mstep_none top exprs v h, lookup_append]
    by_cases hk : k = k'
    · subst hk; simp [h, lookup, mergeVal]
    · simp [hk, lookup]
  | some tv =>
    by_cases hnd : tv.isDict = false ∨ v.isDict = false
    · rw [mstep_some top exprs h hnd, mergeVal_some_some top exprs k hnd]
      by_cases hc : (top && selfRef exprs k tv) = true
      · simp only [hc, if_true, lookup_setKey]
      · simp only [hc]
        by_cases hk : k = k'
        · subst hk; simp [h]
        · simp [hk]
    · cases tv with
      | dict td =>
        cases v with
        | dict od => rw [mstep_dict_dict top exprs od h, lookup_setKey, mergeVal_dict_dict]
        | _ => simp [Val.isDict] at hnd
      | _ => simp [Val.isDict] at hnd

theorem hasKey_mstep (top : Bool) (exprs : Tbl ExprEntry) (t : Entries) (k : Key) (v : Val) (k' : Key) :
    hasKey k' (mstep top exprs t k v) = (decide (k = k') || hasKey k' t) := by
  unfold hasKey
  rw [lookup_mstep]
  by_cases hk : k = k'
  · simp [hk, mergeVal_isSome]
  · simp [hk]

theorem keys_mstep (top : Bool) (exprs : Tbl ExprEntry) (t : Entries) (k : Key) (v : Val) :
    keys (mstep top exprs t k v) = if hasKey k t then keys t else keys t ++ [k] := by
  unfold mstep
  split
  · rename_i td od h
    have hm : k ∈ keys t := hasKey_iff_mem.mp (by simp [hasKey, h])
    rw [keys_setKey_of_mem k _ t hm]; simp [hasKey, h]
  · rename_i tv _ h hnd
    have hm : k ∈ keys t := hasKey_iff_mem.mp (by simp [hasKey, h])
    split
    · rw [keys_setKey_of_mem k _ t hm]; simp [hasKey, h]
    · simp [hasKey, h]
  · rename_i _ h
    simp [hasKey, h, keys]

theorem merge_lookup_mergeVal (top : Bool) (exprs : Tbl ExprEntry) (k : Key) : ∀ (b a : Entries), (keys b).Nodup →
    lookup k (mergeD top exprs a b) = mergeVal top exprs k (lookup k a) (lookup k b)
  | [], a, _ => by rw [mergeD_nil]; simp only [lookup]; rw [mergeVal_none_right]
  | (kb, vb) :: b, a, hb => by
    have hb' : kb ∉ keys b ∧ (keys b).Nodup := List.nodup_cons.mp hb
    rw [mergeD_cons, merge_lookup_mergeVal top exprs k b _ hb'.2, lookup_mstep]
    by_cases hk : kb = k
    · subst hk
      have : lookup kb b = none := lookup_eq_none_iff.mpr hb'.1
      simp only [if_true, this, mergeVal_none_right, lookup]
    · simp only [hk, if_false, lookup]

/-- merging `o` into a `t` that already "absorbs" every item of `o` changes nothing -/
theorem mergeD_absorb (top : Bool) (exprs : Tbl ExprEntry) : ∀ (o t : Entries),
    (∀ e ∈ o, ∃ tv, lookup e.1 t = some tv ∧
      (∀ td od, tv = .dict td → e.2 = .dict od → mergeD false exprs td od = td) ∧
      (top = true → selfRef exprs e.1 tv = true → tv = e.2)) →
    mergeD top exprs t o = t
  | [], t, _ => mergeD_nil top exprs t
  | (k, v) :: o, t, h => by
    obtain ⟨tv, hl, hdd, hsr⟩ := h (k, v) List.mem_cons_self
    dsimp only at hl hdd hsr
    have hstep : mstep top exprs t k v = t := by
      by_cases hnd : tv.isDict = false ∨ v.isDict = false
      · rw [mstep_some top exprs hl hnd]
        split
        · rename_i hc
          simp only [Bool.and_eq_true] at hc
          rw [← hsr hc.1 hc.2]; exact setKey_lookup_self hl
        · rfl
      · cases tv with
        | dict td =>
          cases v with
          | dict od => rw [mstep_dict_dict top exprs od hl, hdd td od rfl rfl]; exact setKey_lookup_self hl
          | _ => simp [Val.isDict] at hnd
        | _ => simp [Val.isDict] at hnd
    rw [mergeD_cons, hstep]
    exact mergeD_absorb top exprs o t fun e he => h e (List.mem_cons_of_mem _ he)

end C07

open C07

theorem mstep_cons_front (top : Bool) (exprs : Tbl ExprEntry) (e : Key × Val) (t : Entries) {k : Key} (v : Val)
    (hk : k ≠ e.1) : mstep top exprs (e :: t) k v = e :: mstep top exprs t k v := by
  obtain ⟨k0, v0⟩ := e
  have hne : ¬ k0 = k := fun h => hk h.symm
  have hl : lookup k ((k0, v0) :: t) = lookup k t := by rw [lookup, if_neg hne]
  have hs : ∀ x, setKey k x ((k0, v0) :: t) = (k0, v0) :: setKey k x t := fun x => by rw [setKey, if_neg hne]
  unfold mstep
  rw [hl]
  split
  · rw [hs]
  · split
    · rw [hs]
    · rfl
  · rfl

/-- an entry in front whose key the merged-in dict does not have is not touched by the merge -/
theorem mergeD_cons_front (top : Bool) (exprs : Tbl ExprEntry) (e : Key × Val) : ∀ (o t : Entries), e.1 ∉ keys o →
    mergeD top exprs (e :: t) o = e :: mergeD top exprs t o
  | [], t, _ => by rw [mergeD_nil, mergeD_nil]
  | (k, v) :: o, t, h => by
    have hk : k ≠ e.1 := fun h' => h (by simp [h'])
    rw [mergeD_cons, mergeD_cons, mstep_cons_front top exprs e t v hk]
    exact mergeD_cons_front top exprs e o _ fun hm => h (by simp [hm])

theorem mstep_top_eq (exprs : Tbl ExprEntry) {t : Entries} {k : Key}
    (h : ∀ tv, lookup k t = some tv → selfRef exprs k tv = false) (v : Val) :
    mstep true exprs t k v = mstep false exprs t k v := by
  unfold mstep
  split
  · rfl
  · next _ tv hl _ => simp [h tv hl]
  · rfl

/-- without self-referring entries the `SDict` merge (`top = true`) is the plain recursive merge -/
theorem mergeD_top_eq (exprs : Tbl ExprEntry) : ∀ (o t : Entries), (∀ e ∈ t, selfRef exprs e.1 e.2 = false) →
    (∀ e ∈ o, selfRef exprs e.1 e.2 = false) → mergeD true exprs t o = mergeD false exprs t o
  | [], t, _, _ => by rw [mergeD_nil, mergeD_nil]
  | (k, v) :: o, t, ht, ho => by
    rw [mergeD_cons, mergeD_cons, mstep_top_eq exprs (fun tv h => ht (k, tv) (lookup_some_mem h))]
    refine mergeD_top_eq exprs o _ (fun e he => ?_) fun e he => ho e (List.mem_cons_of_mem _ he)
    rcases mem_mstep he with h | rfl | ⟨_, _, _, _, rfl⟩
    · exact ht e h
    · exact ho _ List.mem_cons_self
    · exact selfRef_dict _ _ _

/-- the expression table is consulted at the top level only -/
theorem mergeD_false_ex (ex ex' : Tbl ExprEntry) (t o : Entries) : mergeD false ex t o = mergeD false ex' t o := by
  refine mergeD_induct ex (motive := fun top t o => top = false → mergeD false ex t o = mergeD false ex' t o)
    (fun _ t _ => by rw [mergeD_nil, mergeD_nil]) (fun top t k v o ih1 ih2 htop => ?_) false t o rfl
  subst htop
  have hstep : mstep false ex t k v = mstep false ex' t k v := by
    unfold mstep
    split
    · next td od hl => rw [ih1 td od hl rfl rfl]
    · rfl
    · rfl
  rw [mergeD_cons, mergeD_cons, ← hstep, ih2 rfl]

section
variable {q : Key → Bool} {f : Val → Val}

/-- what the traversal `selMap q f` does to one round of the merge loop; `hdd`: where two dicts meet, `f` of the merged
    dict is the merge of the two `f`-images -/
theorem selMap_mstep (hisDict : ∀ v, (f v).isDict = v.isDict) (hself : ∀ ex k v, selfRef ex k (f v) = selfRef ex k v)
    (top : Bool) (ex : Tbl ExprEntry) (t : Entries) (k : Key) (v : Val)
    (hdd : ∀ td od, lookup k t = some (.dict td) → v = .dict od → ∃ td' od', f (.dict td) = .dict td' ∧
      f (.dict od) = .dict od' ∧ f (.dict (mergeD false ex td od)) = .dict (mergeD false ex td' od')) :
    selMap q f (mstep top ex t k v) = if q k then mstep top ex (selMap q f t) k (f v) else selMap q f t := by
  have hl := lookup_selMap (q := q) (f := f) k t
  cases hk : q k with
  | false =>
    simp only [Bool.false_eq_true, if_false]
    rcases h : lookup k t with _ | tv
    · rw [mstep_none top ex v h, selMap_append, selMap_cons, hk]; exact List.append_nil _
    · by_cases hnd : tv.isDict = false ∨ v.isDict = false
      · rw [mstep_some top ex h hnd]; split
        · rw [selMap_setKey, hk]; rfl
        · rfl
      · cases tv <;> cases v <;>
          first | (rw [mstep_dict_dict top ex _ h, selMap_setKey, hk]; rfl) | simp [Val.isDict] at hnd
  | true =>
    rw [hk, if_pos rfl] at hl
    simp only [if_true]
    rcases h : lookup k t with _ | tv
    · rw [h] at hl
      rw [mstep_none top ex v h, mstep_none top ex _ hl, selMap_append, selMap_cons, hk]; rfl
    · rw [h, Option.map_some] at hl
      by_cases hnd : tv.isDict = false ∨ v.isDict = false
      · rw [mstep_some top ex h hnd, mstep_some top ex hl (by rw [hisDict, hisDict]; exact hnd), hself]
        split
        · rw [selMap_setKey, hk]; rfl
        · rfl
      · cases tv with
        | dict td =>
          cases v with
          | dict od =>
            obtain ⟨td', od', h1, h2, h3⟩ := hdd td od h rfl
            rw [h1] at hl
            rw [mstep_dict_dict top ex od h, h2, mstep_dict_dict top ex _ hl, selMap_setKey, hk, if_pos rfl, h3]
          | _ => simp [Val.isDict] at hnd
        | _ => simp [Val.isDict] at hnd

/-- **A key filter with a value map that respects `.dict`, `isDict` and `selfRef` commutes with `_recursive_merge`.** -/
theorem selMap_mergeD (hdict : ∀ es, f (.dict es) = .dict (selMap q f es)) (hisDict : ∀ v, (f v).isDict = v.isDict)
    (hself : ∀ ex k v, selfRef ex k (f v) = selfRef ex k v) (ex : Tbl ExprEntry) :
    ∀ (top : Bool) (t o : Entries), selMap q f (mergeD top ex t o) = mergeD top ex (selMap q f t) (selMap q f o) := by
  apply mergeD_induct ex
    (motive := fun top t o => selMap q f (mergeD top ex t o) = mergeD top ex (selMap q f t) (selMap q f o))
  · intro top t; rw [mergeD_nil, selMap_nil, mergeD_nil]
  · intro top t k v o ih1 ih2
    rw [mergeD_cons, ih2, selMap_mstep hisDict hself top ex t k v fun td od hl hv =>
      ⟨_, _, hdict td, hdict od, by rw [hdict, ih1 td od hl hv]⟩, selMap_cons]
    cases hk : q k with
    | false => rfl
    | true => rw [if_pos rfl, if_pos rfl, mergeD_cons]

end

namespace C07

/-! #### filters on keys

  The merge reaches the existing dict only through `lookup` and `setKey` at the keys of the merged-in dict and through
  appending entries with these keys, so for a class `q` of keys: if every key of the merged-in dict lies in `q`, the
  entries of class `q` are merged on their own; if none does, they are not touched. -/

/-- a plain filter on keys is the traversal with `f = id`: the dict merged where two dicts meet is left as it is -/
theorem filter_mstep (q : Key → Bool) (top : Bool) (exprs : Tbl ExprEntry) (t : Entries) (k : Key) (v : Val) :
    (mstep top exprs t k v).filter (fun e => q e.1) =
      if q k = true then mstep top exprs (t.filter fun e => q e.1) k v else t.filter fun e => q e.1 := by
  simp only [← selMap_id]
  exact selMap_mstep (f := id) (fun _ => rfl) (fun _ _ _ => rfl) top exprs t k v fun td od _ _ => ⟨td, od, rfl, rfl, rfl⟩

/-- a class of keys that holds every key of `o`: filtering commutes with the merge -/
theorem filter_mergeD_keep (q : Key → Bool) (top : Bool) (exprs : Tbl ExprEntry) : ∀ (o t : Entries),
    (∀ e ∈ o, q e.1 = true) →
    (mergeD top exprs t o).filter (fun e => q e.1) = mergeD top exprs (t.filter fun e => q e.1) o
  | [], t, _ => by rw [mergeD_nil, mergeD_nil]
  | (k, v) :: o, t, h => by
    rw [mergeD_cons, mergeD_cons, filter_mergeD_keep q top exprs o _ (fun e he => h e (List.mem_cons_of_mem _ he)),
      filter_mstep, if_pos (h (k, v) List.mem_cons_self)]

/-- a class of keys that holds no key of `o`: the merge does not touch it -/
theorem filter_mergeD_drop (q : Key → Bool) (top : Bool) (exprs : Tbl ExprEntry) : ∀ (o t : Entries),
    (∀ e ∈ o, q e.1 = false) →
    (mergeD top exprs t o).filter (fun e => q e.1) = t.filter fun e => q e.1
  | [], t, _ => by rw [mergeD_nil]
  | (k, v) :: o, t, h => by
    rw [mergeD_cons, filter_mergeD_drop q top exprs o _ (fun e he => h e (List.mem_cons_of_mem _ he)),
      filter_mstep, if_neg (by rw [h (k, v) List.mem_cons_self]; exact Bool.false_ne_true)]

end C07

/-- **A property of dicts that holds iff every entry is good is kept by the merge**, provided a dict entry stays good
    when the dict of the same key is merged into it — where the property may be assumed for that inner merge (`P` and `Q`
    come in a family, so that the inner merge can be at another index: one level deeper, the sub-schema). -/
theorem mergeD_forall {ι : Type} (ex : Tbl ExprEntry) {P : ι → Entries → Prop} {Q : ι → Key × Val → Prop}
    (hP : ∀ i es, P i es ↔ ∀ e ∈ es, Q i e)
    (hQ : ∀ i k td od, Q i (k, .dict td) → Q i (k, .dict od) →
      (∀ j, P j td → P j od → P j (mergeD false ex td od)) → Q i (k, .dict (mergeD false ex td od))) :
    ∀ (top : Bool) (t o : Entries) (i : ι), P i t → P i o → P i (mergeD top ex t o) := by
  apply mergeD_induct ex (motive := fun top t o => ∀ i, P i t → P i o → P i (mergeD top ex t o))
  · intro top t i ht _; rw [mergeD_nil]; exact ht
  · intro top t k v o ih1 ih2 i ht ho
    rw [mergeD_cons]
    rw [hP] at ht ho
    refine ih2 i ((hP _ _).mpr fun e he => ?_) ((hP _ _).mpr fun e he => ho e (List.mem_cons_of_mem _ he))
    rcases mem_mstep he with h | rfl | ⟨td, od, hl, rfl, rfl⟩
    · exact ht e h
    · exact ho _ List.mem_cons_self
    · exact hQ i k td od (ht _ (lookup_some_mem hl)) (ho _ List.mem_cons_self) (ih1 td od hl rfl)

theorem nodup_keys_mergeD (top : Bool) (exprs : Tbl ExprEntry) : ∀ (b a : Entries), (keys a).Nodup →
    (keys (mergeD top exprs a b)).Nodup
  | [], a, h => by rw [mergeD_nil]; exact h
  | (k, v) :: b, a, h => by
    rw [mergeD_cons]
    apply nodup_keys_mergeD top exprs b
    rw [keys_mstep]
    cases hk : hasKey k a with
    | true => simpa using h
    | false =>
      have hk' : k ∉ keys a := hasKey_false_iff.mp hk
      simp only [Bool.false_eq_true, if_false]
      exact List.nodup_append.mpr ⟨h, by simp, by intro x hx y hy; simp at hy; subst hy; exact fun e => hk' (e ▸ hx)⟩

theorem hasKey_mergeD (top : Bool) (ex : Tbl ExprEntry) (k : Key) : ∀ (b a : Entries),
    hasKey k (mergeD top ex a b) = (hasKey k a || hasKey k b)
  | [], a => by rw [mergeD_nil]; simp [hasKey, lookup]
  | (kb, vb) :: b, a => by
    rw [mergeD_cons, hasKey_mergeD top ex k b, hasKey_mstep]
    by_cases hk : kb = k <;> simp [hasKey, lookup, hk]

theorem C07.nodupV_mergeD (exprs : Tbl ExprEntry) (top : Bool) (t o : Entries) (ht : NodupKeysV (.dict t))
    (ho : NodupKeysEs o) : NodupKeysV (.dict (mergeD top exprs t o)) :=
  ⟨nodup_keys_mergeD top exprs o t ht.1,
    mergeD_forall (ι := Unit) exprs (P := fun _ => NodupKeysEs) (Q := fun _ e => NodupKeysV e.2)
      (fun _ _ => nodupKeysEs_iff)
      (fun _ _ td od h1 h2 ih => ⟨nodup_keys_mergeD false exprs od td h1.1, ih () h1.2 h2.2⟩) top t o () ht.2 ho⟩

end DictIO
