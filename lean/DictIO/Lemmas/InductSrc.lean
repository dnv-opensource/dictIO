/-
  Induction principles for source documents, for the reason given in Lemmas/Induct.lean: `SrcEntries.ind` and
  `CItems.ind` for `induction … using`; the mutual `Src.ind`, `Src.indEs`, `Src.indXs`, applied as terms to the cases.
-/
import DictIO.Model.GrammarC

namespace DictIO

/-- Induction over a source dict and the dicts nested in it through dict values; lists are opaque. -/
theorem SrcEntries.ind {P : SrcEntries → Prop} (nil : P [])
    (lit : ∀ k l es, P es → P ((k, .lit l) :: es))
    (list : ∀ k xs es, P es → P ((k, .list xs) :: es))
    (dict : ∀ k dd es, P dd → P es → P ((k, .dict dd) :: es)) : ∀ es, P es
  | [] => nil
  | (k, .lit l) :: es => lit k l es (SrcEntries.ind nil lit list dict es)
  | (k, .list xs) :: es => list k xs es (SrcEntries.ind nil lit list dict es)
  | (k, .dict dd) :: es => dict k dd es (SrcEntries.ind nil lit list dict dd) (SrcEntries.ind nil lit list dict es)
termination_by es => es

mutual
  theorem Src.ind {P : Src → Prop} {Q : SrcEntries → Prop} {R : List Src → Prop}
      (lit : ∀ l, P (.lit l)) (dict : ∀ es, Q es → P (.dict es)) (list : ∀ xs, R xs → P (.list xs))
      (nilE : Q []) (consE : ∀ k v es, P v → Q es → Q ((k, v) :: es))
      (nilX : R []) (consX : ∀ v xs, P v → R xs → R (v :: xs)) : ∀ v, P v
    | .lit l => lit l
    | .dict es => dict es (Src.indEs lit dict list nilE consE nilX consX es)
    | .list xs => list xs (Src.indXs lit dict list nilE consE nilX consX xs)
  theorem Src.indEs {P : Src → Prop} {Q : SrcEntries → Prop} {R : List Src → Prop}
      (lit : ∀ l, P (.lit l)) (dict : ∀ es, Q es → P (.dict es)) (list : ∀ xs, R xs → P (.list xs))
      (nilE : Q []) (consE : ∀ k v es, P v → Q es → Q ((k, v) :: es))
      (nilX : R []) (consX : ∀ v xs, P v → R xs → R (v :: xs)) : ∀ es, Q es
    | [] => nilE
    | (k, v) :: es => consE k v es (Src.ind lit dict list nilE consE nilX consX v)
        (Src.indEs lit dict list nilE consE nilX consX es)
  theorem Src.indXs {P : Src → Prop} {Q : SrcEntries → Prop} {R : List Src → Prop}
      (lit : ∀ l, P (.lit l)) (dict : ∀ es, Q es → P (.dict es)) (list : ∀ xs, R xs → P (.list xs))
      (nilE : Q []) (consE : ∀ k v es, P v → Q es → Q ((k, v) :: es))
      (nilX : R []) (consX : ∀ v xs, P v → R xs → R (v :: xs)) : ∀ xs, R xs
    | [] => nilX
    | v :: xs => consX v xs (Src.ind lit dict list nilE consE nilX consX v)
        (Src.indXs lit dict list nilE consE nilX consX xs)
end

theorem CItems.ind {P : List CItem → Prop} (nil : P [])
    (lineC : ∀ t r, P r → P (.lineC t :: r)) (blockC : ∀ t r, P r → P (.blockC t :: r))
    (lit : ∀ k l r, P r → P (.entry k (.lit l) :: r))
    (list : ∀ k xs r, P r → P (.entry k (.list xs) :: r))
    (dict : ∀ k items r, P items → P r → P (.entry k (.dict items) :: r)) : ∀ items, P items
  | [] => nil
  | .lineC t :: r => lineC t r (CItems.ind nil lineC blockC lit list dict r)
  | .blockC t :: r => blockC t r (CItems.ind nil lineC blockC lit list dict r)
  | .entry k (.lit l) :: r => lit k l r (CItems.ind nil lineC blockC lit list dict r)
  | .entry k (.list xs) :: r => list k xs r (CItems.ind nil lineC blockC lit list dict r)
  | .entry k (.dict items) :: r =>
    dict k items r (CItems.ind nil lineC blockC lit list dict items) (CItems.ind nil lineC blockC lit list dict r)
termination_by items => items

end DictIO
