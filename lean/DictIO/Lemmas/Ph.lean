/-
  Placeholder words `kw ++ padSix i`.  One of any of the five keywords is typed as the string it is (`parseValue_ph`)
  and, like every non-empty word of `Plain` characters, written as it is (`formatString_plain`).
  The three kinds that `_clean_data` looks for (line comment, block comment, include directive) are one indexed family,
  `ph a i = a.kw ++ padSix i`.  That the kinds do not overlap rests on one finite table, `sep`: a letter of `a.kw` that
  `b.kw` lacks.  From it, how the recognisers of Model/Dict (`containsPh_ph`, `firstSix_ph`), the selectors of
  `_clean_data` (`selK_ph`, `selK_noPh`) and `C08.phIdOf`, which reads the id off an exact placeholder word and off
  nothing else (`phIdOf_kind`), fare on a placeholder word of any kind.

  The words defined elsewhere are `ph` at a kind by `rfl`: `linePh i`, `blockPh i` (model), `inclPh i` (C12idoc),
  `C12.hdrPh` (C12hdr) are `ph .line i`, `ph .block i`, `ph .incl i`, `ph .block 0`; `C12W.phWord l i` (C12xtok) is
  `ph (C12W.kindB l) i` (`C12W.phWord_kind`; both C12lay).
-/
import DictIO.Lemmas.Scalar
import DictIO.Lemmas.Chars
import DictIO.Lemmas.Clean

namespace DictIO

/-- a placeholder word is typed as itself: it has no quote, starts with a capital (so it is no number and none of
    `-`, `_`, `.`), and is longer than the six words -/
theorem parseValue_ph {kw : Str} (hkw : kw ∈ phKeywords) (i : Nat) :
    parseValue (kw ++ padSix i) = .str (kw ++ padSix i) := by
  have hp := plain_ph hkw i
  obtain ⟨hlen, hup⟩ := kw_table kw hkw
  obtain ⟨c, r, rfl⟩ : ∃ c r, kw = c :: r := by
    cases kw with
    | nil => cases hlen
    | cons c r => exact ⟨c, r, rfl⟩
  have hc : Plain c := .of_mem (List.mem_append_left _ (hup c List.mem_cons_self))
  exact C04.parseValue_plain_word (r := r ++ padSix i) (fun x hx => (hp x hx).nquote)
    (upper_table c (hup c List.mem_cons_self)).1
    ⟨hc.ne (by decide), hc.ne (by decide), hc.ne (by decide), hc.ne (by decide)⟩
    (C04.not_anyWord_of_long (fun x hx => (hp x hx).nws) (by simp at hlen ⊢; omega))

theorem formatString_plain (fl : Flavor) {w : Str} (hne : w ≠ []) (hp : ∀ c ∈ w, Plain c) : formatString fl w = w := by
  refine C04.formatString_of_bare ⟨hne, ?_, ?_, ?_⟩
  · cases hc : w.contains '$' with
    | false => rfl
    | true => exact absurd rfl ((hp _ (List.contains_iff_mem.mp hc)).ne (by decide))
  · simp only [List.all_eq_true, Bool.and_eq_true, Bool.not_eq_true']
    exact fun c hc => ⟨(hp c hc).nquote, (hp c hc).ncomplex⟩
  · exact C04.startsInclude_of_head fun h => (hp '#' (List.mem_of_mem_head? h)).ne (by decide) rfl

end DictIO

namespace DictIO.Ph

theorem kw_ne_nil {kw : Str} (hkw : kw ∈ phKeywords) : kw ≠ [] := fun e => by
  have := (kw_table kw hkw).1; rw [e] at this; cases this

theorem kw_nodigit {kw : Str} (hkw : kw ∈ phKeywords) : ∀ c ∈ kw, digitVal c = none :=
  fun c hc => (upper_table c ((kw_table kw hkw).2 c hc)).2.1

theorem firstSix_padSix {n : Nat} (h : n < 1000000) : firstSixDigits (padSix n) = some n := by
  have hr := digitRun_padSix h []
  rw [List.append_nil] at hr
  cases hp : padSix n with
  | nil => have := padSix_length h; rw [hp] at this; cases this
  | cons c cs => rw [hp] at hr; simp only [firstSixDigits, hr]

/-- the id read off a placeholder word (`_clean_data`, `_insert_expression`) -/
theorem firstSix_word {kw : Str} (hkw : kw ∈ phKeywords) {n : Nat} (h : n < 1000000) :
    firstSixDigits (kw ++ padSix n) = some n := by
  rw [firstSix_skip _ _ (kw_nodigit hkw), firstSix_padSix h]

theorem containsPh_kw_append {kw : Str} (hkw : kw ≠ []) {t : Str} (ht : (digitRun 6 t).isSome = true) :
    containsPh kw (kw ++ t) = true := by
  cases kw with
  | nil => exact absurd rfl hkw
  | cons c cs =>
    have hp : (c :: cs).isPrefixOf (c :: cs ++ t) = true := List.isPrefixOf_iff_prefix.mpr (List.prefix_append _ _)
    have hd : (c :: cs ++ t).drop (c :: cs).length = t := List.drop_left
    simp only [containsPh, List.cons_append, tails, List.any_cons, Bool.or_eq_true, Bool.and_eq_true]
    left
    exact ⟨by simp, by rw [← List.cons_append, hd]; exact ht⟩

theorem containsPh_word {kw : Str} (hkw : kw ≠ []) {n : Nat} (h : n < 1000000) : containsPh kw (kw ++ padSix n) = true :=
  containsPh_kw_append hkw (by rw [← List.append_nil (padSix n), digitRun_padSix h]; rfl)

inductive Kind | line | block | incl
  deriving DecidableEq

def kinds : List Kind := [.line, .block, .incl]

theorem mem_kinds : ∀ a : Kind, a ∈ kinds := by intro a; cases a <;> decide

def Kind.kw : Kind → Str
  | .line => kwLine
  | .block => kwBlock
  | .incl => kwIncl

/-- the placeholder word of kind `a` with id `i`; `ph .line i` is `linePh i`, `ph .block i` is `blockPh i` -/
def ph (a : Kind) (i : Nat) : Str := a.kw ++ padSix i

/-- a letter of `a.kw` that `b.kw` lacks (for `a ≠ b`) -/
def sep : Kind → Kind → Char
  | .line, .block => 'I'
  | .line, _ => 'M'
  | .block, _ => 'B'
  | .incl, _ => 'U'

theorem kw_mem (a : Kind) : a.kw ∈ phKeywords := by cases a <;> simp [Kind.kw, phKeywords]

theorem kw_upper (a : Kind) : ∀ c ∈ a.kw, c ∈ upperChars := (kw_table _ (kw_mem a)).2

theorem plain (a : Kind) (i : Nat) : ∀ c ∈ ph a i, Plain c := plain_ph (kw_mem a) i

theorem sep_table : ∀ a ∈ kinds, ∀ b ∈ kinds, a ≠ b → sep a b ∈ a.kw ∧ sep a b ∉ b.kw := by decide +kernel

theorem sep_spec {a b : Kind} (h : a ≠ b) : sep a b ∈ a.kw ∧ sep a b ∉ b.kw := sep_table a (mem_kinds a) b (mem_kinds b) h

theorem ph_sub (a : Kind) (i : Nat) : ∀ c ∈ ph a i, c ∈ a.kw ++ digitChars := fun c hc =>
  (List.mem_append.mp hc).elim (List.mem_append_left _) fun h => List.mem_append_right _ (padSix_digit i c h)

theorem no_upper {kw : Str} {x : Char} (hx : x ∈ upperChars) (hk : x ∉ kw) : x ∉ kw ++ digitChars :=
  fun hm => (List.mem_append.mp hm).elim hk (upper_table x hx).2.2

theorem sep_notin {a b : Kind} (h : a ≠ b) (n : Nat) : sep a b ∉ ph b n :=
  fun hm => no_upper (kw_upper a _ (sep_spec h).1) (sep_spec h).2 (ph_sub b n _ hm)

theorem ph_inj {a : Kind} {i j : Nat} (h : ph a i = ph a j) : i = j := padSix_inj (List.append_cancel_left h)

theorem ph_ne {a b : Kind} (h : a ≠ b) (i j : Nat) : ph a i ≠ ph b j := fun e =>
  sep_notin h j (e ▸ List.mem_append_left _ (sep_spec h).1)

/-- a placeholder word contains no other placeholder word -/
theorem ph_infix {a b : Kind} {i j : Nat} (hi : i < 1000000) (hj : j < 1000000) (h : isInfix (ph a i) (ph b j) = true) :
    a = b ∧ i = j := by
  by_cases hab : a = b
  · subst hab; exact ⟨rfl, ph_infix_inj _ hi hj h⟩
  · exact absurd (isInfix_mem h _ (List.mem_append_left _ (sep_spec hab).1)) (sep_notin hab j)

theorem firstSix_ph (a : Kind) {n : Nat} (h : n < 1000000) : firstSixDigits (ph a n) = some n := firstSix_word (kw_mem a) h

theorem containsPh_own (a : Kind) {n : Nat} (h : n < 1000000) : containsPh a.kw (ph a n) = true :=
  containsPh_word (kw_ne_nil (kw_mem a)) h

theorem kw_infix_other {a b : Kind} (h : a ≠ b) (n : Nat) : isInfix a.kw (ph b n) = false :=
  isInfix_false_of_not_mem (sep_spec h).1 (sep_notin h n)

theorem containsPh_other {a b : Kind} (h : a ≠ b) (n : Nat) : containsPh a.kw (ph b n) = false :=
  containsPh_false (isInfix_self _) (kw_infix_other h n)

theorem containsPh_ph (a b : Kind) {n : Nat} (hn : n < 1000000) : containsPh a.kw (ph b n) = decide (a = b) := by
  by_cases h : a = b
  · rw [decide_eq_true h, h]; exact containsPh_own b hn
  · rw [decide_eq_false h]; exact containsPh_other h n

/-- the selector of `_clean_data` for the keys of kind `a` -/
def selK : Kind → Key → Bool
  | .block => C06.selB
  | .incl => C06.selI
  | .line => C06.selL

theorem selK_ph (a b : Kind) {i : Nat} (hi : i < 1000000) : selK a (.str (ph b i)) = decide (a = b) := by
  have hL := containsPh_ph .line b hi
  have hB := containsPh_ph .block b hi
  have hI := containsPh_ph .incl b hi
  simp only [Kind.kw] at hL hB hI
  cases a <;> cases b <;> simp [selK, C06.selB, C06.selI, C06.selL, hL, hB, hI]

theorem selK_noPh (a : Kind) {k : Key} (h : C07.isPhKey k = false) : selK a k = false := by
  cases k with
  | int z => cases a <;> rfl
  | str x =>
    simp only [C07.isPhKey, Bool.or_eq_false_iff] at h
    cases a <;> simp [selK, C06.selB, C06.selI, C06.selL, h.1.1, h.1.2, h.2]

theorem isPhKey_ph (a : Kind) {i : Nat} (hi : i < 1000000) : C07.isPhKey (.str (ph a i)) = true := by
  have h := containsPh_own a hi
  cases a <;> simp only [Kind.kw] at h <;> simp [C07.isPhKey, h]

end DictIO.Ph

namespace DictIO.C08
open DictIO

/-- the id of an exact placeholder word: the inverse of `n ↦ kw ++ padSix n` on six-digit ids -/
def phIdOf (kw s : Str) : Option Nat :=
  let n := digitsVal (s.drop kw.length)
  if n < 1000000 ∧ s = kw ++ padSix n then some n else none

theorem phIdOf_ph (kw : Str) {n : Nat} (h : n < 1000000) : phIdOf kw (kw ++ padSix n) = some n := by
  simp only [phIdOf, List.drop_left, digitsVal_padSix]
  simp [h]

theorem phIdOf_some {kw s : Str} {n : Nat} (h : phIdOf kw s = some n) : n < 1000000 ∧ s = kw ++ padSix n := by
  simp only [phIdOf] at h
  split at h
  · rename_i hc
    cases h
    exact hc
  · cases h

theorem phIdOf_none {kw s : Str} (h : ∀ i, i < 1000000 → s ≠ kw ++ padSix i) : phIdOf kw s = none := by
  cases hp : phIdOf kw s with
  | none => rfl
  | some i => exact absurd (phIdOf_some hp).2 (h i (phIdOf_some hp).1)

open _root_.DictIO.Ph (Kind ph)

theorem phIdOf_other {a b : Kind} (h : a ≠ b) (n : Nat) : phIdOf a.kw (ph b n) = none :=
  phIdOf_none fun i _ e => Ph.ph_ne h i n e.symm

theorem phIdOf_kind (a b : Kind) {n : Nat} (hn : n < 1000000) :
    phIdOf a.kw (ph b n) = if a = b then some n else none := by
  by_cases h : a = b
  · rw [if_pos h, h]; exact phIdOf_ph _ hn
  · rw [if_neg h]; exact phIdOf_other h n

end DictIO.C08
