/-
  What the scalar functions of `Model/Scalar.lean` do, in the vocabulary of the documented element-type table
  (property C04; the names live in `DictIO.C04`): the grammars of the number literals and the recognisers that accept
  exactly them (`isIntLit_iff`, `isFloatExpLit_iff`), quote-free strings (`removeQuotes_of_qf`), the cascade of
  `parseValue` restated over the declarative guards (`parseValue_eq`, and one lemma per row: `parseValue_empty`,
  `_special`, `_int`, `_float`, `_word`), the row "a plain word is typed `str` and kept" (`parseValue_plain_word`), and
  the quoting decision of `formatString` (`formatString_cases`, `formatString_of_bare`).
-/
import DictIO.Model.Scalar
import DictIO.Lemmas.List
import DictIO.Lemmas.Str

namespace DictIO.C04
open DictIO

/-! #### vocabulary: the grammars of the documented table -/

/-- an optional sign `[+-]?` -/
def IsSign (s : Str) : Prop := s = [] ∨ s = ['+'] ∨ s = ['-']

/-- what Python's `$` tolerates after the match: nothing, or one final line feed -/
def IsTail (s : Str) : Prop := s = [] ∨ s = ['\n']

/-- `\d*` -/
def Digits (ds : Str) : Prop := ∀ c ∈ ds, isDigit c = true

instance (ds : Str) : Decidable (Digits ds) := by unfold Digits; infer_instance

/-- `^[+-]?\d+$` -/
def IsIntLit (s : Str) : Prop :=
  ∃ sign ds tail, s = sign ++ ds ++ tail ∧ IsSign sign ∧ ds ≠ [] ∧ Digits ds ∧ IsTail tail

/-- `\d+(\.\d*)?|\.\d+` -/
inductive IsMantissa : Str → Prop
  | int (ds : Str) : ds ≠ [] → Digits ds → IsMantissa ds
  | intFrac (ds fs : Str) : ds ≠ [] → Digits ds → Digits fs → IsMantissa (ds ++ '.' :: fs)
  | frac (fs : Str) : fs ≠ [] → Digits fs → IsMantissa ('.' :: fs)

/-- `([eE][-+]?\d+)?` -/
inductive IsExponent : Str → Prop
  | none : IsExponent []
  | exp (e : Char) (sign ds : Str) : e = 'e' ∨ e = 'E' → IsSign sign → ds ≠ [] → Digits ds → IsExponent (e :: (sign ++ ds))

/-- `^[+-]?(\d+(\.\d*)?|\.\d+)([eE][-+]?\d+)?$` -/
def IsFloatLit (s : Str) : Prop :=
  ∃ sign m e tail, s = sign ++ m ++ e ++ tail ∧ IsSign sign ∧ IsMantissa m ∧ IsExponent e ∧ IsTail tail

/-- sign applied to a magnitude -/
def applySign (sign : Str) (n : Nat) : Int := if sign = ['-'] then -(n : Int) else n

/-- the three strings that are kept as they are -/
def IsSpecial (s : Str) : Prop := s = ['-'] ∨ s = ['_'] ∨ s = ['.']

instance (s : Str) : Decidable (IsSpecial s) := by unfold IsSpecial; infer_instance

/-- `s.strip().lower() == w` (ASCII lower-casing: see `C04_lower_safe`) -/
def IsWord (w : String) (s : Str) : Prop := (strip s).map asciiLower = w.toList

instance (w : String) (s : Str) : Decidable (IsWord w s) := by unfold IsWord; infer_instance

/-- one of the six words -/
def IsAnyWord (s : Str) : Prop :=
  IsWord "true" s ∨ IsWord "on" s ∨ IsWord "false" s ∨ IsWord "off" s ∨ IsWord "none" s ∨ IsWord "null" s

/-- rows 1 and 2 do not apply -/
def NotTrivial (s : Str) : Prop := removeQuotes s ≠ [] ∧ ¬ IsSpecial s

instance (s : Str) : Decidable (NotTrivial s) := by unfold NotTrivial; infer_instance

/-- rows 1 to 4 do not apply -/
def NotNumeric (s : Str) : Prop := NotTrivial s ∧ ¬ IsIntLit s ∧ ¬ IsFloatLit s

/-- the string may be written bare: non-empty, no `$`, no quote, no character of the "complex" class, and it does not
    start like an include directive (`#include…`) -/
def Bare (s : Str) : Prop :=
  s ≠ [] ∧ s.contains '$' = false ∧ s.all (fun c => !isQuote c && !isComplexChar c) = true ∧ startsInclude s = false

/-! #### the pieces of the recognisers, each with what it splits off (`_split`/`_spec`) and the converse (`_append`) -/

/-- the next character is not a digit (or there is none) -/
def NDH : Str → Prop
  | [] => True
  | c :: _ => isDigit c = false

/-- the next character is not a sign -/
def NSH : Str → Prop
  | [] => True
  | c :: _ => c ≠ '+' ∧ c ≠ '-'

theorem isDigit_dot : isDigit '.' = false := by decide
theorem isDigit_e : isDigit 'e' = false := by decide
theorem isDigit_E : isDigit 'E' = false := by decide
theorem isDigit_plus : isDigit '+' = false := by decide
theorem isDigit_minus : isDigit '-' = false := by decide
theorem isDigit_nl : isDigit '\n' = false := by decide
theorem isDigit_sq : isDigit '\'' = false := by decide
theorem isDigit_dq : isDigit '"' = false := by decide

theorem Digits.nil : Digits [] := fun _ h => nomatch h
theorem Digits.cons {c : Char} {ds : Str} (hc : isDigit c = true) (h : Digits ds) : Digits (c :: ds) :=
  List.forall_mem_cons.mpr ⟨hc, h⟩
theorem Digits.head {c : Char} {ds : Str} (h : Digits (c :: ds)) : isDigit c = true := (List.forall_mem_cons.mp h).1
theorem Digits.tail {c : Char} {ds : Str} (h : Digits (c :: ds)) : Digits ds := (List.forall_mem_cons.mp h).2

theorem IsTail.ndh {t : Str} (h : IsTail t) : NDH t := by
  rcases h with rfl | rfl
  · trivial
  · exact isDigit_nl

theorem IsTail.atDollar {t : Str} (h : IsTail t) : atDollar t = true := by
  rcases h with rfl | rfl <;> decide

theorem atDollar_iff {t : Str} : atDollar t = true ↔ IsTail t := by
  simp [atDollar, IsTail]

theorem spanDigits_split : ∀ {s d r : Str}, spanDigits s = (d, r) → s = d ++ r ∧ Digits d ∧ NDH r
  | [], d, r, h => by
    simp only [spanDigits, Prod.mk.injEq] at h
    obtain ⟨rfl, rfl⟩ := h
    exact ⟨rfl, Digits.nil, trivial⟩
  | c :: cs, d, r, h => by
    simp only [spanDigits] at h
    by_cases hc : isDigit c = true
    · obtain ⟨h1, h2, h3⟩ := spanDigits_split (s := cs) (d := (spanDigits cs).1) (r := (spanDigits cs).2) rfl
      simp only [hc, if_true, Prod.mk.injEq] at h
      obtain ⟨rfl, rfl⟩ := h
      refine ⟨by rw [List.cons_append, ← h1], Digits.cons hc h2, h3⟩
    · simp only [hc] at h
      obtain ⟨rfl, rfl⟩ := h
      exact ⟨rfl, Digits.nil, by simpa [NDH] using hc⟩

/-- uniqueness: the longest digit prefix is the only split with a non-digit next -/
theorem spanDigits_append : ∀ {d r : Str}, Digits d → NDH r → spanDigits (d ++ r) = (d, r)
  | [], [], _, _ => rfl
  | [], c :: r, _, h => by
    have : isDigit c = false := h
    simp [spanDigits, this]
  | c :: d, r, hd, hr => by
    simp [spanDigits, hd.head, spanDigits_append hd.tail hr]

theorem dropSign_spec (s : Str) : ∃ sign, IsSign sign ∧ s = sign ++ dropSign s := by
  unfold dropSign
  split
  · exact ⟨['+'], Or.inr (Or.inl rfl), rfl⟩
  · exact ⟨['-'], Or.inr (Or.inr rfl), rfl⟩
  · exact ⟨[], Or.inl rfl, rfl⟩

theorem dropSign_of_nsh : ∀ {r : Str}, NSH r → dropSign r = r
  | [], _ => rfl
  | c :: r, h => by
    obtain ⟨h1, h2⟩ := h
    unfold dropSign
    split
    · rename_i heq; cases heq; exact absurd rfl h1
    · rename_i heq; cases heq; exact absurd rfl h2
    · rfl

theorem dropSign_append {sign r : Str} (hs : IsSign sign) (hr : NSH r) : dropSign (sign ++ r) = r := by
  rcases hs with rfl | rfl | rfl
  · exact dropSign_of_nsh hr
  · rfl
  · rfl

theorem nsh_of_isDigit {c : Char} (h : isDigit c = true) (r : Str) : NSH (c :: r) := by
  refine ⟨?_, ?_⟩ <;> rintro rfl
  · rw [isDigit_plus] at h; cases h
  · rw [isDigit_minus] at h; cases h

theorem Digits.nsh {ds : Str} (hne : ds ≠ []) (h : Digits ds) (r : Str) : NSH (ds ++ r) := by
  cases ds with
  | nil => exact absurd rfl hne
  | cons c ds => exact nsh_of_isDigit h.head _

theorem IsMantissa.nsh {m : Str} (h : IsMantissa m) (r : Str) : NSH (m ++ r) := by
  cases h with
  | int ds hne hd => exact hd.nsh hne r
  | intFrac ds fs hne hd hf => rw [List.append_assoc]; exact hd.nsh hne _
  | frac fs hne hf => exact ⟨by decide, by decide⟩

/-- the next character is not a `.` -/
def NDot : Str → Prop
  | [] => True
  | c :: _ => c ≠ '.'

theorem spanDigits_of_ndh {r : Str} (h : NDH r) : spanDigits r = ([], r) :=
  spanDigits_append (d := []) Digits.nil h

theorem dropMantissa_spec {s r : Str} (h : dropMantissa s = some r) : ∃ m, s = m ++ r ∧ IsMantissa m := by
  unfold dropMantissa at h
  cases hsd : spanDigits s with
  | mk d r0 =>
  obtain ⟨h1, h2, h3⟩ := spanDigits_split hsd
  rw [hsd] at h
  simp only at h
  by_cases hd : d = []
  · subst hd
    simp only [List.isEmpty_nil, Bool.not_true, Bool.false_eq_true, if_false] at h
    split at h
    · rename_i r'
      obtain ⟨g1, g2, g3⟩ := spanDigits_split (s := r') (d := (spanDigits r').1) (r := (spanDigits r').2) rfl
      split at h
      · rename_i hne
        cases h
        refine ⟨'.' :: (spanDigits r').1, ?_, IsMantissa.frac _ (by simpa using hne) g2⟩
        rw [h1, List.nil_append, List.cons_append, ← g1]
      · cases h
    · cases h
  · have hne : (!d.isEmpty) = true := by simpa using hd
    simp only [hne, if_true] at h
    split at h
    · rename_i r'
      obtain ⟨g1, g2, g3⟩ := spanDigits_split (s := r') (d := (spanDigits r').1) (r := (spanDigits r').2) rfl
      cases h
      refine ⟨d ++ '.' :: (spanDigits r').1, ?_, IsMantissa.intFrac d _ hd h2 g2⟩
      rw [h1, List.append_assoc, List.cons_append, ← g1]
    · cases h
      exact ⟨d, h1, IsMantissa.int d hd h2⟩

theorem dropMantissa_append {m r : Str} (hm : IsMantissa m) (hr : NDH r) (hdot : NDot r) :
    dropMantissa (m ++ r) = some r := by
  cases hm with
  | int _ hne hd =>
    have hne' : (!List.isEmpty m) = true := by simpa using hne
    unfold dropMantissa
    rw [spanDigits_append hd hr]
    simp only [hne', if_true]
    split
    · exact absurd rfl hdot
    · rfl
  | intFrac ds fs hne hd hf =>
    have hne' : (!ds.isEmpty) = true := by simpa using hne
    unfold dropMantissa
    rw [List.append_assoc, spanDigits_append hd (r := ('.' :: fs) ++ r) isDigit_dot]
    simp only [hne', if_true, List.cons_append, spanDigits_append hf hr]
  | frac fs hne hf =>
    have hne' : (!fs.isEmpty) = true := by simpa using hne
    unfold dropMantissa
    rw [List.cons_append, spanDigits_of_ndh (r := '.' :: (fs ++ r)) isDigit_dot]
    simp only [List.isEmpty_nil, Bool.not_true, Bool.false_eq_true, if_false, spanDigits_append hf hr, hne', if_true]

/-! #### the recognisers accept exactly the documented grammars

  Two blocks carry them: `[+-]?\d+` (`signedDigits_iff`: what `spanDigits (dropSign s)` returns; it occurs in `isIntLit`,
  in `intOfLit` and in the exponent) and `[+-]?mantissa` followed by a test on the rest (`mantissa_then_iff`: the shape
  shared by `isFloatLit` and `isFloatExpLit`). -/

theorem signedDigits_iff {s d r : Str} (hne : d ≠ []) :
    spanDigits (dropSign s) = (d, r) ↔ ∃ sign, IsSign sign ∧ s = sign ++ d ++ r ∧ Digits d ∧ NDH r := by
  constructor
  · intro h
    obtain ⟨sign, hs, hsplit⟩ := dropSign_spec s
    obtain ⟨h1, h2, h3⟩ := spanDigits_split h
    exact ⟨sign, hs, by rw [List.append_assoc, ← h1]; exact hsplit, h2, h3⟩
  · rintro ⟨sign, hs, rfl, hd, hr⟩
    rw [List.append_assoc, dropSign_append hs (hd.nsh hne _), spanDigits_append hd hr]

theorem isIntLit_iff {s : Str} : isIntLit s = true ↔ IsIntLit s := by
  unfold isIntLit
  constructor
  · intro h
    cases hp : spanDigits (dropSign s) with
    | mk d r =>
      simp only [hp, Bool.and_eq_true, Bool.not_eq_true', List.isEmpty_eq_false_iff] at h
      obtain ⟨sign, hs, hsplit, hd, _⟩ := (signedDigits_iff h.1).mp hp
      exact ⟨sign, d, r, hsplit, hs, h.1, hd, atDollar_iff.mp h.2⟩
  · rintro ⟨sign, ds, tail, hsplit, hs, hne, hd, ht⟩
    rw [(signedDigits_iff hne).mpr ⟨sign, hs, hsplit, hd, ht.ndh⟩]
    simp [hne, ht.atDollar]

theorem isFloatLit_imp_exp {s : Str} (h : isFloatLit s = true) : isFloatExpLit s = true := by
  unfold isFloatLit at h
  unfold isFloatExpLit
  split at h
  · simp [h]
  · cases h

theorem IsTail.ndot {t : Str} (h : IsTail t) : NDot t := by
  rcases h with rfl | rfl
  · trivial
  · show '\n' ≠ '.'; decide

/-- the exponent part of `isFloatExpLit`, as a function of what follows the mantissa: `[eE]` in front of an int literal -/
def expTail : Str → Bool
  | c :: r => (c == 'e' || c == 'E') && isIntLit r
  | [] => false

theorem isFloatExpLit_eq (s : Str) : isFloatExpLit s =
    match dropMantissa (dropSign s) with
    | some r => atDollar r || expTail r
    | none => false := rfl

theorem mantissa_then_iff {P : Str → Bool} {Q : Str → Prop} (hPQ : ∀ r, P r = true ↔ Q r)
    (hQ : ∀ r, Q r → NDH r ∧ NDot r) {s : Str} :
    (match dropMantissa (dropSign s) with | some r => P r | none => false) = true ↔
      ∃ sign m r, s = sign ++ m ++ r ∧ IsSign sign ∧ IsMantissa m ∧ Q r := by
  constructor
  · intro h
    obtain ⟨sign, hs, hsplit⟩ := dropSign_spec s
    split at h
    · rename_i r hr
      obtain ⟨m, hm, hM⟩ := dropMantissa_spec hr
      exact ⟨sign, m, r, by rw [List.append_assoc, ← hm]; exact hsplit, hs, hM, (hPQ r).mp h⟩
    · cases h
  · rintro ⟨sign, m, r, rfl, hs, hm, hq⟩
    rw [List.append_assoc, dropSign_append hs (hm.nsh _), dropMantissa_append hm (hQ r hq).1 (hQ r hq).2]
    exact (hPQ r).mpr hq

/-- what may follow the mantissa of a float literal: `([eE][-+]?\d+)?$` -/
def ExpTail (r : Str) : Prop := ∃ e tail, r = e ++ tail ∧ IsExponent e ∧ IsTail tail

theorem expOrTail_iff (r : Str) : (atDollar r || expTail r) = true ↔ ExpTail r := by
  rw [Bool.or_eq_true, atDollar_iff]
  constructor
  · rintro (h | h)
    · exact ⟨[], r, rfl, .none, h⟩
    · cases r with
      | nil => cases h
      | cons c r' =>
        simp only [expTail, Bool.and_eq_true, Bool.or_eq_true, beq_iff_eq, isIntLit_iff] at h
        obtain ⟨hc, sign, ds, tail, rfl, hs, hne, hd, ht⟩ := h
        exact ⟨_, tail, rfl, .exp c sign ds hc hs hne hd, ht⟩
  · rintro ⟨e, tail, rfl, he, ht⟩
    cases he with
    | none => exact Or.inl ht
    | exp c sign ds hc hs hne hd =>
      refine Or.inr ?_
      rw [List.cons_append, expTail, isIntLit_iff.mpr ⟨sign, ds, tail, rfl, hs, hne, hd, ht⟩, Bool.and_true]
      rcases hc with rfl | rfl <;> rfl

theorem ExpTail.follow {r : Str} (h : ExpTail r) : NDH r ∧ NDot r := by
  obtain ⟨e, tail, rfl, he, ht⟩ := h
  cases he with
  | none => exact ⟨ht.ndh, ht.ndot⟩
  | exp c sign ds hc hs hne hd =>
    rcases hc with rfl | rfl
    · exact ⟨isDigit_e, (by decide : 'e' ≠ '.')⟩
    · exact ⟨isDigit_E, (by decide : 'E' ≠ '.')⟩

theorem isFloatExpLit_iff {s : Str} : isFloatExpLit s = true ↔ IsFloatLit s := by
  refine (isFloatExpLit_eq s ▸ mantissa_then_iff (s := s) expOrTail_iff fun _ => ExpTail.follow).trans ?_
  constructor
  · rintro ⟨sign, m, _, rfl, hs, hm, e, tail, rfl, he, ht⟩
    exact ⟨sign, m, e, tail, by simp only [List.append_assoc], hs, hm, he, ht⟩
  · rintro ⟨sign, m, e, tail, rfl, hs, hm, he, ht⟩
    exact ⟨sign, m, e ++ tail, by simp only [List.append_assoc], hs, hm, e, tail, rfl, he, ht⟩

/-- no quote character occurs -/
def QF (s : Str) : Prop := ∀ c ∈ s, isQuote c = false

instance (s : Str) : Decidable (QF s) := by unfold QF; infer_instance

theorem QF.nil : QF [] := fun _ h => nomatch h
theorem QF.cons {c : Char} {s : Str} (hc : isQuote c = false) (hs : QF s) : QF (c :: s) := List.forall_mem_cons.mpr ⟨hc, hs⟩
theorem QF.head {c : Char} {s : Str} (h : QF (c :: s)) : isQuote c = false := (List.forall_mem_cons.mp h).1
theorem QF.tail {c : Char} {s : Str} (h : QF (c :: s)) : QF s := (List.forall_mem_cons.mp h).2

theorem dropEndQuote_of_qf (s : Str) (h : QF s) : dropEndQuote s = s := by
  fun_induction dropEndQuote s with
  | case1 => rfl
  | case2 c hq => rw [h.head] at hq; cases hq
  | case3 c hq => rfl
  | case4 c hq => rw [h.head] at hq; cases hq
  | case5 c hq => rfl
  | case6 c cs h1 h2 ih => rw [ih h.tail]

/-- a string without quote characters is left alone by `remove_quotes_from_string` -/
theorem removeQuotes_of_qf {s : Str} (h : QF s) : removeQuotes s = s := by
  cases s with
  | nil => rfl
  | cons c cs => simp only [removeQuotes, h.head, Bool.false_eq_true, if_false]; exact dropEndQuote_of_qf _ h

theorem intOfLit_eq {sign ds tail : Str} (hs : IsSign sign) (hne : ds ≠ []) (hd : Digits ds) (ht : IsTail tail) :
    intOfLit (sign ++ ds ++ tail) = applySign sign (digitsVal ds) := by
  unfold intOfLit
  rw [(signedDigits_iff hne).mpr ⟨sign, hs, rfl, hd, ht.ndh⟩]
  rcases hs with rfl | rfl | rfl
  · obtain ⟨c, ds', rfl⟩ := List.exists_cons_of_ne_nil hne
    have hc : c ≠ '-' := ne_of_class hd.head isDigit_minus
    simp only [List.nil_append, List.cons_append, applySign]
    split
    · rename_i heq; cases heq; exact absurd rfl hc
    · simp
  · simp [applySign]
  · simp [applySign]

/-! ##### the cascade, restated with the declarative guards -/

theorem isWord_unique {w w' : String} {s : Str} (h : IsWord w s) (h' : IsWord w' s) : w.toList = w'.toList :=
  h.symm.trans h'

theorem boolNoneWord_eq (s : Str) : boolNoneWord s =
    if IsWord "true" s then some (.bool true)
    else if IsWord "false" s then some (.bool false)
    else if IsWord "on" s then some (.bool true)
    else if IsWord "off" s then some (.bool false)
    else if IsWord "none" s then some .none
    else if IsWord "null" s then some .none
    else none := by
  simp only [boolNoneWord, wordForm, IsWord, beq_iff_eq]

theorem parseValue_eq (s : Str) : parseValue s =
    if removeQuotes s = [] then .str []
    else if IsSpecial s then .str s
    else if isIntLit s = true then .int (intOfLit s)
    else if isFloatExpLit s = true then .float s
    else match boolNoneWord s with
      | some v => v
      | none => .str (removeQuotes s) := by
  unfold parseValue
  by_cases h0 : removeQuotes s = []
  · simp [h0]
  · have h0' : (removeQuotes s).isEmpty = false := by simpa using h0
    simp only [h0', h0, Bool.false_eq_true, if_false]
    by_cases h1 : IsSpecial s
    · have : (s == ['-'] || s == ['_'] || s == ['.']) = true := by simpa [IsSpecial, or_assoc] using h1
      simp only [this, h1, if_true]
    · have : (s == ['-'] || s == ['_'] || s == ['.']) = false := by simpa [IsSpecial, and_assoc] using h1
      simp only [this, h1, Bool.false_eq_true, if_false]
      by_cases h2 : isIntLit s = true
      · simp only [h2, if_true]
      · simp only [h2, Bool.false_eq_true, if_false]
        by_cases h3 : isFloatLit s = true
        · simp only [h3, isFloatLit_imp_exp h3, if_true]
        · simp only [h3, Bool.false_eq_true, if_false]
          rfl

theorem parseValue_empty {s : Str} (h : removeQuotes s = []) : parseValue s = .str [] := by
  rw [parseValue_eq, if_pos h]

theorem parseValue_special {s : Str} (h0 : removeQuotes s ≠ []) (h : IsSpecial s) : parseValue s = .str s := by
  rw [parseValue_eq, if_neg h0, if_pos h]

theorem parseValue_int {s : Str} (h0 : NotTrivial s) (h : IsIntLit s) : parseValue s = .int (intOfLit s) := by
  rw [parseValue_eq, if_neg h0.1, if_neg h0.2, if_pos (isIntLit_iff.mpr h)]

theorem parseValue_float {s : Str} (h0 : NotTrivial s) (hi : ¬ IsIntLit s) (h : IsFloatLit s) : parseValue s = .float s := by
  rw [parseValue_eq, if_neg h0.1, if_neg h0.2, if_neg (mt isIntLit_iff.mp hi), if_pos (isFloatExpLit_iff.mpr h)]

theorem parseValue_word {s : Str} (h : NotNumeric s) : parseValue s =
    match boolNoneWord s with
    | some v => v
    | none => .str (removeQuotes s) := by
  rw [parseValue_eq, if_neg h.1.1, if_neg h.1.2, if_neg (mt isIntLit_iff.mp h.2.1), if_neg (mt isFloatExpLit_iff.mp h.2.2)]

/-- `boolNoneWord` depends on the string only through `wordForm` -/
def wordVal (w : Str) : Option Scalar :=
  if w == "true".toList then some (.bool true)
  else if w == "false".toList then some (.bool false)
  else if w == "on".toList then some (.bool true)
  else if w == "off".toList then some (.bool false)
  else if w == "none".toList then some .none
  else if w == "null".toList then some .none
  else none

theorem boolNoneWord_of_word {w : String} {s : Str} (h : IsWord w s) : boolNoneWord s = wordVal w.toList :=
  congrArg wordVal h

theorem boolNoneWord_true {s : Str} (h : IsWord "true" s ∨ IsWord "on" s) : boolNoneWord s = some (.bool true) := by
  rcases h with h | h <;> rw [boolNoneWord_of_word h] <;> decide +kernel

theorem boolNoneWord_false {s : Str} (h : IsWord "false" s ∨ IsWord "off" s) : boolNoneWord s = some (.bool false) := by
  rcases h with h | h <;> rw [boolNoneWord_of_word h] <;> decide +kernel

theorem boolNoneWord_none {s : Str} (h : IsWord "none" s ∨ IsWord "null" s) : boolNoneWord s = some .none := by
  rcases h with h | h <;> rw [boolNoneWord_of_word h] <;> decide +kernel

theorem boolNoneWord_other {s : Str} (h : ¬ IsAnyWord s) : boolNoneWord s = none := by
  simp only [IsAnyWord, not_or] at h
  rw [boolNoneWord_eq, if_neg h.1, if_neg h.2.2.1, if_neg h.2.1, if_neg h.2.2.2.1, if_neg h.2.2.2.2.1, if_neg h.2.2.2.2.2]

/-! ##### a plain word is typed `str` and kept -/

theorem not_numeric_of_head {c : Char} {r : Str} (hd : isDigit c = false) (hm : c ≠ '+' ∧ c ≠ '-' ∧ c ≠ '.') :
    ¬ IsIntLit (c :: r) ∧ ¬ IsFloatLit (c :: r) := by
  have hs : dropSign (c :: r) = c :: r := dropSign_of_nsh (r := c :: r) ⟨hm.1, hm.2.1⟩
  have hsp : spanDigits (c :: r) = ([], c :: r) := spanDigits_of_ndh (r := c :: r) hd
  rw [← isIntLit_iff, ← isFloatExpLit_iff]
  constructor
  · simp [isIntLit, hs, hsp]
  · have : dropMantissa (c :: r) = none := by
      unfold dropMantissa
      rw [hsp]
      simp only [List.isEmpty_nil, Bool.not_true, Bool.false_eq_true, if_false]
      split
      · next heq => cases heq; exact absurd rfl hm.2.2
      · rfl
    simp [isFloatExpLit, hs, this]

theorem not_anyWord_of_long {s : Str} (hws : ∀ c ∈ s, isWs c = false) (hl : 5 < s.length) : ¬ IsAnyWord s := by
  have hlen : ∀ w : String, IsWord w s → s.length = w.toList.length := fun w h => by
    have := congrArg List.length h
    rwa [List.length_map, strip_id s hws] at this
  rintro (h | h | h | h | h | h) <;> have := hlen _ h <;> simp at this <;> omega

theorem parseValue_plain_word {c : Char} {r : Str} (hq : QF (c :: r)) (hd : isDigit c = false)
    (hm : c ≠ '+' ∧ c ≠ '-' ∧ c ≠ '.' ∧ c ≠ '_') (hw : ¬ IsAnyWord (c :: r)) : parseValue (c :: r) = .str (c :: r) := by
  have hrq := removeQuotes_of_qf hq
  have hn := not_numeric_of_head (r := r) hd ⟨hm.1, hm.2.1, hm.2.2.1⟩
  have hsp : ¬ IsSpecial (c :: r) := by
    rintro (h | h | h) <;> cases h
    · exact hm.2.1 rfl
    · exact hm.2.2.2 rfl
    · exact hm.2.2.1 rfl
  rw [parseValue_word ⟨⟨by rw [hrq]; exact List.cons_ne_nil _ _, hsp⟩, hn.1, hn.2⟩, boolNoneWord_other hw, hrq]

/-! ##### the writer's quoting decision -/

theorem sq_ne (s : Str) : sq s ≠ s := fun h => by
  have := congrArg List.length h
  simp [sq] at this
  omega

theorem dq_ne (s : Str) : dq s ≠ s := fun h => by
  have := congrArg List.length h
  simp [dq] at this
  omega

theorem sq_ne_dq (s : Str) : sq s ≠ dq s := fun h => by
  simp [sq, dq] at h

theorem escapeDq_length : ∀ s : Str, s.length ≤ (escapeDq s).length
  | [] => Nat.le_refl _
  | c :: r => by
    have := escapeDq_length r
    by_cases hc : c = '"'
    · subst hc; simp only [escapeDq, List.length_cons]; omega
    · rw [escapeDq]
      · simp only [List.length_cons]; omega
      · exact hc

theorem dq_escape_ne (s : Str) : dq (escapeDq s) ≠ s := fun h => by
  have := congrArg List.length h
  have := escapeDq_length s
  simp only [dq, List.length_cons, List.length_append, List.length_nil] at *
  omega

theorem all_plain_iff (s : Str) :
    s.all (fun c => !isQuote c && !isComplexChar c) = true ↔ s.any isQuote = false ∧ s.any isComplexChar = false := by
  induction s with
  | nil => simp
  | cons c s ih =>
    simp only [List.all_cons, List.any_cons, Bool.and_eq_true, Bool.or_eq_false_iff, ih, Bool.not_eq_true']
    constructor
    · rintro ⟨⟨a, b⟩, c, d⟩; exact ⟨⟨a, c⟩, b, d⟩
    · rintro ⟨⟨a, c⟩, b, d⟩; exact ⟨⟨a, b⟩, c, d⟩

theorem any_isQuote (s : Str) : s.any isQuote = (s.contains '\'' || s.contains '"') := by
  rw [Bool.eq_iff_iff]
  simp only [List.any_eq_true, isQuote, Bool.or_eq_true, beq_iff_eq, List.contains_iff_mem]
  constructor
  · rintro ⟨c, hc, rfl | rfl⟩
    · exact Or.inl hc
    · exact Or.inr hc
  · rintro (h | h)
    · exact ⟨_, h, Or.inl rfl⟩
    · exact ⟨_, h, Or.inr rfl⟩

theorem formatString_of_ref {fl : Flavor} {s : Str} (hd : s.contains '$' = true) (hr : isReferenceString s = true) :
    formatString fl s = s := by
  simp only [formatString.eq_def, hd, hr, if_true]

theorem formatString_of_dollar {fl : Flavor} (hfl : fl = .native ∨ fl = .foam) {s : Str} (hd : s.contains '$' = true)
    (hr : isReferenceString s = false) : formatString fl s = dq s := by
  rcases hfl with rfl | rfl <;> simp only [formatString.eq_def, hd, hr, if_true, Bool.false_eq_true, if_false]

theorem startsInclude_of_head {w : Str} (h : w.head? ≠ some '#') : startsInclude w = false := by
  cases w with
  | nil => rfl
  | cons c r =>
    have hc : c ≠ '#' := fun e => h (by simp [e])
    have : ('#' == c) = false := by simpa using fun e : '#' = c => hc e.symm
    simp [startsInclude, List.isPrefixOf, this, hc]

theorem formatString_of_bare {fl : Flavor} {s : Str} (h : Bare s) : formatString fl s = s := by
  obtain ⟨hne, hd, hall, hi⟩ := h
  obtain ⟨hq, hc⟩ := (all_plain_iff s).mp hall
  have he : s.isEmpty = false := by simpa using hne
  simp only [formatString.eq_def, hd, he, hq, hc, hi, Bool.or_self, Bool.false_eq_true, if_false]

/-- the rows of `format_string` in the order of the code: the guard of each row and what it writes -/
theorem formatString_cases (fl : Flavor) (s : Str) :
    (s.contains '$' = true ∧ isReferenceString s = true ∧ formatString fl s = s) ∨
    (s.contains '$' = true ∧ isReferenceString s = false ∧
      formatString fl s = match fl with | .base => s | _ => dq s) ∨
    (s.contains '$' = false ∧ s = [] ∧ formatString fl s = match fl with | .native => sq s | .foam => dq s | .base => s) ∨
    (s.contains '$' = false ∧ s ≠ [] ∧ s.any isQuote = true ∧
      formatString fl s = match fl with
        | .native => if s.contains '"' then sq s else dq s
        | .foam => if s.contains '"' then dq (escapeDq s) else dq s
        | .base => sq s) ∨
    (s.contains '$' = false ∧ s ≠ [] ∧ s.any isQuote = false ∧ (s.any isComplexChar = true ∨ startsInclude s = true) ∧
      formatString fl s = match fl with | .native => sq s | .foam => dq s | .base => s) ∨
    (Bare s ∧ formatString fl s = s) := by
  rw [formatString.eq_def]
  cases hd : s.contains '$' with
  | true =>
    cases hr : isReferenceString s with
    | true => exact Or.inl ⟨rfl, rfl, rfl⟩
    | false => exact Or.inr (Or.inl ⟨rfl, rfl, rfl⟩)
  | false =>
    refine Or.inr (Or.inr ?_)
    by_cases hne : s = []
    · exact Or.inl ⟨rfl, hne, by rw [hne]; rfl⟩
    · have he : s.isEmpty = false := by rwa [List.isEmpty_eq_false_iff]
      rw [he]
      cases hq : s.any isQuote with
      | true => exact Or.inr (Or.inl ⟨rfl, hne, rfl, rfl⟩)
      | false =>
        cases hc : s.any isComplexChar with
        | true => exact Or.inr (Or.inr (Or.inl ⟨rfl, hne, rfl, Or.inl rfl, rfl⟩))
        | false =>
          cases hi : startsInclude s with
          | true => exact Or.inr (Or.inr (Or.inl ⟨rfl, hne, rfl, Or.inr rfl, rfl⟩))
          | false => exact Or.inr (Or.inr (Or.inr ⟨⟨hne, hd, (all_plain_iff s).mpr ⟨hq, hc⟩, hi⟩, rfl⟩))

end DictIO.C04
