/-
  The id-keyed side tables (`Tbl`): `get?` / `set` / `del` are the generic association list of `Lemmas/Assoc` at
  `Nat` keys; `merge` / `update`; `C02.setAll`, a fold of `Tbl.set` over a list of entries.  `Tbl.get?_eq`, `Tbl.set_eq`,
  `Tbl.del_eq` are the three bridge equations; a `tbl_x` about `get?` / `set` / `del` alone is `AL.x` (and `x` of the
  `Entries` lemmas with `lookup`, `setKey`, `delKey` for `get`, `set`, `del`) read through them, `tbl_get_set` with the
  id looked up first, `tbl_get_append` at a one-entry right operand.  Without an `AL` twin: `tbl_get_of_mem_zip`,
  `tbl_mem_del`, the equations of `merge` / `update`.
-/
import DictIO.Lemmas.Assoc

namespace DictIO

variable {α : Type}

theorem Tbl.get?_eq : @Tbl.get? α = AL.get := by
  funext i t
  induction t with
  | nil => rfl
  | cons e t ih => rw [Tbl.get?, AL.get, ih]

theorem Tbl.set_eq : @Tbl.set α = AL.set := by
  funext i a t
  induction t with
  | nil => rfl
  | cons e t ih => rw [Tbl.set, AL.set, ih]

theorem Tbl.del_eq : @Tbl.del α = AL.del := by
  funext i t
  induction t with
  | nil => rfl
  | cons e t ih => rw [Tbl.del, AL.del, ih]

theorem tbl_get_eq_none_iff {i : Nat} {t : Tbl α} : Tbl.get? i t = none ↔ i ∉ t.map (·.1) := by
  rw [Tbl.get?_eq]; exact AL.get_eq_none_iff

theorem tbl_get_mem {i : Nat} {a : α} {t : Tbl α} : Tbl.get? i t = some a → (i, a) ∈ t := by
  rw [Tbl.get?_eq]; exact AL.get_mem

theorem tbl_get_of_mem_nodup {i : Nat} {a : α} {t : Tbl α} : (t.map (·.1)).Nodup → (i, a) ∈ t → t.get? i = some a := by
  rw [Tbl.get?_eq]; exact AL.get_of_mem_nodup

/-- a table with distinct ids, read as the list of its ids zipped with a column `g` of its entries -/
theorem tbl_get_of_mem_zip {β : Type} (g : α → β) {t : Tbl α} (hn : (t.map (·.1)).Nodup) {p : Nat × β}
    (hp : p ∈ (t.map (·.1)).zip (t.map fun e => g e.2)) : ∃ a, t.get? p.1 = some a ∧ g a = p.2 := by
  rw [List.zip_map'] at hp
  obtain ⟨x, hx, rfl⟩ := List.mem_map.mp hp
  exact ⟨x.2, tbl_get_of_mem_nodup hn hx, rfl⟩

theorem tbl_set_get_self {i : Nat} {a : α} {t : Tbl α} : t.get? i = some a → t.set i a = t := by
  rw [Tbl.get?_eq, Tbl.set_eq]; exact AL.set_get_self

theorem tbl_set_of_not_mem {i : Nat} {a : α} {t : Tbl α} : i ∉ t.map (·.1) → Tbl.set i a t = t ++ [(i, a)] := by
  rw [Tbl.set_eq]; exact AL.set_of_not_mem

theorem tbl_keys_set_of_mem {i : Nat} {a : α} {t : Tbl α} : i ∈ t.map (·.1) → (Tbl.set i a t).map (·.1) = t.map (·.1) := by
  rw [Tbl.set_eq]; exact AL.keys_set_of_mem

theorem tbl_mem_set {i : Nat} {a : α} {e : Nat × α} {t : Tbl α} : e ∈ Tbl.set i a t → e = (i, a) ∨ e ∈ t := by
  rw [Tbl.set_eq]; exact AL.mem_set

theorem tbl_mem_set_iff {i : Nat} {a : α} {e : Nat × α} {t : Tbl α} (hn : (t.map (·.1)).Nodup) :
    e ∈ Tbl.set i a t ↔ e = (i, a) ∨ e ∈ t ∧ e.1 ≠ i := by
  rw [Tbl.set_eq]; exact AL.mem_set_iff hn

theorem tbl_del_sublist (i : Nat) (t : Tbl α) : (Tbl.del i t).Sublist t := by
  rw [Tbl.del_eq]; exact AL.del_sublist i t

theorem tbl_get_del_ne {i j : Nat} (h : i ≠ j) (t : Tbl α) : Tbl.get? i (Tbl.del j t) = Tbl.get? i t := by
  rw [Tbl.get?_eq, Tbl.del_eq]; exact AL.get_del_ne h t

theorem tbl_mem_del_of_ne {e : Nat × α} {j : Nat} (h : e.1 ≠ j) {t : Tbl α} : e ∈ t → e ∈ Tbl.del j t := by
  rw [Tbl.del_eq]; exact AL.mem_del_of_ne h

theorem tbl_del_filter {j : Nat} {t : Tbl α} : (t.map (·.1)).Nodup → Tbl.del j t = t.filter fun e => e.1 ≠ j := by
  rw [Tbl.del_eq]; exact AL.del_filter

theorem tbl_mem_del {i : Nat} {t : Tbl α} {a : Nat × α} (hn : (t.map (·.1)).Nodup) :
    a ∈ Tbl.del i t ↔ a ∈ t ∧ a.1 ≠ i := by
  rw [tbl_del_filter hn, List.mem_filter, decide_eq_true_eq]

theorem tbl_merge_nil (t : Tbl α) : Tbl.merge t [] = t := rfl

theorem tbl_merge_cons (t : Tbl α) (e : Nat × α) (o : Tbl α) :
    Tbl.merge t (e :: o) = Tbl.merge (if (Tbl.get? e.1 t).isSome then t else t ++ [e]) o := rfl

theorem tbl_update_cons (t : Tbl α) (e : Nat × α) (o : Tbl α) :
    Tbl.update t (e :: o) = Tbl.update (Tbl.set e.1 e.2 t) o := rfl

theorem tbl_get_append (i j : Nat) (a : α) (t : Tbl α) :
    Tbl.get? i (t ++ [(j, a)]) = (Tbl.get? i t).or (if j = i then some a else none) := by
  rw [Tbl.get?_eq]; exact AL.get_append i t _

theorem tbl_get_set (i j : Nat) (a : α) (t : Tbl α) :
    Tbl.get? i (Tbl.set j a t) = if j = i then some a else Tbl.get? i t := by
  rw [Tbl.get?_eq, Tbl.set_eq]; exact AL.get_set j i a t

theorem tbl_update_append (t l l' : Tbl α) : Tbl.update t (l ++ l') = Tbl.update (Tbl.update t l) l' := by
  simp [Tbl.update, List.foldl_append]

/-- entries with pairwise distinct new ids are appended in order -/
theorem tbl_update_nodup : ∀ (l t : Tbl α), (t.map (·.1) ++ l.map (·.1)).Nodup → Tbl.update t l = t ++ l
  | [], t, _ => by simp [Tbl.update]
  | (i, a) :: l, t, h => by
    have hi : i ∉ t.map (·.1) := fun hm => (List.nodup_append.mp h).2.2 i hm i (by simp) rfl
    have h' : ((t ++ [(i, a)]).map (·.1) ++ l.map (·.1)).Nodup := by simpa using h
    rw [tbl_update_cons, tbl_set_of_not_mem hi, tbl_update_nodup l _ h']
    simp

namespace C02

/-- table update with a list of entries -/
def setAll (t : Tbl Str) (l : List (Nat × Str)) : Tbl Str := l.foldl (fun t p => t.set p.1 p.2) t

theorem setAll_nil (t : Tbl Str) : setAll t [] = t := rfl
theorem setAll_append (t : Tbl Str) (l l' : List (Nat × Str)) : setAll t (l ++ l') = setAll (setAll t l) l' :=
  tbl_update_append t l l'

theorem setAll_nodup : ∀ (l : List (Nat × Str)) (t : Tbl Str), (t.map (·.1) ++ l.map (·.1)).Nodup → setAll t l = t ++ l :=
  tbl_update_nodup

end C02

end DictIO
