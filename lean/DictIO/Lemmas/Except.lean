/-
  Evaluating an `Except` result.  `Except ε α` has no decidable equality in core; a closed result is compared through
  `Except.toOption`, whose equality is decidable as soon as that of `α` is.  A `bind` or `map` that succeeded:
  `Except.bind_eq_ok`, `Except.map_eq_ok`.
-/

namespace DictIO

theorem ok_of_toOption {ε α} {x : Except ε α} {v : α} (h : x.toOption = some v) : x = .ok v := by
  cases x <;> simp [Except.toOption] at h; exact congrArg _ h

theorem Except.bind_eq_ok {ε α β} {x : Except ε α} {f : α → Except ε β} {b : β} (h : x.bind f = .ok b) :
    ∃ a, x = .ok a ∧ f a = .ok b := by
  cases x with
  | error e => cases h
  | ok a => exact ⟨a, rfl, h⟩

theorem Except.map_eq_ok {ε α β} {x : Except ε α} {f : α → β} {b : β} (h : x.map f = .ok b) :
    ∃ a, x = .ok a ∧ f a = b := by
  cases x with
  | error e => cases h
  | ok a => exact ⟨a, rfl, Except.ok.inj h⟩

end DictIO
