/-
  The text scans of the expression stage and of the evaluator, on a text with a prefix they copy (`…_skip`), at a match
  (`…_hit`), and on a text where the pattern occurs nowhere (`…_none`, `…_id`):
  `findRef` / `findRefs` / `lexRefsFuel` (references `\$\w[\w\[\]]*`), `replaceAllFuel` (`str.replace`), `refersTo`.
-/
import DictIO.Model.Reader
import DictIO.Lemmas.Str

namespace DictIO

theorem findRef_cons_ne {c : Char} (r : Str) (hc : c ≠ '$') :
    findRef (c :: r) = (findRef r).map fun (b, x, a) => (c :: b, x, a) := by
  rw [findRef.eq_def]
  split
  · rename_i h; simp only [List.cons.injEq] at h; exact absurd h.1 hc
  · rename_i h; simp only [List.cons.injEq] at h; obtain ⟨rfl, rfl⟩ := h; rfl
  · rename_i h; cases h

theorem findRef_skip : ∀ (pre s : Str), '$' ∉ pre →
    findRef (pre ++ s) = (findRef s).map fun (b, x, a) => (pre ++ b, x, a)
  | [], s, _ => by
    rw [List.nil_append]
    cases findRef s <;> rfl
  | c :: pre, s, h => by
    have hc : c ≠ '$' := fun e => h (by simp [e])
    have hp : '$' ∉ pre := fun hm => h (List.mem_cons_of_mem _ hm)
    rw [List.cons_append, findRef_cons_ne _ hc, findRef_skip pre s hp]
    cases findRef s <;> simp

theorem findRef_none (s : Str) (h : '$' ∉ s) : findRef s = none := by
  have := findRef_skip s [] h
  rwa [List.append_nil] at this

theorem findRefs_none {s : Str} (h : '$' ∉ s) : findRefs s = [] := by
  simp [findRefs, findRefsFuel, findRef_none s h]

theorem lexRefs_none (fuel : Nat) (st : LexSt) (s : Str) (h : findRef s = none) : lexRefsFuel fuel st s = (st, s) := by
  cases fuel with
  | zero => rfl
  | succ f => simp [lexRefsFuel, h]

theorem replaceAllFuel_id (p rep : Str) : ∀ (fuel : Nat) (s : Str), isInfix p s = false → s.length ≤ fuel →
    replaceAllFuel p rep fuel s = s
  | 0, s, _, hf => by cases s with | nil => rfl | cons c r => simp at hf
  | fuel + 1, [], _, _ => rfl
  | fuel + 1, c :: r, h, hf => by
    rw [isInfix_cons] at h
    simp only [Bool.or_eq_false_iff] at h
    simp only [replaceAllFuel, h.1, Bool.false_and, Bool.false_eq_true, if_false]
    rw [replaceAllFuel_id p rep fuel r h.2 (by simp at hf; omega)]

theorem replaceAllFuel_skip (c : Char) (q rep : Str) : ∀ (A s : Str) (fuel : Nat), c ∉ A →
    replaceAllFuel (c :: q) rep (fuel + A.length) (A ++ s) = A ++ replaceAllFuel (c :: q) rep fuel s
  | [], s, fuel, _ => by simp
  | a :: A, s, fuel, h => by
    have ha : (c == a) = false := by
      simp only [beq_eq_false_iff_ne, ne_eq]; rintro rfl; exact h (by simp)
    have ih := replaceAllFuel_skip c q rep A s fuel (fun hm => h (by simp [hm]))
    have e : fuel + (a :: A).length = (fuel + A.length) + 1 := by simp; omega
    rw [e, List.cons_append]
    simp only [replaceAllFuel, List.isPrefixOf_cons_cons, ha, Bool.false_and, Bool.false_eq_true, if_false, ih]
    rfl

theorem replaceAllFuel_hit (p rep s : Str) (fuel : Nat) (hp : p ≠ []) :
    replaceAllFuel p rep (fuel + 1) (p ++ s) = rep ++ replaceAllFuel p rep fuel s := by
  cases p with
  | nil => exact absurd rfl hp
  | cons a p =>
    have h1 : (a :: p).isPrefixOf (a :: (p ++ s)) = true :=
      List.isPrefixOf_iff_prefix.mpr (List.prefix_append (a :: p) s)
    have h2 : (a :: (p ++ s)).drop (a :: p).length = s := by simp
    rw [List.cons_append]
    simp only [replaceAllFuel, h1, h2, List.isEmpty_cons, Bool.not_false, Bool.and_self, if_true]

theorem replaceAll_once (c : Char) (q rep A s : Str) (hA : c ∉ A) (hs : isInfix (c :: q) s = false) :
    replaceAll (c :: q) rep (A ++ (c :: q ++ s)) = A ++ (rep ++ s) := by
  unfold replaceAll
  have e : (A ++ (c :: q ++ s)).length + 1 = (((c :: q).length + s.length) + 1) + A.length := by
    simp; omega
  rw [e, replaceAllFuel_skip c q rep A _ _ hA, replaceAllFuel_hit _ _ _ _ (by simp),
    replaceAllFuel_id _ _ _ _ hs (by omega)]

theorem refersTo_no_dollar (ks : Str) {vs : Str} (h : '$' ∉ vs) : refersTo ks vs = false := by
  unfold refersTo
  rw [List.any_eq_false]
  intro t ht
  obtain ⟨a, rfl⟩ := mem_tails.mp ht
  split
  · next r => exact absurd (by simp) h
  · simp

end DictIO
