/-
  Decimal digits: `natDigits` / `intRepr` (`str(n)`), `padSix` (`"%06d"`), their value under `digitsVal` and `digitRun`,
  and the placeholder words `kw ++ padSix i` with the tests `containsPh`, `firstSixDigits` that look for them.

  `natDigits` is defined by well-founded recursion: `decide` does not unfold it (`decide +kernel` does), proofs go
  through `natDigits_of_lt` / `natDigits_of_ge`.  What holds of the ten ASCII digits holds of every character of
  `natDigits n` and `padSix i` (`natDigits_forall`, `padSix_forall`); the ten cases are closed by `decide` at the use.

  An id that fits six digits is `i < 1000000` in every lemma module; a caller that holds `i ≤ 999999`
  (`= Gen.counterLimit`) passes `Nat.lt_succ_of_le`.
-/
import DictIO.Model.Counter
import DictIO.Model.Dict
import DictIO.Lemmas.Str

namespace DictIO

theorem natDigits_of_lt {n : Nat} (h : n < 10) : natDigits n = [Char.ofNat (48 + n)] := by
  rw [natDigits, dif_pos h]

theorem natDigits_of_ge {n : Nat} (h : 10 ≤ n) : natDigits n = natDigits (n / 10) ++ [Char.ofNat (48 + n % 10)] := by
  rw [natDigits, dif_neg (Nat.not_lt.mpr h)]

theorem natDigits_ne_nil (n : Nat) : natDigits n ≠ [] := by
  rcases Nat.lt_or_ge n 10 with h | h
  · rw [natDigits_of_lt h]; exact List.cons_ne_nil _ _
  · rw [natDigits_of_ge h]; exact fun e => List.cons_ne_nil _ _ (List.append_eq_nil_iff.mp e).2

theorem natDigits_forall {P : Char → Prop} (hP : ∀ k, k < 10 → P (Char.ofNat (48 + k))) (n : Nat) :
    ∀ c ∈ natDigits n, P c := by
  induction n using Nat.strongRecOn with
  | _ n ih =>
    intro c hc
    rcases Nat.lt_or_ge n 10 with h | h
    · rw [natDigits_of_lt h, List.mem_singleton] at hc
      exact hc ▸ hP n h
    · rw [natDigits_of_ge h] at hc
      rcases List.mem_append.mp hc with hc | hc
      · exact ih (n / 10) (by omega) c hc
      · exact List.mem_singleton.mp hc ▸ hP _ (Nat.mod_lt _ (by decide))

theorem intRepr_forall {P : Char → Prop} (hP : ∀ k, k < 10 → P (Char.ofNat (48 + k))) (hm : P '-') :
    ∀ (z : Int), ∀ c ∈ intRepr z, P c
  | .ofNat n, c, hc => natDigits_forall hP n c hc
  | .negSucc n, c, hc => by
    rcases List.mem_cons.mp hc with rfl | hc
    · exact hm
    · exact natDigits_forall hP _ c hc

theorem natDigits_length : ∀ (k n : Nat), n < 10 ^ (k + 1) → (natDigits n).length ≤ k + 1
  | 0, n, h => by rw [natDigits_of_lt h]; exact Nat.le_refl _
  | k + 1, n, h => by
    rcases Nat.lt_or_ge n 10 with h10 | h10
    · rw [natDigits_of_lt h10]; exact Nat.le_add_left _ _
    · have := natDigits_length k (n / 10) (by rw [Nat.pow_succ] at h; omega)
      rw [natDigits_of_ge h10, List.length_append, List.length_singleton]; omega

theorem digitsVal_append_singleton (a : Str) (c : Char) :
    digitsVal (a ++ [c]) = digitsVal a * 10 + (digitVal c).getD 0 := by
  simp only [digitsVal, List.foldl_append, List.foldl_cons, List.foldl_nil]

theorem digitVal_asciiDigit : ∀ k, k < 10 → digitVal (Char.ofNat (48 + k)) = some k := by decide

theorem digitsVal_natDigits (n : Nat) : digitsVal (natDigits n) = n := by
  induction n using Nat.strongRecOn with
  | _ n ih =>
    rcases Nat.lt_or_ge n 10 with h | h
    · rw [natDigits_of_lt h, ← List.nil_append [_], digitsVal_append_singleton, digitVal_asciiDigit n h]
      exact Nat.zero_add n
    · rw [natDigits_of_ge h, digitsVal_append_singleton, ih (n / 10) (by omega),
        digitVal_asciiDigit _ (Nat.mod_lt _ (by decide)), Option.getD_some]
      omega

theorem padSix_forall {P : Char → Prop} (hP : ∀ k, k < 10 → P (Char.ofNat (48 + k))) (i : Nat) :
    ∀ c ∈ padSix i, P c := by
  intro c hc
  rcases List.mem_append.mp hc with hc | hc
  · exact (List.mem_replicate.mp hc).2 ▸ hP 0 (by decide)
  · exact natDigits_forall hP i c hc

theorem padSix_head {P : Char → Prop} (hP : ∀ k, k < 10 → P (Char.ofNat (48 + k))) (i : Nat) :
    ∃ d r, padSix i = d :: r ∧ P d := by
  cases h : padSix i with
  | nil => exact absurd (List.append_eq_nil_iff.mp h).2 (natDigits_ne_nil i)
  | cons d r => exact ⟨d, r, rfl, padSix_forall hP i d (h ▸ List.mem_cons_self)⟩

/-- six characters for every number the counter hands out -/
theorem padSix_length {i : Nat} (h : i < 1000000) : (padSix i).length = 6 := by
  have := natDigits_length 5 i (by omega)
  simp only [padSix, List.length_append, List.length_replicate]
  omega

theorem digitsVal_padSix (i : Nat) : digitsVal (padSix i) = i := by
  have h0 : ∀ k acc, List.foldl (fun acc c => acc * 10 + (digitVal c).getD 0) acc (List.replicate k '0') = acc * 10 ^ k := by
    intro k
    induction k with
    | zero => exact fun acc => (Nat.mul_one acc).symm
    | succ k ih =>
      intro acc
      rw [List.replicate_succ, List.foldl_cons, ih, show (digitVal '0').getD 0 = 0 by decide, Nat.add_zero, Nat.pow_succ,
        Nat.mul_assoc, Nat.mul_comm 10]
  have := digitsVal_natDigits i
  simp only [digitsVal] at this ⊢
  rw [padSix, List.foldl_append, h0, Nat.zero_mul, this]

theorem padSix_inj {i j : Nat} (h : padSix i = padSix j) : i = j := by
  rw [← digitsVal_padSix i, ← digitsVal_padSix j, h]

theorem digitRun_go_digits : ∀ (ds r : Str) (acc : Nat), (∀ c ∈ ds, (digitVal c).isSome = true) →
    digitRun.go ds.length (ds ++ r) acc = some (ds.foldl (fun a c => a * 10 + (digitVal c).getD 0) acc)
  | [], r, acc, _ => by cases r <;> rfl
  | c :: ds, r, acc, h => by
    obtain ⟨d, hd⟩ := Option.isSome_iff_exists.mp (h c List.mem_cons_self)
    simp only [List.length_cons, List.cons_append, digitRun.go, hd, List.foldl_cons, Option.getD_some]
    exact digitRun_go_digits ds r _ fun c hc => h c (List.mem_cons_of_mem _ hc)

theorem digitRun_padSix {i : Nat} (hi : i < 1000000) (r : Str) : digitRun 6 (padSix i ++ r) = some i := by
  have := digitRun_go_digits (padSix i) r 0 (padSix_forall (by decide) i)
  rw [padSix_length hi, ← digitsVal, digitsVal_padSix] at this
  exact this

theorem firstSix_skip : ∀ (p s : Str), (∀ c ∈ p, digitVal c = none) → firstSixDigits (p ++ s) = firstSixDigits s
  | [], _, _ => rfl
  | c :: p, s, h => by
    simp only [List.cons_append, firstSixDigits, digitRun, digitRun.go, h c List.mem_cons_self]
    exact firstSix_skip p s fun c hc => h c (List.mem_cons_of_mem _ hc)

theorem kwBlock_eq : kwBlock = ['B', 'L', 'O', 'C', 'K', 'C', 'O', 'M', 'M', 'E', 'N', 'T'] := String.toList_ofList
theorem kwLine_eq : kwLine = ['L', 'I', 'N', 'E', 'C', 'O', 'M', 'M', 'E', 'N', 'T'] := String.toList_ofList
theorem kwIncl_eq : kwIncl = ['I', 'N', 'C', 'L', 'U', 'D', 'E'] := String.toList_ofList
theorem kwExpr_eq : kwExpr = ['E', 'X', 'P', 'R', 'E', 'S', 'S', 'I', 'O', 'N'] := String.toList_ofList
theorem kwLit_eq : kwLit = ['S', 'T', 'R', 'I', 'N', 'G', 'L', 'I', 'T', 'E', 'R', 'A', 'L'] := String.toList_ofList

theorem containsPh_infix {kw s : Str} (h : containsPh kw s = true) : isInfix kw s = true := by
  simp only [containsPh, List.any_eq_true, Bool.and_eq_true] at h
  obtain ⟨t, ht, hp, _⟩ := h
  exact List.any_eq_true.mpr ⟨t, ht, hp⟩

theorem containsPh_false {kw sub s : Str} (hsub : isInfix sub kw = true) (h : isInfix sub s = false) :
    containsPh kw s = false :=
  Bool.eq_false_iff.mpr fun hc => Bool.eq_false_iff.mp h (isInfix_trans hsub (containsPh_infix hc))

theorem kw_infix_ph (kw : Str) (i : Nat) : isInfix kw (kw ++ padSix i) = true := isInfix_iff.mpr ⟨[], padSix i, rfl⟩

theorem ph_infix_inj (kw : Str) {i j : Nat} (hi : i < 1000000) (hj : j < 1000000)
    (h : isInfix (kw ++ padSix i) (kw ++ padSix j) = true) : i = j :=
  padSix_inj (List.append_cancel_left (isInfix_eq_of_length
    (by rw [List.length_append, List.length_append, padSix_length hi, padSix_length hj]) h))

theorem ph_infix_ne (kw : Str) {i j : Nat} (hi : i ≤ 999999) (hj : j ≤ 999999) (h : i ≠ j) :
    isInfix (kw ++ padSix i) (kw ++ padSix j) = false :=
  Bool.eq_false_iff.mpr fun e => h (ph_infix_inj kw (Nat.lt_succ_of_le hi) (Nat.lt_succ_of_le hj) e)

end DictIO
