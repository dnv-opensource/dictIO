/-
  Association lists: the generic `AL.get` / `AL.set` / `AL.del` over any key type with decidable equality, and
  `Entries` (the model of a Python dict) as its instance: `lookup` / `setKey` / `delKey` / `updateD`
  (`lookup_setKey`, `lookup_eq_none_iff`, `lookup_some_mem`, `mem_setKey`, `delKey_sublist`), predicates on the entries
  of a level (`forall_mem_setKey`, `forall_mem_delKey`, `forall_mem_updateD`), and unique keys at every dict level
  (`NodupKeysV/Es/Xs`, defined here: the invariant every Python value satisfies and the association-list model does
  not enforce) in membership form (`nodupKeysEs_iff`, `nodupKeysXs_iff`).
-/
import DictIO.Model.Dict

namespace DictIO

mutual
  def NodupKeysV : Val → Prop
    | .leaf _ => True
    | .dict es => (keys es).Nodup ∧ NodupKeysEs es
    | .list xs => NodupKeysXs xs
  def NodupKeysEs : Entries → Prop
    | [] => True
    | (_, v) :: es => NodupKeysV v ∧ NodupKeysEs es
  def NodupKeysXs : List Val → Prop
    | [] => True
    | v :: xs => NodupKeysV v ∧ NodupKeysXs xs
end

/-! ### the generic association list

  `lookup`/`setKey`/`delKey` on `Entries` and `Tbl.get?`/`Tbl.set`/`Tbl.del` on the side tables are the same three
  functions at two key types (`lookup_eq` … below, `Tbl.get?_eq` … in `Lemmas/Tbl`); what they do is proved here once. -/

namespace AL
variable {κ β : Type} [DecidableEq κ]

def get (k : κ) : List (κ × β) → Option β
  | [] => none
  | (k', v) :: es => if k' = k then some v else get k es

def set (k : κ) (v : β) : List (κ × β) → List (κ × β)
  | [] => [(k, v)]
  | (k', v') :: es => if k' = k then (k, v) :: es else (k', v') :: set k v es

def del (k : κ) : List (κ × β) → List (κ × β)
  | [] => []
  | (k', v') :: es => if k' = k then es else (k', v') :: del k es

theorem get_eq_none_iff {k : κ} : ∀ {es : List (κ × β)}, get k es = none ↔ k ∉ es.map (·.1)
  | [] => by simp [get]
  | (k', v) :: es => by
    have ih := @get_eq_none_iff k es
    by_cases h : k' = k
    · simp [get, h]
    · have h' : ¬ k = k' := fun e => h e.symm
      simpa [get, h, h'] using ih

theorem get_mem {k : κ} {v : β} : ∀ {es : List (κ × β)}, get k es = some v → (k, v) ∈ es
  | (k', v') :: es, h => by
    rw [get] at h
    split at h
    · next e => cases h; exact e ▸ List.mem_cons_self
    · exact List.mem_cons_of_mem _ (get_mem h)

theorem get_of_mem_nodup {k : κ} {v : β} : ∀ {es : List (κ × β)}, (es.map (·.1)).Nodup → (k, v) ∈ es → get k es = some v
  | (k', v') :: es, hn, h => by
    rw [List.map_cons, List.nodup_cons] at hn
    rw [get]
    rcases List.mem_cons.mp h with h | h
    · cases h; exact if_pos rfl
    · rw [if_neg fun (e : k' = k) => hn.1 (e ▸ List.mem_map_of_mem (f := (·.1)) h)]
      exact get_of_mem_nodup hn.2 h

theorem set_get_self {k : κ} {v : β} : ∀ {es : List (κ × β)}, get k es = some v → set k v es = es
  | (k', v') :: es, h => by
    rw [get] at h
    rw [set]
    split
    · next e => rw [if_pos e] at h; cases h; rw [e]
    · next e => rw [if_neg e] at h; rw [set_get_self h]

theorem get_set (k k' : κ) (v : β) : ∀ es : List (κ × β), get k' (set k v es) = if k = k' then some v else get k' es
  | [] => rfl
  | (k0, v0) :: es => by
    rw [set]
    by_cases h : k0 = k
    · rw [if_pos h, get, get, h]
      split <;> rfl
    · rw [if_neg h, get, get, get_set k k' v es]
      by_cases h' : k0 = k'
      · rw [if_pos h', if_neg fun e => h (h'.trans e.symm), if_pos h']
      · rw [if_neg h', if_neg h']

theorem get_append (k : κ) : ∀ a b : List (κ × β), get k (a ++ b) = (get k a).or (get k b)
  | [], b => by rw [List.nil_append, get, Option.none_or]
  | (k0, v0) :: a, b => by
    rw [List.cons_append, get, get]
    split
    · rfl
    · exact get_append k a b

theorem set_of_not_mem {k : κ} {v : β} : ∀ {es : List (κ × β)}, k ∉ es.map (·.1) → set k v es = es ++ [(k, v)]
  | [], _ => rfl
  | (k0, v0) :: es, h => by
    rw [set, if_neg fun (e : k0 = k) => h (e ▸ List.mem_cons_self),
      set_of_not_mem fun hm => h (List.mem_cons_of_mem _ hm)]
    rfl

theorem keys_set_of_mem {k : κ} {v : β} : ∀ {es : List (κ × β)}, k ∈ es.map (·.1) → (set k v es).map (·.1) = es.map (·.1)
  | (k0, v0) :: es, h => by
    rw [set]
    split
    · next h0 => subst h0; rfl
    · next h0 =>
      rcases List.mem_cons.mp h with h | h
      · exact absurd h.symm h0
      · exact congrArg (k0 :: ·) (keys_set_of_mem h)

theorem mem_set {k : κ} {v : β} {e : κ × β} : ∀ {es : List (κ × β)}, e ∈ set k v es → e = (k, v) ∨ e ∈ es
  | [], h => Or.inl (List.mem_singleton.mp h)
  | (k0, v0) :: es, h => by
    rw [set] at h
    split at h
    · exact (List.mem_cons.mp h).imp id (List.mem_cons_of_mem _)
    · rcases List.mem_cons.mp h with h | h
      · exact Or.inr (h ▸ List.mem_cons_self)
      · exact (mem_set h).imp id (List.mem_cons_of_mem _)

theorem mem_set_iff {k : κ} {v : β} {e : κ × β} : ∀ {es : List (κ × β)}, (es.map (·.1)).Nodup →
    (e ∈ set k v es ↔ e = (k, v) ∨ e ∈ es ∧ e.1 ≠ k)
  | [], _ => by simp [set]
  | (k0, v0) :: es, hn => by
    rw [List.map_cons, List.nodup_cons] at hn
    rw [set]
    by_cases h0 : k0 = k
    · subst h0
      have hes : e ∈ es → e.1 ≠ k0 := fun h e1 => hn.1 (e1 ▸ List.mem_map_of_mem (f := (·.1)) h)
      rw [if_pos rfl, List.mem_cons, List.mem_cons]
      exact ⟨Or.imp_right fun h => ⟨Or.inr h, hes h⟩, Or.imp_right fun h => h.1.resolve_left fun e1 => h.2 (e1 ▸ rfl)⟩
    · rw [if_neg h0, List.mem_cons, List.mem_cons, mem_set_iff hn.2]
      constructor
      · rintro (h | h | h)
        · exact Or.inr ⟨Or.inl h, h ▸ h0⟩
        · exact Or.inl h
        · exact Or.inr ⟨Or.inr h.1, h.2⟩
      · rintro (h | ⟨h | h, hk⟩)
        · exact Or.inr (Or.inl h)
        · exact Or.inl h
        · exact Or.inr (Or.inr ⟨h, hk⟩)

theorem del_sublist (k : κ) : ∀ es : List (κ × β), (del k es).Sublist es
  | [] => List.Sublist.refl _
  | (k0, v0) :: es => by
    rw [del]
    split
    · exact List.sublist_cons_self _ _
    · exact (del_sublist k es).cons_cons _

theorem del_of_not_mem {k : κ} : ∀ {es : List (κ × β)}, k ∉ es.map (·.1) → del k es = es
  | [], _ => rfl
  | (k0, v0) :: es, h => by
    rw [del, if_neg fun (e : k0 = k) => h (e ▸ List.mem_cons_self), del_of_not_mem fun hm => h (List.mem_cons_of_mem _ hm)]

theorem get_del_ne {k k' : κ} (h : k' ≠ k) : ∀ es : List (κ × β), get k' (del k es) = get k' es
  | [] => rfl
  | (k0, v0) :: es => by
    rw [del]
    by_cases h0 : k0 = k
    · rw [if_pos h0, get, if_neg fun e => h (e.symm.trans h0)]
    · rw [if_neg h0, get, get, get_del_ne h es]

theorem mem_del_of_ne {k : κ} {e : κ × β} (h : e.1 ≠ k) : ∀ {es : List (κ × β)}, e ∈ es → e ∈ del k es
  | (k0, v0) :: es, hm => by
    rw [del]
    rcases List.mem_cons.mp hm with rfl | hm
    · rw [if_neg h]; exact List.mem_cons_self
    · split
      · exact hm
      · exact List.mem_cons_of_mem _ (mem_del_of_ne h hm)

theorem del_filter {k : κ} : ∀ {es : List (κ × β)}, (es.map (·.1)).Nodup → del k es = es.filter fun e => e.1 ≠ k
  | [], _ => rfl
  | (k0, v0) :: es, h => by
    rw [List.map_cons, List.nodup_cons] at h
    rw [del, List.filter_cons]
    by_cases e : k0 = k
    · rw [if_pos e, if_neg (by simpa using e)]
      refine (List.filter_eq_self.mpr fun e' he' => ?_).symm
      rw [decide_eq_true_eq]
      exact fun e2 => h.1 (e ▸ e2 ▸ List.mem_map_of_mem (f := (·.1)) he')
    · rw [if_neg e, if_pos (by simpa using e), del_filter h.2]

theorem foldl_del_filter : ∀ (ks : List κ) {es : List (κ × β)}, (es.map (·.1)).Nodup →
    ks.foldl (fun d k => del k d) es = es.filter fun e => e.1 ∉ ks
  | [], es, _ => by
    simp only [List.foldl_nil, List.not_mem_nil, not_false_eq_true, decide_true]
    exact (List.filter_eq_self.mpr fun _ _ => rfl).symm
  | k :: ks, es, h => by
    rw [List.foldl_cons, foldl_del_filter ks (((del_sublist k es).map _).nodup h), del_filter h, List.filter_filter]
    apply List.filter_congr
    intro e _
    simp only [List.mem_cons, not_or, ne_eq, Bool.decide_and]
    simp [Bool.and_comm]

end AL

theorem lookup_eq : @lookup = AL.get := by
  funext k es
  induction es with
  | nil => rfl
  | cons e es ih => rw [lookup, AL.get, ih]

theorem setKey_eq : @setKey = AL.set := by
  funext k v es
  induction es with
  | nil => rfl
  | cons e es ih => rw [setKey, AL.set, ih]

theorem delKey_eq : @delKey = AL.del := by
  funext k es
  induction es with
  | nil => rfl
  | cons e es ih => rw [delKey, AL.del, ih]

theorem lookup_eq_none_iff {k : Key} {es : Entries} : lookup k es = none ↔ k ∉ keys es := by
  rw [lookup_eq]; exact AL.get_eq_none_iff

theorem lookup_some_mem {k : Key} {v : Val} {es : Entries} : lookup k es = some v → (k, v) ∈ es := by
  rw [lookup_eq]; exact AL.get_mem

theorem lookup_of_mem_nodup {k : Key} {v : Val} {es : Entries} : (keys es).Nodup → (k, v) ∈ es → lookup k es = some v := by
  rw [lookup_eq]; exact AL.get_of_mem_nodup

theorem setKey_lookup_self {k : Key} {v : Val} {es : Entries} : lookup k es = some v → setKey k v es = es := by
  rw [lookup_eq, setKey_eq]; exact AL.set_get_self

theorem filter_key_nodup (k : Key) : ∀ (es : Entries), (keys es).Nodup →
    es.filter (fun d => d.1 == k) = match lookup k es with | some v => [(k, v)] | none => []
  | [], _ => rfl
  | (k', v) :: es, hn => by
    simp only [keys, List.map_cons, List.nodup_cons] at hn
    have ih := filter_key_nodup k es hn.2
    simp only [List.filter_cons, lookup]
    by_cases hk : k' = k
    · subst hk
      have : lookup k' es = none := lookup_eq_none_iff.mpr hn.1
      rw [this] at ih
      simp [ih]
    · have hk' : (k' == k) = false := by simpa using hk
      simp only [hk', Bool.false_eq_true, if_false, hk, ih]

theorem setKey_of_mem_nodup {k : Key} {v : Val} {es : Entries} (hn : (keys es).Nodup) (hm : (k, v) ∈ es) :
    setKey k v es = es := setKey_lookup_self (lookup_of_mem_nodup hn hm)

theorem lookup_perm {es fs : Entries} (hp : es.Perm fs) (hn : (keys es).Nodup) (k : Key) :
    lookup k fs = lookup k es := by
  have hn' : (keys fs).Nodup := (hp.map (·.1)).nodup_iff.mp hn
  cases h : lookup k es with
  | none =>
    have : k ∉ keys es := lookup_eq_none_iff.mp h
    exact lookup_eq_none_iff.mpr fun hm => this ((hp.map (·.1)).mem_iff.mpr hm)
  | some v => exact lookup_of_mem_nodup hn' (hp.mem_iff.mp (lookup_some_mem h))

theorem lookup_setKey (k k' : Key) (v : Val) (es : Entries) :
    lookup k' (setKey k v es) = if k = k' then some v else lookup k' es := by
  rw [lookup_eq, setKey_eq]; exact AL.get_set k k' v es

theorem lookup_setKey_self (k : Key) (v : Val) (es : Entries) : lookup k (setKey k v es) = some v := by
  rw [lookup_setKey, if_pos rfl]

theorem lookup_setKey_ne {k k' : Key} (v : Val) (h : k' ≠ k) (es : Entries) : lookup k' (setKey k v es) = lookup k' es := by
  rw [lookup_setKey, if_neg fun e => h e.symm]

theorem lookup_delKey_ne {k k' : Key} (h : k' ≠ k) (es : Entries) : lookup k' (delKey k es) = lookup k' es := by
  rw [lookup_eq, delKey_eq]; exact AL.get_del_ne h es

theorem lookup_append (k : Key) (a b : Entries) : lookup k (a ++ b) = (lookup k a).or (lookup k b) := by
  rw [lookup_eq]; exact AL.get_append k a b

theorem hasKey_iff_mem {k : Key} {es : Entries} : hasKey k es = true ↔ k ∈ keys es := by
  rw [hasKey, Option.isSome_iff_ne_none, ne_eq, lookup_eq_none_iff, Classical.not_not]

theorem hasKey_false_iff {k : Key} {es : Entries} : hasKey k es = false ↔ k ∉ keys es := by
  rw [← hasKey_iff_mem, Bool.not_eq_true]

theorem setKey_cons_ne {k k0 : Key} {v v0 : Val} (h : k0 ≠ k) (acc : Entries) :
    setKey k v ((k0, v0) :: acc) = (k0, v0) :: setKey k v acc := by
  simp [setKey, h]

theorem setKey_of_not_mem (k : Key) (v : Val) (es : Entries) : k ∉ keys es → setKey k v es = es ++ [(k, v)] := by
  rw [setKey_eq]; exact AL.set_of_not_mem

theorem keys_setKey_of_mem (k : Key) (v : Val) (es : Entries) : k ∈ keys es → keys (setKey k v es) = keys es := by
  rw [setKey_eq]; exact AL.keys_set_of_mem

theorem keys_setKey_of_not_mem (k : Key) (v : Val) (es : Entries) (h : k ∉ keys es) : keys (setKey k v es) = keys es ++ [k] := by
  rw [setKey_of_not_mem k v es h, keys, List.map_append]; rfl

theorem nodup_keys_setKey {k : Key} {v : Val} {es : Entries} (h : (keys es).Nodup) : (keys (setKey k v es)).Nodup := by
  by_cases hk : k ∈ keys es
  · rw [keys_setKey_of_mem k v es hk]; exact h
  · rw [keys_setKey_of_not_mem k v es hk]
    exact List.nodup_append.mpr ⟨h, (List.pairwise_singleton _ _), fun a ha b hb e => hk (List.mem_singleton.mp hb ▸ e ▸ ha)⟩

theorem mem_setKey {k : Key} {v : Val} {e : Key × Val} {es : Entries} : e ∈ setKey k v es → e = (k, v) ∨ e ∈ es := by
  rw [setKey_eq]; exact AL.mem_set

theorem delKey_sublist (k : Key) (es : Entries) : (delKey k es).Sublist es := by
  rw [delKey_eq]; exact AL.del_sublist k es

theorem delKey_of_not_mem (k : Key) (es : Entries) : k ∉ keys es → delKey k es = es := by
  rw [delKey_eq]; exact AL.del_of_not_mem

theorem delKey_filter (k : Key) {es : Entries} : (keys es).Nodup → delKey k es = es.filter fun e => e.1 ≠ k := by
  rw [delKey_eq]; exact AL.del_filter

theorem nodup_keys_delKey {k : Key} {es : Entries} (h : (keys es).Nodup) : (keys (delKey k es)).Nodup :=
  ((delKey_sublist k es).map (·.1)).nodup h

theorem updateD_cons (t : Entries) (k : Key) (v : Val) (o : Entries) : updateD t ((k, v) :: o) = updateD (setKey k v t) o := rfl

theorem updateD_append : ∀ (o t : Entries), (keys (t ++ o)).Nodup → updateD t o = t ++ o
  | [], t, _ => (List.append_nil t).symm
  | (k, v) :: o, t, h => by
    have h' : (keys t ++ k :: keys o).Nodup := by rw [keys, List.map_append] at h; exact h
    have hk : k ∉ keys t := fun hm => (List.nodup_append.mp h').2.2 k hm k List.mem_cons_self rfl
    rw [updateD_cons, setKey_of_not_mem k v t hk, updateD_append o (t ++ [(k, v)]) (by rw [List.append_assoc]; exact h),
      List.append_assoc]
    rfl

/-! A predicate on the entries of a level (`∀ e ∈ es, P e`: the form every hereditary predicate takes through its
  `_iff` lemma) survives the dict operations. -/

theorem forall_mem_setKey {P : Key × Val → Prop} {k : Key} {v : Val} {es : Entries} (h : ∀ e ∈ es, P e) (hkv : P (k, v)) :
    ∀ e ∈ setKey k v es, P e := fun e he => (mem_setKey he).elim (· ▸ hkv) (h e)

theorem forall_mem_delKey {P : Key × Val → Prop} {k : Key} {es : Entries} (h : ∀ e ∈ es, P e) : ∀ e ∈ delKey k es, P e :=
  fun e he => h e ((delKey_sublist k es).subset he)

theorem forall_mem_updateD {P : Key × Val → Prop} : ∀ {o t : Entries}, (∀ e ∈ t, P e) → (∀ e ∈ o, P e) → ∀ e ∈ updateD t o, P e
  | [], _, ht, _ => ht
  | _ :: o, _, ht, ho =>
    forall_mem_updateD (o := o) (forall_mem_setKey ht (ho _ List.mem_cons_self)) fun e he => ho e (List.mem_cons_of_mem _ he)

theorem mem_updateD {o t : Entries} {e : Key × Val} (h : e ∈ updateD t o) : e ∈ t ∨ e ∈ o :=
  forall_mem_updateD (P := fun e => e ∈ t ∨ e ∈ o) (fun _ => Or.inl) (fun _ => Or.inr) e h

/-- builtin `dict(pairs)` of pairs with distinct keys is those pairs -/
theorem updateD_nil_left (es : Entries) (h : (keys es).Nodup) : updateD [] es = es :=
  updateD_append es [] h

theorem nodupKeysEs_iff : ∀ {es : Entries}, NodupKeysEs es ↔ ∀ e ∈ es, NodupKeysV e.2
  | [] => ⟨fun _ _ h => (nomatch h), fun _ => trivial⟩
  | (k, v) :: es => by
    rw [NodupKeysEs, nodupKeysEs_iff (es := es), List.forall_mem_cons]

theorem nodupKeysXs_iff : ∀ {xs : List Val}, NodupKeysXs xs ↔ ∀ v ∈ xs, NodupKeysV v
  | [] => ⟨fun _ _ h => (nomatch h), fun _ => trivial⟩
  | v :: xs => by
    rw [NodupKeysXs, nodupKeysXs_iff (xs := xs), List.forall_mem_cons]

theorem nodupV_setKey {k : Key} {v : Val} {es : Entries} (h : NodupKeysV (.dict es)) (hv : NodupKeysV v) :
    NodupKeysV (.dict (setKey k v es)) :=
  ⟨nodup_keys_setKey h.1, nodupKeysEs_iff.mpr (forall_mem_setKey (nodupKeysEs_iff.mp h.2) hv)⟩

theorem nodupV_updateD : ∀ {o t : Entries}, NodupKeysV (.dict t) → NodupKeysEs o → NodupKeysV (.dict (updateD t o))
  | [], _, ht, _ => ht
  | (k, v) :: o, t, ht, ho => nodupV_updateD (o := o) (t := setKey k v t) (nodupV_setKey ht ho.1) ho.2

theorem keys_sublist {a b : Entries} (h : a.Sublist b) : (keys a).Sublist (keys b) := h.map _

theorem keys_setKey_sub {k x : Key} {v : Val} {es : Entries} (h : x ∈ keys (setKey k v es)) : x = k ∨ x ∈ keys es := by
  obtain ⟨e, he, rfl⟩ := List.mem_map.mp h
  rcases mem_setKey he with rfl | he
  · exact Or.inl rfl
  · exact Or.inr (List.mem_map_of_mem (f := (·.1)) he)

theorem keys_delKey_sub {k x : Key} {es : Entries} (h : x ∈ keys (delKey k es)) : x ∈ keys es :=
  (keys_sublist (delKey_sublist k es)).subset h

end DictIO
