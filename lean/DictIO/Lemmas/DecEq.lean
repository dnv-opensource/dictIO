/-
  Decidable equality of what the reader takes and returns, so that a concrete read can be stated as an equation and
  checked by evaluation.
-/
import DictIO.Model.Reader

namespace DictIO

deriving instance DecidableEq for FileBody
deriving instance DecidableEq for SD
deriving instance DecidableEq for ReadOut

end DictIO
