/-
  One traversal of a dict level: drop the entries whose key fails a test `q`, rewrite the values of the others by `f`
  (`selMap q f`).  A traversal defined by its own recursion (`normEs`, `dropUnderscoreEs` of the model: equations at
  the end; the placeholder-stripping functions of the proofs) is an instance by one equation (`eq_selMap`); what such
  a traversal does to `++`, `keys`, `lookup`, `setKey`, `delKey` is said here.  A plain filter on keys is `f = id`, a
  plain map on values (`orderEs`, `deepSortEs`) is `q = fun _ => true`.
-/
import DictIO.Lemmas.Assoc
import DictIO.Model.Written
import DictIO.Model.NativeFormat

namespace DictIO

def selMap (q : Key → Bool) (f : Val → Val) (es : Entries) : Entries :=
  es.filterMap fun e => if q e.1 then some (e.1, f e.2) else none

variable {q : Key → Bool} {f : Val → Val}

theorem selMap_nil : selMap q f [] = [] := rfl

theorem selMap_cons (k : Key) (v : Val) (es : Entries) :
    selMap q f ((k, v) :: es) = if q k then (k, f v) :: selMap q f es else selMap q f es := by
  by_cases h : q k = true <;> simp [selMap, h]

theorem selMap_append (a b : Entries) : selMap q f (a ++ b) = selMap q f a ++ selMap q f b :=
  List.filterMap_append ..

theorem eq_selMap {F : Entries → Entries} (h0 : F [] = [])
    (hc : ∀ k v es, F ((k, v) :: es) = if q k then (k, f v) :: F es else F es) : ∀ es, F es = selMap q f es
  | [] => h0
  | (k, v) :: es => by rw [hc, selMap_cons, eq_selMap h0 hc es]

theorem selMap_true (f : Val → Val) (es : Entries) : selMap (fun _ => true) f es = es.map fun e => (e.1, f e.2) := by
  rw [selMap, ← List.filterMap_eq_map]; rfl

theorem selMap_id (q : Key → Bool) (es : Entries) : selMap q id es = es.filter fun e => q e.1 := by
  rw [selMap, ← List.filterMap_eq_filter]; rfl

theorem mem_selMap {e : Key × Val} {es : Entries} :
    e ∈ selMap q f es ↔ ∃ v, (e.1, v) ∈ es ∧ q e.1 = true ∧ e.2 = f v := by
  simp only [selMap, List.mem_filterMap]
  constructor
  · rintro ⟨⟨k, v⟩, hm, h⟩
    split at h
    · next hq => cases h; exact ⟨v, hm, hq, rfl⟩
    · cases h
  · rintro ⟨v, hm, hq, he⟩
    exact ⟨(e.1, v), hm, by rw [if_pos hq, ← he]⟩

theorem keys_selMap : ∀ es : Entries, keys (selMap q f es) = (keys es).filter q
  | [] => rfl
  | (k, v) :: es => by
    rw [selMap_cons]
    by_cases h : q k = true
    · rw [if_pos h]; exact (congrArg (k :: ·) (keys_selMap es)).trans (List.filter_cons_of_pos h).symm
    · rw [if_neg h]; exact (keys_selMap es).trans (List.filter_cons_of_neg h).symm

theorem lookup_selMap (k : Key) : ∀ es : Entries,
    lookup k (selMap q f es) = if q k then (lookup k es).map f else none
  | [] => by rw [selMap_nil, lookup]; split <;> rfl
  | (k0, v0) :: es => by
    rw [selMap_cons, lookup]
    by_cases e : k0 = k
    · subst e
      by_cases hq : q k0 = true
      · rw [if_pos hq, if_pos hq, if_pos rfl, lookup, if_pos rfl]; rfl
      · rw [if_neg hq, if_neg hq, lookup_selMap k0 es, if_neg hq]
    · rw [if_neg e, ← lookup_selMap k es]
      split
      · rw [lookup, if_neg e]
      · rfl

theorem selMap_setKey (k : Key) (v : Val) : ∀ es : Entries,
    selMap q f (setKey k v es) = if q k then setKey k (f v) (selMap q f es) else selMap q f es
  | [] => by rw [setKey, selMap_cons, selMap_nil]; split <;> rfl
  | (k0, v0) :: es => by
    rw [setKey]
    by_cases e : k0 = k
    · subst e
      rw [if_pos rfl, selMap_cons, selMap_cons]
      split
      · rw [setKey, if_pos rfl]
      · rfl
    · rw [if_neg e, selMap_cons, selMap_cons, selMap_setKey k v es]
      by_cases h0 : q k0 = true
      · rw [if_pos h0, if_pos h0]
        split
        · rw [setKey, if_neg e]
        · rfl
      · rw [if_neg h0, if_neg h0]

theorem selMap_delKey (k : Key) : ∀ es : Entries, selMap q f (delKey k es) = delKey k (selMap q f es)
  | [] => rfl
  | (k0, v0) :: es => by
    rw [delKey]
    by_cases e : k0 = k
    · subst e
      rw [if_pos rfl, selMap_cons]
      split
      · rw [delKey, if_pos rfl]
      · next hq =>
        exact (delKey_of_not_mem k0 _ (by rw [keys_selMap, List.mem_filter]; exact fun h => hq h.2)).symm
    · rw [if_neg e, selMap_cons, selMap_cons, selMap_delKey k es]
      split
      · rw [delKey, if_neg e]
      · rfl

theorem lookup_filter (q : Key → Bool) {k : Key} (hk : q k = true) (es : Entries) :
    lookup k (es.filter fun e => q e.1) = lookup k es := by
  rw [← selMap_id, lookup_selMap, if_pos hk, Option.map_id_fun, id]

theorem filter_setKey (q : Key → Bool) (k : Key) (v : Val) (es : Entries) :
    (setKey k v es).filter (fun e => q e.1) =
      if q k = true then setKey k v (es.filter fun e => q e.1) else es.filter fun e => q e.1 := by
  simp only [← selMap_id, selMap_setKey, id]

theorem keys_mapVal (f : Val → Val) (es : Entries) : keys (es.map fun e => (e.1, f e.2)) = keys es := by
  rw [← selMap_true, keys_selMap]; exact List.filter_eq_self.mpr fun _ _ => rfl

theorem lookup_mapVal (f : Val → Val) (k : Key) (es : Entries) :
    lookup k (es.map fun e => (e.1, f e.2)) = (lookup k es).map f := by
  rw [← selMap_true, lookup_selMap, if_pos rfl]

theorem normEs_eq_selMap : ∀ es, normEs es = selMap (fun _ => true) normV es :=
  eq_selMap (by rw [normEs]) fun k v es => by rw [normEs, if_pos rfl]

theorem dropUnderscoreEs_eq_selMap (fl : Flavor) : ∀ es,
    dropUnderscoreEs fl es = selMap (fun k => !((formatKey fl k).head? == some '_')) (dropUnderscoreV fl) es :=
  eq_selMap (by rw [dropUnderscoreEs]) fun k v es => by
    rw [dropUnderscoreEs]
    cases (formatKey fl k).head? == some '_' <;> rfl

end DictIO
