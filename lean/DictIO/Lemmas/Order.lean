/-
  `Key.le` (through `strLe`) and `≤` on `Nat` are total orders (`Key.totalLe`, `Nat.totalLe`); `insertBy` / `sortBy` for
  any `TotalLe`: permutation, sortedness (`SortedBy`), fixed point on sorted lists, commutation with filters on keys and
  maps on values; a sorted list with unique keys is determined by its lookups (`sorted_ext`); `orderEs` / `orderD` /
  `orderV` (`order=True`): keys, lookup, unique keys preserved.
-/
import DictIO.Model.Order
import DictIO.Lemmas.SelMap
import DictIO.Lemmas.Induct
import DictIO.Lemmas.List

namespace DictIO

theorem strLe_cons (a b : Char) (as bs : Str) :
    strLe (a :: as) (b :: bs) = true ↔ a.toNat < b.toNat ∨ (a.toNat = b.toNat ∧ strLe as bs = true) := by
  rw [strLe]
  by_cases h : a.toNat < b.toNat
  · rw [if_pos h]; exact ⟨fun _ => Or.inl h, fun _ => rfl⟩
  · rw [if_neg h]
    by_cases e : a.toNat = b.toNat
    · rw [if_pos e]; exact ⟨fun h' => Or.inr ⟨e, h'⟩, fun h' => h'.elim (fun x => absurd x h) (·.2)⟩
    · rw [if_neg e]; exact ⟨fun h' => (nomatch h'), fun h' => h'.elim (fun x => absurd x h) (fun x => absurd x.1 e)⟩

theorem strLe_refl : ∀ a : Str, strLe a a = true
  | [] => rfl
  | c :: cs => (strLe_cons c c cs cs).mpr (Or.inr ⟨rfl, strLe_refl cs⟩)

theorem strLe_total : ∀ a b : Str, strLe a b = true ∨ strLe b a = true
  | [], _ => Or.inl rfl
  | _ :: _, [] => Or.inr rfl
  | a :: as, b :: bs => by
    rw [strLe_cons, strLe_cons]
    rcases Nat.lt_trichotomy a.toNat b.toNat with h | h | h
    · exact Or.inl (Or.inl h)
    · exact (strLe_total as bs).imp (fun h' => Or.inr ⟨h, h'⟩) (fun h' => Or.inr ⟨h.symm, h'⟩)
    · exact Or.inr (Or.inl h)

theorem strLe_trans : ∀ a b c : Str, strLe a b = true → strLe b c = true → strLe a c = true
  | [], _, _, _, _ => rfl
  | _ :: _, [], _, h, _ => nomatch h
  | _ :: _, _ :: _, [], _, h => nomatch h
  | a :: as, b :: bs, c :: cs, h1, h2 => by
    rw [strLe_cons] at h1 h2 ⊢
    rcases h1 with h1 | ⟨e1, h1⟩ <;> rcases h2 with h2 | ⟨e2, h2⟩
    · exact Or.inl (Nat.lt_trans h1 h2)
    · exact Or.inl (e2 ▸ h1)
    · exact Or.inl (e1 ▸ h2)
    · exact Or.inr ⟨e1.trans e2, strLe_trans as bs cs h1 h2⟩

theorem strLe_antisymm : ∀ a b : Str, strLe a b = true → strLe b a = true → a = b
  | [], [], _, _ => rfl
  | [], _ :: _, _, h => nomatch h
  | _ :: _, [], h, _ => nomatch h
  | a :: as, b :: bs, h1, h2 => by
    rw [strLe_cons] at h1 h2
    rcases h1 with h1 | ⟨e1, h1⟩ <;> rcases h2 with h2 | ⟨e2, h2⟩
    · omega
    · omega
    · omega
    · rw [Char.ext (UInt32.toNat_inj.mp e1), strLe_antisymm as bs h1 h2]

theorem Key.le_refl (a : Key) : Key.le a a = true := by
  cases a <;> simp [Key.le, strLe_refl]

theorem Key.le_total (a b : Key) : Key.le a b = true ∨ Key.le b a = true := by
  cases a <;> cases b <;> simp [Key.le]
  · omega
  · exact strLe_total _ _

theorem Key.le_trans {a b c : Key} : Key.le a b = true → Key.le b c = true → Key.le a c = true := by
  cases a <;> cases b <;> cases c <;> simp [Key.le]
  · omega
  · exact strLe_trans _ _ _

theorem Key.le_antisymm {a b : Key} : Key.le a b = true → Key.le b a = true → a = b := by
  cases a <;> cases b <;> simp [Key.le]
  · omega
  · exact strLe_antisymm _ _

structure TotalLe {κ} (le : κ → κ → Bool) : Prop where
  total : ∀ a b, le a b = true ∨ le b a = true
  trans : ∀ {a b c}, le a b = true → le b c = true → le a c = true
  antisymm : ∀ {a b}, le a b = true → le b a = true → a = b

theorem Key.totalLe : TotalLe Key.le := ⟨Key.le_total, Key.le_trans, Key.le_antisymm⟩

theorem Nat.totalLe : TotalLe (fun a b : Nat => decide (a ≤ b)) :=
  ⟨fun a b => by simp; omega, fun h1 h2 => by simp at *; omega, fun h1 h2 => by simp at *; omega⟩

def SortedBy {κ β} (le : κ → κ → Bool) (l : List (κ × β)) : Prop := l.Pairwise fun a b => le a.1 b.1 = true

abbrev SortedK {β} (l : List (Key × β)) : Prop := SortedBy Key.le l

section
variable {κ β : Type} {le : κ → κ → Bool}

theorem insertBy_perm (e : κ × β) : ∀ l : List (κ × β), (insertBy le e l).Perm (e :: l)
  | [] => List.Perm.refl _
  | f :: fs => by
    simp only [insertBy]
    split
    · exact ((insertBy_perm e fs).cons f).trans (List.Perm.swap e f fs)
    · exact List.Perm.refl _

theorem sortBy_perm : ∀ l : List (κ × β), (sortBy le l).Perm l
  | [] => List.Perm.refl _
  | e :: es => (insertBy_perm e _).trans ((sortBy_perm es).cons e)

theorem insertBy_sorted (H : TotalLe le) (e : κ × β) : ∀ l : List (κ × β), SortedBy le l → SortedBy le (insertBy le e l)
  | [], _ => by simp [insertBy, SortedBy]
  | f :: fs, h => by
    simp only [insertBy]
    have hf := List.pairwise_cons.mp h
    split
    · rename_i hfe
      refine List.pairwise_cons.mpr ⟨?_, insertBy_sorted H e fs hf.2⟩
      intro x hx
      have := (insertBy_perm e fs).mem_iff.mp hx
      rcases List.mem_cons.mp this with rfl | hm
      · exact hfe
      · exact hf.1 x hm
    · rename_i hfe
      have hef : le e.1 f.1 = true := by
        rcases H.total e.1 f.1 with h' | h'
        · exact h'
        · exact absurd h' hfe
      refine List.pairwise_cons.mpr ⟨?_, h⟩
      intro x hx
      rcases List.mem_cons.mp hx with rfl | hm
      · exact hef
      · exact H.trans hef (hf.1 x hm)

theorem sortBy_sorted (H : TotalLe le) : ∀ l : List (κ × β), SortedBy le (sortBy le l)
  | [] => List.Pairwise.nil
  | e :: es => insertBy_sorted H e _ (sortBy_sorted H es)

theorem insertBy_lt (e : κ × β) (l : List (κ × β))
    (h : ∀ f ∈ l, le f.1 e.1 = false) : insertBy le e l = e :: l := by
  cases l with
  | nil => rfl
  | cons f fs => simp [insertBy, h f (List.mem_cons_self)]

theorem SortedBy.eq_of_perm (H : TotalLe le) {l₁ l₂ : List (κ × β)} (s₁ : SortedBy le l₁) (s₂ : SortedBy le l₂)
    (n : (l₁.map (·.1)).Nodup) (hp : l₁.Perm l₂) : l₁ = l₂ :=
  hp.eq_of_pairwise (fun a b ha hb hab hba =>
    inj_on_of_nodup_map (·.1) n a ha b (hp.mem_iff.mpr hb) (H.antisymm hab hba)) s₁ s₂

theorem sortBy_of_sorted (H : TotalLe le) (l : List (κ × β)) (hs : SortedBy le l) (hn : (l.map (·.1)).Nodup) :
    sortBy le l = l :=
  SortedBy.eq_of_perm H (sortBy_sorted H l) hs (((sortBy_perm l).map _).nodup_iff.mpr hn) (sortBy_perm l)

theorem insertBy_filter (H : TotalLe le) (q : κ → Bool) (e : κ × β) : ∀ l : List (κ × β), SortedBy le l →
    (insertBy le e l).filter (fun e => q e.1) =
      if q e.1 then insertBy le e (l.filter fun e => q e.1) else l.filter fun e => q e.1
  | [], _ => by
    rw [insertBy, List.filter_cons, List.filter_nil, insertBy]
  | f :: fs, hs => by
    have hs' := List.pairwise_cons.mp hs
    rw [insertBy]
    by_cases hfe : le f.1 e.1 = true
    · rw [if_pos hfe, List.filter_cons, List.filter_cons, insertBy_filter H q e fs hs'.2]
      by_cases hqf : q f.1 = true
      · rw [if_pos hqf, if_pos hqf]
        split
        · rw [insertBy, if_pos hfe]
        · rfl
      · rw [if_neg hqf, if_neg hqf]
    · rw [if_neg hfe]
      have hall : ∀ g ∈ (f :: fs).filter (fun e => q e.1), le g.1 e.1 = false := fun g hg =>
        Bool.eq_false_iff.mpr fun hge => hfe <|
          (List.mem_cons.mp (List.mem_filter.mp hg).1).elim (· ▸ hge) fun hm => H.trans (hs'.1 g hm) hge
      rw [List.filter_cons (x := e)]
      split
      · rw [insertBy_lt e _ hall]
      · rfl

theorem sortBy_filter (H : TotalLe le) (q : κ → Bool) : ∀ l : List (κ × β),
    (sortBy le l).filter (fun e => q e.1) = sortBy le (l.filter fun e => q e.1)
  | [] => rfl
  | e :: l => by
    rw [sortBy, insertBy_filter H q e _ (sortBy_sorted H l), List.filter_cons, sortBy_filter H q l]
    split <;> rfl

end

theorem insertBy_mapVal {κ β γ : Type} (le : κ → κ → Bool) (g : β → γ) (e : κ × β) : ∀ l : List (κ × β),
    (insertBy le e l).map (fun e => (e.1, g e.2)) = insertBy le (e.1, g e.2) (l.map fun e => (e.1, g e.2))
  | [] => rfl
  | f :: l => by
    rw [insertBy, List.map_cons, insertBy]
    split
    · rw [List.map_cons, insertBy_mapVal le g e l]
    · rfl

theorem sortBy_mapVal {κ β γ : Type} (le : κ → κ → Bool) (g : β → γ) : ∀ l : List (κ × β),
    (sortBy le l).map (fun e => (e.1, g e.2)) = sortBy le (l.map fun e => (e.1, g e.2))
  | [] => rfl
  | e :: l => by rw [sortBy, insertBy_mapVal, sortBy_mapVal le g l]; rfl

theorem lookup_sortByKey {es : Entries} (hn : (keys es).Nodup) (k : Key) : lookup k (sortByKey es) = lookup k es :=
  lookup_perm (sortBy_perm es).symm hn k

/-- a map on the values followed by the key sort is still a map on the values, as far as `lookup` sees
    (`orderD` and `deepSortV` at one level) -/
theorem lookup_sortByKey_mapVal (f : Val → Val) {es : Entries} (hn : (keys es).Nodup) (k : Key) :
    lookup k (sortByKey (es.map fun e => (e.1, f e.2))) = (lookup k es).map f := by
  rw [lookup_sortByKey (by rw [keys_mapVal]; exact hn), lookup_mapVal]

theorem sorted_ext {l₁ l₂ : Entries} (s₁ : SortedK l₁) (s₂ : SortedK l₂) (n₁ : (keys l₁).Nodup) (n₂ : (keys l₂).Nodup)
    (h : ∀ k, lookup k l₁ = lookup k l₂) : l₁ = l₂ :=
  SortedBy.eq_of_perm Key.totalLe s₁ s₂ n₁ <|
    (List.perm_ext_iff_of_nodup (nodup_of_nodup_map _ n₁) (nodup_of_nodup_map _ n₂)).mpr fun ⟨k, _⟩ =>
      ⟨fun hm => lookup_some_mem (h k ▸ lookup_of_mem_nodup n₁ hm),
        fun hm => lookup_some_mem ((h k).symm ▸ lookup_of_mem_nodup n₂ hm)⟩

theorem orderEs_eq_map : ∀ es : Entries, orderEs es = es.map fun e => (e.1, orderV e.2)
  | [] => rfl
  | (k, v) :: es => by rw [orderEs, orderEs_eq_map es]; rfl

theorem keys_orderEs (es : Entries) : keys (orderEs es) = keys es := by
  rw [orderEs_eq_map, keys_mapVal]

theorem lookup_orderEs (k : Key) (es : Entries) : lookup k (orderEs es) = (lookup k es).map orderV := by
  rw [orderEs_eq_map, lookup_mapVal]

theorem keys_orderD_perm (es : Entries) : (keys (orderD es)).Perm (keys es) :=
  keys_orderEs es ▸ (sortBy_perm (le := Key.le) (orderEs es)).map (·.1)

theorem nodupV_orderV : ∀ v : Val, NodupKeysV v → NodupKeysV (orderV v) :=
  Val.ind (Q := fun es => NodupKeysEs es → ∀ e ∈ orderEs es, NodupKeysV e.2) (R := fun _ => True)
    (fun _ => id)
    (fun es ih h => ⟨(keys_orderD_perm es).nodup_iff.mpr h.1,
      nodupKeysEs_iff.mpr fun e he => ih h.2 e ((sortBy_perm (orderEs es)).mem_iff.mp he)⟩)
    (fun _ _ => id)
    (fun _ _ he => nomatch he)
    (fun _ _ _ ihv ihes h e he => (List.mem_cons.mp he).elim (· ▸ ihv h.1) (ihes h.2 e))
    trivial (fun _ _ _ _ => trivial)

end DictIO
