/-
  Looking a function up in the regenerated regex table (`Generated/Regex.lean`).  `regexesOf` is `find?` with string
  comparisons, which the kernel evaluates slowly (it re-encodes every literal).  The keys of the table are pairwise
  distinct, so a row that is in the table is the row the lookup returns (`regexesOf_of_mem`): the pins of
  `Props/Cxxre.lean` only exhibit the row.  This file does not depend on the patterns, so a changed pattern breaks
  exactly the pins that state it.
-/
import DictIO.Generated.Regex

namespace DictIO.Gen

/-- In a list with pairwise distinct keys, looking a member's key up finds that member. -/
theorem find?_key_of_mem {α κ} [BEq κ] [LawfulBEq κ] (key : α → κ) {x : α} :
    ∀ {l : List α}, l.Pairwise (fun a b => key a ≠ key b) → x ∈ l → l.find? (fun a => key a == key x) = some x
  | a :: l, hl, hx => by
    rw [List.pairwise_cons] at hl
    rcases List.mem_cons.mp hx with rfl | hx
    · simp
    · rw [List.find?_cons, beq_eq_false_iff_ne.mpr (hl.1 x hx)]
      exact find?_key_of_mem key hl.2 hx

theorem regexKeys_distinct : regexTable.Pairwise fun a b => (a.1, a.2.1) ≠ (b.1, b.2.1) := by decide +kernel

theorem regexesOf_of_mem {file fn : String} {pats : List String} (h : (file, fn, pats) ∈ regexTable) :
    regexesOf file fn = pats := by
  have := find?_key_of_mem (fun r : String × String × List String => (r.1, r.2.1)) regexKeys_distinct h
  simp only [regexesOf]
  rw [show (fun r : String × String × List String => r.1 == file && r.2.1 == fn) = fun r => (r.1, r.2.1) == (file, fn)
    from rfl, this]

end DictIO.Gen
