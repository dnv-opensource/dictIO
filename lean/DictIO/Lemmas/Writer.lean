/-
  `DictWriter.write` once: `writeCore`, the write against a file system with the flavour given.  The API model's
  `writeText` is `writeCore` at the flavour of the path (`writeText_eq_core`); `writeStep` is `writeCore` in the file
  system that holds the target alone (`writeStep_eq_core`).  Its three cases — target missing, mode other than `a`,
  append — are `writeCore_fresh` and `writeCore_append`.  `runCore`: a sequence of builtin-dict writes to one target.
-/
import DictIO.Model.Api

namespace DictIO

/-- `writeText` after the choice of the formatter -/
def writeCore (ev : Str → EvalResult) (fl : Flavor) (fs : FS) (target : Comps) (mode : Str) (order : Bool) (a : Arg)
    (c : Counter) : Except ParseErr (Str × Counter) :=
  let fresh : Except ParseErr (Str × Counter) :=
    match fmtArg fl (if order then a.retype.order else a.retype) with
    | some t => .ok (t, c)
    | none => .error .unsupported
  match fs.get (resolveSpelled target) with
  | some _ =>
    if mode == ['a'] then
      match readFile ev fs { order := order } c target with
      | .error e => .error e
      | .ok .exit1 => .error .unsupported
      | .ok (.ok sd c') =>
        match fmtSD fl (if order then (sd.merge a.retype).order else sd.merge a.retype) with
        | some t => .ok (t, c')
        | none => .error .unsupported
    else fresh
  | none => fresh

theorem writeText_eq_core {ev : Str → EvalResult} {fs : FS} {target : Comps} {fl : Flavor} (mode : Str) (order : Bool)
    (a : Arg) (c : Counter) (hfl : flavorOfPath target = some fl) :
    writeText ev fs target mode order a c = writeCore ev fl fs target mode order a c := by
  simp only [writeText, hfl]; rfl

/-- a `.json` / `.xml` target: the model gives up -/
theorem writeText_unsupported {ev : Str → EvalResult} {fs : FS} {target : Comps} (mode : Str) (order : Bool) (a : Arg)
    (c : Counter) (h : flavorOfPath target = none) : writeText ev fs target mode order a c = .error .unsupported := by
  simp only [writeText, h]

/-- a mode other than `a`, or no file at the target: the source is re-typed, ordered if asked, and serialised; nothing
    is read, the counter stays -/
theorem writeCore_fresh {ev : Str → EvalResult} {fl : Flavor} {fs : FS} {target : Comps} {mode : Str} (order : Bool)
    (a : Arg) (c : Counter) (h : mode ≠ ['a'] ∨ fs.get (resolveSpelled target) = none) :
    writeCore ev fl fs target mode order a c =
      match fmtArg fl (if order then a.retype.order else a.retype) with
      | some t => .ok (t, c)
      | none => .error .unsupported := by
  unfold writeCore
  cases hg : fs.get (resolveSpelled target) with
  | none => rfl
  | some b =>
    have hm : (mode == ['a']) = false := by
      rcases h with h | h
      · simpa using h
      · rw [hg] at h; cases h
    simp only [hm, Bool.false_eq_true, if_false]

/-- … for a builtin dict the formatter never gives up -/
theorem writeCore_fresh_plain {ev : Str → EvalResult} {fl : Flavor} {fs : FS} {target : Comps} {mode : Str}
    (order : Bool) (d : Entries) (c : Counter) (h : mode ≠ ['a'] ∨ fs.get (resolveSpelled target) = none) :
    writeCore ev fl fs target mode order (.plain d) c =
      .ok (fmtPlain fl (if order then orderD (normEs d) else normEs d), c) := by
  rw [writeCore_fresh order _ c h]; cases order <;> rfl

/-- mode `a` onto an existing file: the file is read (with the `order` flag of the write), the re-typed source is
    merged into what was read, and the result is serialised as an `SDict` -/
theorem writeCore_append {ev : Str → EvalResult} {fl : Flavor} {fs : FS} {target : Comps} {order : Bool} (a : Arg)
    {c : Counter} {b : FileBody} (hg : fs.get (resolveSpelled target) = some b) :
    writeCore ev fl fs target ['a'] order a c =
      match readFile ev fs { order := order } c target with
      | .error e => .error e
      | .ok .exit1 => .error .unsupported
      | .ok (.ok sd c') =>
        match fmtSD fl (if order then (sd.merge a.retype).order else sd.merge a.retype) with
        | some t => .ok (t, c')
        | none => .error .unsupported := by
  simp only [writeCore, hg, beq_self_eq_true, if_true]

theorem writeCore_append_ok {ev : Str → EvalResult} {fl : Flavor} {fs : FS} {target : Comps} {order : Bool} (a : Arg)
    {c c' : Counter} {b : FileBody} {sd : SD} (hg : fs.get (resolveSpelled target) = some b)
    (hr : readFile ev fs { order := order } c target = .ok (.ok sd c')) :
    writeCore ev fl fs target ['a'] order a c =
      match fmtSD fl (if order then (sd.merge a.retype).order else sd.merge a.retype) with
      | some t => .ok (t, c')
      | none => .error .unsupported := by
  rw [writeCore_append a hg, hr]

/-- the file system `writeStep` works in: nothing, or the target alone -/
def fsOf (target : Comps) : Option Str → FS
  | none => []
  | some t => [(target, .native t)]

theorem get_fsOf (target : Comps) (cur : Option Str) : (fsOf target cur).get target = cur.map .native := by
  cases cur <;> simp [fsOf, FS.get]

theorem writeStep_eq_core (ev : Str → EvalResult) (fl : Flavor) {target : Comps} (cur : Option Str) (mode : Str)
    (order : Bool) (d : Entries) (c : Counter) (hr : resolveSpelled target = target) :
    writeStep ev fl target cur mode order d c = writeCore ev fl (fsOf target cur) target mode order (.plain d) c := by
  cases cur with
  | none => simp only [writeStep, writeCore, hr, get_fsOf, Option.map, Arg.retype]; cases order <;> rfl
  | some old =>
    simp only [writeStep, writeCore, hr, get_fsOf, Option.map, Arg.retype]
    simp only [fsOf]
    cases hm : mode == ['a'] with
    | false => cases order <;> simp only [Bool.false_eq_true, if_false, if_true, Arg.order, fmtArg]
    | true =>
      simp only [if_true]
      cases readFile ev [(target, .native old)] { order := order } c target with
      | error e => rfl
      | ok r => cases r <;> rfl

/-- a sequence of builtin-dict writes `(mode, dict)` to one target in a file system -/
def runCore (ev : Str → EvalResult) (fl : Flavor) (target : Comps) (order : Bool) :
    FS → Counter → List (Str × Entries) → Except ParseErr (FS × Counter)
  | fs, c, [] => .ok (fs, c)
  | fs, c, (m, d) :: ws =>
    match writeCore ev fl fs target m order (.plain d) c with
    | .error e => .error e
    | .ok (t, c') => runCore ev fl target order (fs.set (resolveSpelled target) (.native t)) c' ws

theorem set_fsOf (target : Comps) (cur : Option Str) (t : Str) :
    (fsOf target cur).set target (.native t) = fsOf target (some t) := by
  cases cur <;> simp [fsOf, FS.set]

end DictIO
