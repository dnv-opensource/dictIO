/-
  `remove_trailing_spaces` character by character.  `removeTrailingSpaces` is `rts ∘ universalNl`; `rts`
  (= join ∘ map rstrip ∘ split) is determined by `rts_nil`, `rts_nl`, `rts_cons`, in which `blankHead` says whether the
  rest of the current line is blank.  From these: what happens to a run that ends in a non-blank (`rts_solid`), to a
  gap in front of such a run (`rts_gap`), to white space (`rts_ws`), and that behind a non-blank or a line feed the
  processing starts afresh (`rts_append_end`).  `universalNl` likewise (`universalNl_cons`, `_cr`, `_append`, `_solid`,
  `_ws`).  `C12.rts_lines`: a block of lines each of which ends in a non-blank is left as it is (the headers, the
  directive lines); `C12.rts_lines'` the same for `removeTrailingSpaces`, the lines without carriage return.
-/
import DictIO.Model.NativeFormat
import DictIO.Lemmas.Str

namespace DictIO.C01
open DictIO

theorem rstripWs_append_nonws (a b : Str) {z : Char} (hz : isWs z = false) :
    rstripWs (a ++ z :: b) = a ++ z :: rstripWs b := by
  simp only [rstripWs, List.reverse_append, List.reverse_cons, List.append_assoc, List.singleton_append]
  rw [dropWhile_append_stop isWs hz]
  simp

theorem rstripWs_ws {b : Str} (h : b.all isWs = true) : rstripWs b = [] := by
  have : b.reverse.dropWhile isWs = [] :=
    dropWhile_eq_nil_of_all fun c hc => List.all_eq_true.mp h c (List.mem_reverse.mp hc)
  simp [rstripWs, this]

theorem rstripWs_cons (c : Char) (h : Str) :
    rstripWs (c :: h) = if (isWs c && h.all isWs) = true then [] else c :: rstripWs h := by
  cases hall : h.all isWs with
  | true =>
    cases hc : isWs c with
    | true => simp only [Bool.and_self, if_true]; exact rstripWs_ws (by simp [hc, hall])
    | false => simpa using rstripWs_append_nonws [] h hc
  | false =>
    obtain ⟨a, z, b, rfl, hz⟩ := split_of_not_all hall
    simp only [Bool.and_false, Bool.false_eq_true, if_false]
    rw [rstripWs_append_nonws a b hz]
    exact rstripWs_append_nonws (c :: a) b hz

theorem splitNl_ne : ∀ s : Str, ∃ h rest, splitNl s = h :: rest
  | [] => ⟨[], [], rfl⟩
  | c :: r => by
    obtain ⟨h, rest, e⟩ := splitNl_ne r
    by_cases hc : c = '\n'
    · subst hc; exact ⟨[], splitNl r, by rw [splitNl]⟩
    · refine ⟨c :: h, rest, ?_⟩
      rw [splitNl, e]
      exact hc

theorem splitNl_cons {c : Char} (hc : c ≠ '\n') {r h : Str} {rest : List Str} (e : splitNl r = h :: rest) :
    splitNl (c :: r) = (c :: h) :: rest := by
  rw [splitNl, e]; exact hc

/-- `remove_trailing_spaces` after the newline translation -/
def rts (s : Str) : Str := ['\n'].intercalate ((splitNl s).map rstripWs)

theorem removeTrailingSpaces_eq (s : Str) : removeTrailingSpaces s = rts (universalNl s) := rfl

/-- the first line consists of white space only -/
def blankHead (s : Str) : Bool := match splitNl s with | h :: _ => h.all isWs | [] => true

theorem rts_nil : rts [] = [] := by simp [rts, splitNl, rstripWs, List.intercalate]

theorem rts_nl (s : Str) : rts ('\n' :: s) = '\n' :: rts s := by
  obtain ⟨h, rest, e⟩ := splitNl_ne s
  have : splitNl ('\n' :: s) = [] :: splitNl s := by rw [splitNl]
  simp [rts, this, e, rstripWs, List.intercalate]

theorem rts_cons {c : Char} (hc : c ≠ '\n') (s : Str) :
    rts (c :: s) = if (isWs c && blankHead s) = true then rts s else c :: rts s := by
  obtain ⟨h, rest, e⟩ := splitNl_ne s
  simp only [rts, blankHead, splitNl_cons hc e, e, List.map_cons, rstripWs_cons]
  cases rest with
  | nil =>
    split
    · next hh =>
      simp only [Bool.and_eq_true] at hh
      simp [List.intercalate, rstripWs_ws hh.2]
    · simp [List.intercalate]
  | cons h2 rest =>
    split
    · next hh =>
      simp only [Bool.and_eq_true] at hh
      simp [List.intercalate, rstripWs_ws hh.2]
    · simp [List.intercalate]

theorem blankHead_nl (s : Str) : blankHead ('\n' :: s) = true := by
  simp [blankHead, splitNl]

theorem blankHead_cons {c : Char} (hc : c ≠ '\n') (s : Str) : blankHead (c :: s) = (isWs c && blankHead s) := by
  obtain ⟨h, rest, e⟩ := splitNl_ne s
  simp [blankHead, splitNl_cons hc e, e]

/-- a run of characters without line feed that ends in a non-blank survives as it is -/
theorem rts_solid {z : Char} (hz : isWs z = false) (s : Str) : ∀ a : Str, (∀ c ∈ a, c ≠ '\n') →
    blankHead (a ++ z :: s) = false ∧ rts (a ++ z :: s) = a ++ z :: rts s
  | [], _ => by
    simp only [List.nil_append]
    rw [blankHead_cons (ne_nl_of_not_ws hz), rts_cons (ne_nl_of_not_ws hz), hz]
    simp
  | c :: a, h => by
    have ih := rts_solid hz s a (fun x hx => h x (List.mem_cons_of_mem _ hx))
    have hc : c ≠ '\n' := h c List.mem_cons_self
    simp only [List.cons_append]
    rw [blankHead_cons hc, rts_cons hc, ih.1, ih.2]
    simp

theorem rts_append_end {z : Char} (hz : isWs z = false ∨ z = '\n') (s : Str) : ∀ a : Str,
    rts (a ++ z :: s) = rts (a ++ [z]) ++ rts s ∧ blankHead (a ++ z :: s) = blankHead (a ++ [z])
  | [] => by
    rcases hz with hz | rfl
    · have hn := ne_nl_of_not_ws hz
      simp only [List.nil_append]
      rw [rts_cons hn, rts_cons hn, blankHead_cons hn, blankHead_cons hn, hz, rts_nil]
      simp
    · simp [rts_nl, rts_nil, blankHead_nl]
  | c :: a => by
    have ih := rts_append_end hz s a
    simp only [List.cons_append]
    by_cases hc : c = '\n'
    · subst hc
      rw [rts_nl, rts_nl, ih.1, blankHead_nl, blankHead_nl]
      simp
    · rw [rts_cons hc, rts_cons hc, blankHead_cons hc, blankHead_cons hc, ih.1, ih.2]
      refine ⟨?_, rfl⟩
      split <;> simp

/-- a gap in front of something solid stays a gap, stays non-empty, keeps a leading line feed -/
theorem rts_gap {s : Str} (hs : blankHead s = false) : ∀ g : Str, g.all isWs = true →
    ∃ g', g'.all isWs = true ∧ (g ≠ [] → g' ≠ []) ∧ (g.head? = some '\n' → g'.head? = some '\n') ∧ (g = [] → g' = []) ∧
      rts (g ++ s) = g' ++ rts s
  | [], _ => ⟨[], rfl, fun h => h, fun h => h, fun _ => rfl, rfl⟩
  | c :: g, h => by
    simp only [List.all_cons, Bool.and_eq_true] at h
    obtain ⟨g', hg', hne, _, _, e⟩ := rts_gap hs g h.2
    have hnil : c :: g = [] → False := fun e => by cases e
    by_cases hc : c = '\n'
    · subst hc
      exact ⟨'\n' :: g', by simp [hg', isWs_nl], fun _ => by simp, fun _ => rfl, fun e => (hnil e).elim,
        by simp [rts_nl, e]⟩
    · have hnl : (c :: g).head? = some '\n' → False := by
        simp only [List.head?_cons, Option.some.injEq]; exact hc
      simp only [List.cons_append]
      rw [rts_cons hc, e]
      split
      · next hb =>
        simp only [Bool.and_eq_true] at hb
        refine ⟨g', hg', fun _ => hne ?_, fun h' => (hnl h').elim, fun e => (hnil e).elim, rfl⟩
        rintro rfl
        rw [List.nil_append, hs] at hb
        exact absurd hb.2 (by simp)
      · exact ⟨c :: g', by simp [hg', h.1], fun _ => by simp, fun h' => (hnl h').elim, fun e => (hnil e).elim, rfl⟩

theorem rts_ws : ∀ w : Str, w.all isWs = true → (rts w).all isWs = true
  | [], _ => by simp [rts_nil]
  | c :: w, h => by
    simp only [List.all_cons, Bool.and_eq_true] at h
    have ih := rts_ws w h.2
    by_cases hc : c = '\n'
    · subst hc; simp [rts_nl, ih, isWs_nl]
    · rw [rts_cons hc]
      split
      · exact ih
      · simp [ih, h.1]

theorem universalNl_cons {c : Char} (hc : c ≠ '\r') (s : Str) : universalNl (c :: s) = c :: universalNl s := by
  rw [universalNl]
  all_goals first | exact hc | (intro r h; exact absurd h hc)

theorem universalNl_cr {s : Str} (hs : s.head? ≠ some '\n') : universalNl ('\r' :: s) = '\n' :: universalNl s := by
  rw [universalNl]
  rintro r rfl
  simp at hs

theorem universalNl_append {s : Str} (hs : s.head? ≠ some '\n') : ∀ g : Str,
    universalNl (g ++ s) = universalNl g ++ universalNl s := by
  intro g
  induction g using universalNl.induct with
  | case1 => rfl
  | case2 r ih => simp only [List.cons_append, universalNl, ih]
  | case3 r hr ih =>
    have h1 : (r ++ s).head? ≠ some '\n' := by
      cases r with
      | nil => simpa using hs
      | cons c r => simp only [List.cons_append, List.head?_cons, ne_eq, Option.some.injEq]; rintro rfl; exact hr _ rfl
    have h2 : r.head? ≠ some '\n' := by
      cases r with
      | nil => simp
      | cons c r => simp only [List.head?_cons, ne_eq, Option.some.injEq]; rintro rfl; exact hr _ rfl
    simp only [List.cons_append, universalNl_cr h1, universalNl_cr h2, ih]
  | case4 c r _ hc' ih =>
    simp only [List.cons_append, universalNl_cons hc', ih]

theorem universalNl_solid (s : Str) : ∀ t : Str, (∀ c ∈ t, c ≠ '\r') → universalNl (t ++ s) = t ++ universalNl s
  | [], _ => rfl
  | c :: t, h => by
    simp only [List.cons_append]
    rw [universalNl_cons (h c List.mem_cons_self), universalNl_solid s t (fun x hx => h x (List.mem_cons_of_mem _ hx))]

theorem universalNl_ws (g : Str) : g.all isWs = true → (universalNl g).all isWs = true ∧ (g ≠ [] → universalNl g ≠ []) := by
  induction g using universalNl.induct with
  | case1 => intro _; exact ⟨rfl, fun h => h⟩
  | case2 r ih =>
    intro h
    simp only [List.all_cons, Bool.and_eq_true] at h
    simp [universalNl, (ih h.2.2).1, isWs_nl]
  | case3 r hr ih =>
    intro h
    simp only [List.all_cons, Bool.and_eq_true] at h
    have h2 : r.head? ≠ some '\n' := by
      cases r with
      | nil => simp
      | cons c r => simp only [List.head?_cons, ne_eq, Option.some.injEq]; rintro rfl; exact hr _ rfl
    simp [universalNl_cr h2, (ih h.2).1, isWs_nl]
  | case4 c r _ hc' ih =>
    intro h
    simp only [List.all_cons, Bool.and_eq_true] at h
    simp [universalNl_cons hc', (ih h.2).1, h.1]

theorem removeTrailingSpaces_ws {w : Str} (h : w.all isWs = true) : (removeTrailingSpaces w).all isWs = true :=
  rts_ws _ (universalNl_ws w h).1

theorem universalNl_head_nl (g : Str) (h : g.head? = some '\n') : (universalNl g).head? = some '\n' := by
  cases g with
  | nil => cases h
  | cons c g =>
    simp only [List.head?_cons, Option.some.injEq] at h
    subst h
    rw [universalNl_cons (by decide)]
    rfl

end DictIO.C01

namespace DictIO.C12

/-- a line (no line feed in it) that ends in a non-blank character -/
def goodLineB (l : Str) : Bool :=
  match l.reverse with
  | z :: a => !isWs z && a.all (· != '\n')
  | [] => false

theorem goodLine_of_B {l : Str} (h : goodLineB l = true) :
    ∃ a z, l = a ++ [z] ∧ isWs z = false ∧ ∀ c ∈ a, c ≠ '\n' := by
  unfold goodLineB at h
  split at h
  · next z a e =>
    simp only [Bool.and_eq_true, Bool.not_eq_true', List.all_eq_true, bne_iff_ne, ne_eq] at h
    refine ⟨a.reverse, z, ?_, h.1, fun c hc => h.2 c (List.mem_reverse.mp hc)⟩
    have := congrArg List.reverse e
    simpa using this
  · cases h

theorem rts_lines (s : Str) : ∀ (ls : List Str), (∀ l ∈ ls, goodLineB l = true) →
    C01.rts (ls.flatMap (· ++ ['\n']) ++ s) = ls.flatMap (· ++ ['\n']) ++ C01.rts s
  | [], _ => rfl
  | l :: ls, h => by
    obtain ⟨a, z, rfl, hz, ha⟩ := goodLine_of_B (h l (by simp))
    have ih := rts_lines s ls (fun l' hl' => h l' (by simp [hl']))
    have e : (List.flatMap (· ++ ['\n']) ((a ++ [z]) :: ls)) ++ s =
        a ++ z :: ('\n' :: (List.flatMap (· ++ ['\n']) ls ++ s)) := by simp
    rw [e, (C01.rts_solid hz _ a ha).2, C01.rts_nl, ih]
    simp

theorem rts_lines' (ls : List Str) (hg : ∀ l ∈ ls, goodLineB l = true ∧ ∀ c ∈ l, c ≠ '\r') (P : Str) :
    removeTrailingSpaces (ls.flatMap (· ++ ['\n']) ++ P) = ls.flatMap (· ++ ['\n']) ++ removeTrailingSpaces P := by
  have hcr : ∀ c ∈ ls.flatMap (· ++ ['\n']), c ≠ '\r' := by
    intro c hc
    simp only [List.mem_flatMap, List.mem_append, List.mem_singleton] at hc
    obtain ⟨l, hl, hc | rfl⟩ := hc
    · exact (hg l hl).2 c hc
    · decide
  rw [C01.removeTrailingSpaces_eq, C01.removeTrailingSpaces_eq, C01.universalNl_solid _ _ hcr,
    rts_lines _ _ (fun l hl => (hg l hl).1)]

end DictIO.C12
