/-
  `DictReader.read` (`readFile`) in two parts: the part that can fail (`readFront`: parse, merge the includes, evaluate
  the expressions) and the part that works on its result (`readPost`: scope, order, include keys): `readFile_eq`.

  A native file whose text has no include directive: `readFront` is a function of the parsed dict (`readFront_noincl`),
  in whatever file system the file lies.  If the parsed dict has no expressions either and the closing self-merge of
  `_merge_includes` leaves it alone, the read is `readPost` of it (`readFile_of_parseNative`): the read lemma of every
  "read back what the library wrote" theorem.

  A successful parse keeps the counter among the values that can occur (`parseNative_valid`, `parseJson_valid`,
  `parseFile_valid`).  Also here: the read with default options (`readFile_default`), `_remove_include_keys` as a filter
  by `notInclKey` (`removeIncludeKeys_eq`), and `C08api.selfMerge`: `_merge_includes` on a dict without includes.
-/
import DictIO.Model.Reader
import DictIO.Lemmas.Counter
import DictIO.Lemmas.Except
import DictIO.Lemmas.List

namespace DictIO

def readFront (ev : Str → EvalResult) (fs : FS) (includes comments : Bool) (c : Counter) (p : Comps) :
    Except ParseErr (SD × Counter) :=
  (parseFile fs comments c p).bind fun r =>
    (if includes then mergeIncludes fs comments r.1 p.dropLast r.2 else .ok r).bind fun r' =>
      (evalExpressions ev r'.1).map fun sd => (sd, r'.2)

/-- what `DictReader.read` does with the evaluated dict: `sys.exit(1)` if the scope is not there, else reduce to the
    scope, order, and drop the include keys when includes were not merged -/
def readPost (o : ReadOpts) (sd : SD) (c : Counter) : ReadOut :=
  if !o.scope.isEmpty && !pathExists sd.data o.scope then .exit1
  else
    let sd := if o.scope.isEmpty then sd else sd.reduceScope o.scope
    let sd := if o.order then sd.order else sd
    .ok (if o.includes then sd else { sd with data := removeIncludeKeys sd.data }) c

theorem readFile_eq (ev : Str → EvalResult) (fs : FS) (o : ReadOpts) (c : Counter) (p : Comps) :
    readFile ev fs o c p = (readFront ev fs o.includes o.comments c p).map fun r => readPost o r.1 r.2 := by
  unfold readFile readFront
  cases parseFile fs o.comments c p with
  | error e => rfl
  | ok r =>
    obtain ⟨sd, c'⟩ := r
    cases hi : o.includes with
    | false =>
      cases hev : evalExpressions ev sd with
      | error e => simp only [bind, Except.bind, pure, Except.pure, Except.map, Bool.false_eq_true, if_false, hev]
      | ok sd' =>
        simp only [bind, Except.bind, pure, Except.pure, Except.map, readPost, hi, Bool.false_eq_true, if_false, hev]
        split <;> rfl
    | true =>
      cases hm : mergeIncludes fs o.comments sd p.dropLast c' with
      | error e => simp only [bind, Except.bind, Except.map, if_true, hm]
      | ok r' =>
        obtain ⟨sd1, c1⟩ := r'
        cases hev : evalExpressions ev sd1 with
        | error e => simp only [bind, Except.bind, Except.map, if_true, hm, hev]
        | ok sd' =>
          simp only [bind, Except.bind, pure, Except.pure, Except.map, readPost, hi, if_true, hm, hev]
          split <;> rfl

/-- the default options: no scope, no ordering, includes merged -/
theorem readFile_default {ev : Str → EvalResult} {fs : FS} {c c' c'' : Counter} {p : Comps} {sd sd' sd'' : SD}
    (hp : parseFile fs true c p = .ok (sd, c')) (hm : mergeIncludes fs true sd p.dropLast c' = .ok (sd', c''))
    (he : evalExpressions ev sd' = .ok sd'') : readFile ev fs {} c p = .ok (.ok sd'' c'') := by
  rw [readFile_eq]
  show (readFront ev fs true true c p).map _ = _
  rw [readFront, hp]
  show ((mergeIncludes fs true sd p.dropLast c').bind _).map _ = _
  rw [hm]
  show ((evalExpressions ev sd').map _).map _ = _
  rw [he]
  rfl

/-- the key test of `_remove_include_keys`: no `INCLUDE` followed by six digits in the key -/
def notInclKey : Key → Bool
  | .str k => !(removeIncludeKeys.containsPhDigits kwIncl k)
  | _ => true

theorem removeIncludeKeys_eq (es : Entries) : removeIncludeKeys es = es.filter fun e => notInclKey e.1 := by
  unfold removeIncludeKeys
  congr 1

theorem notInclKey_noInfix {s : Str} (h : isInfix kwIncl s = false) : notInclKey (.str s) = true := by
  simp only [isInfix, List.any_eq_false] at h
  simp only [notInclKey, Bool.not_eq_true', removeIncludeKeys.containsPhDigits, List.any_eq_false, Bool.and_eq_true, not_and]
  intro t ht hp
  exact absurd hp (h t ht)

theorem readFile_ok {ev : Str → EvalResult} {fs : FS} {o : ReadOpts} {c : Counter} {p : Comps} {out : ReadOut}
    (h : readFile ev fs o c p = .ok out) :
    ∃ r, readFront ev fs o.includes o.comments c p = .ok r ∧ out = readPost o r.1 r.2 := by
  rw [readFile_eq] at h
  obtain ⟨r, hr, rfl⟩ := Except.map_eq_ok h
  exact ⟨r, hr, rfl⟩

theorem readFront_ok {ev : Str → EvalResult} {fs : FS} {inc cm : Bool} {c : Counter} {p : Comps} {r : SD × Counter}
    (h : readFront ev fs inc cm c p = .ok r) :
    ∃ r1 r2, parseFile fs cm c p = .ok r1 ∧
      (if inc then mergeIncludes fs cm r1.1 p.dropLast r1.2 else .ok r1) = .ok r2 ∧
      evalExpressions ev r2.1 = .ok r.1 ∧ r.2 = r2.2 := by
  obtain ⟨r1, h1, h⟩ := Except.bind_eq_ok h
  obtain ⟨r2, h2, h⟩ := Except.bind_eq_ok h
  obtain ⟨s, h3, rfl⟩ := Except.map_eq_ok h
  exact ⟨r1, r2, h1, h2, h3, rfl⟩

/-- what `_merge_includes` does to a dict without include entries: `parent.merge(SDict())`, then the merge with itself
    (named after Props/C08api.lean, whose `postRead` is stated with it) -/
def C08api.selfMerge (sd : SD) : SD :=
  let p := sd.merge (.sd ({} : SD))
  p.merge (.sd p)

/-- `parse_file` on a native file is the native parser on its text, with the include paths spelled against the folder -/
theorem parseFile_native_eq {fs : FS} {p : Comps} {text : Str} (cm : Bool) (c : Counter)
    (hget : fs.get (resolveSpelled p) = some (.native text)) (hx : isXmlPath p = false) (hj : isJsonPath p = false) :
    parseFile fs cm c p = (parseNative cm (pathStr p.dropLast) c text).map fun r =>
      ({ r.1 with incl := r.1.incl.map fun e => (e.1, { e.2 with path := pathStr (spellJoin p.dropLast e.2.file) }) },
        r.2) := by
  simp only [parseFile, hx, hget, hj, Bool.false_eq_true, if_false]
  cases parseNative cm (pathStr p.dropLast) c text <;> rfl

theorem parseFile_native {fs : FS} {p : Comps} {text : Str} {sd : SD} {cm : Bool} {c c' : Counter}
    (hget : fs.get (resolveSpelled p) = some (.native text)) (hx : isXmlPath p = false) (hj : isJsonPath p = false)
    (hparse : parseNative cm (pathStr p.dropLast) c text = .ok (sd, c')) (hi : sd.incl = []) :
    parseFile fs cm c p = .ok (sd, c') := by
  rw [parseFile_native_eq cm c hget hx hj, hparse]
  cases sd; cases hi; rfl

/-- … whatever the suffix of the path: a native body under a `.xml` or `.json` name is refused -/
theorem parseFile_native_dispatch {fs : FS} {p : Comps} {text : Str} {sd : SD} {cm : Bool} {c c' : Counter}
    (hget : fs.get (resolveSpelled p) = some (.native text))
    (hparse : parseNative cm (pathStr p.dropLast) c text = .ok (sd, c')) (hi : sd.incl = []) :
    parseFile fs cm c p = if isXmlPath p || isJsonPath p then .error .unsupported else .ok (sd, c') := by
  cases hx : isXmlPath p with
  | true => simp only [parseFile, hx, if_true, Bool.true_or]
  | false =>
    cases hj : isJsonPath p with
    | true => simp only [parseFile, hx, hget, hj, if_true, Bool.false_eq_true, if_false, Bool.or_true]
    | false => simpa only [Bool.or_self, Bool.false_eq_true, if_false] using parseFile_native hget hx hj hparse hi

theorem mergeIncludes_noincl (fs : FS) (cm : Bool) {sd : SD} (dir : Comps) (c : Counter) (hi : sd.incl = []) :
    mergeIncludes fs cm sd dir c = .ok (C08api.selfMerge sd, c) := by
  simp only [mergeIncludes, mergeIncludesRec, hi, List.foldlM_nil, bind, Except.bind, pure, Except.pure,
    C08api.selfMerge]

theorem evalExpressions_noexpr (ev : Str → EvalResult) (sd : SD) : sd.exprs = [] → evalExpressions ev sd = .ok sd := by
  intro he
  cases sd; cases he
  simp [evalExpressions, evalExpressions.loop, resolveAll, evalPass, bind, Except.bind, pure, Except.pure,
    List.eraseDups]

theorem readFront_noincl {ev : Str → EvalResult} {fs : FS} {inc cm : Bool} {c c' : Counter} {p : Comps} {sd : SD}
    (hp : parseFile fs cm c p = .ok (sd, c')) (hi : sd.incl = []) :
    readFront ev fs inc cm c p = (evalExpressions ev (if inc then C08api.selfMerge sd else sd)).map fun s => (s, c') := by
  rw [readFront, hp]
  cases inc
  · simp only [Except.bind, Bool.false_eq_true, if_false]
  · simp only [Except.bind, if_true, mergeIncludes_noincl fs cm _ _ hi]

/-- **The read lemma.**  A native file, in any file system and read with any options, whose text parses to a dict
    without include and expression entries that the closing self-merge leaves alone: the read is `readPost` of it. -/
theorem readFile_of_parseNative {ev : Str → EvalResult} {fs : FS} {o : ReadOpts} {c c' : Counter} {p : Comps} {text : Str}
    {sd : SD} (hget : fs.get (resolveSpelled p) = some (.native text)) (hx : isXmlPath p = false)
    (hj : isJsonPath p = false) (hparse : parseNative o.comments (pathStr p.dropLast) c text = .ok (sd, c'))
    (hi : sd.incl = []) (he : sd.exprs = []) (hm : o.includes = true → C08api.selfMerge sd = sd) :
    readFile ev fs o c p = .ok (readPost o sd c') := by
  rw [readFile_eq, readFront_noincl (parseFile_native hget hx hj hparse hi) hi]
  have : (if o.includes then C08api.selfMerge sd else sd) = sd := by
    cases h : o.includes
    · rfl
    · exact hm h
  rw [this, evalExpressions_noexpr ev sd he]; rfl

/-! ### a parse leaves a counter value that can occur

  Every stage draws its ids by `Counter.next` (`C13.next_valid`), so a successful parse from a valid counter ends in
  a valid counter, whatever the text and however many ids were drawn. -/

section
open C13

theorem fresh_valid {st : LexSt} (h : ValidCounter Gen.counterLimit st.counter) :
    ValidCounter Gen.counterLimit st.fresh.2.counter :=
  next_valid h

theorem lexLineComment_valid (comments : Bool) {st : LexSt} (line : Str) (h : ValidCounter Gen.counterLimit st.counter) :
    ValidCounter Gen.counterLimit (lexLineComment comments st line).1.counter := by
  unfold lexLineComment
  split
  · exact h
  · exact fresh_valid h

theorem lexInclude_valid (dir : Str) {st : LexSt} (line : Str) (h : ValidCounter Gen.counterLimit st.counter) :
    ValidCounter Gen.counterLimit (lexInclude dir st line).1.counter := by
  unfold lexInclude
  split
  · exact h
  · exact fresh_valid h

/-- a step `do let (s, u) ← x; pure (s, f u)` succeeds only if `x` does, with the same state -/
theorem bind_fst_ok {ε σ α β} {x : Except ε (σ × α)} {f : α → β} {st' : σ} {t : β}
    (h : (do let (s, u) ← x; pure (s, f u)) = Except.ok (st', t)) : ∃ u, x = .ok (st', u) := by
  obtain ⟨r, hx, h⟩ := Except.bind_eq_ok h
  cases h
  exact ⟨r.2, hx⟩

theorem lexLiterals_valid : ∀ (fuel : Nat) (st : LexSt) (prev : Option Char) (s : Str) (st' : LexSt) (t : Str),
    lexLiteralsFuel fuel st prev s = .ok (st', t) → ValidCounter Gen.counterLimit st.counter →
      ValidCounter Gen.counterLimit st'.counter
  | 0, st, _, s, st', t, h, hv => by
    simp only [lexLiteralsFuel, Except.ok.injEq, Prod.mk.injEq] at h
    rw [← h.1]; exact hv
  | _ + 1, st, _, [], st', t, h, hv => by
    simp only [lexLiteralsFuel, Except.ok.injEq, Prod.mk.injEq] at h
    rw [← h.1]; exact hv
  | fuel + 1, st, prev, c :: r, st', t, h, hv => by
    simp only [lexLiteralsFuel] at h
    split at h
    · split at h
      · cases h
      · split at h
        · obtain ⟨u, hr⟩ := bind_fst_ok h
          exact lexLiterals_valid fuel st _ _ _ _ hr hv
        · split at h
          · obtain ⟨u, hr⟩ := bind_fst_ok h
            exact lexLiterals_valid fuel st _ _ _ _ hr hv
          · obtain ⟨u, hr⟩ := bind_fst_ok h
            exact lexLiterals_valid fuel _ _ _ _ _ hr (fresh_valid hv)
    · obtain ⟨u, hr⟩ := bind_fst_ok h
      exact lexLiterals_valid fuel st _ _ _ _ hr hv

theorem lexRefs_valid : ∀ (fuel : Nat) (st : LexSt) (s : Str), ValidCounter Gen.counterLimit st.counter →
    ValidCounter Gen.counterLimit (lexRefsFuel fuel st s).1.counter
  | 0, _, _, h => h
  | fuel + 1, st, s, h => by
    simp only [lexRefsFuel]
    split
    · exact h
    · exact lexRefs_valid fuel _ _ (fresh_valid h)

theorem lexExpressions_valid (st : LexSt) (s : Str) (h : ValidCounter Gen.counterLimit st.counter) :
    ValidCounter Gen.counterLimit (lexExpressions st s).1.counter := by
  unfold lexExpressions
  exact lexRefs_valid _ _ _
    (foldl_inv (fun acc : LexSt × Str => ValidCounter Gen.counterLimit acc.1.counter) _ _ (fun _ h _ _ => fresh_valid h)
      _ h)

/-- **the native parser leaves a counter value that can occur**, for every text (well-formed or not) -/
theorem parseNative_valid {comments : Bool} {dir : Str} {c c' : Counter} {text : Str} {sd : SD}
    (h : parseNative comments dir c text = .ok (sd, c')) (hc : ValidCounter Gen.counterLimit c) :
    ValidCounter Gen.counterLimit c' := by
  unfold parseNative at h
  simp only [bind, Except.bind, pure, Except.pure] at h
  have hA := foldl_inv (fun acc : LexSt × List Str => ValidCounter Gen.counterLimit acc.1.counter)
    (fun acc l => ((lexLineComment comments acc.1 l).1, acc.2 ++ [(lexLineComment comments acc.1 l).2]))
    (splitLinesKeep text) (fun _ h l _ => lexLineComment_valid comments l h) ({ counter := c }, []) hc
  generalize List.foldl _ (({ counter := c } : LexSt), ([] : List Str)) (splitLinesKeep text) = A at h hA
  have hB := foldl_inv (fun acc : LexSt × List Str => ValidCounter Gen.counterLimit acc.1.counter)
    (fun acc l => ((lexInclude dir acc.1 l).1, acc.2 ++ [(lexInclude dir acc.1 l).2]))
    A.2 (fun _ h l _ => lexInclude_valid dir l h) (A.1, []) hA
  generalize List.foldl _ (A.1, ([] : List Str)) A.2 = B at h hB
  split at h
  · cases h
  · next st block hl =>
    have hst := lexLiterals_valid _ _ _ _ _ _ hl hB
    split at h
    · cases h
    · split at h
      · cases h
      · simp only [Except.ok.injEq, Prod.mk.injEq] at h
        rw [← h.2]
        exact lexExpressions_valid _ _ hst

theorem jsonExtractExpr_valid (st : JsonSt) (s : Str) (h : ValidCounter Gen.counterLimit st.counter) :
    ValidCounter Gen.counterLimit (jsonExtractExpr st s).1.counter := by
  unfold jsonExtractExpr
  split
  · exact h
  · exact next_valid h

mutual
  theorem jsonExprV_valid : ∀ (v : Val) (st : JsonSt), ValidCounter Gen.counterLimit st.counter →
      ValidCounter Gen.counterLimit (jsonExprV st v).1.counter
    | .leaf (.str s), st, h => by
      simp only [jsonExprV]
      split
      · exact jsonExtractExpr_valid st s h
      · exact h
    | .leaf (.int _), st, h => by simpa only [jsonExprV] using h
    | .leaf (.float _), st, h => by simpa only [jsonExprV] using h
    | .leaf (.bool _), st, h => by simpa only [jsonExprV] using h
    | .leaf .none, st, h => by simpa only [jsonExprV] using h
    | .dict es, st, h => by simp only [jsonExprV]; exact jsonExprEs_valid es st h
    | .list xs, st, h => by simp only [jsonExprV]; exact jsonExprXs_valid xs st h
  theorem jsonExprEs_valid : ∀ (es : Entries) (st : JsonSt), ValidCounter Gen.counterLimit st.counter →
      ValidCounter Gen.counterLimit (jsonExprEs st es).1.counter
    | [], st, h => by simpa only [jsonExprEs] using h
    | (k, v) :: es, st, h => by
      simp only [jsonExprEs]
      exact jsonExprEs_valid es _ (jsonExprV_valid v st h)
  theorem jsonExprXs_valid : ∀ (xs : List Val) (st : JsonSt), ValidCounter Gen.counterLimit st.counter →
      ValidCounter Gen.counterLimit (jsonExprXs st xs).1.counter
    | [], st, h => by simpa only [jsonExprXs] using h
    | v :: xs, st, h => by
      simp only [jsonExprXs]
      exact jsonExprXs_valid xs _ (jsonExprV_valid v st h)
end

theorem parseJson_valid (dir : Comps) (c : Counter) (es : Entries) (hc : ValidCounter Gen.counterLimit c) :
    ValidCounter Gen.counterLimit (parseJson dir c es).2 := by
  unfold parseJson
  simp only
  apply jsonExprEs_valid
  refine foldl_inv (fun acc : Counter × _ => ValidCounter Gen.counterLimit acc.1) _ es ?_ _ hc
  intro acc h e _
  split
  · split
    · exact next_valid h
    · exact h
  · exact h

theorem parseFile_valid {fs : FS} {comments : Bool} {c c' : Counter} {p : Comps} {sd : SD}
    (h : parseFile fs comments c p = .ok (sd, c')) (hc : ValidCounter Gen.counterLimit c) :
    ValidCounter Gen.counterLimit c' := by
  unfold parseFile at h
  split at h
  · cases h
  · split at h
    · cases h
    · split at h
      · cases h
      · split at h
        · cases h
        · next sd0 c0 hp =>
          simp only [Except.ok.injEq, Prod.mk.injEq] at h
          rw [← h.2]; exact parseNative_valid hp hc
    · split at h
      · next es _ _ =>
        simp only [Except.ok.injEq] at h
        have := parseJson_valid p.dropLast c es hc
        rw [h] at this; exact this
      · cases h

end

end DictIO
