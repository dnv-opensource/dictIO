/-
  String literals under kernel evaluation.  `String` is a byte array, and the kernel decodes `"…".toList` in time far
  worse than linear in the length (about 0.2 s for 50 characters, 2 s for 100, 9 s for the 232 of `Gen.nativeHeader`),
  again for every occurrence.  `String.toList_ofList` read from left to right avoids the decoding: the elaborator
  unifies the literal with `String.ofList ?l` by expanding it, and the kernel accepts that expansion in linear time.
  `simp` cannot match a literal against `String.ofList ?l`; `rw` can.
-/

namespace DictIO

/-- Replace every `"…".toList` in the goal by its explicit list of characters.  To be called before a goal that
    mentions string literals is evaluated (`decide +kernel`), and while the goal is still small: each rewrite
    abstracts the literal out of the whole goal. -/
macro "literal_chars" : tactic => `(tactic| repeat rw [String.toList_ofList])

end DictIO
