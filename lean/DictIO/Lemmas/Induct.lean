/-
  Induction principles for the nested value type.  A theorem written as a recursive function over `Entries` (through
  `Val.dict`) or over `Val`/`Entries`/`List Val` together is compiled by well-founded recursion, and most of what it
  costs to check is the search for a termination measure and one decreasing proof per recursive call.  The principles
  below pay that once.  `Entries.ind` is used with `induction … using`; the mutual `Val.ind`, `Val.indEs`, `Val.indXs`
  (together `Val.ind_all`) and `Val.indEsXs` have several motives, and are applied as terms to the cases.
-/
import DictIO.Model.Value

namespace DictIO

/-- Induction over a dict and the dicts nested in it through dict values; lists are opaque. -/
theorem Entries.ind {P : Entries → Prop} (nil : P [])
    (leaf : ∀ k x r, P r → P ((k, .leaf x) :: r))
    (list : ∀ k xs r, P r → P ((k, .list xs) :: r))
    (dict : ∀ k es r, P es → P r → P ((k, .dict es) :: r)) : ∀ D, P D
  | [] => nil
  | (k, .leaf x) :: r => leaf k x r (Entries.ind nil leaf list dict r)
  | (k, .list xs) :: r => list k xs r (Entries.ind nil leaf list dict r)
  | (k, .dict es) :: r => dict k es r (Entries.ind nil leaf list dict es) (Entries.ind nil leaf list dict r)
termination_by D => D

mutual
  theorem Val.ind {P : Val → Prop} {Q : Entries → Prop} {R : List Val → Prop}
      (leaf : ∀ x, P (.leaf x)) (dict : ∀ es, Q es → P (.dict es)) (list : ∀ xs, R xs → P (.list xs))
      (nilE : Q []) (consE : ∀ k v es, P v → Q es → Q ((k, v) :: es))
      (nilX : R []) (consX : ∀ v xs, P v → R xs → R (v :: xs)) : ∀ v, P v
    | .leaf x => leaf x
    | .dict es => dict es (Val.indEs leaf dict list nilE consE nilX consX es)
    | .list xs => list xs (Val.indXs leaf dict list nilE consE nilX consX xs)
  theorem Val.indEs {P : Val → Prop} {Q : Entries → Prop} {R : List Val → Prop}
      (leaf : ∀ x, P (.leaf x)) (dict : ∀ es, Q es → P (.dict es)) (list : ∀ xs, R xs → P (.list xs))
      (nilE : Q []) (consE : ∀ k v es, P v → Q es → Q ((k, v) :: es))
      (nilX : R []) (consX : ∀ v xs, P v → R xs → R (v :: xs)) : ∀ es, Q es
    | [] => nilE
    | (k, v) :: es => consE k v es (Val.ind leaf dict list nilE consE nilX consX v)
        (Val.indEs leaf dict list nilE consE nilX consX es)
  theorem Val.indXs {P : Val → Prop} {Q : Entries → Prop} {R : List Val → Prop}
      (leaf : ∀ x, P (.leaf x)) (dict : ∀ es, Q es → P (.dict es)) (list : ∀ xs, R xs → P (.list xs))
      (nilE : Q []) (consE : ∀ k v es, P v → Q es → Q ((k, v) :: es))
      (nilX : R []) (consX : ∀ v xs, P v → R xs → R (v :: xs)) : ∀ xs, R xs
    | [] => nilX
    | v :: xs => consX v xs (Val.ind leaf dict list nilE consE nilX consX v)
        (Val.indXs leaf dict list nilE consE nilX consX xs)
end

theorem Val.ind_all {P : Val → Prop} {Q : Entries → Prop} {R : List Val → Prop}
    (leaf : ∀ x, P (.leaf x)) (dict : ∀ es, Q es → P (.dict es)) (list : ∀ xs, R xs → P (.list xs))
    (nilE : Q []) (consE : ∀ k v es, P v → Q es → Q ((k, v) :: es))
    (nilX : R []) (consX : ∀ v xs, P v → R xs → R (v :: xs)) : (∀ v, P v) ∧ (∀ es, Q es) ∧ (∀ xs, R xs) :=
  ⟨Val.ind leaf dict list nilE consE nilX consX, Val.indEs leaf dict list nilE consE nilX consX,
    Val.indXs leaf dict list nilE consE nilX consX⟩

/-- `Q` of dicts and `R` of lists, for statements that say nothing about a single value (the shape of `fmtEntries`/`fmtItems`
    and of the scanner invariants): by cases on the first value; a dict or list value gives its own hypothesis. -/
theorem Val.indEsXs {Q : Entries → Prop} {R : List Val → Prop}
    (nilE : Q []) (leafE : ∀ k x es, Q es → Q ((k, .leaf x) :: es))
    (dictE : ∀ k d es, Q d → Q es → Q ((k, .dict d) :: es)) (listE : ∀ k xs es, R xs → Q es → Q ((k, .list xs) :: es))
    (nilX : R []) (leafX : ∀ x xs, R xs → R (.leaf x :: xs))
    (dictX : ∀ d xs, Q d → R xs → R (.dict d :: xs)) (listX : ∀ ys xs, R ys → R xs → R (.list ys :: xs)) :
    (∀ es, Q es) ∧ (∀ xs, R xs) := by
  let P : Val → Prop := fun v => match v with | .leaf _ => True | .dict d => Q d | .list ys => R ys
  have consE : ∀ k v es, P v → Q es → Q ((k, v) :: es) := fun k v es hv hes => by
    cases v with
    | leaf x => exact leafE k x es hes
    | dict d => exact dictE k d es hv hes
    | list ys => exact listE k ys es hv hes
  have consX : ∀ v xs, P v → R xs → R (v :: xs) := fun v xs hv hxs => by
    cases v with
    | leaf x => exact leafX x xs hxs
    | dict d => exact dictX d xs hv hxs
    | list ys => exact listX ys xs hv hxs
  exact ⟨Val.indEs (P := P) (fun _ => trivial) (fun _ h => h) (fun _ h => h) nilE consE nilX consX,
    Val.indXs (P := P) (fun _ => trivial) (fun _ h => h) (fun _ h => h) nilE consE nilX consX⟩

end DictIO
