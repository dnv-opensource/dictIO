/-
  The characters reader and writer treat specially, as tables.

  Three classes end or split a token: white space (the line breaks among it), the two quotes, the delimiters; a handful
  of single characters (`marks`) start a comment, a directive, a reference, an escape, a sign, a list.  The classes and
  the marks are pairwise apart (`mark_table`, `quote_table`, `delim_table`, each one evaluation; `quote_facts`, `ws_noMark`,
  `delim_noMark` are the forms with the class as hypothesis, `NoMark` naming the marks the reader searches for).  An ASCII
  capital or digit is in no class, is no mark and does not force quoting (`Plain`, `plain_table`).  The placeholder
  keywords consist of capitals, `padSix` and `natDigits` of digits (`kw_table`, `padSix_digit`, `natDigits_digit`), so
  every character of a placeholder word is plain (`plain_ph`).
-/
import DictIO.Model.NativeParse
import DictIO.Model.Scalar
import DictIO.Lemmas.Digits

namespace DictIO

/-- the single characters some stage searches for: `$` (reference), `\` (escape), `/ *` (comments), `#` (directive),
    `:` (in front of `//`: no comment), `[ ]` (list, index), `+ - . _` (what a word that is no number may not start with) -/
def marks : List Char := ['$', '\\', '/', '*', '#', ':', '[', ']', '+', '-', '.', '_']

theorem mark_table : ∀ m ∈ marks,
    isWs m = false ∧ isLineBreak m = false ∧ isQuote m = false ∧ Gen.delimiters.contains m = false := by decide

theorem quote_table : ∀ q ∈ ['\'', '"'],
    isWs q = false ∧ isLineBreak q = false ∧ Gen.delimiters.contains q = false ∧ q ∉ marks := by decide

theorem delim_table : ∀ d ∈ Gen.delimiters,
    isWs d = false ∧ isLineBreak d = false ∧ isQuote d = false ∧ d ∉ marks := by decide

/-- no mark, by name (the six that the stages of the reader search for) -/
structure NoMark (c : Char) : Prop where
  dollar : c ≠ '$'
  bslash : c ≠ '\\'
  slash : c ≠ '/'
  star : c ≠ '*'
  hash : c ≠ '#'
  colon : c ≠ ':'

theorem NoMark.of {c : Char} (h : c ∉ marks) : NoMark c :=
  ⟨fun e => h (e ▸ by decide), fun e => h (e ▸ by decide), fun e => h (e ▸ by decide), fun e => h (e ▸ by decide),
    fun e => h (e ▸ by decide), fun e => h (e ▸ by decide)⟩

theorem ws_not_mark {c : Char} (h : isWs c = true) : c ∉ marks := fun hm => by rw [(mark_table c hm).1] at h; cases h

theorem ws_noMark {c : Char} (h : isWs c = true) : NoMark c := .of (ws_not_mark h)

theorem delim_noMark {d : Char} (h : d ∈ Gen.delimiters) : NoMark d := .of (delim_table d h).2.2.2

theorem isQuote_iff {q : Char} : isQuote q = true ↔ q = '\'' ∨ q = '"' := by
  simp only [isQuote, Bool.or_eq_true, beq_iff_eq]

theorem quote_facts {q : Char} (h : isQuote q = true) :
    isWs q = false ∧ isLineBreak q = false ∧ Gen.delimiters.contains q = false ∧ q ∉ marks :=
  quote_table q (by rcases isQuote_iff.mp h with rfl | rfl <;> decide)

def upperChars : List Char :=
  ['A', 'B', 'C', 'D', 'E', 'F', 'G', 'H', 'I', 'J', 'K', 'L', 'M', 'N', 'O', 'P', 'Q', 'R', 'S', 'T', 'U', 'V', 'W', 'X',
    'Y', 'Z']

/-- the ASCII digits; `C04.IsAsciiDigit c` is `c ∈ digitChars` -/
def digitChars : List Char := ['0', '1', '2', '3', '4', '5', '6', '7', '8', '9']

/-- what reader and writer have to know of a character inside a word: it is in no class, is no mark and does not force
    quoting -/
structure Plain (c : Char) : Prop where
  nws : isWs c = false
  nbreak : isLineBreak c = false
  nquote : isQuote c = false
  ndelim : Gen.delimiters.contains c = false
  ncomplex : isComplexChar c = false
  nmark : c ∉ marks

theorem plain_table : ∀ c ∈ upperChars ++ digitChars, isWs c = false ∧ isLineBreak c = false ∧ isQuote c = false ∧
    Gen.delimiters.contains c = false ∧ isComplexChar c = false ∧ c ∉ marks := by decide +kernel

theorem Plain.of_mem {c : Char} (h : c ∈ upperChars ++ digitChars) : Plain c :=
  let ⟨h1, h2, h3, h4, h5, h6⟩ := plain_table c h
  ⟨h1, h2, h3, h4, h5, h6⟩

theorem Plain.ne {c x : Char} (h : Plain c) (hx : x ∈ marks) : c ≠ x := fun e => h.nmark (e ▸ hx)

theorem Plain.ne_quote {c q : Char} (h : Plain c) (hq : isQuote q = true) : c ≠ q :=
  fun e => Bool.false_ne_true ((e ▸ h.nquote).symm.trans hq)

/-- a capital is no digit, in any of the senses in use … -/
theorem upper_table : ∀ c ∈ upperChars, isDigit c = false ∧ digitVal c = none ∧ c ∉ digitChars := by decide +kernel

/-- … and a digit is one in all of them -/
theorem digit_table : ∀ c ∈ digitChars, isDigit c = true ∧ (digitVal c).isSome = true ∧ '0' ≤ c ∧ c ≤ '9' := by
  decide +kernel

theorem digitChar_ofNat : ∀ k, k < 10 → Char.ofNat (48 + k) ∈ digitChars := by decide

theorem natDigits_digit (n : Nat) : ∀ c ∈ natDigits n, c ∈ digitChars := natDigits_forall digitChar_ofNat n

theorem padSix_digit (i : Nat) : ∀ c ∈ padSix i, c ∈ digitChars := padSix_forall digitChar_ofNat i

theorem upper_not_padSix {x : Char} (hx : x ∈ upperChars) (i : Nat) : x ∉ padSix i :=
  fun h => (upper_table x hx).2.2 (padSix_digit i x h)

theorem word_no_upper {kw : Str} {x : Char} (hx : x ∈ upperChars) (hk : x ∉ kw) (i : Nat) : x ∉ kw ++ padSix i :=
  fun hm => (List.mem_append.mp hm).elim hk (upper_not_padSix hx i)

def phKeywords : List Str := [kwLine, kwBlock, kwIncl, kwExpr, kwLit]

theorem kw_table : ∀ kw ∈ phKeywords, 5 < kw.length ∧ ∀ c ∈ kw, c ∈ upperChars := by decide +kernel

theorem ph_chars {kw : Str} (hkw : kw ∈ phKeywords) (i : Nat) : ∀ c ∈ kw ++ padSix i, c ∈ upperChars ++ digitChars :=
  fun c hc => (List.mem_append.mp hc).elim (fun h => List.mem_append_left _ ((kw_table kw hkw).2 c h))
    fun h => List.mem_append_right _ (padSix_digit i c h)

theorem plain_ph {kw : Str} (hkw : kw ∈ phKeywords) (i : Nat) : ∀ c ∈ kw ++ padSix i, Plain c :=
  fun c hc => .of_mem (ph_chars hkw i c hc)

end DictIO
