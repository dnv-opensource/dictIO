/-
  `_clean` (`SD.clean`, `cleanRec`, `cleanLevel` of Model/Dict.lean) in a form proofs can use.

  `cleanLevel` runs the same loop three times (block comments, includes, line comments) through a local function; here
  the loop is the top-level `cleanStep`, and `cleanLevel_eq`, `cleanRec_succ`, `SD.clean_eq` are the equations of the
  three model definitions in terms of it.  What `_clean` preserves: one loop only deletes selected keys from the level
  and ids from its table (`cleanStep_inv`, `cleanStep_tbl_inv`, `cleanLevel_inv`), and the recursion writes cleaned
  sub-dicts back under their keys (`cleanRec_induct`).  What it computes: a loop that meets no text twice changes
  nothing (`cleanStep_id`), the tables only lose entries (`clean_sub`), over a level with distinct keys the recursion
  is the structural `subsRec` (`cleanRec_subsRec`), and where no level changes nothing does (`cleanRec_fixed`, from
  `cleanRec_induct`; hence `C12W.clean_fix`).  The writer's `hoistPlaceholders` sorts the top level by the same
  classes (`hoistPlaceholders_eq`; `hoistPlaceholders_id`, `_cons`, `_single` are the cases the files meet).
-/
import DictIO.Model.NativeFormat
import DictIO.Lemmas.Assoc
import DictIO.Lemmas.Tbl
import DictIO.Lemmas.List
import DictIO.Lemmas.Induct

namespace DictIO

/-- one round: the comment text (include entry) stored under the id in key `k`, if seen before in this loop, is
    deleted from the table together with the entry `k` of the level; otherwise it is remembered -/
def cleanStepF {α} [BEq α] (acc : Entries × Tbl α × List α) (k : Key) : Entries × Tbl α × List α :=
  match k with
  | .str x =>
    (match firstSixDigits x with
    | none => acc
    | some i => match acc.2.1.get? i with
      | none => acc
      | some txt =>
        if acc.2.2.contains txt then (delKey k acc.1, acc.2.1.del i, acc.2.2) else (acc.1, acc.2.1, acc.2.2 ++ [txt]))
  | _ => acc

/-- the local `step` of `cleanLevel` -/
def cleanStep {α} [BEq α] (sel : Key → Bool) (lvl : Entries) (tbl : Tbl α) : Entries × Tbl α :=
  let r := ((keys lvl).filter sel).foldl cleanStepF (lvl, tbl, [])
  (r.1, r.2.1)

theorem cleanStep_eq {α} [BEq α] (sel : Key → Bool) (lvl : Entries) (tbl : Tbl α) :
    cleanStep sel lvl tbl =
      ((((keys lvl).filter sel).foldl cleanStepF (lvl, tbl, [])).1,
        (((keys lvl).filter sel).foldl cleanStepF (lvl, tbl, [])).2.1) := rfl

/-- the three exclusive classes of placeholder keys, in the order `_clean_data` tests them -/
def C06.selB (k : Key) : Bool := match k with | .str x => containsPh kwBlock x | _ => false
def C06.selI (k : Key) : Bool := match k with | .str x => !containsPh kwBlock x && containsPh kwIncl x | _ => false
def C06.selL (k : Key) : Bool :=
  match k with | .str x => !containsPh kwBlock x && !containsPh kwIncl x && containsPh kwLine x | _ => false

/-- the keys `_clean_data` looks at: BLOCKCOMMENT / INCLUDE / LINECOMMENT followed by six digits -/
def C07.isPhKey : Key → Bool
  | .str s => containsPh kwBlock s || containsPh kwIncl s || containsPh kwLine s
  | .int _ => false

theorem C07.isPhKey_of_selB {k : Key} (h : C06.selB k = true) : C07.isPhKey k = true := by
  cases k <;> simp_all [C06.selB, C07.isPhKey]
theorem C07.isPhKey_of_selI {k : Key} (h : C06.selI k = true) : C07.isPhKey k = true := by
  cases k <;> simp_all [C06.selI, C07.isPhKey]
theorem C07.isPhKey_of_selL {k : Key} (h : C06.selL k = true) : C07.isPhKey k = true := by
  cases k <;> simp_all [C06.selL, C07.isPhKey]

theorem filter_sel_noPh {ks : List Key} (h : ∀ k ∈ ks, C07.isPhKey k = false) :
    ks.filter C06.selB = [] ∧ ks.filter C06.selI = [] ∧ ks.filter C06.selL = [] :=
  ⟨List.filter_eq_nil_iff.mpr fun k hk hs => Bool.false_ne_true ((h k hk).symm.trans (C07.isPhKey_of_selB hs)),
   List.filter_eq_nil_iff.mpr fun k hk hs => Bool.false_ne_true ((h k hk).symm.trans (C07.isPhKey_of_selI hs)),
   List.filter_eq_nil_iff.mpr fun k hk hs => Bool.false_ne_true ((h k hk).symm.trans (C07.isPhKey_of_selL hs))⟩

theorem hoistPlaceholders_eq (D : Entries) : hoistPlaceholders D =
    D.filter (fun e => C06.selB e.1) ++ D.filter (fun e => C06.selI e.1) ++
      D.filter (fun e => !C06.selB e.1 && !C06.selI e.1) := by
  unfold hoistPlaceholders
  dsimp only
  congr 1
  · congr 1
    refine List.filter_congr fun e _ => ?_
    obtain ⟨k, v⟩ := e; cases k <;> rfl
  · refine List.filter_congr fun e _ => ?_
    obtain ⟨k, v⟩ := e
    cases k with
    | int z => rfl
    | str x =>
      show (!containsPh kwBlock x && !containsPh kwIncl x) =
        (!containsPh kwBlock x && !(!containsPh kwBlock x && containsPh kwIncl x))
      cases containsPh kwBlock x <;> cases containsPh kwIncl x <;> rfl

theorem C06.selI_of_selB {k : Key} (h : C06.selB k = true) : C06.selI k = false := by
  cases k with
  | int z => rfl
  | str x => simp only [C06.selB] at h; simp [C06.selI, h]

theorem hoistPlaceholders_id {D : Entries} (h : ∀ e ∈ D, C06.selB e.1 = false ∧ C06.selI e.1 = false) :
    hoistPlaceholders D = D := by
  rw [hoistPlaceholders_eq, List.filter_eq_nil_iff.mpr fun e he => by simp [(h e he).1],
    List.filter_eq_nil_iff.mpr fun e he => by simp [(h e he).2],
    List.filter_eq_self.mpr fun e he => by simp [(h e he).1, (h e he).2]]
  rfl

theorem hoistPlaceholders_cons {e : Key × Val} (he : C06.selB e.1 = true) (D : Entries) :
    hoistPlaceholders (e :: D) = e :: hoistPlaceholders D := by
  simp only [hoistPlaceholders_eq, List.filter_cons, he, C06.selI_of_selB he, if_true, Bool.not_true, Bool.false_and,
    Bool.false_eq_true, if_false, List.cons_append]

/-- the one block-comment entry of a level, wherever it stands, goes to the front; the rest keeps its order if it holds
    no include entry -/
theorem hoistPlaceholders_single {L D : Entries} {h : Key × Val} (hd : L.filter (fun e => C06.selB e.1) = [h])
    (rest : L.filter (fun e => !C06.selB e.1) = D) (hI : ∀ e ∈ D, C06.selI e.1 = false) :
    hoistPlaceholders L = h :: D := by
  have hI' : ∀ e ∈ L, C06.selI e.1 = false := fun e he => by
    cases hb : C06.selB e.1 with
    | true => exact C06.selI_of_selB hb
    | false => exact hI e (rest ▸ List.mem_filter.mpr ⟨he, by simp [hb]⟩)
  have e2 : L.filter (fun e => C06.selI e.1) = [] := List.filter_eq_nil_iff.mpr fun e he => by simp [hI' e he]
  have e3 : L.filter (fun e => !C06.selB e.1 && !C06.selI e.1) = L.filter (fun e => !C06.selB e.1) :=
    List.filter_congr fun e he => by simp [hI' e he]
  rw [hoistPlaceholders_eq, hd, e2, e3, rest]
  rfl

theorem cleanLevel_eq (s : SD) (lvl : Entries) :
    cleanLevel s lvl =
      ({ s with blockC := (cleanStep C06.selB lvl s.blockC).2,
                incl := (cleanStep C06.selI (cleanStep C06.selB lvl s.blockC).1 s.incl).2,
                lineC := (cleanStep C06.selL (cleanStep C06.selI (cleanStep C06.selB lvl s.blockC).1 s.incl).1 s.lineC).2 },
       (cleanStep C06.selL (cleanStep C06.selI (cleanStep C06.selB lvl s.blockC).1 s.incl).1 s.lineC).1) := by
  unfold cleanLevel cleanStep C06.selB C06.selI C06.selL; rfl

theorem cleanLevel_exprs (s : SD) (lvl : Entries) : (cleanLevel s lvl).1.exprs = s.exprs := rfl

theorem cleanStep_nil_sel {α} [BEq α] {sel : Key → Bool} {lvl : Entries} (h : (keys lvl).filter sel = []) (tbl : Tbl α) :
    cleanStep sel lvl tbl = (lvl, tbl) := by
  simp only [cleanStep, h, List.foldl_nil]

theorem cleanStep_inv {α} [BEq α] (P : Entries → Prop) (sel : Key → Bool)
    (hdel : ∀ k d, sel k = true → P d → P (delKey k d)) (lvl : Entries) (tbl : Tbl α) (h : P lvl) :
    P (cleanStep sel lvl tbl).1 := by
  refine foldl_inv (fun acc : Entries × Tbl α × List α => P acc.1) cleanStepF _ ?_ (lvl, tbl, []) h
  intro acc hacc k hk
  have hs := (List.mem_filter.mp hk).2
  cases k with
  | int z => exact hacc
  | str x =>
    simp only [cleanStepF]
    split
    · exact hacc
    · split
      · exact hacc
      · split
        · exact hdel _ _ hs hacc
        · exact hacc

theorem cleanStep_tbl_inv {α} [BEq α] (Q : Tbl α → Prop) (hdel : ∀ i t, Q t → Q (t.del i)) (sel : Key → Bool)
    (lvl : Entries) (tbl : Tbl α) (h : Q tbl) : Q (cleanStep sel lvl tbl).2 := by
  refine foldl_inv (fun acc : Entries × Tbl α × List α => Q acc.2.1) cleanStepF _ ?_ (lvl, tbl, []) h
  intro acc hacc k _
  cases k with
  | int z => exact hacc
  | str x =>
    simp only [cleanStepF]
    split
    · exact hacc
    · split
      · exact hacc
      · split
        · exact hdel _ _ hacc
        · exact hacc

theorem cleanLevel_inv (P : Entries → Prop) (hdel : ∀ k d, C07.isPhKey k = true → P d → P (delKey k d)) (s : SD)
    (lvl : Entries) (h : P lvl) : P (cleanLevel s lvl).2 := by
  rw [cleanLevel_eq]
  exact cleanStep_inv P _ (fun k d hk => hdel k d (C07.isPhKey_of_selL hk)) _ _
    (cleanStep_inv P _ (fun k d hk => hdel k d (C07.isPhKey_of_selI hk)) _ _
      (cleanStep_inv P _ (fun k d hk => hdel k d (C07.isPhKey_of_selB hk)) _ _ h))

/-- `_clean_data` on one level: what is left is a sub-list of the level, and every key that is not a placeholder key
    keeps its value -/
theorem C06.cleanLevel_spec (s : SD) (lvl : Entries) :
    (cleanLevel s lvl).2.Sublist lvl ∧ ∀ k, C07.isPhKey k = false → lookup k (cleanLevel s lvl).2 = lookup k lvl := by
  refine cleanLevel_inv (fun d => d.Sublist lvl ∧ ∀ k, C07.isPhKey k = false → lookup k d = lookup k lvl) ?_ s lvl
    ⟨List.Sublist.refl _, fun _ _ => rfl⟩
  intro k d hk ⟨h1, h2⟩
  refine ⟨(delKey_sublist k d).trans h1, fun k' hk' => ?_⟩
  rw [lookup_delKey_ne (fun e => by rw [e, hk] at hk'; cases hk'), h2 k' hk']

/-- the body of the loop of `cleanRec` over the entries of a level -/
def cleanSub (fuel : Nat) (acc : SD × Entries) (e : Key × Val) : SD × Entries :=
  match e.2 with
  | .dict sub => ((cleanRec fuel acc.1 sub).1, setKey e.1 (.dict (cleanRec fuel acc.1 sub).2) acc.2)
  | _ => acc

theorem cleanRec_succ (fuel : Nat) (s : SD) (lvl : Entries) :
    cleanRec (fuel + 1) s lvl =
      (cleanLevel s lvl).2.foldl (cleanSub fuel) ((cleanLevel s lvl).1, (cleanLevel s lvl).2) := rfl

theorem SD.clean_eq (s : SD) :
    s.clean = { (cleanRec (depthV (.dict s.data) + 1) s s.data).1 with
      data := (cleanRec (depthV (.dict s.data) + 1) s s.data).2 } := by
  simp only [SD.clean]

/-! The projections of `s.clean`, to rewrite with: a goal that mentions `s.clean.incl` and a fact about
    `(cleanRec …).1.incl` agree only after unfolding `cleanRec`, which is slow to find out by unification. -/

theorem SD.clean_data (s : SD) : s.clean.data = (cleanRec (depthV (.dict s.data) + 1) s s.data).2 := by
  rw [SD.clean_eq]
theorem SD.clean_exprs (s : SD) : s.clean.exprs = (cleanRec (depthV (.dict s.data) + 1) s s.data).1.exprs := by
  rw [SD.clean_eq]
theorem SD.clean_lineC (s : SD) : s.clean.lineC = (cleanRec (depthV (.dict s.data) + 1) s s.data).1.lineC := by
  rw [SD.clean_eq]
theorem SD.clean_blockC (s : SD) : s.clean.blockC = (cleanRec (depthV (.dict s.data) + 1) s s.data).1.blockC := by
  rw [SD.clean_eq]
theorem SD.clean_incl (s : SD) : s.clean.incl = (cleanRec (depthV (.dict s.data) + 1) s s.data).1.incl := by
  rw [SD.clean_eq]

theorem cleanRec_induct {Pre : SD → Entries → Prop} {M : SD → Entries → SD → Entries → Prop}
    (hrefl : ∀ s lvl, Pre s lvl → M s lvl s lvl)
    (hlevel : ∀ s lvl, Pre s lvl → M s lvl (cleanLevel s lvl).1 (cleanLevel s lvl).2)
    (hpre : ∀ s lvl s' d k sub, Pre s lvl → M s lvl s' d → (k, Val.dict sub) ∈ (cleanLevel s lvl).2 → Pre s' sub)
    (hset : ∀ s lvl s' d k sub s'' sub', Pre s lvl → M s lvl s' d → (k, Val.dict sub) ∈ (cleanLevel s lvl).2 →
      M s' sub s'' sub' → M s lvl s'' (setKey k (.dict sub') d)) :
    ∀ (fuel : Nat) (s : SD) (lvl : Entries), Pre s lvl →
      M s lvl (cleanRec fuel s lvl).1 (cleanRec fuel s lvl).2
  | 0, s, lvl, h => hrefl s lvl h
  | fuel + 1, s, lvl, h => by
    rw [cleanRec_succ]
    refine foldl_inv (fun acc : SD × Entries => M s lvl acc.1 acc.2) _ _ ?_ _ (hlevel s lvl h)
    intro acc hacc e he
    obtain ⟨k, v⟩ := e
    cases v with
    | leaf x => exact hacc
    | list xs => exact hacc
    | dict sub =>
      exact hset s lvl _ _ k sub _ _ h hacc he
        (cleanRec_induct hrefl hlevel hpre hset fuel acc.1 sub (hpre s lvl _ _ k sub h hacc he))

/-- the loop of `cleanRec` over the entries of a level, as a structural recursion: every dict-valued entry is cleaned
    in turn, the state threaded through -/
def subsRec (fuel : Nat) : SD → Entries → SD × Entries
  | s, [] => (s, [])
  | s, (k, .dict sub) :: r =>
    ((subsRec fuel (cleanRec fuel s sub).1 r).1, (k, .dict (cleanRec fuel s sub).2) :: (subsRec fuel (cleanRec fuel s sub).1 r).2)
  | s, (k, .leaf x) :: r => ((subsRec fuel s r).1, (k, .leaf x) :: (subsRec fuel s r).2)
  | s, (k, .list xs) :: r => ((subsRec fuel s r).1, (k, .list xs) :: (subsRec fuel s r).2)

theorem setKey_append_mem {k : Key} (v w : Val) : ∀ (a b : Entries), k ∉ keys a →
    setKey k v (a ++ (k, w) :: b) = a ++ (k, v) :: b
  | [], b, _ => by simp [setKey]
  | (k0, v0) :: a, b, h => by
    simp only [keys, List.map_cons, List.mem_cons, not_or] at h
    have hne : ¬ k0 = k := fun e => h.1 e.symm
    simp only [List.cons_append, setKey, hne, if_false, setKey_append_mem v w a b h.2]

theorem subsRec_fold (fuel : Nat) : ∀ (todo done : Entries) (s : SD), (keys (done ++ todo)).Nodup →
    todo.foldl (cleanSub fuel) (s, done ++ todo) = ((subsRec fuel s todo).1, done ++ (subsRec fuel s todo).2)
  | [], done, s, _ => by simp [subsRec]
  | (k, .leaf x) :: r, done, s, h => by
    have := subsRec_fold fuel r (done ++ [(k, .leaf x)]) s (by simpa using h)
    simp only [List.append_assoc, List.singleton_append] at this
    simp only [List.foldl_cons, cleanSub, subsRec, this]
  | (k, .list xs) :: r, done, s, h => by
    have := subsRec_fold fuel r (done ++ [(k, .list xs)]) s (by simpa using h)
    simp only [List.append_assoc, List.singleton_append] at this
    simp only [List.foldl_cons, cleanSub, subsRec, this]
  | (k, .dict sub) :: r, done, s, h => by
    have hk : k ∉ keys done := by
      simp only [keys, List.map_append, List.map_cons] at h
      have := (List.nodup_append.mp h).2.2
      intro hm
      exact this k hm k List.mem_cons_self rfl
    have := subsRec_fold fuel r (done ++ [(k, .dict (cleanRec fuel s sub).2)]) (cleanRec fuel s sub).1 (by
      simp only [keys, List.map_append, List.map_cons, List.map_nil] at h ⊢
      simpa using h)
    simp only [List.append_assoc, List.singleton_append] at this
    simp only [List.foldl_cons, cleanSub, subsRec, setKey_append_mem _ _ done r hk, this]

/-- `cleanRec` as a function, where `cleanRec_induct` gives what it preserves: the level is cleaned, then its sub-dicts -/
theorem cleanRec_subsRec (fuel : Nat) (s : SD) (D : Entries) (h : (keys (cleanLevel s D).2).Nodup) :
    cleanRec (fuel + 1) s D = subsRec fuel (cleanLevel s D).1 (cleanLevel s D).2 := by
  have := subsRec_fold fuel (cleanLevel s D).2 [] (cleanLevel s D).1 (by simpa using h)
  simp only [List.nil_append] at this
  rw [cleanRec_succ, this]

theorem cleanRec_fixed {F : SD → Entries → Prop} (hlevel : ∀ s lvl, F s lvl → cleanLevel s lvl = (s, lvl))
    (hnodup : ∀ s lvl, F s lvl → (keys lvl).Nodup)
    (hsub : ∀ s lvl k sub, F s lvl → (k, Val.dict sub) ∈ lvl → F s sub) (fuel : Nat) (s : SD) (lvl : Entries)
    (h : F s lvl) : cleanRec fuel s lvl = (s, lvl) := by
  have := cleanRec_induct (Pre := F) (M := fun s lvl s' d => s' = s ∧ d = lvl) (fun _ _ _ => ⟨rfl, rfl⟩)
    (fun s lvl h => by rw [hlevel s lvl h]; exact ⟨rfl, rfl⟩)
    (fun s lvl s' d k sub h hm he => by rw [hlevel s lvl h] at he; rw [hm.1]; exact hsub s lvl k sub h he)
    (fun s lvl s' d k sub s'' sub' h hm he hr => by
      rw [hlevel s lvl h] at he
      rw [hr.1, hr.2, hm.1, hm.2]
      exact ⟨rfl, setKey_of_mem_nodup (hnodup s lvl h) he⟩) fuel s lvl h
  exact Prod.ext this.1 this.2

namespace C12W

/-- the comment text `_clean_data` looks up for a key -/
def look {α} (tbl : Tbl α) (k : Key) : Option α :=
  match k with
  | .str x => (firstSixDigits x).bind fun i => tbl.get? i
  | _ => none

end C12W

theorem look_some {α} {tbl : Tbl α} {k : Key} {a : α} (h : C12W.look tbl k = some a) :
    ∃ x i, k = .str x ∧ firstSixDigits x = some i ∧ tbl.get? i = some a := by
  cases k with
  | int z => cases h
  | str x =>
    cases hf : firstSixDigits x with
    | none => simp [C12W.look, hf] at h
    | some i => exact ⟨x, i, rfl, hf, by simpa [C12W.look, hf] using h⟩

/-- **one loop of `_clean_data` that meets no text twice** keeps data and table and collects the texts it looks up -/
theorem cleanStepF_fold {α} [BEq α] [LawfulBEq α] (lvl : Entries) (tbl : Tbl α) : ∀ (cand : List Key) (seen : List α),
    (cand.filterMap (C12W.look tbl)).Nodup → (∀ a ∈ seen, a ∉ cand.filterMap (C12W.look tbl)) →
    cand.foldl cleanStepF (lvl, tbl, seen) = (lvl, tbl, seen ++ cand.filterMap (C12W.look tbl))
  | [], seen, _, _ => by simp
  | k :: cand, seen, hn, hs => by
    rw [List.foldl_cons]
    cases hl : C12W.look tbl k with
    | none =>
      have e2 : cleanStepF (lvl, tbl, seen) k = (lvl, tbl, seen) := by
        cases k with
        | int z => rfl
        | str x =>
          cases hf : firstSixDigits x with
          | none => simp [cleanStepF, hf]
          | some i =>
            have : tbl.get? i = none := by simpa [C12W.look, hf] using hl
            simp [cleanStepF, hf, this]
      simp only [List.filterMap_cons, hl] at hn hs ⊢
      rw [e2, cleanStepF_fold lvl tbl cand seen hn hs]
    | some txt =>
      simp only [List.filterMap_cons, hl, List.nodup_cons, List.mem_cons, not_or] at hn hs ⊢
      obtain ⟨x, i, rfl, hf, hg⟩ := look_some hl
      have e2 : cleanStepF (lvl, tbl, seen) (.str x) = (lvl, tbl, seen ++ [txt]) := by
        have : txt ∉ seen := fun hm => (hs txt hm).1 rfl
        simp [cleanStepF, hf, hg, this]
      rw [e2, cleanStepF_fold lvl tbl cand (seen ++ [txt]) hn.2 (by
        intro a ha
        rcases List.mem_append.mp ha with ha | ha
        · exact (hs a ha).2
        · rw [List.mem_singleton.mp ha]; exact hn.1)]
      simp

theorem cleanStep_id {α} [BEq α] [LawfulBEq α] (sel : Key → Bool) (lvl : Entries) (tbl : Tbl α)
    (h : (((keys lvl).filter sel).filterMap (C12W.look tbl)).Nodup) : cleanStep sel lvl tbl = (lvl, tbl) := by
  rw [cleanStep_eq, cleanStepF_fold lvl tbl _ [] h (by intro a ha; cases ha)]

/-- candidates that carry distinct ids look up distinct texts in a table that has no value twice -/
theorem look_nodup {α} (t : Tbl α) (ht : ∀ i j a, t.get? i = some a → t.get? j = some a → i = j) {cand : List Key}
    (hnd : cand.Nodup)
    (hinj : ∀ x x' i, .str x ∈ cand → .str x' ∈ cand → firstSixDigits x = some i → firstSixDigits x' = some i → x = x') :
    (cand.filterMap (C12W.look t)).Nodup := by
  refine (List.Pairwise.and_mem.mp hnd).filterMap _ fun k k' ⟨hk, hk', hne⟩ a ha a' ha' e => ?_
  subst e
  obtain ⟨x, i, rfl, hf, hg⟩ := look_some ha
  obtain ⟨x', j, rfl, hf', hg'⟩ := look_some ha'
  cases ht i j a hg hg'
  exact hne (congrArg _ (hinj x x' i hk hk' hf hf'))

/-- one loop of `_clean_data` with at most one candidate key: there is nothing it could have seen before -/
theorem cleanStep_le1 {α} [BEq α] (sel : Key → Bool) (lvl : Entries) (tbl : Tbl α)
    (h : ((keys lvl).filter sel).length ≤ 1) : cleanStep sel lvl tbl = (lvl, tbl) := by
  rw [cleanStep_eq]
  rcases hc : (keys lvl).filter sel with _ | ⟨k, _ | ⟨k', r⟩⟩
  · rfl
  · simp only [List.foldl_cons, List.foldl_nil]
    cases k with
    | int z => rfl
    | str x =>
      cases hf : firstSixDigits x with
      | none => simp only [cleanStepF, hf]
      | some i =>
        cases hg : Tbl.get? i tbl with
        | none => simp only [cleanStepF, hf, hg]
        | some txt => simp [cleanStepF, hf, hg]
  · rw [hc] at h; simp at h

/-! ### `_clean` only deletes table entries -/

theorem cleanStep_sublist {α} [BEq α] (sel : Key → Bool) (lvl : Entries) (tbl : Tbl α) :
    (cleanStep sel lvl tbl).2.Sublist tbl :=
  cleanStep_tbl_inv (·.Sublist tbl) (fun i t h => (tbl_del_sublist i t).trans h) sel lvl tbl (List.Sublist.refl _)

def TSub (s' s : SD) : Prop :=
  s'.exprs = s.exprs ∧ s'.lineC.Sublist s.lineC ∧ s'.blockC.Sublist s.blockC ∧ s'.incl.Sublist s.incl

theorem TSub.refl (s : SD) : TSub s s := ⟨rfl, List.Sublist.refl _, List.Sublist.refl _, List.Sublist.refl _⟩

theorem TSub.trans {a b c : SD} (h1 : TSub a b) (h2 : TSub b c) : TSub a c :=
  ⟨h1.1.trans h2.1, h1.2.1.trans h2.2.1, h1.2.2.1.trans h2.2.2.1, h1.2.2.2.trans h2.2.2.2⟩

theorem cleanLevel_sub (s : SD) (lvl : Entries) : TSub (cleanLevel s lvl).1 s := by
  rw [cleanLevel_eq]
  exact ⟨rfl, cleanStep_sublist _ _ _, cleanStep_sublist _ _ _, cleanStep_sublist _ _ _⟩

theorem cleanRec_sub (fuel : Nat) (s : SD) (lvl : Entries) : TSub (cleanRec fuel s lvl).1 s :=
  cleanRec_induct (Pre := fun _ _ => True) (M := fun s _ s' _ => TSub s' s) (fun s _ _ => TSub.refl s)
    (fun s lvl _ => cleanLevel_sub s lvl) (fun _ _ _ _ _ _ _ _ _ => trivial)
    (fun _ _ _ _ _ _ _ _ _ h _ h' => h'.trans h) fuel s lvl trivial

theorem clean_sub (s : SD) : TSub s.clean s := by
  unfold TSub
  rw [SD.clean_exprs, SD.clean_lineC, SD.clean_blockC, SD.clean_incl]
  exact cleanRec_sub _ s s.data


namespace C12W

/- `C06.selB/selI/selL` once more, by `rfl`: every lemma about those (`Ph.selK_ph`, `Ph.selK_noPh`) applies as it stands -/
def selB (k : Key) : Bool := match k with | .str x => containsPh kwBlock x | _ => false
def selI (k : Key) : Bool := match k with | .str x => !containsPh kwBlock x && containsPh kwIncl x | _ => false
def selL (k : Key) : Bool :=
  match k with | .str x => !containsPh kwBlock x && !containsPh kwIncl x && containsPh kwLine x | _ => false

theorem cleanLevel_eq (s : SD) (level : Entries) :
    cleanLevel s level =
      ({ s with blockC := (cleanStep selB level s.blockC).2,
                incl := (cleanStep selI (cleanStep selB level s.blockC).1 s.incl).2,
                lineC := (cleanStep selL (cleanStep selI (cleanStep selB level s.blockC).1 s.incl).1 s.lineC).2 },
       (cleanStep selL (cleanStep selI (cleanStep selB level s.blockC).1 s.incl).1 s.lineC).1) :=
  _root_.DictIO.cleanLevel_eq s level

/-- nothing to clean at this level: no two comment entries of a kind with the same text, no include entry -/
def levelFix (s : SD) (lvl : Entries) : Prop :=
  (((keys lvl).filter selB).filterMap (look s.blockC)).Nodup ∧ (keys lvl).filter selI = [] ∧
  (((keys lvl).filter selL).filterMap (look s.lineC)).Nodup ∧ (keys lvl).Nodup

theorem cleanLevel_id (s : SD) (lvl : Entries) (h : levelFix s lvl) : cleanLevel s lvl = (s, lvl) := by
  rw [cleanLevel_eq, cleanStep_id selB lvl s.blockC h.1, cleanStep_nil_sel h.2.1 s.incl, cleanStep_id selL lvl s.lineC h.2.2.1]

/-- a property of every dict level below -/
def allLevels (P : Entries → Prop) : Entries → Prop
  | [] => True
  | (_, .dict sub) :: r => (P sub ∧ allLevels P sub) ∧ allLevels P r
  | (_, .leaf _) :: r => allLevels P r
  | (_, .list _) :: r => allLevels P r

theorem allLevels_mem {P : Entries → Prop} {D : Entries} {k : Key} {sub : Entries} (h : allLevels P D)
    (hm : (k, Val.dict sub) ∈ D) : P sub ∧ allLevels P sub := by
  induction D using Entries.ind with
  | nil => cases hm
  | leaf k0 x r ih =>
    simp only [allLevels] at h
    rcases List.mem_cons.mp hm with e | hm
    · cases e
    · exact ih h hm
  | list k0 xs r ih =>
    simp only [allLevels] at h
    rcases List.mem_cons.mp hm with e | hm
    · cases e
    · exact ih h hm
  | dict k0 sub0 r _ ih =>
    simp only [allLevels] at h
    rcases List.mem_cons.mp hm with e | hm
    · cases e; exact h.1
    · exact ih h.2 hm

abbrev subsFix (s : SD) : Entries → Prop := allLevels (levelFix s)

theorem cleanRec_fix (fuel : Nat) (s : SD) (D : Entries) (hl : levelFix s D) (hs : subsFix s D) :
    cleanRec fuel s D = (s, D) :=
  cleanRec_fixed (F := fun s D => levelFix s D ∧ subsFix s D) (fun s D h => cleanLevel_id s D h.1)
    (fun _ _ h => h.1.2.2.2) (fun _ _ _ _ h hm => allLevels_mem h.2 hm) fuel s D ⟨hl, hs⟩

/-- **`_clean` changes nothing** when no level holds two comments of a kind with the same text -/
theorem clean_fix (s : SD) (hl : levelFix s s.data) (hs : subsFix s s.data) : s.clean = s := by
  rw [SD.clean_eq, cleanRec_fix _ s s.data hl hs]

end C12W

end DictIO
