/-
  Texts as lists of characters: suffixes and the substring test `isInfix` (`isInfix_iff` turns it into
  `s = a ++ p ++ b`; `isInfix_append_seam`, `noInfix_app` say where a pattern can lie in a concatenation), `isWs`
  at the six characters the proofs meet, `strip` (`strip_id`, `strip_ws`, `strip_core`).
-/
import DictIO.Model.Chars
import DictIO.Lemmas.List

namespace DictIO

theorem mem_tails {α} {t : List α} : ∀ {s : List α}, t ∈ tails s ↔ ∃ a, s = a ++ t
  | [] => by
    rw [tails, List.mem_singleton]
    exact ⟨fun h => ⟨[], by rw [h]; rfl⟩, fun ⟨a, h⟩ => (List.append_eq_nil_iff.mp h.symm).2⟩
  | x :: s => by
    rw [tails, List.mem_cons, mem_tails (s := s)]
    constructor
    · rintro (rfl | ⟨a, rfl⟩)
      · exact ⟨[], rfl⟩
      · exact ⟨x :: a, rfl⟩
    · rintro ⟨a, h⟩
      cases a with
      | nil => exact Or.inl h.symm
      | cons y a => exact Or.inr ⟨a, (List.cons.inj h).2⟩

theorem isInfix_iff {p s : Str} : isInfix p s = true ↔ ∃ a b, s = a ++ p ++ b := by
  simp only [isInfix, List.any_eq_true, mem_tails, List.isPrefixOf_iff_prefix]
  constructor
  · rintro ⟨t, ⟨a, rfl⟩, b, rfl⟩
    exact ⟨a, b, (List.append_assoc a p b).symm⟩
  · rintro ⟨a, b, rfl⟩
    exact ⟨p ++ b, ⟨a, List.append_assoc a p b⟩, b, rfl⟩

theorem isInfix_cons (p : Str) (c : Char) (s : Str) : isInfix p (c :: s) = (p.isPrefixOf (c :: s) || isInfix p s) := rfl

theorem isInfix_tail_false {p : Str} {c : Char} {s : Str} (h : isInfix p (c :: s) = false) : isInfix p s = false := by
  rw [isInfix_cons, Bool.or_eq_false_iff] at h; exact h.2

theorem isInfix_self (p : Str) : isInfix p p = true := isInfix_iff.mpr ⟨[], [], (List.append_nil p).symm⟩

theorem isInfix_trans {p l s : Str} (h1 : isInfix p l = true) (h2 : isInfix l s = true) : isInfix p s = true := by
  obtain ⟨a, b, rfl⟩ := isInfix_iff.mp h1
  obtain ⟨a', b', rfl⟩ := isInfix_iff.mp h2
  exact isInfix_iff.mpr ⟨a' ++ a, b ++ b', by simp only [List.append_assoc]⟩

theorem isInfix_append_right {p a : Str} (b : Str) (h : isInfix p a = true) : isInfix p (a ++ b) = true :=
  isInfix_trans h (isInfix_iff.mpr ⟨[], b, rfl⟩)

theorem isInfix_append_false {p s : Str} (q : Str) (h : isInfix p s = false) : isInfix (p ++ q) s = false :=
  Bool.eq_false_iff.mpr fun h' => Bool.eq_false_iff.mp h (isInfix_trans (isInfix_iff.mpr ⟨[], q, rfl⟩) h')

theorem isInfix_mem {p s : Str} (h : isInfix p s = true) : ∀ c ∈ p, c ∈ s := by
  obtain ⟨a, b, rfl⟩ := isInfix_iff.mp h
  exact fun c hc => List.mem_append_left _ (List.mem_append_right _ hc)

theorem isInfix_false_of_not_mem {c : Char} {p s : Str} (hc : c ∈ p) (hs : c ∉ s) : isInfix p s = false :=
  Bool.eq_false_iff.mpr fun h => hs (isInfix_mem h c hc)

theorem isInfix_false_of_infix {p l s : Str} (h : isInfix p s = false) (h2 : isInfix l s = true) : isInfix p l = false := by
  cases h1 : isInfix p l with
  | false => rfl
  | true => rw [isInfix_trans h1 h2] at h; cases h

theorem isInfix_of_append {p q s : Str} (h : isInfix (p ++ q) s = true) : isInfix q s = true :=
  isInfix_trans (isInfix_iff.mpr ⟨p, [], by simp⟩) h

theorem isInfix_cons_mem {c : Char} {p w : Str} (h : isInfix (c :: p) w = true) : c ∈ w :=
  isInfix_mem h c List.mem_cons_self

theorem isInfix_false_of_head {c : Char} {p w : Str} (h : c ∉ w) : isInfix (c :: p) w = false :=
  isInfix_false_of_not_mem List.mem_cons_self h

theorem isInfix_eq_of_length {p s : Str} (hl : p.length = s.length) (h : isInfix p s = true) : p = s := by
  obtain ⟨a, b, rfl⟩ := isInfix_iff.mp h
  simp only [List.length_append] at hl
  rw [List.eq_nil_of_length_eq_zero (l := a) (by omega), List.eq_nil_of_length_eq_zero (l := b) (by omega),
    List.nil_append, List.append_nil]

theorem isInfix_of_length_lt {p s : Str} (h : s.length < p.length) : isInfix p s = false :=
  Bool.eq_false_iff.mpr fun hi => by
    obtain ⟨a, b, e⟩ := isInfix_iff.mp hi
    have := congrArg List.length e
    simp only [List.length_append] at this
    omega

theorem isInfix_skip (c : Char) (q : Str) : ∀ (a s : Str), c ∉ a → isInfix (c :: q) (a ++ s) = isInfix (c :: q) s
  | [], _, _ => rfl
  | x :: a, s, h => by
    have hx : (c == x) = false := beq_eq_false_iff_ne.mpr fun e => h (e ▸ List.mem_cons_self)
    rw [List.cons_append, isInfix_cons, List.isPrefixOf_cons_cons, hx, Bool.false_and, Bool.false_or]
    exact isInfix_skip c q a s fun hm => h (List.mem_cons_of_mem _ hm)

/-- a pattern that occurs in `x ++ y` occurs in `x`, in `y`, or across the seam: a non-empty part of it ends `x`, the
    rest begins `y` -/
theorem isInfix_append_seam {p x y : Str} (h : isInfix p (x ++ y) = true) :
    isInfix p x = true ∨ isInfix p y = true ∨
      ∃ p1 c2 p2, p = p1 ++ c2 :: p2 ∧ p1 ≠ [] ∧ p1 <:+ x ∧ c2 :: p2 <+: y := by
  obtain ⟨a, b, e⟩ := isInfix_iff.mp h
  rcases List.append_eq_append_iff.mp e with ⟨a', hx, hb⟩ | ⟨c', hx, hy⟩
  · rcases List.append_eq_append_iff.mp hx with ⟨a'', hx2, hp⟩ | ⟨c'', hx2, hp⟩
    · cases a'' with
      | nil => exact Or.inr (Or.inl (isInfix_iff.mpr ⟨[], b, by rw [hb, hp]; rfl⟩))
      | cons c0 a'' =>
        cases a' with
        | nil => exact Or.inl (isInfix_iff.mpr ⟨a, [], by rw [hx2, hp, List.append_nil, List.append_nil]⟩)
        | cons c2 a' => exact Or.inr (Or.inr ⟨c0 :: a'', c2, a', hp, List.cons_ne_nil _ _, ⟨a, hx2.symm⟩, ⟨b, hb.symm⟩⟩)
    · exact Or.inr (Or.inl (isInfix_iff.mpr ⟨c'', b, by rw [hb, hp]⟩))
  · exact Or.inl (isInfix_iff.mpr ⟨a, c', by rw [hx]⟩)

theorem isInfix_append_cases {p x y : Str} (h : isInfix p (x ++ y) = true) :
    isInfix p x = true ∨ isInfix p y = true ∨
      ∃ p1 c2 p2, p = p1 ++ c2 :: p2 ∧ p1 ≠ [] ∧ (∀ c ∈ p1, c ∈ x) ∧ y.head? = some c2 :=
  (isInfix_append_seam h).imp_right <| Or.imp_right fun ⟨p1, c2, p2, hp, hne, hs, hpre⟩ =>
    ⟨p1, c2, p2, hp, hne, fun _ hc => hs.subset hc, by obtain ⟨t, rfl⟩ := hpre; rfl⟩

/-- a pattern that occurs in neither of two texts does not occur in their concatenation when one side of the junction
    is free of its characters: the whole left text, or the first character of the right one -/
theorem noInfix_app {p x y : Str} (hx : isInfix p x = false) (hy : isInfix p y = false)
    (h : (∀ c ∈ x, c ∉ p) ∨ (∀ c, y.head? = some c → c ∉ p)) : isInfix p (x ++ y) = false := by
  cases hi : isInfix p (x ++ y) with
  | false => rfl
  | true =>
    rcases isInfix_append_cases hi with h1 | h1 | ⟨p1, c2, p2, hp, hne, hin, hhd⟩
    · rw [hx] at h1; cases h1
    · rw [hy] at h1; cases h1
    · rcases h with h | h
      · cases p1 with
        | nil => exact absurd rfl hne
        | cons c p1 => exact absurd (by rw [hp]; simp) (h c (hin c (by simp)))
      · exact absurd (by rw [hp]; simp) (h c2 hhd)

theorem noInfix_ws {p g : Str} (hp : p ≠ []) (hg : ∀ c ∈ g, c ∉ p) : isInfix p g = false := by
  cases p with
  | nil => exact absurd rfl hp
  | cons a p => exact isInfix_false_of_head fun hm => hg a hm (by simp)

/-! A two-character pattern `a b` (`//`, `/*`, `*/`) that does not occur in `p` does not start inside `p` in front of a
    text `q` that does not begin with `b`. -/

theorem noPair_head {a b : Char} {p q : Str} (h : isInfix [a, b] (a :: p) = false) (hq : q.head? ≠ some b) :
    (p ++ q).head? ≠ some b := by
  cases p with
  | nil => exact hq
  | cons d p =>
    intro e
    simp only [List.cons_append, List.head?_cons, Option.some.injEq] at e
    subst e
    simp [isInfix_cons, List.isPrefixOf] at h

theorem noPair_prefix {a : Char} {p q : Str} (h : isInfix [a, a] p = false) (hq : q.head? ≠ some a) :
    ¬ [a, a] <+: p ++ q := by
  rintro ⟨t, ht⟩
  cases p with
  | nil => exact hq (by rw [List.nil_append] at ht; rw [← ht]; rfl)
  | cons d p =>
    obtain ⟨rfl, ht'⟩ := List.cons.inj ht
    exact noPair_head h hq (by show (p.append q).head? = _; rw [← ht']; rfl)

theorem isWs_space : isWs ' ' = true := by decide
theorem isWs_nl : isWs '\n' = true := by decide
theorem isWs_cr : isWs '\r' = true := by decide
theorem isWs_sq : isWs '\'' = false := by decide
theorem isWs_dq : isWs '"' = false := by decide
theorem isWs_dollar : isWs '$' = false := by decide

theorem nl_ws : (['\n'] : Str).all isWs = true := by decide

theorem ne_nl_of_not_ws {c : Char} (h : isWs c = false) : c ≠ '\n' := by
  rintro rfl; rw [isWs_nl] at h; cases h

theorem strip_id (s : Str) (h : ∀ c ∈ s, isWs c = false) : strip s = s := by
  unfold strip
  rw [dropWhile_eq_self_of_head fun c hc => h c (List.mem_of_mem_head? hc),
    dropWhile_eq_self_of_head fun c hc => h c (List.mem_reverse.mp (List.mem_of_mem_head? hc)), List.reverse_reverse]

theorem strip_ws (s : Str) (h : s.all isWs = true) : strip s = [] := by
  unfold strip
  rw [dropWhile_eq_nil_of_all (List.all_eq_true.mp h)]; rfl

theorem strip_core (g core tail x y : Str) (a b : Char) (hg : g.all isWs = true) (ht : tail.all isWs = true)
    (h1 : core = a :: x) (h2 : core = y ++ [b]) (ha : isWs a = false) (hb : isWs b = false) :
    strip (g ++ core ++ tail) = core := by
  unfold strip
  rw [List.append_assoc, List.dropWhile_append_of_pos (List.all_eq_true.mp hg), h1, List.cons_append,
    List.dropWhile_cons_of_neg (by rw [ha]; exact Bool.false_ne_true), ← List.cons_append, ← h1, List.reverse_append,
    List.dropWhile_append_of_pos (fun c hc => List.all_eq_true.mp ht c (List.mem_reverse.mp hc)), h2,
    List.reverse_append, List.reverse_singleton, List.singleton_append,
    List.dropWhile_cons_of_neg (by rw [hb]; exact Bool.false_ne_true), List.reverse_cons, List.reverse_reverse]

end DictIO
