/-
  C12 -- documents with comments AND `#include` directives, and what their labelling keeps.

  Documents (`IItem`: entry / lineC / blockC / incl q name, at the top level and inside nested dicts), their tokens
  (`itoksItems`: a directive is ONE token whose text is the directive line `#include 'name'`), admissible layouts
  (`GapsOKI` = `GapsOKC` + `DirGapsOK`: every directive stands alone on its line), the labelling `labelI` (ids: first
  ALL line comments in document order, then ALL directives in document order, from the one global counter; block
  comments 0,1,2,… locally) and the meaning `denI dir c doc` (placeholder entries `INCLUDEnnnnnn ↦ INCLUDEnnnnnn` where
  the directives stand, the tables lineC / blockC / incl, then `_clean`).

  A commented document (`CItem`) is the document without directives `embCItems items`: tokens, well-formedness, the
  comment-free part, labelling and meaning agree (`itoks_embC`, `wf_embC`, `plain_embC`, `label_embC`, `denI_embC`), so what
  is proved here about `labelIItems` holds of `labelCItems`.  One step further down, an admissible layout of plain
  tokens is an admissible layout of the commented tokens `.tok` (`C09.spreadC_padG`, `C09.gapsOKC_padG`).

  Well-formedness (`ISrcWFItems`) = `CSrcWFItems` + `isInclName q name` for every directive:
    no `//` in the name (stage 1 runs first: `incl_name_no_line_comment`); no line-break character; written bare: not
    empty, no quote, no white space; written in quotes: `q` is a quote character.  (`$`, `/*`, the other quote, … are fine.)
  Layout (`DirGapsOK`): the gap in front of a directive ends with a line-break character, or is empty at the very start
    of the text; what follows the directive starts with a line feed.  (Indentation / trailing blanks / `\r\n` would be
    accepted by the reader but become part of the recorded directive text: `incl_indent_recorded`; a last directive
    without line feed is read alike but not covered: `incl_last_without_newline`.)  The three `incl_*` theorems are in
    Props/C12incl.lean.
-/
import DictIO.Model.GrammarC
import DictIO.Props.C02main
import DictIO.Props.C12
import DictIO.Lemmas.InductSrc

namespace DictIO

/-! ## 0. documents with include directives -/

mutual
  inductive ISrc where
    | lit (l : Lit)
    | dict (items : List IItem)
    | list (xs : List Src)
  inductive IItem where
    | entry (k : Str) (v : ISrc)
    | lineC (text : Str)      -- the text after `//` (without the line end)
    | blockC (text : Str)     -- the text between `/*` and `*/`
    | incl (q : Option Char) (name : Str)   -- `#include 'name'`, `#include "name"` or `#include name`
end

/-- Induction over the items of a document and the items of the dicts nested in them. -/
theorem IItems.ind {P : List IItem → Prop} (nil : P [])
    (lineC : ∀ t r, P r → P (.lineC t :: r)) (blockC : ∀ t r, P r → P (.blockC t :: r))
    (incl : ∀ q n r, P r → P (.incl q n :: r))
    (lit : ∀ k l r, P r → P (.entry k (.lit l) :: r))
    (list : ∀ k xs r, P r → P (.entry k (.list xs) :: r))
    (dict : ∀ k items r, P items → P r → P (.entry k (.dict items) :: r)) : ∀ items, P items
  | [] => nil
  | .lineC t :: r => lineC t r (IItems.ind nil lineC blockC incl lit list dict r)
  | .blockC t :: r => blockC t r (IItems.ind nil lineC blockC incl lit list dict r)
  | .incl q n :: r => incl q n r (IItems.ind nil lineC blockC incl lit list dict r)
  | .entry k (.lit l) :: r => lit k l r (IItems.ind nil lineC blockC incl lit list dict r)
  | .entry k (.list xs) :: r => list k xs r (IItems.ind nil lineC blockC incl lit list dict r)
  | .entry k (.dict items) :: r =>
    dict k items r (IItems.ind nil lineC blockC incl lit list dict items) (IItems.ind nil lineC blockC incl lit list dict r)
termination_by items => items

/-- the file name as written: bare or between two quote characters -/
def quoteName : Option Char → Str → Str
  | none, n => n
  | some q, n => q :: n ++ [q]

/-- the text of an include directive -/
def dirText (q : Option Char) (name : Str) : Str := "#include ".toList ++ quoteName q name

/-- the placeholder word of include number `i` -/
def inclPh (i : Nat) : Str := kwIncl ++ padSix i

/-- the table entry the reader makes for a directive read in directory `dir` -/
def inclEntry (dir : Str) (q : Option Char) (name : Str) : InclEntry :=
  { directive := dirText q name, file := name,
    path := if name.head? == some '/' then name else dir ++ ['/'] ++ name }

/-- a file name the reader reads back from its directive, whatever stands around it:
    no line-break character (the directive is one line), no `//` (the line-comment stage runs first and would cut it);
    written bare: not empty, no quote and no white space; written in quotes: `q` is a quote character -/
def isInclName (q : Option Char) (name : Str) : Bool :=
  !isInfix ['/', '/'] name &&
  (match q with
   | none => !name.isEmpty && name.all (fun c => !isQuote c && !isWs c)
   | some q => isQuote q && name.all (fun c => !isLineBreak c))

mutual
  /-- the source tokens; a directive is ONE token whose text is the directive (`CTok.tok (.word (dirText q name))`:
      its first character is `#`, which no source word starts with) -/
  def itoksV : ISrc → List CTok
    | .lit l => [.tok l.tok]
    | .dict items => .tok (.word ['{']) :: itoksItems items ++ [.tok (.word ['}'])]
    | .list xs => .tok (.word ['(']) :: (srcToksXs xs).map .tok ++ [.tok (.word [')'])]
  def itoksItems : List IItem → List CTok
    | [] => []
    | .entry k (.lit l) :: r => .tok (.word k) :: .tok l.tok :: .tok (.word [';']) :: itoksItems r
    | .entry k (.dict items) :: r =>
        .tok (.word k) :: .tok (.word ['{']) :: itoksItems items ++ [.tok (.word ['}'])] ++ itoksItems r
    | .entry k (.list xs) :: r =>
        .tok (.word k) :: .tok (.word ['(']) :: (srcToksXs xs).map .tok ++ [.tok (.word [')']), .tok (.word [';'])] ++ itoksItems r
    | .lineC x :: r => .lineC x :: itoksItems r
    | .blockC x :: r => .blockC x :: itoksItems r
    | .incl q n :: r => .tok (.word (dirText q n)) :: itoksItems r
end

/-- a directive token -/
def isDirTok : CTok → Bool
  | .tok (.word w) => w.head? == some '#'
  | _ => false

/-- the extra layout conditions of directives: a directive stands alone on its line.  The gap in front of it ends with a
    line-break character, or is empty and the directive is the first thing of the text; what follows it starts with a
    line feed. -/
def dirNext : List CTok → List Str → Str → Bool
  | [], _, tail => tail.head? == some '\n'
  | _ :: _, gs, _ => (gs.headD []).head? == some '\n'

def DirGapsOK : Bool → List CTok → List Str → Str → Bool
  | _, [], _, _ => true
  | _, _ :: _, [], _ => false
  | first, t :: ts, g :: gs, tail =>
    (!isDirTok t ||
      ((first && g.isEmpty) || (match g.getLast? with | some c => isLineBreak c | none => false)) &&
      dirNext ts gs tail) &&
    DirGapsOK false ts gs tail

/-- admissible layout of a document with comments and include directives -/
def GapsOKI (ts : List CTok) (gaps : List Str) (tail : Str) : Bool :=
  GapsOKC ts gaps tail && DirGapsOK true ts gaps tail

/-! ### what the reader's first three stages must produce -/

/-- labelling state: `c` the comment part (the counter in it serves the line comments), `icounter` serves the
    directives -/
structure ILabelSt where
  c : CLabelSt
  icounter : Counter
  incl : Tbl InclEntry := []

mutual
  def labelIV (dir : Str) (st : ILabelSt) : ISrc → ILabelSt × Src
    | .lit l => (st, .lit l)
    | .dict items => let (st', es) := labelIItems dir st items; (st', .dict es)
    | .list xs => (st, .list xs)
  /-- every comment and every directive replaced by a placeholder entry `ph ↦ ph` -/
  def labelIItems (dir : Str) (st : ILabelSt) : List IItem → ILabelSt × SrcEntries
    | [] => (st, [])
    | .entry k v :: r =>
      let (st1, v') := labelIV dir st v
      let (st2, r') := labelIItems dir st1 r
      (st2, (k, v') :: r')
    | .lineC x :: r =>
      let (i, c) := Counter.next Gen.counterLimit st.c.counter
      let (st', r') := labelIItems dir { st with c := { st.c with counter := c, lineC := st.c.lineC.set i ('/' :: '/' :: x) } } r
      (st', (linePh i, .lit (.bare (linePh i))) :: r')
    | .blockC x :: r =>
      let n := st.c.blockC.length
      let (st', r') := labelIItems dir { st with c := { st.c with blockC := st.c.blockC ++ [(n, '/' :: '*' :: x ++ ['*', '/'])] } } r
      (st', (blockPh n, .lit (.bare (blockPh n))) :: r')
    | .incl q name :: r =>
      let (i, c) := Counter.next Gen.counterLimit st.icounter
      let (st', r') := labelIItems dir { st with icounter := c, incl := st.incl.set i (inclEntry dir q name) } r
      (st', (inclPh i, .lit (.bare (inclPh i))) :: r')
end

mutual
  /-- number of line comments -/
  def countLineV : ISrc → Nat
    | .lit _ => 0
    | .dict items => countLineItems items
    | .list _ => 0
  def countLineItems : List IItem → Nat
    | [] => 0
    | .entry _ v :: r => countLineV v + countLineItems r
    | .lineC _ :: r => 1 + countLineItems r
    | .blockC _ :: r => countLineItems r
    | .incl _ _ :: r => countLineItems r
end

/-- the labelling of a whole document read from counter `c`: the line comments draw first (all of them), then the
    directives -/
def labelI (dir : Str) (c : Counter) (items : List IItem) : ILabelSt × SrcEntries :=
  labelIItems dir { c := { counter := c }, icounter := C02.adv Gen.counterLimit (countLineItems items) c } items

/-- what a document with comments and include directives means -/
def denI (dir : Str) (c : Counter) (items : List IItem) : SD :=
  let (st, es) := labelI dir c items
  ({ data := denPEs es [], lineC := st.c.lineC, blockC := st.c.blockC, incl := st.incl } : SD).clean

mutual
  def ISrcWFV (depth : Nat) : ISrc → Bool
    | .lit l => l.ok && depth ≤ 10
    | .dict items => ISrcWFItems (depth + 1) items
    | .list xs => SrcWFXs (depth + 1) xs
  def ISrcWFItems (depth : Nat) : List IItem → Bool
    | [] => true
    | .entry k v :: r => isSrcWord k && (keyOfScalar (parseKey k)).isSome && ISrcWFV depth v && ISrcWFItems depth r
    | .lineC x :: r => isLineCText x && ISrcWFItems depth r
    | .blockC x :: r => isBlockCText x && ISrcWFItems depth r
    | .incl q n :: r => isInclName q n && ISrcWFItems depth r
end

mutual
  /-- the document without comments and directives -/
  def plainIV : ISrc → Src
    | .lit l => .lit l
    | .dict items => .dict (plainIItems items)
    | .list xs => .list xs
  def plainIItems : List IItem → SrcEntries
    | [] => []
    | .entry k v :: r => (k, plainIV v) :: plainIItems r
    | .lineC _ :: r => plainIItems r
    | .blockC _ :: r => plainIItems r
    | .incl _ _ :: r => plainIItems r
end

mutual
  /-- the document with its comments dropped (the directives stay) -/
  def dropCV : ISrc → ISrc
    | .lit l => .lit l
    | .dict items => .dict (dropCItems items)
    | .list xs => .list xs
  def dropCItems : List IItem → List IItem
    | [] => []
    | .entry k v :: r => .entry k (dropCV v) :: dropCItems r
    | .lineC _ :: r => dropCItems r
    | .blockC _ :: r => dropCItems r
    | .incl q n :: r => .incl q n :: dropCItems r
end

/-- what a document with comments and include directives means when it is read with comments switched off: the comment
    entries are gone, the include entries stay (stage 2 has no switch); all three tables are filled as before -/
def denIoff (dir : Str) (c : Counter) (items : List IItem) : SD :=
  let es := (labelIItems dir { c := { counter := c }, icounter := C02.adv Gen.counterLimit (countLineItems items) c }
    (dropCItems items)).2
  ({ data := denPEs es [], lineC := (labelI dir c items).1.c.lineC, blockC := (labelI dir c items).1.c.blockC,
     incl := (labelI dir c items).1.incl } : SD).clean

/-! ### commented documents among them: those without a directive -/

mutual
  def embCV : CSrc → ISrc
    | .lit l => .lit l
    | .dict items => .dict (embCItems items)
    | .list xs => .list xs
  def embCItems : List CItem → List IItem
    | [] => []
    | .entry k v :: r => .entry k (embCV v) :: embCItems r
    | .lineC x :: r => .lineC x :: embCItems r
    | .blockC x :: r => .blockC x :: embCItems r
end

end DictIO

namespace DictIO.C12
open DictIO

/-! ## 1. a commented document as a document without directives -/

theorem itoks_embC (items : List CItem) : itoksItems (embCItems items) = ctoksItems items := by
  induction items using CItems.ind with
  | nil => simp only [embCItems, itoksItems, ctoksItems]
  | lineC t r ih => simp only [embCItems, itoksItems, ctoksItems, ih]
  | blockC t r ih => simp only [embCItems, itoksItems, ctoksItems, ih]
  | lit k l r ih => simp only [embCItems, embCV, itoksItems, ctoksItems, ih]
  | list k xs r ih => simp only [embCItems, embCV, itoksItems, ctoksItems, ih]
  | dict k items r ihd ih => simp only [embCItems, embCV, itoksItems, ctoksItems, ihd, ih]

theorem wf_embC (items : List CItem) : ∀ d, ISrcWFItems d (embCItems items) = CSrcWFItems d items := by
  induction items using CItems.ind with
  | nil => intro d; simp only [embCItems, ISrcWFItems, CSrcWFItems]
  | lineC t r ih => intro d; simp only [embCItems, ISrcWFItems, CSrcWFItems, ih]
  | blockC t r ih => intro d; simp only [embCItems, ISrcWFItems, CSrcWFItems, ih]
  | lit k l r ih => intro d; simp only [embCItems, embCV, ISrcWFItems, ISrcWFV, CSrcWFItems, CSrcWFV, ih]
  | list k xs r ih => intro d; simp only [embCItems, embCV, ISrcWFItems, ISrcWFV, CSrcWFItems, CSrcWFV, ih]
  | dict k items r ihd ih => intro d; simp only [embCItems, embCV, ISrcWFItems, ISrcWFV, CSrcWFItems, CSrcWFV, ihd, ih]

theorem wfV_embC (v : CSrc) (d : Nat) : ISrcWFV d (embCV v) = CSrcWFV d v := by
  cases v <;> simp only [embCV, ISrcWFV, CSrcWFV, wf_embC]

theorem plain_embC (items : List CItem) : plainIItems (embCItems items) = plainItems items := by
  induction items using CItems.ind with
  | nil => simp only [embCItems, plainIItems, plainItems]
  | lineC t r ih => simp only [embCItems, plainIItems, plainItems, ih]
  | blockC t r ih => simp only [embCItems, plainIItems, plainItems, ih]
  | lit k l r ih => simp only [embCItems, embCV, plainIItems, plainIV, plainItems, plainV, ih]
  | list k xs r ih => simp only [embCItems, embCV, plainIItems, plainIV, plainItems, plainV, ih]
  | dict k items r ihd ih => simp only [embCItems, embCV, plainIItems, plainIV, plainItems, plainV, ihd, ih]

theorem plainV_embC (v : CSrc) : plainIV (embCV v) = plainV v := by
  cases v <;> simp only [embCV, plainIV, plainV, plain_embC]

/-- labelling a document without directives moves the comment part of the state only -/
theorem label_embC (dir : Str) (items : List CItem) : ∀ (st : ILabelSt),
    labelIItems dir st (embCItems items) =
      ({ st with c := (labelCItems st.c items).1 }, (labelCItems st.c items).2) := by
  induction items using CItems.ind with
  | nil => intro st; simp only [embCItems, labelIItems, labelCItems]
  | lineC t r ih => intro st; simp only [embCItems, labelIItems, labelCItems, ih]
  | blockC t r ih => intro st; simp only [embCItems, labelIItems, labelCItems, ih]
  | lit k l r ih => intro st; simp only [embCItems, embCV, labelIItems, labelIV, labelCItems, labelCV, ih]
  | list k xs r ih => intro st; simp only [embCItems, embCV, labelIItems, labelIV, labelCItems, labelCV, ih]
  | dict k items r ihd ih =>
    intro st; simp only [embCItems, embCV, labelIItems, labelIV, labelCItems, labelCV, ihd, ih]

theorem labelV_embC (dir : Str) (v : CSrc) (st : ILabelSt) :
    labelIV dir st (embCV v) = ({ st with c := (labelCV st.c v).1 }, (labelCV st.c v).2) := by
  cases v <;> simp only [embCV, labelIV, labelCV, label_embC]

theorem denI_unfold (dir : Str) (c : Counter) (items : List IItem) :
    denI dir c items =
      ({ data := denPEs (labelI dir c items).2 [], lineC := (labelI dir c items).1.c.lineC,
         blockC := (labelI dir c items).1.c.blockC, incl := (labelI dir c items).1.incl } : SD).clean := rfl

theorem denI_embC (dir : Str) (c : Counter) (items : List CItem) : denI dir c (embCItems items) = denC c items := by
  simp only [denI, denC, labelI, label_embC]

theorem embCItems_eq_nil {items : List CItem} (h : embCItems items = []) : items = [] := by
  cases items with
  | nil => rfl
  | cons i r => cases i <;> simp [embCItems] at h

/-! ## 2. the placeholder entry `ph ↦ ph` that stands for a comment or a directive -/

namespace Incl
open Stages
open DictIO.C02.Main (nextSt noHash lineSt)

theorem inclPh_tok (i : Nat) : isWordTok (inclPh i) = true ∧ isPhTok (inclPh i) = true := kind_tok .incl i

/-- a placeholder entry is admissible at every level of a labelled document -/
theorem srcPWFEs_ph (a : Ph.Kind) (i d : Nat) (es : SrcEntries) :
    SrcPWFEs d ((a.kw ++ padSix i, .lit (.bare (a.kw ++ padSix i))) :: es) = SrcPWFEs d es := by
  have hp : isWordTok (a.kw ++ padSix i) = true ∧ isPhTok (a.kw ++ padSix i) = true := kind_tok a i
  have hq : ∀ c ∈ a.kw ++ padSix i, isQuote c = false ∧ c ≠ '$' ∧ c ≠ '\\' := fun c hc =>
    ⟨(Ph.plain a i c hc).nquote, (Ph.plain a i c hc).ne (by decide), (Ph.plain a i c hc).ne (by decide)⟩
  simp only [SrcPWFEs, hp.2, if_true, ph_entry_ok hp.1 hq (kind_noSX a i).1 (kind_noSX a i).2, Bool.true_and]

/-- its one token is the placeholder word -/
theorem srcToksPEs_ph (a : Ph.Kind) (i : Nat) (es : SrcEntries) :
    srcToksPEs ((a.kw ++ padSix i, .lit (.bare (a.kw ++ padSix i))) :: es) = .word (a.kw ++ padSix i) :: srcToksPEs es := by
  simp [srcToksPEs, show isPhTok (a.kw ++ padSix i) = true from (kind_tok a i).2]

/-- its key is none of the documentation keys: it has no `_` -/
theorem docKeys_ph (a : Ph.Kind) (i : Nat) {v : Src} {es : SrcEntries}
    (h : C02.DocKeysAbsent es) : C02.DocKeysAbsent ((a.kw ++ padSix i, v) :: es) := by
  intro e he
  rcases List.mem_cons.mp he with rfl | he
  · have hu : '_' ∉ a.kw ++ padSix i := fun hm => (Ph.plain a i _ hm).ne (by decide) rfl
    have h1 : '_' ∈ "_variables".toList := by literal_chars; decide
    have h2 : '_' ∈ "_includes".toList := by literal_chars; decide
    exact ⟨fun (e : a.kw ++ padSix i = _) => hu (e ▸ h1), fun (e : a.kw ++ padSix i = _) => hu (e ▸ h2)⟩
  · exact h e he

/-! ## 3. what the labelling keeps -/

mutual
  theorem labelledI_wfV (dir : Str) : ∀ (v : ISrc) (d : Nat) (st : ILabelSt), ISrcWFV d v = true →
      SrcPWFV d (labelIV dir st v).2 = true
    | .lit l, d, st, h => by simpa only [ISrcWFV, labelIV, SrcPWFV] using h
    | .dict items, d, st, h => by
      simp only [ISrcWFV] at h
      simp only [labelIV, SrcPWFV]
      exact labelledI_wfI dir items (d + 1) st h
    | .list xs, d, st, h => by simpa only [ISrcWFV, labelIV, SrcPWFV] using h
  theorem labelledI_wfI (dir : Str) : ∀ (items : List IItem) (d : Nat) (st : ILabelSt), ISrcWFItems d items = true →
      SrcPWFEs d (labelIItems dir st items).2 = true
    | [], _, st, _ => by simp only [labelIItems, SrcPWFEs]
    | .entry k v :: r, d, st, h => by
      simp only [ISrcWFItems, Bool.and_eq_true] at h
      obtain ⟨⟨⟨hk, hkey⟩, hv⟩, hr⟩ := h
      have hph : isPhTok k = false := (C02.srcWord_facts hk).2.1
      simp only [labelIItems, SrcPWFEs, hph, Bool.false_eq_true, if_false, Bool.and_eq_true]
      exact ⟨⟨⟨hk, hkey⟩, labelledI_wfV dir v d st hv⟩, labelledI_wfI dir r d _ hr⟩
    | .lineC x :: r, d, st, h => by
      simp only [ISrcWFItems, Bool.and_eq_true] at h
      simp only [labelIItems]
      exact (srcPWFEs_ph .line _ d _).trans (labelledI_wfI dir r d _ h.2)
    | .blockC x :: r, d, st, h => by
      simp only [ISrcWFItems, Bool.and_eq_true] at h
      simp only [labelIItems]
      exact (srcPWFEs_ph .block _ d _).trans (labelledI_wfI dir r d _ h.2)
    | .incl q n :: r, d, st, h => by
      simp only [ISrcWFItems, Bool.and_eq_true] at h
      simp only [labelIItems]
      exact (srcPWFEs_ph .incl _ d _).trans (labelledI_wfI dir r d _ h.2)
end

mutual
  theorem countQuoted_labelIV (dir : Str) : ∀ (v : ISrc) (st : ILabelSt),
      C02.countQuotedV (labelIV dir st v).2 = C02.countQuotedV (plainIV v)
    | .lit l, st => by simp only [labelIV, plainIV]
    | .dict items, st => by
      simp only [labelIV, plainIV, C02.countQuotedV]
      exact countQuoted_labelII dir items st
    | .list xs, st => by simp only [labelIV, plainIV]
  /-- placeholder entries hold a bare word: the labelled document has the quoted strings of the plain one -/
  theorem countQuoted_labelII (dir : Str) : ∀ (items : List IItem) (st : ILabelSt),
      C02.countQuotedEs (labelIItems dir st items).2 = C02.countQuotedEs (plainIItems items)
    | [], st => by simp only [labelIItems, plainIItems]
    | .entry k v :: r, st => by
      simp only [labelIItems, plainIItems, C02.countQuotedEs, countQuoted_labelIV dir v st]
      exact congrArg _ (countQuoted_labelII dir r _)
    | .lineC x :: r, st => by
      simp only [labelIItems, plainIItems, C02.countQuotedEs, C02.countQuotedV, Nat.zero_add]
      exact countQuoted_labelII dir r _
    | .blockC x :: r, st => by
      simp only [labelIItems, plainIItems, C02.countQuotedEs, C02.countQuotedV, Nat.zero_add]
      exact countQuoted_labelII dir r _
    | .incl q n :: r, st => by
      simp only [labelIItems, plainIItems, C02.countQuotedEs, C02.countQuotedV, Nat.zero_add]
      exact countQuoted_labelII dir r _
end

theorem docKeys_labelI (dir : Str) : ∀ (items : List IItem) (st : ILabelSt), C02.DocKeysAbsent (plainIItems items) →
    C02.DocKeysAbsent (labelIItems dir st items).2
  | [], st, _ => by simp only [labelIItems]; intro e he; cases he
  | .entry k v :: r, st, h => by
    simp only [labelIItems, plainIItems] at h ⊢
    intro e he
    rcases List.mem_cons.mp he with rfl | he
    · exact h (k, plainIV v) List.mem_cons_self
    · exact docKeys_labelI dir r _ (fun e he => h e (List.mem_cons_of_mem _ he)) e he
  | .lineC x :: r, st, h => by
    simp only [labelIItems, plainIItems] at h ⊢
    exact docKeys_ph .line _ (docKeys_labelI dir r _ h)
  | .blockC x :: r, st, h => by
    simp only [labelIItems, plainIItems] at h ⊢
    exact docKeys_ph .block _ (docKeys_labelI dir r _ h)
  | .incl q n :: r, st, h => by
    simp only [labelIItems, plainIItems] at h ⊢
    exact docKeys_ph .incl _ (docKeys_labelI dir r _ h)

theorem next_lt (c : Counter) : (Counter.next Gen.counterLimit c).1 < 1000000 :=
  Nat.lt_succ_of_le (next_le Gen.counterLimit c)

mutual
  theorem icounter_labelIV (dir : Str) : ∀ (v : ISrc) (st : ILabelSt), C13.ValidCounter Gen.counterLimit st.icounter →
      C13.ValidCounter Gen.counterLimit (labelIV dir st v).1.icounter
    | .lit l, st, h => by simpa only [labelIV] using h
    | .dict items, st, h => by simpa only [labelIV] using icounter_labelII dir items st h
    | .list xs, st, h => by simpa only [labelIV] using h
  /-- the counter the stages leave is valid -/
  theorem icounter_labelII (dir : Str) : ∀ (items : List IItem) (st : ILabelSt),
      C13.ValidCounter Gen.counterLimit st.icounter →
      C13.ValidCounter Gen.counterLimit (labelIItems dir st items).1.icounter
    | [], st, h => by simpa only [labelIItems] using h
    | .entry k v :: r, st, h => by
      simp only [labelIItems]
      exact icounter_labelII dir r _ (icounter_labelIV dir v st h)
    | .lineC x :: r, st, h => by
      simp only [labelIItems]
      exact icounter_labelII dir r _ h
    | .blockC x :: r, st, h => by
      simp only [labelIItems]
      exact icounter_labelII dir r _ h
    | .incl q n :: r, st, h => by
      simp only [labelIItems]
      exact icounter_labelII dir r _ (C13.next_valid h)
end

mutual
  theorem lcounter_labelIV (dir : Str) : ∀ (v : ISrc) (st : ILabelSt),
      (labelIV dir st v).1.c.counter = C02.adv Gen.counterLimit (countLineV v) st.c.counter
    | .lit l, st => by simp only [labelIV, countLineV, C02.adv]
    | .dict items, st => by simpa only [labelIV, countLineV] using lcounter_labelII dir items st
    | .list xs, st => by simp only [labelIV, countLineV, C02.adv]
  /-- the line comments of a document advance the counter by their number -/
  theorem lcounter_labelII (dir : Str) : ∀ (items : List IItem) (st : ILabelSt),
      (labelIItems dir st items).1.c.counter = C02.adv Gen.counterLimit (countLineItems items) st.c.counter
    | [], st => by simp only [labelIItems, countLineItems, C02.adv]
    | .entry k v :: r, st => by
      simp only [labelIItems, countLineItems]
      rw [lcounter_labelII dir r, lcounter_labelIV dir v, C02.adv_add]
    | .lineC x :: r, st => by
      simp only [labelIItems, countLineItems]
      rw [lcounter_labelII dir r, C02.adv_add]
      rfl
    | .blockC x :: r, st => by
      simp only [labelIItems, countLineItems]
      rw [lcounter_labelII dir r]
    | .incl q n :: r, st => by
      simp only [labelIItems, countLineItems]
      rw [lcounter_labelII dir r]
end

theorem itoksItems_ne : ∀ (items : List IItem), items ≠ [] → itoksItems items ≠ []
  | [], h => absurd rfl h
  | .entry k (.lit l) :: r, _ => by simp [itoksItems]
  | .entry k (.dict dd) :: r, _ => by simp [itoksItems]
  | .entry k (.list l) :: r, _ => by simp [itoksItems]
  | .lineC x :: r, _ => by simp [itoksItems]
  | .blockC x :: r, _ => by simp [itoksItems]
  | .incl q n :: r, _ => by simp [itoksItems]

end Incl

end DictIO.C12

namespace DictIO.C09
open DictIO

/-! ## 4. a plain layout as a commented layout: every token `.tok`, one gap per token -/

/-- gaps made as long as the token list -/
def padG {α} : List α → List Str → List Str
  | [], _ => []
  | _ :: ts, [] => [] :: padG ts []
  | _ :: ts, g :: gs => g :: padG ts gs

theorem spread_padG : ∀ (xs gaps : List Str) (tail : Str), spread xs (padG xs gaps) tail = spread xs gaps tail
  | [], _, _ => rfl
  | x :: xs, [], tail => by simp [padG, spread, spread_padG xs [] tail]
  | x :: xs, g :: gs, tail => by simp [padG, spread, spread_padG xs gs tail]

theorem padG_map {α β} (f : α → β) : ∀ (xs : List α) (gaps : List Str), padG (xs.map f) gaps = padG xs gaps
  | [], _ => rfl
  | x :: xs, [] => by simp [padG, padG_map f xs []]
  | x :: xs, g :: gs => by simp [padG, padG_map f xs gs]

theorem spreadC_padG (ts : List STok) (gaps : List Str) (tail : Str) :
    spreadC (ts.map .tok) (padG ts gaps) tail = spreadS ts gaps tail := by
  have e : (ts.map CTok.tok).map CTok.text = ts.map STok.text := by rw [List.map_map]; rfl
  unfold spreadC spreadS
  rw [e, ← padG_map STok.text ts gaps, spread_padG]

theorem gapsOKC_padG (tail : Str) (ht : tail.all isWs = true) : ∀ (ts : List STok) (gaps : List Str),
    GapsOKS ts gaps = true → GapsOKC (ts.map .tok) (padG ts gaps) tail = true
  | [], _, _ => rfl
  | [t], [], _ => by simp [padG, GapsOKC, ht]
  | [t], g :: gs, h => by
    simp only [GapsOKS] at h
    simp [padG, GapsOKC, ht, h]
  | t :: u :: ts, [], h => by simp [GapsOKS] at h
  | t :: u :: ts, [g], h => by simp [GapsOKS] at h
  | t :: u :: ts, g :: g' :: gs, h => by
    simp only [GapsOKS, Bool.and_eq_true] at h
    have ih := gapsOKC_padG tail ht (u :: ts) (g' :: gs) h.2
    simp only [List.map_cons, padG] at ih ⊢
    simp only [GapsOKC, Bool.and_eq_true]
    exact ⟨⟨h.1.1, h.1.2⟩, ih⟩

end DictIO.C09
