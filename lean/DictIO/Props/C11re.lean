/-
  C11 -- the regular expressions of the library functions this property's model was written against, pinned against the
  table regenerated from the sources on every run (Generated/Regex.lean, harness/extract_regex.py).  After a changed
  pattern the row stated below is no longer in the table and the membership proof fails: the hand-written recogniser
  of the model is then no longer justified, and the check searches for a failing input.
  Generated by tools/mkrepins.py (never run by a check).
-/
import DictIO.Lemmas.Regex

namespace DictIO.C11.Re
open DictIO.Gen

theorem re_parser_XmlParser__parse_nodes :
    regexesOf "parser.py" "XmlParser._parse_nodes" = ["sub:^(\\{.*\\})", "sub:^\\d{6}_", "search:^[\\s\\n\\r]*$"] :=
  regexesOf_of_mem (by simp only [regexTable, List.mem_cons, true_or, or_true])

theorem re_parser_XmlParser_parse_string :
    regexesOf "parser.py" "XmlParser.parse_string" = ["sub:\\{.*\\}"] :=
  regexesOf_of_mem (by simp only [regexTable, List.mem_cons, true_or, or_true])

theorem re_formatter_XmlFormatter_populate_into_element :
    regexesOf "formatter.py" "XmlFormatter.populate_into_element" = ["match:_content", "match:_attrib", "match:^(true|false)$", "match:^(_.*[Oo]pts|INCLUDE)", "match:BLOCKCOMMENT[0-9]+", "search:.*0$", "match:LINECOMMENT[0-9]+", "sub:(^\\d{1,6}_)"] :=
  regexesOf_of_mem (by simp only [regexTable, List.mem_cons, true_or, or_true])

theorem re_formatter_XmlFormatter_to_string :
    regexesOf "formatter.py" "XmlFormatter.to_string" = ["sub:<[^>]*>", "sub:query=[(\"[^\"]*\")|(?<=[\\s</])({'|'.join((f'{re.escape(s)}:' for s in prefixes))})]"] :=
  regexesOf_of_mem (by simp only [regexTable, List.mem_cons, true_or, or_true])

end DictIO.C11.Re
