/-
  C12 / C01 / C03 / C16 -- the header block comment the library writes survives read → write.

  Every file written from an `SDict` starts with `nativeHeader` (a block comment).  Reading such a file turns the
  header into block comment number 0: the data gets the placeholder entry `BLOCKCOMMENT000000 ↦ BLOCKCOMMENT000000`
  in front, `blockC = [(0, header-without-final-newline)]`; writing that SDict puts the header back.

    (a) `hdrComment`, `nativeHeader_split`, `hdrComment_shape`, `hdrBody_noEnd`, `hdrChars_noSlashes`, `hdrChars_noHash`,
        `hdrComment_cpp`                    the header, character by character (kernel evaluation on `nativeHeaderChars`)
    (b) `read_header`, `read_header_off`    the reader on `nativeHeader ++ layout` (hypotheses of `C02_layout_tolerant`);
        `read_header_gen`, `read_header_off_gen` name the counter; `clean_single_header` (`clean_hdr_perm`: the
        entry anywhere in the top level)
        route: `front_block` of C02front (line stages are identities; its hypotheses for a header in front of any body free of
        markup: `hdr_front_facts`), `hdr_blockStage` (`C12_blockComment`); what that stage
        leaves is a layout (`hdrDoc_layout`, `spreadS_lead`) of the labelled document `hdrDoc es` (the placeholder
        entry in front of `es`), resp. of `es` itself with comments off, so `C02.parseRest_labelled_counter`
        reads it; `hdrDoc_den`, `denSrc_hdr`, `finish_hdr`
    (c) `write_header`, `write_header_gen`  the writer on the SDict of (b); `insertBlock_hdr`, `rts_header`, `fmtSD_text`;
        `noComment_spread` (by `C02.Main.noInfix_spread`): a layout of a well-formed document does not contain `COMMENT`
    (d) `header_fixpoint`, `read_dumped`    write ∘ read is the identity on the bytes of a written file
-/
import DictIO.Props.C12
import DictIO.Props.C01

namespace DictIO.C12
open DictIO

/-! ## (a) the header comment, character by character -/

/-- the header block comment: `nativeHeader` without its final line feed -/
def hdrComment : Str := nativeHeaderChars.dropLast

/-- what stands between `/*` and `*/` in the header -/
def hdrBody : Str := ((nativeHeaderChars.drop 2).dropLast.dropLast).dropLast

/-- the placeholder word of block comment number 0 -/
def hdrPh : Str := kwBlock ++ padSix 0

theorem hdrChars_split : nativeHeaderChars = hdrComment ++ ['\n'] := by decide +kernel

theorem nativeHeader_split : nativeHeader = hdrComment ++ ['\n'] := by
  rw [nativeHeader_eq]; exact hdrChars_split

theorem hdrComment_shape : hdrComment = '/' :: '*' :: (hdrBody ++ ['*', '/']) := by decide +kernel

theorem hdrBody_noEnd : isInfix ['*', '/'] hdrBody = false := by decide +kernel

theorem hdrComment_noOpen : isInfix ['/', '*'] (hdrComment.drop 1) = false := by decide +kernel

theorem hdrChars_noSlashes : isInfix ['/', '/'] nativeHeaderChars = false := by decide +kernel

theorem hdrComment_cpp : containsCpp hdrComment = true := by decide +kernel

theorem hdrChars_noHash :
    C02.Main.noHash true nativeHeaderChars = true ∧ C02.Main.lineSt true nativeHeaderChars = true := by
  decide +kernel

theorem hdrPh_eq : hdrPh = "BLOCKCOMMENT000000".toList := by
  unfold hdrPh kwBlock; literal_chars; decide +kernel

attribute [local irreducible] nativeHeader

/-! ## `_clean` keeps the single header entry -/

def hdrEntry : Key × Val := (.str hdrPh, .leaf (.str hdrPh))

theorem hdrPh_block : containsPh kwBlock hdrPh = true := Ph.containsPh_own .block (by decide)
theorem hdrPh_isPh : C07.isPhKey (.str hdrPh) = true := Ph.isPhKey_ph .block (by decide)

theorem hdr_not_mem {D : Entries} (hp : C07.NoPhEs D) : Key.str hdrPh ∉ keys D := by
  intro h
  have := C07.noPhEs_keys hp _ h
  rw [hdrPh_isPh] at this
  cases this

theorem hdr_nodup {D : Entries} (hp : C07.NoPhEs D) (hn : NodupKeysV (.dict D)) :
    NodupKeysV (.dict (hdrEntry :: D)) := by
  refine ⟨?_, ⟨trivial, hn.2⟩⟩
  show (Key.str hdrPh :: keys D).Nodup
  exact List.nodup_cons.mpr ⟨hdr_not_mem hp, hn.1⟩

/-- the class of `_clean_data` the header key is in: a block-comment key -/
theorem hdr_sel : C06.selB (.str hdrPh) = true ∧ C06.selI (.str hdrPh) = false ∧ C06.selL (.str hdrPh) = false :=
  ⟨Ph.selK_ph .block .block (by decide), Ph.selK_ph .incl .block (by decide), Ph.selK_ph .line .block (by decide)⟩

/-- `_clean` keeps the single header placeholder entry, wherever it stands in the top level: the block-comment loop
    has one candidate, so it meets no text twice, whatever the table holds -/
theorem clean_hdr_perm (s : SD) (D : Entries) (hL : s.data.Perm (hdrEntry :: D)) (hp : C07.NoPhEs D)
    (hn : NodupKeysV (.dict D)) : s.clean = s := by
  have hperm : (keys s.data).Perm (.str hdrPh :: keys D) := hL.map (·.1)
  obtain ⟨dB, dI, dL⟩ := filter_sel_noPh (C07.noPhEs_keys hp)
  have hB : ((keys s.data).filter C06.selB).length ≤ 1 := by
    rw [(hperm.filter C06.selB).length_eq, List.filter_cons, dB]
    split <;> simp
  have hI : (keys s.data).filter C06.selI = [] := by
    refine List.perm_nil.mp ((hperm.filter C06.selI).trans ?_)
    rw [List.filter_cons, hdr_sel.2.1, dI]
    exact List.Perm.refl _
  have hLn : (keys s.data).filter C06.selL = [] := by
    refine List.perm_nil.mp ((hperm.filter C06.selL).trans ?_)
    rw [List.filter_cons, hdr_sel.2.2, dL]
    exact List.Perm.refl _
  refine C07.clean_of_top s ?_ (hperm.nodup_iff.mpr (hdr_nodup hp hn).1) ?_
  · rw [cleanLevel_eq, cleanStep_le1 C06.selB s.data _ hB, cleanStep_nil_sel hI, cleanStep_nil_sel hLn]
  · intro k sub hm
    rcases List.mem_cons.mp (hL.mem_iff.mp hm) with h | h
    · cases h
    · exact ⟨(C07.noPhEs_iff.mp hp _ h).2, nodupKeysEs_iff.mp hn.2 _ h⟩

theorem clean_single_header (s : SD) (D : Entries) (hd : s.data = hdrEntry :: D) (hp : C07.NoPhEs D)
    (hn : NodupKeysV (.dict D)) : s.clean = s :=
  clean_hdr_perm s D (hd ▸ List.Perm.refl _) hp hn

/-! ## (b) the reader on `nativeHeader ++ body` -/

/-- the header in front of a body without `//`, `/*` and `#` at a line start: what `front_block` and `hdr_blockStage`
    ask of the whole text -/
theorem hdr_front_facts {t : Str} (m1 : isInfix ['/', '/'] t = false) (m2 : isInfix ['/', '*'] t = false)
    (m3 : C02.Main.noHash true t = true) :
    isInfix ['/', '/'] (nativeHeader ++ t) = false ∧
    (∀ l ∈ splitLinesKeep (nativeHeader ++ t), (dropWs l).head? ≠ some '#') ∧
    isInfix ['/', '*'] ('\n' :: t) = false := by
  refine ⟨?_, ?_, ?_⟩
  · refine C02.Main.infix2_append (by rw [nativeHeader_eq]; exact hdrChars_noSlashes) m1 ?_
    intro h _
    rw [nativeHeader_split] at h
    simp at h
  · apply C02.Main.noHash_sound
    rw [C02.Main.noHash_append, nativeHeader_eq, hdrChars_noHash.1, hdrChars_noHash.2, m3]
    rfl
  · rw [isInfix_cons, m2]
    simp [List.isPrefixOf]

theorem hdr_front_spread (ts : List STok) (gaps : List Str) (tail : Str) (hts : ∀ t ∈ ts, C02.TokOK t)
    (hg : GapsOKS ts gaps = true) (ht : tail.all isWs = true) :
    isInfix ['/', '/'] (nativeHeader ++ spreadS ts gaps tail) = false ∧
    (∀ l ∈ splitLinesKeep (nativeHeader ++ spreadS ts gaps tail), (dropWs l).head? ≠ some '#') ∧
    isInfix ['/', '*'] ('\n' :: spreadS ts gaps tail) = false :=
  have hf : ∀ t ∈ ts, C02.Main.FrontOK t := fun t h => .of_ok (hts t h)
  hdr_front_facts (C02.Main.noPair_spread (Or.inl rfl) ts gaps tail hf hg ht)
    (C02.Main.noPair_spread (Or.inr rfl) ts gaps tail hf hg ht) (C02.Main.noHash_spread ts gaps tail hf hg ht true)

theorem hdr_blockStage (comments : Bool) (body : Str) (hpost : isInfix ['/', '*'] ('\n' :: body) = false) :
    lexBlockCommentsFuel comments ((nativeHeader ++ body).length + 1) 0 [] (nativeHeader ++ body) =
      ([(0, hdrComment)], (if comments then [' '] ++ hdrPh ++ [' '] else []) ++ '\n' :: body) := by
  have e : nativeHeader ++ body = [] ++ '/' :: '*' :: (hdrBody ++ '*' :: '/' :: ('\n' :: body)) := by
    rw [nativeHeader_split, hdrComment_shape]; simp
  have := C12_blockComment comments hdrBody ('\n' :: body) 0 [] hdrBody_noEnd hpost [] ((nativeHeader ++ body).length + 1)
    (by decide) (by rw [← e]; exact Nat.lt_succ_self _)
  rw [← e, ← hdrComment_shape] at this
  rw [this]
  simp [hdrPh, List.append_assoc]

theorem hdrPh_plain : ∀ c ∈ hdrPh, Plain c := Ph.plain .block 0

theorem hdrPh_shape : ∃ x y, hdrPh = 'B' :: x ∧ hdrPh = y ++ ['0'] := by
  refine ⟨"LOCKCOMMENT000000".toList, "BLOCKCOMMENT00000".toList, ?_, ?_⟩ <;> rw [hdrPh_eq] <;> literal_chars <;> rfl

theorem gapsOK_lead (p : Str) : ∀ (L G : List Str), GapsOK L G = true → (L = [] ∨ G.headD [] ≠ []) →
    GapsOK (p :: L) ([] :: G) = true
  | [], _, _, _ => rfl
  | u :: L, [], _, h => by rcases h with h | h <;> simp at h
  | u :: L, g :: G, hG, h => by
    have hne : g ≠ [] := by
      rcases h with h | h
      · simp at h
      · simpa using h
    simp only [GapsOK, Bool.and_eq_true, Bool.or_eq_true, Bool.not_eq_true', List.isEmpty_eq_false_iff]
    exact ⟨⟨rfl, Or.inr hne⟩, hG⟩

theorem hdrPh_noLit : isInfix kwLit hdrPh = false := by decide +kernel

/-- the meaning of a well-formed document never touches the header placeholder entry put in front -/
theorem denSrc_hdr (d : Nat) : ∀ (es : SrcEntries) (acc : Entries), SrcWFEs d es = true →
    denSrcEs es (hdrEntry :: acc) = hdrEntry :: denSrcEs es acc
  | [], _, _ => rfl
  | (k, v) :: es, acc, h => by
    simp only [SrcWFEs, Bool.and_eq_true] at h
    obtain ⟨⟨⟨hk, hkey⟩, hv⟩, hes⟩ := h
    obtain ⟨key, hkey⟩ := Option.isSome_iff_exists.mp hkey
    have hne : Key.str hdrPh ≠ key := by
      intro e
      rcases C02.Main.typedKey_cases hk hkey with ⟨z, hz⟩ | hz
      · rw [hz] at e; cases e
      · rw [hz] at e
        have e' : hdrPh = k := by injection e
        have h1 := (C02.srcWord_facts hk).2.1
        rw [← e', hdrPh, (blockPh_tok 0).2] at h1
        cases h1
    rw [C02.denSrcEs_cons hkey, C02.denSrcEs_cons hkey]
    show denSrcEs es (setKey key (denSrcV v) ((Key.str hdrPh, Val.leaf (Scalar.str hdrPh)) :: acc)) = _
    rw [setKey_cons_ne hne]
    exact denSrc_hdr d es _ hes

/-- white space in front of a layout is a layout: it joins the first gap, or the tail when there is no token -/
theorem spreadS_lead {ts : List STok} {gaps : List Str} {tail : Str} (p : Str) (hp : p.all isWs = true) (hne : p ≠ [])
    (hg : GapsOKS ts gaps = true) (ht : tail.all isWs = true) :
    ∃ gaps' tail', p ++ spreadS ts gaps tail = spreadS ts gaps' tail' ∧ GapsOKS ts gaps' = true ∧
      tail'.all isWs = true ∧ (ts = [] ∨ gaps'.headD [] ≠ []) := by
  cases ts with
  | nil => exact ⟨[], p ++ tail, rfl, rfl, by rw [List.all_append, hp, ht]; rfl, Or.inl rfl⟩
  | cons t ts =>
    cases gaps with
    | nil =>
      have := C02.gapsOKS_nogaps hg; subst this
      exact ⟨[p], tail, by simp [spreadS, spread], by simpa [GapsOKS] using hp, ht, Or.inr hne⟩
    | cons g gs =>
      refine ⟨(p ++ g) :: gs, tail, by simp [spreadS, spread],
        C02.gapsOKS_head hg (by rw [List.all_append, hp]; exact (C02.Main.gapsOKS_step hg).1), ht, Or.inr ?_⟩
      simpa using fun h => absurd h hne

/-- the header placeholder entry in front of a comment-free document: a labelled document -/
def hdrDoc (es : SrcEntries) : SrcEntries := (hdrPh, .lit (.bare hdrPh)) :: es

theorem hdrDoc_toks (es : SrcEntries) : srcToksPEs (hdrDoc es) = .word hdrPh :: srcToksPEs es := by
  simp only [hdrDoc, srcToksPEs, hdrPh, (blockPh_tok 0).2, if_true, List.singleton_append]

theorem hdrDoc_wf {es : SrcEntries} (h : SrcWFEs 1 es = true) : SrcPWFEs 1 (hdrDoc es) = true := by
  have := Stages.ph_entry_ok (blockPh_tok 0).1 (fun c hc => ⟨(Ph.plain .block 0 c hc).nquote,
    (Ph.plain .block 0 c hc).ne (by decide), (Ph.plain .block 0 c hc).ne (by decide)⟩)
    (kind_noSX .block 0).1 (kind_noSX .block 0).2
  simp only [hdrDoc, SrcPWFEs, hdrPh, (blockPh_tok 0).2, if_true, srcPWF_plain es 1 h, Bool.and_true]
  exact this

theorem hdrDoc_den (es : SrcEntries) (h : SrcWFEs 1 es = true) : denPEs (hdrDoc es) [] = hdrEntry :: denSrcEs es [] := by
  rw [hdrDoc, denPEs_cons_ph (by exact (blockPh_tok 0).2), denPEs_plain es 1 _ h]
  exact denSrc_hdr 1 es [] h

theorem hdrDoc_count (es : SrcEntries) : C02.countQuotedEs (hdrDoc es) = C02.countQuotedEs es := by
  simp [hdrDoc, C02.countQuotedEs, C02.countQuotedV]

/-- the text the block-comment stage leaves (comments on) is an admissible layout of `hdrDoc es` -/
theorem hdrDoc_layout {es : SrcEntries} {gaps : List Str} {tail : Str} (h : SrcWFEs 1 es = true)
    (hg : GapsOKS (srcToksEs es) gaps = true) (ht : tail.all isWs = true) :
    ∃ G T, [' '] ++ hdrPh ++ [' '] ++ '\n' :: spreadS (srcToksEs es) gaps tail = spreadS (srcToksPEs (hdrDoc es)) G T ∧
      GapsOKS (srcToksPEs (hdrDoc es)) G = true ∧ T.all isWs = true := by
  obtain ⟨gaps', tail', e, hg', ht', hhead⟩ := spreadS_lead [' ', '\n'] (by decide) (by simp) hg ht
  rw [hdrDoc_toks, srcToksPEs_plain es 1 h]
  refine ⟨[' '] :: gaps', tail', ?_, ?_, ht'⟩
  · have : spreadS (.word hdrPh :: srcToksEs es) ([' '] :: gaps') tail' =
        [' '] ++ hdrPh ++ spreadS (srcToksEs es) gaps' tail' := C02.Main.spreadS_cons _ _ _ _
    rw [this, ← e]
    simp
  · cases hts : srcToksEs es with
    | nil => rfl
    | cons t ts =>
      rw [hts] at hg' hhead
      cases gaps' with
      | nil => rcases hhead with h | h <;> simp at h
      | cons g gs =>
        have hne : g ≠ [] := by
          rcases hhead with h | h
          · simp at h
          · simpa using h
        simp only [GapsOKS, Bool.and_eq_true, Bool.or_eq_true, Bool.not_eq_true', List.isEmpty_eq_false_iff]
        exact ⟨⟨rfl, Or.inr hne⟩, hg'⟩

theorem lookup_hdr_cons {k : Key} (hk : k ≠ .str hdrPh) (D : Entries) : lookup k (hdrEntry :: D) = lookup k D := by
  show (if Key.str hdrPh = k then _ else lookup k D) = _
  rw [if_neg (fun e => hk e.symm)]

theorem docKey_ne_hdr : Key.str "_variables".toList ≠ .str hdrPh ∧ Key.str "_includes".toList ≠ .str hdrPh := by
  rw [hdrPh_eq]; literal_chars; decide

/-- the SDict the reader returns for a written file: the header placeholder entry in front of the data, the header
    comment under id 0 -/
def hdrSD (D : Entries) : SD := { data := hdrEntry :: D, blockC := [(0, hdrComment)] }

/-- `_clean` and the removal of the documentation keys keep data with the header entry in front, whatever the
    expression table (empty: the result is `hdrSD D`) -/
theorem finish_hdr (D : Entries) (st : LexSt) (hl : st.lineC = []) (hi : st.incl = [])
    (hb : st.blockC = [(0, hdrComment)]) (hp : C07.NoPhEs D) (hn : NodupKeysV (.dict D))
    (h1 : lookup (.str "_variables".toList) D = none) (h2 : lookup (.str "_includes".toList) D = none) :
    finishSD (hdrEntry :: D) st =
      ({ data := hdrEntry :: D, exprs := st.exprs, blockC := [(0, hdrComment)] }, st.counter) := by
  simp only [finishSD, hl, hi, hb]
  rw [clean_single_header _ D rfl hp hn]
  simp only
  rw [C02.dropDocKeys_id (by rw [lookup_hdr_cons docKey_ne_hdr.1]; exact h1)
    (by rw [lookup_hdr_cons docKey_ne_hdr.2]; exact h2)]

/-- **read_header, counter spelled out, condition on the documentation keys stated on the meaning** -/
theorem read_header_gen {es : SrcEntries} {gaps : List Str} {tail : Str} {c : Counter} (dir : Str)
    (hwf : SrcWFEs 1 es = true) (hg : GapsOKS (srcToksEs es) gaps = true) (ht : tail.all isWs = true)
    (hc : C13.ValidCounter Gen.counterLimit c) (hn : C02.countQuotedEs es ≤ Gen.counterLimit + 1)
    (h1 : lookup (.str "_variables".toList) (denSrcEs es []) = none)
    (h2 : lookup (.str "_includes".toList) (denSrcEs es []) = none) :
    parseNative true dir c (nativeHeader ++ spreadS (srcToksEs es) gaps tail) =
      .ok (hdrSD (denSrcEs es []), (labelEs { counter := c } es).1.counter) := by
  obtain ⟨f1, f2, f3⟩ := hdr_front_spread _ gaps tail (C02.srcToks_ok 1 es hwf) hg ht
  rw [front_block true dir c f1 f2 (hdr_blockStage true _ f3), ← parseRest_eq]
  simp only [if_true]
  obtain ⟨G, T, e, hG, hT⟩ := hdrDoc_layout hwf hg ht
  rw [e, C02.parseRest_labelled_counter (hdrDoc_wf hwf) hG hT rfl hc (by rw [hdrDoc_count]; exact hn), hdrDoc_den es hwf,
    finish_hdr (denSrcEs es []) { counter := c, blockC := [(0, hdrComment)] } rfl rfl rfl
      (C02.den_noPh hwf) (C02.den_nodup es) h1 h2,
    hdrDoc_count, (C02.labelEs_state es { counter := c }).2.2]
  rfl

/-- the same with comments off: no placeholder entry, but the comment is still recorded -/
theorem read_header_off_gen {es : SrcEntries} {gaps : List Str} {tail : Str} {c : Counter} (dir : Str)
    (hwf : SrcWFEs 1 es = true) (hg : GapsOKS (srcToksEs es) gaps = true) (ht : tail.all isWs = true)
    (hc : C13.ValidCounter Gen.counterLimit c) (hn : C02.countQuotedEs es ≤ Gen.counterLimit + 1)
    (h1 : lookup (.str "_variables".toList) (denSrcEs es []) = none)
    (h2 : lookup (.str "_includes".toList) (denSrcEs es []) = none) :
    parseNative false dir c (nativeHeader ++ spreadS (srcToksEs es) gaps tail) =
      .ok ({ data := denSrcEs es [], blockC := [(0, hdrComment)] }, (labelEs { counter := c } es).1.counter) := by
  obtain ⟨f1, f2, f3⟩ := hdr_front_spread _ gaps tail (C02.srcToks_ok 1 es hwf) hg ht
  rw [front_block false dir c f1 f2 (hdr_blockStage false _ f3), ← parseRest_eq]
  simp only [Bool.false_eq_true, if_false, List.nil_append]
  obtain ⟨gaps', tail', e, hg', ht', _⟩ := spreadS_lead ['\n'] (by decide) (by simp) hg ht
  show parseRest _ (['\n'] ++ spreadS (srcToksEs es) gaps tail) = _
  rw [e]
  rw [← srcToksPEs_plain es 1 hwf] at hg' ⊢
  rw [C02.parseRest_labelled_counter (srcPWF_plain es 1 hwf) hg' ht' rfl hc hn, denPEs_plain es 1 [] hwf,
    C02.finishSD_noPh { counter := c, blockC := [(0, hdrComment)] } (C02.den_noPh hwf) (C02.den_nodup es) h1 h2,
    (C02.labelEs_state es { counter := c }).2.2]

/-! ## a layout of a well-formed document contains no `COMMENT` -/

def kwComment : Str := "COMMENT".toList

theorem kwComment_plain : ∀ c ∈ kwComment, Plain c := fun c hc =>
  .of_mem (List.mem_append_left _ ((by decide : ∀ c ∈ kwComment, c ∈ upperChars) c hc))

theorem tok_noComment {t : STok} (ht : C02.TokOK t) :
    isInfix kwComment t.text = false ∧ (isDelimSTok t = true → ∃ d, t.text = [d] ∧ d ∉ kwComment) := by
  cases t with
  | word w =>
    refine ⟨?_, fun hd => ?_⟩
    · rcases ht with h | h
      · exact (C02.Main.srcWord_iff.mp h).2.1
      · obtain ⟨c, rfl, _⟩ := C02.delimTok_inv h
        exact isInfix_of_length_lt (by decide +revert)
    · obtain ⟨c, rfl, hc⟩ := C02.delimTok_inv hd
      exact ⟨c, rfl, fun hm =>
        Bool.false_ne_true ((kwComment_plain c hm).ndelim.symm.trans (List.contains_iff_mem.mpr hc))⟩
  | quoted q b =>
    obtain ⟨hq, _, _, _, _, _, _, hcm, _⟩ := C02.Main.srcQuoted_iff.mp ht
    have hqn : q ∉ kwComment := fun hm => by rw [(kwComment_plain q hm).nquote] at hq; cases hq
    have hq1 : ∀ c ∈ [q], c ∉ kwComment := fun c hc => by rw [List.mem_singleton.mp hc]; exact hqn
    exact ⟨noInfix_app (x := [q]) (noInfix_ws (by decide) hq1)
      (noInfix_app hcm (noInfix_ws (by decide) hq1) (Or.inr fun c hc => hq1 c (by simpa using hc.symm))) (Or.inl hq1),
      fun hd => by cases hd⟩

theorem noComment_spread (ts : List STok) (gaps : List Str) (tail : Str) (hts : ∀ t ∈ ts, C02.TokOK t)
    (hg : GapsOKS ts gaps = true) (ht : tail.all isWs = true) : isInfix kwComment (spreadS ts gaps tail) = false :=
  C02.Main.noInfix_spread kwComment (by decide) (fun c hc => (kwComment_plain c hc).nws) ts gaps tail
    (fun t h => tok_noComment (hts t h)) hg ht

theorem noHdrPh_of_noComment {s : Str} (h : isInfix kwComment s = false) : isInfix hdrPh s = false := by
  cases hc : isInfix hdrPh s with
  | false => rfl
  | true =>
    have : isInfix kwComment hdrPh = true := by rw [hdrPh_eq]; unfold kwComment; literal_chars; decide
    rw [isInfix_trans this hc] at h; cases h

/-! ## (c) the writer -/

theorem hdrPh_fmt : formatString .native hdrPh = hdrPh := by decide +kernel
theorem hdrPh_len : hdrPh.length = 18 := by decide +kernel

/-- the placeholder entry is written as one line -/
theorem fmt_hdr_line (D : Entries) :
    fmtEntries .native 0 (hdrEntry :: D) =
      [] ++ (kwBlock ++ padSix 0) ++ spaces 12 ++ (kwBlock ++ padSix 0) ++ [';'] ++ ('\n' :: fmtEntries .native 0 D) := by
  have e : kwBlock ++ padSix 0 = hdrPh := rfl
  rw [e]
  simp only [hdrEntry, fmtEntries, fline, formatKey, formatScalar, hdrPh_fmt, hdrPh_len, spaces]
  simp [List.replicate]

theorem hoist_noPh {D : Entries} (hD : ∀ k ∈ keys D, C07.isPhKey k = false) : hoistPlaceholders D = D :=
  hoistPlaceholders_id fun e he =>
    ⟨Ph.selK_noPh .block (hD e.1 (List.mem_map_of_mem he)), Ph.selK_noPh .incl (hD e.1 (List.mem_map_of_mem he))⟩

theorem hoist_hdr {D : Entries} (hD : ∀ k ∈ keys D, C07.isPhKey k = false) :
    hoistPlaceholders (hdrEntry :: D) = hdrEntry :: D := by
  rw [hoistPlaceholders_cons (e := hdrEntry) hdrPh_block, hoist_noPh hD]

/-- what the writer produces for the SDict the reader returns, before trailing-space removal: the header comment is
    put back where its placeholder entry stands -/
theorem insertBlock_hdr (D : Entries) (hno : isInfix hdrPh (fmtEntries .native 0 D) = false) :
    insertBlockComments .native [(0, hdrComment)] (fmtEntries .native 0 (hdrEntry :: D)) =
      nativeHeader ++ fmtEntries .native 0 D := by
  have hpost : isInfix (kwBlock ++ padSix 0) ('\n' :: fmtEntries .native 0 D) = false := by
    rw [isInfix_cons]
    rw [show kwBlock ++ padSix 0 = hdrPh from rfl, hno, hdrPh_eq]
    rfl
  have hsub : ∀ repl, substPh kwBlock 0 repl (fmtEntries .native 0 (hdrEntry :: D)) =
      (repl ++ '\n' :: fmtEntries .native 0 D, true) := by
    intro repl
    rw [fmt_hdr_line, substPh_once (kw := kwBlock) (c := 'B') (kw' := "LOCKCOMMENT".toList) (by decide) (by decide) 0
      repl [] (spaces 12) ('\n' :: fmtEntries .native 0 D) (by simp) (by decide) (C01.spaces_ws 12) hpost]
    rfl
  rw [C12_header_own 0 hdrComment _ (by rw [hsub]) hdrComment_cpp, hsub, nativeHeader_split]
  simp

/-- `to_string` (native) on an SDict that has data and block comments only -/
theorem fmtSD_native_blockC (d : Entries) (b : Tbl Str) :
    fmtSD .native { data := d, blockC := b } =
      some (removeTrailingSpaces (insertBlockComments .native b (fmtEntries .native 0 (hoistPlaceholders d)))) := rfl

/-- **write_header (general form)**: the SDict read from a written file is written as the SDict without tables is -/
theorem write_header_gen (D : Entries) (hD : ∀ k ∈ keys D, C07.isPhKey k = false)
    (hno : isInfix hdrPh (fmtEntries .native 0 D) = false) :
    fmtSD .native (hdrSD D) = some (removeTrailingSpaces (nativeHeader ++ fmtEntries .native 0 D)) ∧
    fmtSD .native { data := D } = some (removeTrailingSpaces (nativeHeader ++ fmtEntries .native 0 D)) := by
  constructor
  · rw [hdrSD, fmtSD_native_blockC, hoist_hdr hD, insertBlock_hdr D hno]
  · rw [C01.C01_roundtrip_dump_partial, hoist_noPh hD]

/-! ## trailing-space removal leaves the header alone -/

def hdrLines : List Str := (splitNl nativeHeaderChars).dropLast

theorem hdrLines_join : hdrLines.flatMap (· ++ ['\n']) = nativeHeaderChars := by decide +kernel
theorem hdrLines_good : ∀ l ∈ hdrLines, goodLineB l = true ∧ ∀ c ∈ l, c ≠ '\r' := by decide +kernel

theorem rts_header (t : Str) : removeTrailingSpaces (nativeHeader ++ t) = nativeHeader ++ removeTrailingSpaces t := by
  rw [nativeHeader_eq, ← hdrLines_join]; exact rts_lines' _ hdrLines_good t

/-- the text `dump` writes for a dict of the value domain: the header, then the text the plain-dict writer writes -/
theorem fmtSD_text (D : Entries) :
    fmtSD .native { data := D } = some (nativeHeader ++ fmtPlain .native D) := by
  rw [C01.C01_roundtrip_dump_partial, rts_header]
  rfl

/-! ## (b), (c) under the hypotheses of `C02.C02_layout_tolerant` and of `C01`; (d) the fixed point -/

/-- **read_header.**  A file that starts with the header the library writes, followed by any admissible layout of a
    well-formed document (hypotheses of `C02.C02_layout_tolerant`), is read — comments on — as the document's meaning
    with the header placeholder entry in front and the header comment under id 0 in the block-comment table. -/
theorem read_header {es : SrcEntries} {gaps : List Str} {tail : Str} {c : Counter} (dir : Str) :
    SrcWFEs 1 es = true → GapsOKS (srcToksEs es) gaps = true → tail.all isWs = true →
    C13.ValidCounter Gen.counterLimit c → C02.countQuotedEs es ≤ Gen.counterLimit + 1 → C02.DocKeysAbsent es →
    ∃ c', parseNative true dir c (nativeHeader ++ spreadS (srcToksEs es) gaps tail) =
      .ok ({ data := (Key.str hdrPh, Val.leaf (.str hdrPh)) :: denSrcEs es [], blockC := [(0, hdrComment)] }, c') :=
  fun hwf hg ht hc hn hd =>
    ⟨_, read_header_gen dir hwf hg ht hc hn (C02.den_docKeys hwf hd).1 (C02.den_docKeys hwf hd).2⟩

/-- **read_header, comments off**: no placeholder entry; the comment is still recorded in the table -/
theorem read_header_off {es : SrcEntries} {gaps : List Str} {tail : Str} {c : Counter} (dir : Str) :
    SrcWFEs 1 es = true → GapsOKS (srcToksEs es) gaps = true → tail.all isWs = true →
    C13.ValidCounter Gen.counterLimit c → C02.countQuotedEs es ≤ Gen.counterLimit + 1 → C02.DocKeysAbsent es →
    ∃ c', parseNative false dir c (nativeHeader ++ spreadS (srcToksEs es) gaps tail) =
      .ok ({ data := denSrcEs es [], blockC := [(0, hdrComment)] }, c') :=
  fun hwf hg ht hc hn hd =>
    ⟨_, read_header_off_gen dir hwf hg ht hc hn (C02.den_docKeys hwf hd).1 (C02.den_docKeys hwf hd).2⟩

theorem dom_noPh_keys {D : Entries} (h : DomC01 .native D = true) : ∀ k ∈ keys D, C07.isPhKey k = false := by
  have := C07.noPhEs_keys (C01.norm_invariants h).1
  rwa [C01.keys_normEs] at this

theorem dom_noHdrPh {D : Entries} (h : DomC01 .native D = true) : isInfix hdrPh (fmtEntries .native 0 D) = false := by
  obtain ⟨gaps, tail, e, hg, ht⟩ := C01.fmt_is_layout h
  have hd : domEs .native 1 D = true := by
    simp only [DomC01, Bool.and_eq_true] at h; exact h.1
  rw [e]
  exact noHdrPh_of_noComment (noComment_spread _ gaps tail (C02.srcToks_ok 1 _ (C01.srcOf_wf 1 D hd)) hg ht)

/-- **write_header.**  The SDict the reader returns for a written file — header placeholder entry in front, header
    comment in the table — is written exactly as the SDict with the same data and no tables: the placeholder line is
    replaced by the header comment (an own ` C++ ` header: nothing is put in front). -/
theorem write_header {D : Entries} (h : DomC01 .native D = true) :
    fmtSD .native { data := (Key.str hdrPh, Val.leaf (.str hdrPh)) :: D, blockC := [(0, hdrComment)] } =
      fmtSD .native { data := D } := by
  obtain ⟨h1, h2⟩ := write_header_gen D (dom_noPh_keys h) (dom_noHdrPh h)
  exact h1.trans h2.symm

/-- reading the text `dump` writes for a normalised dict of the value domain, counter valid afterwards -/
theorem read_dumped {D : Entries} {c : Counter} (dir : Str)
    (hdom : DomC01 .native D = true) (hnorm : normEs D = D) (hd : C01.DocKeysAbsent' D)
    (hn : C02.countQuotedEs (srcOfEs .native D) ≤ Gen.counterLimit + 1) (hc : C13.ValidCounter Gen.counterLimit c) :
    ∃ c', C13.ValidCounter Gen.counterLimit c' ∧
      parseNative true dir c (nativeHeader ++ fmtPlain .native D) = .ok (hdrSD D, c') := by
  obtain ⟨hwf, hden, gaps, tail, e, hg, ht⟩ := C01.C01_writer hdom
  rw [hnorm] at hden
  have hl : ∀ k : Key, (∀ e ∈ D, e.1 ≠ k) → lookup k (denSrcEs (srcOfEs .native D) []) = none := by
    intro k hk
    rw [hden, ← hnorm]; exact C01.norm_lookup_none hk
  have h := read_header_gen (c := c) dir hwf hg ht hc hn (hl _ fun e he => (hd e he).1) (hl _ fun e he => (hd e he).2)
  rw [hden] at h
  rw [e]
  exact ⟨_, parseNative_valid h hc, h⟩

/-- **header_fixpoint.**  For a normalised dict `D` of the value domain: the text written from `{ data := D }` is the
    header followed by the plain text of `D`; reading it (comments on) gives `D` with the header placeholder entry and
    the header comment; writing that SDict gives the same text, byte for byte. -/
theorem header_fixpoint {D : Entries} {c : Counter} (dir : Str)
    (hdom : DomC01 .native D = true) (hnorm : normEs D = D) (hd : C01.DocKeysAbsent' D)
    (hn : C02.countQuotedEs (srcOfEs .native D) ≤ Gen.counterLimit + 1) (hc : C13.ValidCounter Gen.counterLimit c) :
    ∃ text c', fmtSD .native { data := D } = some text ∧ text = nativeHeader ++ fmtPlain .native D ∧
      C13.ValidCounter Gen.counterLimit c' ∧
      parseNative true dir c text =
        .ok ({ data := (Key.str hdrPh, Val.leaf (.str hdrPh)) :: D, blockC := [(0, hdrComment)] }, c') ∧
      fmtSD .native { data := (Key.str hdrPh, Val.leaf (.str hdrPh)) :: D, blockC := [(0, hdrComment)] } = some text := by
  obtain ⟨c', hv, hr⟩ := read_dumped (c := c) dir hdom hnorm hd hn hc
  exact ⟨_, c', fmtSD_text D, rfl, hv, hr, (write_header hdom).trans (fmtSD_text D)⟩

/-! ## non-vacuity: the example dict of `C01fmt` -/

theorem ex_header_fixpoint (dir : Str) :
    ∃ text c', fmtSD .native { data := C01.exDict } = some text ∧
      parseNative true dir none text =
        .ok ({ data := (Key.str hdrPh, Val.leaf (.str hdrPh)) :: C01.exDict, blockC := [(0, hdrComment)] }, c') ∧
      fmtSD .native { data := (Key.str hdrPh, Val.leaf (.str hdrPh)) :: C01.exDict, blockC := [(0, hdrComment)] } =
        some text := by
  obtain ⟨text, c', h1, _, _, h2, h3⟩ := header_fixpoint (c := none) dir C01.exDict_dom C01.exDict_norm
    C01.exDict_docKeys (by rw [C01.exDict_count]; decide) (Or.inl rfl)
  exact ⟨text, c', h1, h2, h3⟩

end DictIO.C12
