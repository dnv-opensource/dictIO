/-
  C14 -- Key paths: `set_global_key` / `find_global_key` / `global_key_exists` / `reduce_scope`.
  Model: `setPath`, `getPath`, `findKey`, `pathExists`, `scopeOf`, `SD.reduceScope` (Model/KeyPath.lean).
-/
import DictIO.Model.KeyPath
import DictIO.Lemmas.Order
import DictIO.Lemmas.Assoc

namespace DictIO.C14
open DictIO

/-! #### specification vocabulary -/

/-- an int key is a non-negative index (Python negative list indices alias positions) -/
def KeyNonNeg : Key → Bool
  | .int z => decide (0 ≤ z)
  | .str _ => true

/-- every `.int z` key of the path has `0 ≤ z` -/
def NonNeg (p : List Key) : Prop := ∀ k ∈ p, KeyNonNeg k = true

instance (p : List Key) : Decidable (NonNeg p) := by unfold NonNeg; infer_instance

/-- neither path is a prefix of the other -/
def Incomparable (p q : List Key) : Prop := ¬ p <+: q ∧ ¬ q <+: p

instance (p q : List Key) : Decidable (Incomparable p q) := by unfold Incomparable; infer_instance

/-- `node[key] = value` would succeed on this node -/
def Assignable : Val → Key → Bool
  | .dict _, _ => true
  | .list xs, .int z => (pyIndex xs.length z).isSome
  | .list _, .str _ => false
  | .leaf _, _ => false

theorem NonNeg.head {k : Key} {p : List Key} (h : NonNeg (k :: p)) : KeyNonNeg k = true :=
  h k List.mem_cons_self

theorem NonNeg.tail {k : Key} {p : List Key} (h : NonNeg (k :: p)) : NonNeg p :=
  fun k' hk => h k' (List.mem_cons_of_mem _ hk)

theorem Incomparable.tail {k : Key} {p q : List Key} (h : Incomparable (k :: p) (k :: q)) : Incomparable p q :=
  ⟨fun hp => h.1 (List.cons_prefix_cons.mpr ⟨rfl, hp⟩), fun hq => h.2 (List.cons_prefix_cons.mpr ⟨rfl, hq⟩)⟩

theorem pyIndex_lt {n : Nat} {z : Int} {i : Nat} (h : pyIndex n z = some i) : i < n := by
  unfold pyIndex at h
  split at h
  · split at h
    · cases h; assumption
    · cases h
  · split at h
    · cases h; omega
    · cases h

theorem pyIndex_nonneg {n : Nat} {z : Int} (hz : 0 ≤ z) : pyIndex n z = if z.toNat < n then some z.toNat else none := by
  simp [pyIndex, hz]

theorem assign_ok_iff {v v' : Val} {k : Key} {x : Val} :
    assign v k x = .ok v' ↔ Assignable v k = true ∧ v' = putChild v k x := by
  cases v with
  | leaf s => simp [assign, Assignable]
  | dict es => simp [assign, Assignable, putChild, eq_comm]
  | list xs =>
    cases k with
    | str s => simp [assign, Assignable]
    | int z =>
      simp only [assign, Assignable, putChild]
      cases pyIndex xs.length z <;> simp [eq_comm]

theorem assignable_of_child {v c : Val} {k : Key} (h : child v k = .ok c) : Assignable v k = true := by
  cases v with
  | leaf s => simp [child] at h
  | dict es => rfl
  | list xs =>
    cases k with
    | str s => simp [child] at h
    | int z =>
      simp only [child] at h
      simp only [Assignable]
      cases hi : pyIndex xs.length z <;> simp [hi] at h ⊢

theorem child_putChild_self {v c' : Val} {k : Key} (h : Assignable v k = true) : child (putChild v k c') k = .ok c' := by
  cases v with
  | leaf s => simp [Assignable] at h
  | dict es => simp [putChild, child, lookup_setKey_self]
  | list xs =>
    cases k with
    | str s => simp [Assignable] at h
    | int z =>
      simp only [Assignable] at h
      obtain ⟨i, hi⟩ := Option.isSome_iff_exists.mp h
      have := pyIndex_lt hi
      simp [putChild, child, hi, this]

theorem child_putChild_ne {v c' : Val} {k k' : Key} (hne : k' ≠ k) (hk : KeyNonNeg k = true) (hk' : KeyNonNeg k' = true) :
    child (putChild v k c') k' = child v k' := by
  cases v with
  | leaf s => cases k <;> rfl
  | dict es => simp [putChild, child, lookup_setKey_ne c' hne es]
  | list xs =>
    cases k with
    | str s => simp [putChild]
    | int z =>
      simp only [putChild]
      split
      · rename_i i hi
        cases k' with
        | str s => simp [child]
        | int z' =>
          simp only [KeyNonNeg, decide_eq_true_eq] at hk hk'
          have hzz : z' ≠ z := fun e => hne (by rw [e])
          rw [pyIndex_nonneg hk] at hi
          simp only [child, List.length_set, pyIndex_nonneg hk']
          split at hi
          · cases hi
            have : z.toNat ≠ z'.toNat := by omega
            by_cases hlt : z'.toNat < xs.length
            · simp [hlt, List.getElem_set_ne this]
            · simp [hlt]
          · cases hi
      · rfl

theorem setPathAux_cons {ii : Nat} {v : Val} {k : Key} {p : List Key} {x : Val} (hp : p ≠ []) :
    setPathAux ii v (k :: p) x =
      match child v k with
      | .error e => .error e
      | .ok c =>
        if c.isLeaf then .error .keyError
        else if ii + 1 = 10 then .error .recursionError
        else match setPathAux (ii + 1) c p x with
          | .error e => .error e
          | .ok c' => .ok (putChild v k c') := by
  cases p with
  | nil => exact absurd rfl hp
  | cons k' p' => rfl

/-- a successful non-final step of `set_global_key`, inverted -/
theorem setPathAux_cons_ok {ii : Nat} {v t' : Val} {k : Key} {p : List Key} {x : Val} (hp : p ≠ [])
    (h : setPathAux ii v (k :: p) x = .ok t') :
    ∃ c c', child v k = .ok c ∧ c.isLeaf = false ∧ ii + 1 ≠ 10 ∧ setPathAux (ii + 1) c p x = .ok c' ∧
      t' = putChild v k c' := by
  rw [setPathAux_cons hp] at h
  cases hc : child v k with
  | error e => simp [hc] at h
  | ok c =>
    simp only [hc] at h
    split at h
    · cases h
    · rename_i hleaf
      split at h
      · cases h
      · rename_i hii
        cases hc' : setPathAux (ii + 1) c p x with
        | error e => simp [hc'] at h
        | ok c' =>
          simp only [hc', Except.ok.injEq] at h
          exact ⟨c, c', rfl, by simpa using hleaf, hii, hc', h.symm⟩

theorem getPath_cons_some {v w : Val} {k : Key} {p : List Key} (h : getPath v (k :: p) = some w) :
    ∃ c, child v k = .ok c ∧ getPath c p = some w := by
  rw [getPath] at h
  cases hc : child v k with
  | error e => rw [hc] at h; cases h
  | ok c => rw [hc] at h; exact ⟨c, rfl, h⟩

theorem getPath_leaf_cons (s : Scalar) (k : Key) (p : List Key) : getPath (.leaf s) (k :: p) = none := by
  simp [getPath, child]

theorem child_mem_list {xs : List Val} {k : Key} {c : Val} (h : child (.list xs) k = .ok c) : c ∈ xs := by
  cases k with
  | str s => simp [child] at h
  | int z =>
    simp only [child] at h
    split at h
    · split at h
      · rename_i i _ c' hc'
        cases h
        exact List.mem_of_getElem? hc'
      · cases h
    · cases h

theorem child_dict {es : Entries} {k : Key} {c : Val} (h : child (.dict es) k = .ok c) : lookup k es = some c := by
  simp only [child] at h
  split at h
  · rename_i c' hc'; cases h; exact hc'
  · cases h

theorem nodup_child {t c : Val} {k : Key} (hn : NodupKeysV t) (h : child t k = .ok c) : NodupKeysV c := by
  cases t with
  | leaf s => simp [child] at h
  | dict es => exact nodupKeysEs_iff.mp hn.2 _ (lookup_some_mem (child_dict h))
  | list xs => exact nodupKeysXs_iff.mp hn _ (child_mem_list h)

theorem deepSortXs_eq_map : ∀ xs : List Val, deepSortXs xs = xs.map deepSortV
  | [] => rfl
  | v :: xs => by simp [deepSortXs, deepSortXs_eq_map xs]

theorem deepSortEs_eq_map : ∀ es : Entries, deepSortEs es = es.map fun e => (e.1, deepSortV e.2)
  | [] => rfl
  | (k, v) :: es => by rw [deepSortEs, deepSortEs_eq_map es]; rfl

theorem keys_deepSortEs (es : Entries) : keys (deepSortEs es) = keys es := by
  rw [deepSortEs_eq_map, keys_mapVal]

theorem lookup_deepSort_sorted {es : Entries} (hn : (keys es).Nodup) (k : Key) :
    lookup k (sortByKey (deepSortEs es)) = (lookup k es).map deepSortV := by
  rw [deepSortEs_eq_map]; exact lookup_sortByKey_mapVal deepSortV hn k

theorem deepSortV_eq_leaf {w : Val} {x : Scalar} (h : deepSortV w = .leaf x) : w = .leaf x := by
  cases w with
  | leaf y => simpa [deepSortV] using h
  | dict es => simp [deepSortV] at h
  | list xs => simp [deepSortV] at h

theorem deepSortV_isLeaf (w : Val) : (deepSortV w).isLeaf = w.isLeaf := by
  cases w <;> simp [deepSortV, Val.isLeaf]

mutual
  theorem nodup_deepSortV : ∀ v : Val, NodupKeysV v → NodupKeysV (deepSortV v)
    | .leaf _, _ => trivial
    | .dict es, h => by
      simp only [deepSortV]
      have hp := sortBy_perm (le := Key.le) (deepSortEs es)
      refine ⟨?_, nodupKeysEs_iff.mpr fun e he => nodupKeysEs_iff.mp (nodup_deepSortEs es h.2) e (hp.mem_iff.mp he)⟩
      have := (hp.map (·.1)).nodup_iff
      rw [show List.map (·.1) (deepSortEs es) = keys es from keys_deepSortEs es] at this
      exact this.mpr h.1
    | .list xs, h => by
      simp only [deepSortV]
      exact nodup_deepSortXs xs h
  theorem nodup_deepSortEs : ∀ es : Entries, NodupKeysEs es → NodupKeysEs (deepSortEs es)
    | [], _ => trivial
    | (_, v) :: es, h => ⟨nodup_deepSortV v h.1, nodup_deepSortEs es h.2⟩
  theorem nodup_deepSortXs : ∀ xs : List Val, NodupKeysXs xs → NodupKeysXs (deepSortXs xs)
    | [], _ => trivial
    | v :: xs, h => ⟨nodup_deepSortV v h.1, nodup_deepSortXs xs h.2⟩
end

theorem child_deepSort {t : Val} (hn : NodupKeysV t) (k : Key) :
    child (deepSortV t) k = match child t k with
      | .ok c => .ok (deepSortV c)
      | .error e => .error e := by
  cases t with
  | leaf s => simp [deepSortV, child]
  | dict es =>
    simp only [deepSortV, child, lookup_deepSort_sorted hn.1]
    cases lookup k es <;> simp
  | list xs =>
    cases k with
    | str s => simp [deepSortV, child]
    | int z =>
      simp only [deepSortV, child, deepSortXs_eq_map, List.length_map]
      cases pyIndex xs.length z with
      | none => simp
      | some i =>
        simp only [List.getElem?_map]
        cases xs[i]? <;> simp

/-- dereferencing a path commutes with the deep sort (needs unique keys: lookup is then invariant
    under the sort permutation) -/
theorem getPath_deepSort : ∀ (p : List Key) (t : Val), NodupKeysV t →
    getPath (deepSortV t) p = (getPath t p).map deepSortV
  | [], _, _ => rfl
  | k :: p, t, hn => by
    simp only [getPath, child_deepSort hn]
    cases hc : child t k with
    | error e => simp
    | ok c => simpa using getPath_deepSort p c (nodup_child hn hc)

/-- what a container learns from looking at one of its members: the member is a matching leaf
    (empty rest path), or the search inside the member succeeds -/
def hit (m : Scalar → Bool) : Val → Option (List Key)
  | .leaf x => if m x then some [] else none
  | .dict es => findRawEs m es
  | .list xs => findRawXs m 0 xs

theorem findRawEs_cons (m : Scalar → Bool) (k : Key) (v : Val) (es : Entries) :
    findRawEs m ((k, v) :: es) = match hit m v with
      | some p => some (k :: p)
      | none => findRawEs m es := by
  cases v with
  | leaf x => simp only [findRawEs, hit]; split <;> simp
  | dict d => simp only [findRawEs, hit]; rfl
  | list l => simp only [findRawEs, hit]; rfl

theorem findRawXs_cons (m : Scalar → Bool) (i : Nat) (v : Val) (xs : List Val) :
    findRawXs m i (v :: xs) = match hit m v with
      | some p => some (.int i :: p)
      | none => findRawXs m (i + 1) xs := by
  cases v with
  | leaf x => simp only [findRawXs, hit]; split <;> simp
  | dict d => simp only [findRawXs, hit]; rfl
  | list l => simp only [findRawXs, hit]; rfl

theorem hit_of_findRawV {m : Scalar → Bool} {v : Val} {p : List Key} (h : findRawV m v = some p) : hit m v = some p := by
  cases v with
  | leaf x => simp [findRawV] at h
  | dict es => simpa [findRawV, hit] using h
  | list xs => simpa [findRawV, hit] using h

theorem findRawV_of_not_leaf {m : Scalar → Bool} {v : Val} (h : v.isLeaf = false) : findRawV m v = hit m v := by
  cases v with
  | leaf x => simp [Val.isLeaf] at h
  | dict es => rfl
  | list xs => rfl

theorem getPath_dict_of_mem {d : Entries} {k : Key} {v : Val} (hn : (keys d).Nodup) (hm : (k, v) ∈ d) (p : List Key) :
    getPath (.dict d) (k :: p) = getPath v p := by
  simp [getPath, child, lookup_of_mem_nodup hn hm]

theorem getPath_list_of_get {xs : List Val} {j : Nat} {v : Val} (h : xs[j]? = some v) (p : List Key) :
    getPath (.list xs) (.int j :: p) = getPath v p := by
  obtain ⟨hj, rfl⟩ := List.getElem?_eq_some_iff.mp h
  simp [getPath, child, pyIndex, hj]

mutual
  /-- a hit is a path to a matching leaf -/
  theorem hit_sound (m : Scalar → Bool) : ∀ (v : Val) (p : List Key), NodupKeysV v → hit m v = some p →
      ∃ x, getPath v p = some (.leaf x) ∧ m x = true
    | .leaf x, p, _, h => by
      simp only [hit] at h
      split at h
      · cases h; exact ⟨x, rfl, by assumption⟩
      · cases h
    | .dict es, p, hn, h => by
      obtain ⟨k, v, p', rfl, hmem, x, hx, hm⟩ := es_sound m es p hn.2 h
      exact ⟨x, by rw [getPath_dict_of_mem hn.1 hmem]; exact hx, hm⟩
    | .list xs, p, hn, h => by
      obtain ⟨j, v, p', rfl, hj, x, hx, hm⟩ := xs_sound m xs 0 p hn h
      refine ⟨x, ?_, hm⟩
      rw [Nat.zero_add, getPath_list_of_get hj]; exact hx
  theorem es_sound (m : Scalar → Bool) : ∀ (es : Entries) (p : List Key), NodupKeysEs es → findRawEs m es = some p →
      ∃ k v p', p = k :: p' ∧ (k, v) ∈ es ∧ ∃ x, getPath v p' = some (.leaf x) ∧ m x = true
    | [], p, _, h => by simp [findRawEs] at h
    | (k, v) :: es, p, hn, h => by
      rw [findRawEs_cons] at h
      cases hh : hit m v with
      | some p' =>
        simp only [hh, Option.some.injEq] at h
        obtain ⟨x, hx, hm⟩ := hit_sound m v p' hn.1 hh
        exact ⟨k, v, p', h.symm, List.mem_cons_self, x, hx, hm⟩
      | none =>
        simp only [hh] at h
        obtain ⟨k', v', p', hp, hmem, r⟩ := es_sound m es p hn.2 h
        exact ⟨k', v', p', hp, List.mem_cons_of_mem _ hmem, r⟩
  theorem xs_sound (m : Scalar → Bool) : ∀ (xs : List Val) (i : Nat) (p : List Key), NodupKeysXs xs → findRawXs m i xs = some p →
      ∃ j v p', p = .int ((i + j : Nat) : Int) :: p' ∧ xs[j]? = some v ∧ ∃ x, getPath v p' = some (.leaf x) ∧ m x = true
    | [], i, p, _, h => by simp [findRawXs] at h
    | v :: xs, i, p, hn, h => by
      rw [findRawXs_cons] at h
      cases hh : hit m v with
      | some p' =>
        simp only [hh, Option.some.injEq] at h
        obtain ⟨x, hx, hm⟩ := hit_sound m v p' hn.1 hh
        exact ⟨0, v, p', by simpa using h.symm, rfl, x, hx, hm⟩
      | none =>
        simp only [hh] at h
        obtain ⟨j, v', p', hp, hj, r⟩ := xs_sound m xs (i + 1) p hn.2 h
        refine ⟨j + 1, v', p', ?_, by simpa using hj, r⟩
        rw [hp, show i + 1 + j = i + (j + 1) by omega]
end

mutual
  /-- no hit: no path (through any index, negative ones included) leads to a matching leaf -/
  theorem hit_none (m : Scalar → Bool) : ∀ (v : Val), hit m v = none →
      ∀ (p : List Key) (x : Scalar), getPath v p = some (.leaf x) → m x = false
    | .leaf y, h, p, x, hp => by
      cases p with
      | nil =>
        simp only [getPath, Option.some.injEq, Val.leaf.injEq] at hp
        subst hp
        simp only [hit] at h
        split at h
        · cases h
        · simpa using ‹¬ m y = true›
      | cons k p' => simp [getPath_leaf_cons] at hp
    | .dict es, h, p, x, hp => by
      cases p with
      | nil => simp [getPath] at hp
      | cons k p' =>
        obtain ⟨c, hc, hp⟩ := getPath_cons_some hp
        exact es_none m es h k c (lookup_some_mem (child_dict hc)) p' x hp
    | .list xs, h, p, x, hp => by
      cases p with
      | nil => simp [getPath] at hp
      | cons k p' =>
        obtain ⟨c, hc, hp⟩ := getPath_cons_some hp
        exact xs_none m xs 0 h c (child_mem_list hc) p' x hp
  theorem es_none (m : Scalar → Bool) : ∀ (es : Entries), findRawEs m es = none →
      ∀ (k : Key) (c : Val), (k, c) ∈ es → ∀ (p : List Key) (x : Scalar), getPath c p = some (.leaf x) → m x = false
    | [], _, k, c, hm, _, _, _ => by simp at hm
    | (k0, v) :: es, h, k, c, hm, p, x, hp => by
      rw [findRawEs_cons] at h
      cases hh : hit m v with
      | some p' => simp [hh] at h
      | none =>
        simp only [hh] at h
        rcases List.mem_cons.mp hm with heq | hm'
        · cases heq; exact hit_none m v hh p x hp
        · exact es_none m es h k c hm' p x hp
  theorem xs_none (m : Scalar → Bool) : ∀ (xs : List Val) (i : Nat), findRawXs m i xs = none →
      ∀ (c : Val), c ∈ xs → ∀ (p : List Key) (x : Scalar), getPath c p = some (.leaf x) → m x = false
    | [], _, _, c, hm, _, _, _ => by simp at hm
    | v :: xs, i, h, c, hm, p, x, hp => by
      rw [findRawXs_cons] at h
      cases hh : hit m v with
      | some p' => simp [hh] at h
      | none =>
        simp only [hh] at h
        rcases List.mem_cons.mp hm with heq | hm'
        · cases heq; exact hit_none m v hh p x hp
        · exact xs_none m xs (i + 1) h c hm' p x hp
end

/-- the search proper never reports the root itself, so only non-empty paths are excluded -/
theorem findRawV_none {m : Scalar → Bool} {v : Val} (h : findRawV m v = none) (k : Key) (p : List Key) (x : Scalar)
    (hp : getPath v (k :: p) = some (.leaf x)) : m x = false := by
  cases v with
  | leaf y => simp [getPath_leaf_cons] at hp
  | dict es => exact hit_none m (.dict es) (by simpa [hit, findRawV] using h) (k :: p) x hp
  | list xs => exact hit_none m (.list xs) (by simpa [hit, findRawV] using h) (k :: p) x hp

/-! #### `set_global_key` -/

/-- what a successful `set_global_key` does: descend through containers, assign at the last key, put the changed
    children back -/
inductive SetsTo (x : Val) : Val → List Key → Val → Prop
  | last {t : Val} {k : Key} : Assignable t k = true → SetsTo x t [k] (putChild t k x)
  | step {t c c' : Val} {k : Key} {p : List Key} : child t k = .ok c → c.isLeaf = false → SetsTo x c p c' →
      SetsTo x t (k :: p) (putChild t k c')

/-- the only induction over `setPathAux` for successful runs; the depth guard becomes a bound on the length -/
theorem setAux_sets {x : Val} : ∀ (p : List Key) (ii : Nat) (t t' : Val), p ≠ [] → ii ≤ 9 →
    setPathAux ii t p x = .ok t' → SetsTo x t p t' ∧ ii + p.length ≤ 10
  | [], _, _, _, hp, _, _ => absurd rfl hp
  | [k], _, t, t', _, hii, h => by
    obtain ⟨ha, rfl⟩ := assign_ok_iff.mp h
    exact ⟨.last ha, Nat.succ_le_succ hii⟩
  | k :: k2 :: p', ii, t, t', _, _, h => by
    obtain ⟨c, c', hc, hl, hne, hc', rfl⟩ := setPathAux_cons_ok (by simp) h
    obtain ⟨hs, hlen⟩ := setAux_sets (k2 :: p') (ii + 1) c c' (by simp) (by omega) hc'
    exact ⟨.step hc hl hs, by simp only [List.length_cons] at hlen ⊢; omega⟩

theorem SetsTo.ne_nil {x t t' : Val} {p : List Key} (h : SetsTo x t p t') : p ≠ [] := by
  cases h <;> simp

theorem SetsTo.step_inv {x t t' : Val} {k : Key} {p : List Key} (h : SetsTo x t (k :: p) t') (hp : p ≠ []) :
    ∃ c c', child t k = .ok c ∧ c.isLeaf = false ∧ SetsTo x c p c' ∧ t' = putChild t k c' := by
  cases p with
  | nil => exact absurd rfl hp
  | cons k2 p' => cases h with | step hc hl hs => exact ⟨_, _, hc, hl, hs, rfl⟩

theorem SetsTo.get {x t t' : Val} {p : List Key} (h : SetsTo x t p t') : getPath t' p = some x := by
  induction h with
  | last ha => simp [getPath, child_putChild_self ha]
  | step hc _ _ ih => simpa [getPath, child_putChild_self (assignable_of_child hc)] using ih

/-- (1) reading back the path that was assigned yields the assigned value -/
theorem set_get {t t' x : Val} {p : List Key} (h : setPath t p x = .ok t') (hp : p ≠ []) : getPath t' p = some x :=
  (setAux_sets p 0 t t' hp (by decide) h).1.get

theorem SetsTo.frame {x t t' : Val} {p : List Key} (h : SetsTo x t p t') :
    ∀ q, NonNeg p → NonNeg q → Incomparable p q → getPath t' q = getPath t q := by
  induction h with
  | @last t k ha =>
    intro q hp hq hi
    cases q with
    | nil => exact absurd List.nil_prefix hi.2
    | cons k' q' =>
      have hne : k' ≠ k := fun e => hi.1 (e ▸ List.cons_prefix_cons.mpr ⟨rfl, List.nil_prefix⟩)
      simp only [getPath, child_putChild_ne hne hp.head hq.head]
  | @step t c c' k p hc _ _ ih =>
    intro q hp hq hi
    cases q with
    | nil => exact absurd List.nil_prefix hi.2
    | cons k' q' =>
      by_cases e : k' = k
      · subst e
        simp only [getPath, child_putChild_self (assignable_of_child hc), hc]
        exact ih q' hp.tail hq.tail hi.tail
      · simp only [getPath, child_putChild_ne e hp.head hq.head]

/-- (2) assigning through a path changes nothing at any place that is not on or under the path -/
theorem set_frame {t t' x : Val} {p q : List Key} (h : setPath t p x = .ok t')
    (hp : NonNeg p) (hq : NonNeg q) (hi : Incomparable p q) : getPath t' q = getPath t q := by
  cases p with
  | nil => exact absurd List.nil_prefix hi.1
  | cons k p' => exact (setAux_sets _ 0 t t' (by simp) (by decide) h).1.frame q hp hq hi

/-- `set_frame` is false without `NonNeg`: index `-1` aliases index `0` of a one-element list -/
example : ¬ ∀ (t t' x : Val) (p q : List Key), setPath t p x = .ok t' → Incomparable p q → getPath t' q = getPath t q := by
  intro h
  have := h (.list [.leaf .none]) (.list [.leaf (.int 1)]) (.leaf (.int 1)) [.int 0] [.int (-1)] rfl (by decide)
  revert this
  decide

theorem keys_putChild_of_child {d : Entries} {k : Key} {c c' : Val} (h : child (.dict d) k = .ok c) :
    ∃ d', getPath (putChild (.dict d) k c') [] = some (.dict d') ∧ keys d' = keys d :=
  ⟨_, rfl, keys_setKey_of_mem k c' d (List.mem_map_of_mem (f := (·.1)) (lookup_some_mem (child_dict h)))⟩

theorem SetsTo.keeps_key_order {x t t' : Val} {p : List Key} (h : SetsTo x t p t') :
    ∀ q d, (∃ v, getPath t p = some v) → q <+: p → q ≠ p →
      getPath t q = some (.dict d) → ∃ d', getPath t' q = some (.dict d') ∧ keys d' = keys d := by
  induction h with
  | @last t k ha =>
    intro q d hex hq hne hd
    cases q with
    | cons k' q' =>
      obtain ⟨rfl, hq'⟩ := List.cons_prefix_cons.mp hq
      exact absurd (by rw [List.prefix_nil.mp hq']) hne
    | nil =>
      cases hd
      obtain ⟨v, hv⟩ := hex
      obtain ⟨c, hc, -⟩ := getPath_cons_some hv
      exact keys_putChild_of_child hc
  | @step t c c' k p hc _ _ ih =>
    intro q d hex hq hne hd
    cases q with
    | nil => cases hd; exact keys_putChild_of_child hc
    | cons k' q' =>
      obtain ⟨rfl, hq'⟩ := List.cons_prefix_cons.mp hq
      simp only [getPath, hc] at hd hex
      simp only [getPath, child_putChild_self (assignable_of_child hc)]
      exact ih q' d hex hq' (fun e => hne (by rw [e])) hd

/-- (3, general) when the assigned path already exists, every dict on the way keeps its key order -/
theorem set_keeps_key_order_at {t t' x : Val} {p q : List Key} {d : Entries} (h : setPath t p x = .ok t')
    (hex : ∃ v, getPath t p = some v) (hq : q <+: p) (hne : q ≠ p) (hd : getPath t q = some (.dict d)) :
    ∃ d', getPath t' q = some (.dict d') ∧ keys d' = keys d :=
  (setAux_sets p 0 t t' (fun e => hne (e ▸ List.prefix_nil.mp (e ▸ hq))) (by decide) h).1.keeps_key_order q d hex hq hne hd

/-- (3) assigning to an existing path keeps the key order of the top-level dict -/
theorem set_keeps_key_order {es es' : Entries} {p : List Key} {x : Val} (h : setPath (.dict es) p x = .ok (.dict es'))
    (hex : ∃ v, getPath (.dict es) p = some v) : keys es' = keys es := by
  cases p with
  | nil =>
    simp only [setPath, setPathAux, Except.ok.injEq, Val.dict.injEq] at h
    rw [h]
  | cons k p' =>
    obtain ⟨d', hd', hk⟩ := set_keeps_key_order_at (q := []) h hex List.nil_prefix (by simp) rfl
    simp only [getPath, Option.some.injEq, Val.dict.injEq] at hd'
    rw [hd']; exact hk

/-- the existence hypothesis of (3) is needed: assigning a new key appends it -/
example : ¬ ∀ (es es' : Entries) (p : List Key) (x : Val), setPath (.dict es) p x = .ok (.dict es') → keys es' = keys es := by
  intro h
  have := h [] [(.int 0, .leaf .none)] [.int 0] (.leaf .none) rfl
  revert this
  decide

/-! ##### when `set_global_key` fails -/

theorem set_nil (t x : Val) : setPath t [] x = .ok t := rfl

theorem not_assignable_under_leaf {c : Val} (hc : c.isLeaf = true) (k : Key) :
    ∀ q : List Key, ¬ ∃ c2, getPath c q = some c2 ∧ Assignable c2 k = true := by
  cases c with
  | leaf s =>
    intro q
    cases q with
    | nil => simp [getPath, Assignable]
    | cons k' q' => simp [getPath_leaf_cons]
  | dict es => simp [Val.isLeaf] at hc
  | list xs => simp [Val.isLeaf] at hc

theorem setPathAux_step {ii : Nat} {t c : Val} {k : Key} {p : List Key} {x : Val} (hp : p ≠ [])
    (hc : child t k = .ok c) (hl : c.isLeaf = false) (hii : ii + 1 ≠ 10) :
    setPathAux ii t (k :: p) x = (setPathAux (ii + 1) c p x).map (putChild t k) := by
  rw [setPathAux_cons hp, hc]
  simp only [hl, hii, if_false, Bool.false_eq_true]
  cases setPathAux (ii + 1) c p x <;> rfl

theorem SetsTo.run {x t t' : Val} {p : List Key} (h : SetsTo x t p t') :
    ∀ ii, ii + p.length ≤ 10 → setPathAux ii t p x = .ok t' := by
  induction h with
  | last ha => exact fun ii _ => assign_ok_iff.mpr ⟨ha, rfl⟩
  | @step t c c' k p hc hl hs ih =>
    intro ii hlen
    simp only [List.length_cons] at hlen
    have : 0 < p.length := List.length_pos_iff.mpr hs.ne_nil
    rw [setPathAux_step hs.ne_nil hc hl (by omega), ih (ii + 1) (by omega)]
    rfl

theorem setPath_ok_iff {t t' x : Val} {p : List Key} (hp : p ≠ []) :
    setPath t p x = .ok t' ↔ SetsTo x t p t' ∧ p.length ≤ 10 :=
  ⟨fun h => by simpa using setAux_sets p 0 t t' hp (by decide) h, fun h => h.1.run 0 (by omega)⟩

theorem setsTo_exists_iff {x : Val} {k : Key} : ∀ (q : List Key) (t : Val),
    (∃ t', SetsTo x t (q ++ [k]) t') ↔ ∃ c, getPath t q = some c ∧ Assignable c k = true
  | [], t => by
    constructor
    · rintro ⟨t', h⟩
      cases h with
      | last ha => exact ⟨t, rfl, ha⟩
      | step _ _ hs => exact absurd rfl hs.ne_nil
    · rintro ⟨c, hc, ha⟩
      cases hc
      exact ⟨_, .last ha⟩
  | k1 :: q', t => by
    have ih := fun c => setsTo_exists_iff (x := x) (k := k) q' c
    constructor
    · rintro ⟨t', h⟩
      obtain ⟨c, c', hc, hl, hs, -⟩ := h.step_inv (by simp)
      obtain ⟨c2, hg, ha⟩ := (ih _).mp ⟨_, hs⟩
      exact ⟨c2, by simp only [getPath, hc, hg], ha⟩
    · rintro ⟨c2, hg, ha⟩
      obtain ⟨c, hc, hg⟩ := getPath_cons_some hg
      have hl : c.isLeaf = false := by
        cases hcl : c.isLeaf with
        | false => rfl
        | true => exact absurd ⟨c2, hg, ha⟩ (not_assignable_under_leaf hcl k q')
      obtain ⟨c', hs⟩ := (ih c).mpr ⟨c2, hg, ha⟩
      exact ⟨_, .step hc hl hs⟩

/-- (4a, every length) `set_global_key` succeeds exactly when the path has at most ten keys and its parent path
    resolves to a node on which the final item assignment is possible -/
theorem set_ok_iff_general {t x : Val} {q : List Key} {k : Key} :
    (∃ t', setPath t (q ++ [k]) x = .ok t') ↔ q.length ≤ 9 ∧ ∃ c, getPath t q = some c ∧ Assignable c k = true := by
  simp only [setPath_ok_iff (p := q ++ [k]) (by simp), exists_and_right, setsTo_exists_iff, List.length_append,
    List.length_singleton, Nat.add_le_add_iff_right (n := 1) (k := 9) |>.symm]
  exact and_comm

/-- (4a) for paths of length ≤ 10, `set_global_key` succeeds exactly when the parent path
    resolves to a node on which the final item assignment is possible -/
theorem set_ok_iff {t x : Val} {q : List Key} {k : Key} (hlen : (q ++ [k]).length ≤ 10) :
    (∃ t', setPath t (q ++ [k]) x = .ok t') ↔ ∃ c, getPath t q = some c ∧ Assignable c k = true :=
  set_ok_iff_general.trans (and_iff_right (by rw [List.length_append, List.length_singleton] at hlen; omega))

/-- (4b) for paths of length ≤ 10, `set_global_key` raises exactly when an intermediate node is missing
    (or is a leaf / a list indexed by a str / a list indexed out of range: `getPath t q = none`),
    the parent is a leaf, or the parent is a list and the last key is a str or out of range -/
theorem set_fails_iff {t x : Val} {q : List Key} {k : Key} (hlen : (q ++ [k]).length ≤ 10) :
    (∃ e, setPath t (q ++ [k]) x = .error e) ↔
      (getPath t q = none ∨ (∃ s, getPath t q = some (.leaf s)) ∨
       (∃ xs, getPath t q = some (.list xs) ∧ ((∃ s, k = .str s) ∨ (∃ z, k = .int z ∧ pyIndex xs.length z = none)))) := by
  have hok := set_ok_iff (t := t) (x := x) hlen
  have hne : (∃ e, setPath t (q ++ [k]) x = .error e) ↔ ¬ ∃ t', setPath t (q ++ [k]) x = .ok t' := by
    cases setPath t (q ++ [k]) x <;> simp
  rw [hne, hok]
  cases hg : getPath t q with
  | none => simp
  | some c =>
    cases c with
    | leaf s => simp [Assignable]
    | dict es => simp [Assignable]
    | list xs =>
      cases k with
      | str s => simp [Assignable]
      | int z => cases hz : pyIndex xs.length z <;> simp [Assignable, hz]

theorem setAux_too_deep {x : Val} : ∀ (n : Nat) (p : List Key) (ii : Nat) (t c : Val), ii + n = 9 → n + 2 ≤ p.length →
    getPath t (p.take (n + 1)) = some c → c.isLeaf = false → setPathAux ii t p x = .error .recursionError
  | _, [], _, _, _, _, hl, _, _ => by simp at hl
  | _, [_], _, _, _, _, hl, _, _ => by simp at hl
  | 0, k :: k2 :: p', ii, t, c, hii, _, hg, hc => by
    obtain ⟨c1, hch, hg⟩ := getPath_cons_some (p := []) hg
    cases hg
    rw [setPathAux_cons (List.cons_ne_nil _ _), hch]
    simp [hc, show ii + 1 = 10 by omega]
  | n + 1, k :: k2 :: p', ii, t, c, hii, hl, hg, hc => by
    obtain ⟨c1, hch, hg⟩ := getPath_cons_some (p := (k2 :: p').take (n + 1)) hg
    have hleaf : c1.isLeaf = false := by
      cases c1 with
      | leaf s => rw [List.take_succ_cons, getPath_leaf_cons] at hg; cases hg
      | dict es => rfl
      | list xs => rfl
    rw [setPathAux_step (List.cons_ne_nil _ _) hch hleaf (by omega),
      setAux_too_deep n (k2 :: p') (ii + 1) c1 c (by omega) (by simp only [List.length_cons] at hl ⊢; omega) hg hc]
    rfl

/-- (4c) a path of 11 or more keys whose first ten descents all succeed into containers raises
    `RecursionError` (whatever follows) -/
theorem set_too_deep {t c x : Val} {p : List Key} (hlen : p.length ≥ 11)
    (hg : getPath t (p.take 10) = some c) (hc : c.isLeaf = false) : setPath t p x = .error .recursionError :=
  setAux_too_deep 9 p 0 t c rfl (by omega) hg hc

/-! #### `find_global_key` -/

/-- (5) a found path leads to a scalar leaf that matches -/
theorem find_sound {m : Scalar → Bool} {t : Val} {p : List Key} (hn : NodupKeysV t) (h : findKey m t = some p) :
    ∃ x, getPath t p = some (.leaf x) ∧ m x = true := by
  unfold findKey at h
  obtain ⟨x, hx, hm⟩ := hit_sound m (deepSortV t) p (nodup_deepSortV t hn) (hit_of_findRawV h)
  rw [getPath_deepSort p t hn] at hx
  cases hg : getPath t p with
  | none => simp [hg] at hx
  | some w =>
    simp only [hg, Option.map_some, Option.some.injEq] at hx
    exact ⟨x, by rw [deepSortV_eq_leaf hx], hm⟩

theorem find_ne_nil {m : Scalar → Bool} {t : Val} {p : List Key} (hn : NodupKeysV t) (h : findKey m t = some p) : p ≠ [] := by
  intro e
  subst e
  obtain ⟨x, hx, _⟩ := find_sound hn h
  simp only [getPath, Option.some.injEq] at hx
  subst hx
  simp [findKey, deepSortV, findRawV] at h

/-- (6, general form, any `t`) the search fails exactly when no *non-empty* path leads to a matching leaf -/
theorem find_complete' {m : Scalar → Bool} {t : Val} (hn : NodupKeysV t) :
    findKey m t = none ↔ ¬ ∃ p x, p ≠ [] ∧ getPath t p = some (.leaf x) ∧ m x = true := by
  constructor
  · rintro h ⟨p, x, hp, hg, hm⟩
    cases p with
    | nil => exact hp rfl
    | cons k p' =>
      have hg' : getPath (deepSortV t) (k :: p') = some (.leaf x) := by
        rw [getPath_deepSort _ t hn, hg]; rfl
      have := findRawV_none h k p' x hg'
      rw [hm] at this
      cases this
  · intro h
    cases hf : findKey m t with
    | none => rfl
    | some p =>
      obtain ⟨x, hx, hm⟩ := find_sound hn hf
      exact absurd ⟨p, x, find_ne_nil hn hf, hx, hm⟩ h

/-- the full statement of (6) as first written, for reference: it is false for a root that is itself a
    matching leaf (`getPath t [] = some t`, while the search only looks *inside* `t`), see `find_complete_leaf_cex` -/
def FindCompleteUnrestricted : Prop :=
  ∀ (m : Scalar → Bool) (t : Val), NodupKeysV t →
    (findKey m t = none ↔ ¬ ∃ p x, getPath t p = some (.leaf x) ∧ m x = true)

theorem find_complete_leaf_cex : ¬ FindCompleteUnrestricted := by
  intro h
  have := (h (fun _ => true) (.leaf .none) trivial).mp rfl
  exact this ⟨[], .none, rfl, rfl⟩

/-- (6) for a container root (`find_global_key` is called on a dict) the search fails exactly when no path
    leads to a matching leaf.  Added hypothesis: `t.isLeaf = false` (decidable), needed by `find_complete_leaf_cex`. -/
theorem find_complete {m : Scalar → Bool} {t : Val} (hn : NodupKeysV t) (ht : t.isLeaf = false) :
    findKey m t = none ↔ ¬ ∃ p x, getPath t p = some (.leaf x) ∧ m x = true := by
  rw [find_complete' hn]
  constructor
  · rintro h ⟨p, x, hg, hm⟩
    refine h ⟨p, x, ?_, hg, hm⟩
    rintro rfl
    simp only [getPath, Option.some.injEq] at hg
    subst hg
    simp [Val.isLeaf] at ht
  · rintro h ⟨p, x, _, hg, hm⟩
    exact h ⟨p, x, hg, hm⟩

/-- the unique-keys hypothesis of (5) is needed: with a duplicated key the search looks into an entry
    that `d[k]` cannot reach -/
example : ¬ ∀ (m : Scalar → Bool) (t : Val) (p : List Key), findKey m t = some p → ∃ x, getPath t p = some (.leaf x) ∧ m x = true := by
  intro h
  obtain ⟨x, hx, hm⟩ := h (fun s => s == .int 1) (.dict [(.int 0, .leaf .none), (.int 0, .leaf (.int 1))]) [.int 0]
    (by simp [findKey, deepSortV, deepSortEs, sortBy, insertBy, Key.le, findRawV, findRawEs])
  simp only [getPath, child, lookup, if_true, Option.some.injEq, Val.leaf.injEq] at hx
  subst hx
  simp at hm

/-! #### `global_key_exists` -/

/-- (7a) the existence test is true exactly for paths that lead to a dict through dict nesting only -/
theorem exists_iff_dict_path : ∀ (p : List Key) (es : Entries), pathExists es p = true ↔ ∃ sub, scopeOf es p = some sub
  | [], es => by simp [pathExists, scopeOf]
  | k :: p, es => by
    simp only [pathExists, scopeOf]
    cases hl : lookup k es with
    | none => simp
    | some v =>
      cases v with
      | leaf s => simp
      | list xs => simp
      | dict sub => exact exists_iff_dict_path p sub

/-- (7b) … and such a path dereferences to that dict -/
theorem scopeOf_getPath : ∀ (p : List Key) (es sub : Entries), scopeOf es p = some sub → getPath (.dict es) p = some (.dict sub)
  | [], es, sub, h => by
    simp only [scopeOf, Option.some.injEq] at h
    simp [getPath, h]
  | k :: p, es, sub, h => by
    simp only [scopeOf] at h
    cases hl : lookup k es with
    | none => simp [hl] at h
    | some v =>
      cases v with
      | leaf s => simp [hl] at h
      | list xs => simp [hl] at h
      | dict d =>
        simp only [hl] at h
        simp only [getPath, child, hl]
        exact scopeOf_getPath p d sub h

/-- (7c) the test is *false* for a path that reaches a dict through a list element -/
example : getPath (.dict [(.str ['a'], .list [.dict []])]) [.str ['a'], .int 0] = some (.dict []) ∧
    pathExists [(.str ['a'], .list [.dict []])] [.str ['a'], .int 0] = false := by decide

/-! #### `reduce_scope` -/

/-- (8a) reducing to an existing dict scope: the data become that sub-dict (rebuilt by `update`, then `_clean`) -/
theorem reduce_scope_exact {s : SD} {scope : List Key} {sub : Entries} (hs : scope ≠ []) (h : scopeOf s.data scope = some sub) :
    s.reduceScope scope = SD.clean { s with data := updateD [] sub } := by
  cases scope with
  | nil => exact absurd rfl hs
  | cons k p => simp only [SD.reduceScope, h]

/-- (8a') with unique keys in the sub-dict, the rebuilt dict is the sub-dict itself -/
theorem reduce_scope_exact_nodup {s : SD} {scope : List Key} {sub : Entries} (hs : scope ≠ []) (h : scopeOf s.data scope = some sub)
    (hn : (keys sub).Nodup) : s.reduceScope scope = SD.clean { s with data := sub } := by
  rw [reduce_scope_exact hs h, updateD_nil_left _ hn]

/-- (8b) a scope that does not lead to a dict through dicts leaves everything as it was -/
theorem reduce_scope_noop {s : SD} {scope : List Key} (h : scopeOf s.data scope = none) : s.reduceScope scope = s := by
  cases scope with
  | nil => rfl
  | cons k p => simp only [SD.reduceScope, h]

/-- (8c) the empty scope is a no-op -/
theorem reduce_scope_empty (s : SD) : s.reduceScope [] = s := rfl


/-! #### non-vacuity -/

section Examples

/-- `{'a': [7, {3: 'x', 'b': True}], 2: None}` : a dict containing a list containing a dict, mixed keys -/
private def t0 : Val :=
  .dict [(.str ['a'], .list [.leaf (.int 7), .dict [(.int 3, .leaf (.str ['x'])), (.str ['b'], .leaf (.bool true))]]),
         (.int 2, .leaf .none)]

/-- `t0` after `t0['a'][1]['b'] = 9` -/
private def t1 : Val :=
  .dict [(.str ['a'], .list [.leaf (.int 7), .dict [(.int 3, .leaf (.str ['x'])), (.str ['b'], .leaf (.int 9))]]),
         (.int 2, .leaf .none)]

private def p0 : List Key := [.str ['a'], .int 1, .str ['b']]
private def q0 : List Key := [.str ['a'], .int 1, .int 3]

private theorem set0 : setPath t0 p0 (.leaf (.int 9)) = .ok t1 := rfl

/-- (1) instantiated -/
example : getPath t1 p0 = some (.leaf (.int 9)) := set_get set0 (by decide)

/-- (2) instantiated: the sibling entry `t0['a'][1][3]` is untouched (and is really there) -/
example : getPath t1 q0 = getPath t0 q0 ∧ getPath t0 q0 = some (.leaf (.str ['x'])) :=
  ⟨set_frame set0 (by decide) (by decide) (by decide), by decide⟩

/-- (3) instantiated -/
example : ∀ es', t1 = .dict es' → keys es' = [.str ['a'], .int 2] := by
  intro es' h
  have hs : setPath (.dict _) p0 (.leaf (.int 9)) = .ok (.dict es') := h ▸ set0
  exact set_keeps_key_order hs ⟨_, (by decide : getPath t0 p0 = some (.leaf (.bool true)))⟩

/-- (4b) instantiated: `t0['a'][5]['b'] = 9` raises -/
example : ∃ e, setPath t0 ([.str ['a'], .int 5] ++ [.str ['b']]) (.leaf (.int 9)) = .error e :=
  (set_fails_iff (by decide)).mpr (Or.inl (by decide))

private def nest : Nat → Val
  | 0 => .dict []
  | n + 1 => .dict [(.int 0, nest n)]

/-- (4c) instantiated: eleven nested dicts, a path of eleven keys -/
example : setPath (nest 11) (List.replicate 11 (.int 0)) (.leaf .none) = .error .recursionError :=
  set_too_deep (c := nest 1) (by decide) (by decide) (by decide)

private theorem nodup0 : NodupKeysV t0 := by
  simp [t0, NodupKeysV, NodupKeysEs, NodupKeysXs, keys]

private theorem find0 : findKey (fun s => s == .bool true) t0 = some p0 := by
  simp [t0, p0, findKey, deepSortV, deepSortEs, deepSortXs, sortBy, insertBy, Key.le, findRawV, findRawEs, findRawXs]

/-- (5) instantiated -/
example : ∃ x, getPath t0 p0 = some (.leaf x) ∧ (fun s => s == .bool true) x = true := find_sound nodup0 find0

/-- (6) instantiated: nothing in `t0` equals `False` -/
example : findKey (fun s => s == .bool false) t0 = none ∧
    ¬ ∃ p x, getPath t0 p = some (.leaf x) ∧ (fun s => s == .bool false) x = true := by
  have h : findKey (fun s => s == .bool false) t0 = none := by
    simp [t0, findKey, deepSortV, deepSortEs, deepSortXs, sortBy, insertBy, Key.le, findRawV, findRawEs, findRawXs]
  exact ⟨h, (find_complete nodup0 rfl).mp h⟩

/-- `{'a': {1: {'k': None, 'l': [ {} ]}}, 'z': 0}` -/
private def s0 : SD :=
  { data := [(.str ['a'], .dict [(.int 1, .dict [(.str ['k'], .leaf .none), (.str ['l'], .list [.dict []])])]),
             (.str ['z'], .leaf (.int 0))] }

private def sub0 : Entries := [(.str ['k'], .leaf .none), (.str ['l'], .list [.dict []])]

private theorem scope0 : scopeOf s0.data [.str ['a'], .int 1] = some sub0 := by decide

/-- (7) instantiated -/
example : pathExists s0.data [.str ['a'], .int 1] = true := (exists_iff_dict_path _ _).mpr ⟨_, scope0⟩

/-- (8) instantiated -/
example : s0.reduceScope [.str ['a'], .int 1] = SD.clean { s0 with data := sub0 } :=
  reduce_scope_exact_nodup (by decide) scope0 (by decide)

example : s0.reduceScope [.str ['a'], .int 0] = s0 := reduce_scope_noop (by decide)

end Examples

end DictIO.C14
