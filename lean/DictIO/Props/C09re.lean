/-
  C09 -- the regular expressions of the library functions this property's model was written against, pinned against the
  table regenerated from the sources on every run (Generated/Regex.lean, harness/extract_regex.py).  After a changed
  pattern the row stated below is no longer in the table and the membership proof fails: the hand-written recogniser
  of the model is then no longer justified, and the check searches for a failing input.
  Generated by tools/mkrepins.py (never run by a check).
-/
import DictIO.Lemmas.Regex

namespace DictIO.C09.Re
open DictIO.Gen

theorem re_parser_JsonParser__extract_includes :
    regexesOf "parser.py" "JsonParser._extract_includes" = ["search:^\\s*#\\s*include"] :=
  regexesOf_of_mem (by simp only [regexTable, List.mem_cons, true_or, or_true])

theorem re_parser_JsonParser__extract_expression :
    regexesOf "parser.py" "JsonParser._extract_expression" = ["findall:search_pattern=[\\$\\w[\\w\\[\\]]* | ^\\s*(\\$\\w[\\w\\[\\]]*){1}\\s*$]", "search:search_pattern=[\\$\\w[\\w\\[\\]]* | ^\\s*(\\$\\w[\\w\\[\\]]*){1}\\s*$]"] :=
  regexesOf_of_mem (by simp only [regexTable, List.mem_cons, true_or, or_true])

theorem re_parser_JsonParser__replace_and_register_expression :
    regexesOf "parser.py" "JsonParser._replace_and_register_expression" = ["compile:{re.escape(expression)}", "sub:_pattern=[{re.escape(expression)}]"] :=
  regexesOf_of_mem (by simp only [regexTable, List.mem_cons, true_or, or_true])

theorem re_formatter_JsonFormatter_insert_includes :
    regexesOf "formatter.py" "JsonFormatter.insert_includes" = ["sub:search_pattern=[\"INCLUDE{key:06d}\"\\s*:\\s*\"INCLUDE{key:06d}\"]"] :=
  regexesOf_of_mem (by simp only [regexTable, List.mem_cons, true_or, or_true])

theorem re_dict__value_contains_circular_reference :
    regexesOf "dict.py" "_value_contains_circular_reference" = ["fullmatch:(BLOCKCOMMENT|INCLUDE|LINECOMMENT)\\d{6}", "search:\\${re.escape(key)}(?!\\w)"] :=
  regexesOf_of_mem (by simp only [regexTable, List.mem_cons, true_or, or_true])

theorem re_dict__insert_expression :
    regexesOf "dict.py" "_insert_expression" = ["search:EXPRESSION\\d{6}", "search:\\d{6}"] :=
  regexesOf_of_mem (by simp only [regexTable, List.mem_cons, true_or, or_true])

end DictIO.C09.Re
