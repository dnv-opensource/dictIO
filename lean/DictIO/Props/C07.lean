/-
  C07 -- `SDict` behaves like a builtin `dict` for the mapping operations; `merge` never
  overwrites (except the documented self-reference placeholder), recurses into dicts present on
  both sides, appends new keys in order, and is idempotent; `_clean` is the identity on data
  without placeholder keys.
  Model: `step`/`dstep`, `mergeD`, `SD.clean`, `Tbl.merge`/`Tbl.update` (Model/Dict.lean).  The merge is reasoned
  about through one round of its loop (`mstep`, `mergeVal` and their lemmas in Lemmas/Merge.lean).

  Layout: specification vocabulary, helper lemmas, then the property theorems
  A (`clean_id`), B (`step_refines`, `step_preserves_*`, `run_refines*`), C (`merge_*`, `tbl_*`,
  `merge_tables`, `update_tables`), D (non-vacuity examples, necessity of the added hypotheses); at the end
  `clean_of_top` (placeholders at the top level only).

  Standing hypothesis added to A and B: `NodupKeysV (.dict s.data)` (unique keys in every dict,
  `NodupKeysV` of Lemmas/Assoc; true of every Python value).  The association-list model admits repeated
  keys and on those `_clean` is *not* the identity (`clean_id_needs_nodup`).
-/
import DictIO.Lemmas.Clean
import DictIO.Lemmas.Tbl
import DictIO.Lemmas.Merge

namespace DictIO.C07
open DictIO

/-! ## specification vocabulary (the definitions the statements are written with; `isPhKey`, the keys `_clean_data`
    looks at, is defined in Lemmas/Clean.lean) -/

mutual
  /-- no placeholder key at any dict level reachable through dict nesting (lists are opaque) -/
  def NoPhV : Val → Prop
    | .dict es => NoPhEs es
    | _ => True
  def NoPhEs : Entries → Prop
    | [] => True
    | (k, v) :: es => isPhKey k = false ∧ NoPhV v ∧ NoPhEs es
end

/-- the operations that builtin `dict` has too (everything but `merge`) -/
def _root_.DictIO.Op.isDictOp : Op → Bool
  | .merge _ => false
  | _ => true

/-- no dict handed to the operation has a placeholder key at any dict level, and no key that is
    set is a placeholder key -/
def _root_.DictIO.Op.NoPh : Op → Prop
  | .setitem k v => isPhKey k = false ∧ NoPhV v
  | .setdefault k v => isPhKey k = false ∧ NoPhV v
  | .update a => NoPhEs a.data
  | .ior a => NoPhEs a.data
  | .or a => NoPhEs a.data
  | .merge a => NoPhEs a.data
  | .ror o => NoPhEs o
  | .construct o => NoPhEs o
  | _ => True

/-- every dict *inside* the arguments has unique keys (true of every Python value).  The item
    sequence given to `update`/`|`/`merge`/the constructor may itself repeat a key (a pair list);
    the left operand of `o | s` is a dict. -/
def _root_.DictIO.Op.NodupKeys : Op → Prop
  | .setitem _ v => NodupKeysV v
  | .setdefault _ v => NodupKeysV v
  | .update a => NodupKeysEs a.data
  | .ior a => NodupKeysEs a.data
  | .or a => NodupKeysEs a.data
  | .merge a => NodupKeysEs a.data
  | .ror o => NodupKeysV (.dict o)
  | .construct o => NodupKeysEs o
  | _ => True

/-- the trace of a program on an `SDict`: data and result after every operation -/
def runS : SD → List Op → List (Entries × Out)
  | _, [] => []
  | s, op :: ops => ((step s op).1.data, (step s op).2) :: runS (step s op).1 ops

/-- the trace of the same program on a builtin `dict` -/
def runD : Entries → List Op → List (Entries × Out)
  | _, [] => []
  | d, op :: ops => dstep d op :: runD (dstep d op).1 ops

/-- the value reached by following a key path through nested dicts (not through lists) -/
def getV : Val → List Key → Option Val
  | v, [] => some v
  | .dict es, k :: p => match lookup k es with
    | some w => getV w p
    | none => none
  | _, _ :: _ => none

def getD (es : Entries) (p : List Key) : Option Val := getV (.dict es) p

/-! #### `_clean` on placeholder-free data -/

theorem noPhEs_iff : ∀ {es : Entries}, NoPhEs es ↔ ∀ e ∈ es, isPhKey e.1 = false ∧ NoPhV e.2
  | [] => by simp [NoPhEs]
  | (k, v) :: es => by simp [NoPhEs, noPhEs_iff (es := es), and_assoc]

theorem cleanLevel_id (s : SD) (lvl : Entries) (h : ∀ k ∈ keys lvl, isPhKey k = false) :
    cleanLevel s lvl = (s, lvl) := by
  obtain ⟨hB, hI, hL⟩ := filter_sel_noPh h
  rw [cleanLevel_eq, cleanStep_nil_sel hB, cleanStep_nil_sel hI, cleanStep_nil_sel hL]

theorem noPhEs_keys {lvl : Entries} (hp : NoPhEs lvl) : ∀ k ∈ keys lvl, isPhKey k = false := by
  intro k hk
  obtain ⟨e, he, rfl⟩ := List.mem_map.mp hk
  exact (noPhEs_iff.mp hp e he).1

theorem cleanRec_id (fuel : Nat) (s : SD) (lvl : Entries) (hn : NodupKeysV (.dict lvl)) (hp : NoPhEs lvl) :
    cleanRec fuel s lvl = (s, lvl) :=
  cleanRec_fixed (F := fun _ lvl => NodupKeysV (.dict lvl) ∧ NoPhEs lvl)
    (fun s lvl h => cleanLevel_id s lvl (noPhEs_keys h.2)) (fun _ _ h => h.1.1)
    (fun _ _ _ _ h he => ⟨nodupKeysEs_iff.mp h.1.2 _ he, (noPhEs_iff.mp h.2 _ he).2⟩) fuel s lvl ⟨hn, hp⟩

/-- the tables are untouched by `_clean` when no placeholder key is present — this half needs no
    key uniqueness -/
theorem cleanRec_fst (fuel : Nat) (s : SD) (lvl : Entries) (hp : NoPhEs lvl) : (cleanRec fuel s lvl).1 = s :=
  cleanRec_induct (Pre := fun _ lvl => NoPhEs lvl) (M := fun s _ s' _ => s' = s) (fun _ _ _ => rfl)
    (fun s lvl h => by rw [cleanLevel_id s lvl (noPhEs_keys h)])
    (fun s lvl _ _ _ _ h _ he => by rw [cleanLevel_id s lvl (noPhEs_keys h)] at he; exact (noPhEs_iff.mp h _ he).2)
    (fun _ _ _ _ _ _ _ _ _ hm _ hr => hr.trans hm) fuel s lvl hp

/-! #### preservation of the two invariants by the dict primitives -/

theorem noPhEs_setKey {k : Key} {v : Val} {es : Entries} (h : NoPhEs es) (hk : isPhKey k = false) (hv : NoPhV v) :
    NoPhEs (setKey k v es) :=
  noPhEs_iff.mpr (forall_mem_setKey (noPhEs_iff.mp h) ⟨hk, hv⟩)

theorem noPhEs_delKey {k : Key} {es : Entries} (h : NoPhEs es) : NoPhEs (delKey k es) :=
  noPhEs_iff.mpr (forall_mem_delKey (noPhEs_iff.mp h))

theorem noPhEs_updateD {o t : Entries} (ht : NoPhEs t) (ho : NoPhEs o) : NoPhEs (updateD t o) :=
  noPhEs_iff.mpr (forall_mem_updateD (noPhEs_iff.mp ht) (noPhEs_iff.mp ho))

theorem noPhEs_mergeD (exprs : Tbl ExprEntry) (top : Bool) (t o : Entries) (ht : NoPhEs t) (ho : NoPhEs o) :
    NoPhEs (mergeD top exprs t o) :=
  mergeD_forall (ι := Unit) exprs (P := fun _ => NoPhEs) (Q := fun _ e => isPhKey e.1 = false ∧ NoPhV e.2)
    (fun _ _ => noPhEs_iff) (fun _ _ _ _ h1 h2 ih => ⟨h1.1, ih () h1.2 h2.2⟩) top t o () ht ho

theorem nodupV_delKey {k : Key} {es : Entries} (h : NodupKeysV (.dict es)) : NodupKeysV (.dict (delKey k es)) :=
  ⟨nodup_keys_delKey h.1, nodupKeysEs_iff.mpr (forall_mem_delKey (nodupKeysEs_iff.mp h.2))⟩

theorem nodupV_nil : NodupKeysV (.dict []) := ⟨List.nodup_nil, trivial⟩

/-! #### key paths -/

theorem getD_cons (es : Entries) (k : Key) (p : List Key) :
    getD es (k :: p) = match lookup k es with | some w => getV w p | none => none := rfl

theorem getV_nondict_cons {w : Val} (hw : w.isDict = false) (k : Key) (p : List Key) : getV w (k :: p) = none := by
  cases w with
  | dict es => simp [Val.isDict] at hw
  | _ => rfl

/-! ## A. `_clean` is the identity without placeholder keys -/

/-- **A.** `_clean` changes nothing (data and all four tables) when no key is a comment/include
    placeholder.  Key uniqueness at every dict level (`NodupKeysV`, which every Python value
    satisfies) is needed: see `clean_id_needs_nodup`. -/
theorem clean_id (s : SD) (hn : NodupKeysV (.dict s.data)) (hp : NoPhEs s.data) : s.clean = s := by
  rw [SD.clean_eq, cleanRec_id _ s s.data hn hp]

/-- the association-list model admits duplicate keys, and on those `_clean`'s write-back
    `data[key] = cleaned sub-dict` hits the first occurrence: without `NodupKeysV` the unrestricted
    statement `NoPhEs s.data → s.clean = s` is false -/
theorem clean_id_needs_nodup :
    ¬ ∀ s : SD, NoPhEs s.data → s.clean = s := by
  intro h
  have := h { data := [(.int 1, .dict []), (.int 1, .dict [(.int 2, .leaf .none)])] }
    (by simp [NoPhEs, NoPhV, isPhKey])
  have := congrArg SD.data this
  revert this
  decide

theorem clean_tables (s : SD) (hp : NoPhEs s.data) :
    s.clean.exprs = s.exprs ∧ s.clean.lineC = s.lineC ∧ s.clean.blockC = s.blockC ∧ s.clean.incl = s.incl := by
  rw [SD.clean_eq, cleanRec_fst _ s s.data hp]
  exact ⟨rfl, rfl, rfl, rfl⟩

/-! #### consequence for the operations that run `_clean` -/

theorem postUpdate_data (s : SD) (a : Arg) : (s.postUpdate a).data = s.data := by cases a <;> rfl
theorem postMerge_data (s : SD) (a : Arg) : (s.postMerge a).data = s.data := by cases a <;> rfl

/-- `update` written out for the two kinds of argument, to rewrite with: matching a state against `s.update a` by
    unification would unfold `_clean` -/
theorem update_plain_eq (s : SD) (o : Entries) : s.update (.plain o) = ({ s with data := updateD s.data o } : SD).clean := rfl

theorem update_sd_eq (s m : SD) :
    s.update (.sd m) =
      ({ data := updateD s.data m.data, exprs := s.exprs.update m.exprs, lineC := s.lineC.update m.lineC,
         blockC := s.blockC.update m.blockC, incl := s.incl.update m.incl } : SD).clean := rfl

theorem update_eq (s : SD) (a : Arg) (hn : NodupKeysV (.dict (updateD s.data a.data))) (hp : NoPhEs (updateD s.data a.data)) :
    s.update a = ({ s with data := updateD s.data a.data }).postUpdate a := by
  unfold SD.update
  exact clean_id _ (by rw [postUpdate_data]; exact hn) (by rw [postUpdate_data]; exact hp)

theorem merge_eq (s : SD) (a : Arg) (hn : NodupKeysV (.dict (mergeD true s.exprs s.data a.data)))
    (hp : NoPhEs (mergeD true s.exprs s.data a.data)) :
    s.merge a = ({ s with data := mergeD true s.exprs s.data a.data }).postMerge a := by
  unfold SD.merge
  exact clean_id _ (by rw [postMerge_data]; exact hn) (by rw [postMerge_data]; exact hp)

theorem or_eq (s : SD) (a : Arg) (hn : NodupKeysV (.dict (updateD s.data a.data))) (hp : NoPhEs (updateD s.data a.data)) :
    s.or a = ({ data := updateD s.data a.data } : SD).postUpdate a := by
  unfold SD.or
  exact clean_id _ (by rw [postUpdate_data]; exact hn) (by rw [postUpdate_data]; exact hp)

theorem ror_eq (s : SD) (o : Entries) (hn : NodupKeysV (.dict (updateD o s.data))) (hp : NoPhEs (updateD o s.data)) :
    s.ror o = ({ data := updateD o s.data } : SD).postUpdate (.sd s) := by
  unfold SD.ror
  exact clean_id _ (by rw [postUpdate_data]; exact hn) (by rw [postUpdate_data]; exact hp)

/-! ## B. refinement to builtin `dict` -/

/-- **B1.** every non-merge operation of `SDict` does to the data exactly what the builtin `dict`
    operation does, and returns the same result, as long as no placeholder key is around
    (so that `_clean` has nothing to do).  `NodupKeysV`/`NodupKeys` (unique keys in every dict) are
    the standing well-formedness of Python values; see `step_refines_needs_nodup`. -/
theorem step_refines (s : SD) (op : Op) (hn : NodupKeysV (.dict s.data)) (hp : NoPhEs s.data)
    (hd : op.isDictOp = true) (hop : op.NoPh) (hon : op.NodupKeys) :
    (step s op).1.data = (dstep s.data op).1 ∧ (step s op).2 = (dstep s.data op).2 := by
  cases op with
  | merge a => simp [Op.isDictOp] at hd
  | setitem k v => exact ⟨rfl, rfl⟩
  | delitem k => simp only [step, dstep]; split <;> exact ⟨rfl, rfl⟩
  | pop k => simp only [step, dstep]; split <;> exact ⟨rfl, rfl⟩
  | popDefault k => simp only [step, dstep]; split <;> exact ⟨rfl, rfl⟩
  | setdefault k v => simp only [step, dstep]; split <;> exact ⟨rfl, rfl⟩
  | clear => exact ⟨rfl, rfl⟩
  | construct o => exact ⟨rfl, rfl⟩
  | copy =>
    simp only [step, dstep]
    rw [clean_id _ (nodupV_updateD nodupV_nil hn.2) (noPhEs_updateD (t := []) (by simp [NoPhEs]) hp)]
    exact ⟨rfl, trivial⟩
  | update a =>
    simp only [step, dstep, update_eq s a (nodupV_updateD hn hon) (noPhEs_updateD hp hop), postUpdate_data]
    exact ⟨trivial, trivial⟩
  | ior a =>
    simp only [step, dstep, update_eq s a (nodupV_updateD hn hon) (noPhEs_updateD hp hop), postUpdate_data]
    exact ⟨trivial, trivial⟩
  | or a =>
    simp only [step, dstep, or_eq s a (nodupV_updateD hn hon) (noPhEs_updateD hp hop), postUpdate_data]
    exact ⟨trivial, trivial⟩
  | ror o =>
    simp only [step, dstep, ror_eq s o (nodupV_updateD hon hn.2) (noPhEs_updateD hop hp), postUpdate_data]
    exact ⟨trivial, trivial⟩

/-- on an association list with a repeated key `_clean` (run by `update`) is not the identity, so
    the unrestricted refinement statement fails in the model (never for a Python dict) -/
theorem step_refines_needs_nodup :
    ¬ ∀ (s : SD) (op : Op), NoPhEs s.data → op.isDictOp = true → op.NoPh →
        (step s op).1.data = (dstep s.data op).1 ∧ (step s op).2 = (dstep s.data op).2 := by
  intro h
  have := (h { data := [(.int 1, .dict []), (.int 1, .dict [(.int 2, .leaf .none)])] } (.update (.plain []))
    (by simp [NoPhEs, NoPhV, isPhKey]) rfl (by simp [Op.NoPh, Arg.data, NoPhEs])).1
  revert this
  decide


theorem step_preserves (s : SD) (op : Op) (hn : NodupKeysV (.dict s.data)) (hp : NoPhEs s.data)
    (hop : op.NoPh) (hon : op.NodupKeys) :
    NodupKeysV (.dict (step s op).1.data) ∧ NoPhEs (step s op).1.data := by
  cases op with
  | setitem k v => exact ⟨nodupV_setKey hn hon, noPhEs_setKey hp hop.1 hop.2⟩
  | delitem k =>
    simp only [step]; split
    · exact ⟨nodupV_delKey hn, noPhEs_delKey hp⟩
    · exact ⟨hn, hp⟩
  | pop k =>
    simp only [step]; split
    · exact ⟨nodupV_delKey hn, noPhEs_delKey hp⟩
    · exact ⟨hn, hp⟩
  | popDefault k =>
    simp only [step]; split
    · exact ⟨nodupV_delKey hn, noPhEs_delKey hp⟩
    · exact ⟨hn, hp⟩
  | setdefault k v =>
    simp only [step]; split
    · exact ⟨hn, hp⟩
    · exact ⟨nodupV_setKey hn hon, noPhEs_setKey hp hop.1 hop.2⟩
  | clear => exact ⟨nodupV_nil, trivial⟩
  | construct o => exact ⟨nodupV_updateD nodupV_nil hon, noPhEs_updateD (t := []) trivial hop⟩
  | copy =>
    have h1 := nodupV_updateD nodupV_nil hn.2
    have h2 := noPhEs_updateD (t := []) trivial hp
    simp only [step]
    rw [clean_id _ h1 h2]
    exact ⟨h1, h2⟩
  | update a =>
    have h1 := nodupV_updateD hn hon
    have h2 := noPhEs_updateD hp hop
    simp only [step, update_eq s a h1 h2, postUpdate_data]
    exact ⟨h1, h2⟩
  | ior a =>
    have h1 := nodupV_updateD hn hon
    have h2 := noPhEs_updateD hp hop
    simp only [step, update_eq s a h1 h2, postUpdate_data]
    exact ⟨h1, h2⟩
  | or a =>
    have h1 := nodupV_updateD hn hon
    have h2 := noPhEs_updateD hp hop
    simp only [step, or_eq s a h1 h2, postUpdate_data]
    exact ⟨h1, h2⟩
  | ror o =>
    have h1 := nodupV_updateD hon hn.2
    have h2 := noPhEs_updateD hop hp
    simp only [step, ror_eq s o h1 h2, postUpdate_data]
    exact ⟨h1, h2⟩
  | merge a =>
    have h1 := nodupV_mergeD s.exprs true s.data a.data hn hon
    have h2 := noPhEs_mergeD s.exprs true s.data a.data hp hop
    simp only [step, merge_eq s a h1 h2, postMerge_data]
    exact ⟨h1, h2⟩

/-- **B2.** placeholder-freeness is an invariant of every operation (`merge` included) -/
theorem step_preserves_noPh (s : SD) (op : Op) (hn : NodupKeysV (.dict s.data)) (hp : NoPhEs s.data)
    (hop : op.NoPh) (hon : op.NodupKeys) : NoPhEs (step s op).1.data :=
  (step_preserves s op hn hp hop hon).2

/-- **B3.** key uniqueness, at the top level and in every nested dict, is an invariant of every
    operation (`merge` included) -/
theorem step_preserves_nodup (s : SD) (op : Op) (hn : NodupKeysV (.dict s.data)) (hp : NoPhEs s.data)
    (hop : op.NoPh) (hon : op.NodupKeys) :
    (keys (step s op).1.data).Nodup ∧ NodupKeysEs (step s op).1.data :=
  (step_preserves s op hn hp hop hon).1

/-- **B4.** any program of dict operations: same data after the whole program … -/
theorem run_refines (ops : List Op) : ∀ (s : SD), NodupKeysV (.dict s.data) → NoPhEs s.data →
    (∀ op ∈ ops, op.isDictOp = true ∧ op.NoPh ∧ op.NodupKeys) →
    (ops.foldl (fun st op => (step st op).1) s).data = ops.foldl (fun d op => (dstep d op).1) s.data := by
  induction ops with
  | nil => intros; rfl
  | cons op ops ih =>
    intro s hn hp hops
    obtain ⟨hd, hop, hon⟩ := hops op List.mem_cons_self
    obtain ⟨hn', hp'⟩ := step_preserves s op hn hp hop hon
    simp only [List.foldl_cons]
    rw [ih (step s op).1 hn' hp' (fun o ho => hops o (List.mem_cons_of_mem _ ho)),
      (step_refines s op hn hp hd hop hon).1]

/-- … after every prefix of it … -/
theorem run_refines_prefix (ops : List Op) (n : Nat) (s : SD) (hn : NodupKeysV (.dict s.data)) (hp : NoPhEs s.data)
    (hops : ∀ op ∈ ops, op.isDictOp = true ∧ op.NoPh ∧ op.NodupKeys) :
    ((ops.take n).foldl (fun st op => (step st op).1) s).data
      = (ops.take n).foldl (fun d op => (dstep d op).1) s.data :=
  run_refines (ops.take n) s hn hp fun op ho => hops op (List.mem_of_mem_take ho)

/-- … and the whole trace (data and returned value / `KeyError` after each operation) coincides -/
theorem run_refines_trace (ops : List Op) : ∀ (s : SD), NodupKeysV (.dict s.data) → NoPhEs s.data →
    (∀ op ∈ ops, op.isDictOp = true ∧ op.NoPh ∧ op.NodupKeys) → runS s ops = runD s.data ops := by
  induction ops with
  | nil => intros; rfl
  | cons op ops ih =>
    intro s hn hp hops
    obtain ⟨hd, hop, hon⟩ := hops op List.mem_cons_self
    obtain ⟨hn', hp'⟩ := step_preserves s op hn hp hop hon
    obtain ⟨h1, h2⟩ := step_refines s op hn hp hd hop hon
    simp only [runS, runD]
    rw [ih (step s op).1 hn' hp' (fun o ho => hops o (List.mem_cons_of_mem _ ho)), h1, h2]

/-! ## C. merge algebra -/

/-- **C1.** one-level characterisation of `_recursive_merge`: key by key, a dict on both sides is
    merged recursively, an existing value stays (unless it is a top-level self-reference
    placeholder), a new key gets `b`'s value -/
theorem merge_lookup (top : Bool) (exprs : Tbl ExprEntry) (a b : Entries) (hb : (keys b).Nodup) (k : Key) :
    lookup k (mergeD top exprs a b) =
      match lookup k a, lookup k b with
      | some (.dict ad), some (.dict bd) => some (.dict (mergeD false exprs ad bd))
      | some av, some bv => if top && selfRef exprs k av then some bv else some av
      | some av, none => some av
      | none, bv => bv := by
  rw [merge_lookup_mergeVal top exprs k b a hb]
  rfl


/-- **C2.** key order: the keys of `a` stay where they are, the new keys of `b` follow in `b`'s order -/
theorem merge_keys (top : Bool) (exprs : Tbl ExprEntry) : ∀ (b a : Entries), (keys b).Nodup →
    keys (mergeD top exprs a b) = keys a ++ (keys b).filter (fun k => !hasKey k a)
  | [], a, _ => by rw [mergeD_nil]; simp [keys]
  | (kb, vb) :: b, a, hb => by
    have hb' : kb ∉ keys b ∧ (keys b).Nodup := List.nodup_cons.mp hb
    rw [mergeD_cons, merge_keys top exprs b _ hb'.2, keys_mstep]
    have hfilter : (keys b).filter (fun k => !hasKey k (mstep top exprs a kb vb))
        = (keys b).filter (fun k => !hasKey k a) := by
      apply List.filter_congr
      intro k hk
      have : ¬ kb = k := fun e => hb'.1 (e ▸ hk)
      simp [hasKey_mstep, this]
    rw [hfilter]
    cases h : hasKey kb a <;> simp [keys, h]

/-- **C3.** an existing non-dict value is never overwritten — except the documented case: at the
    top level of an `SDict`, a value that refers to its own key is a placeholder.
    (No uniqueness hypothesis on `b` is needed.) -/
theorem merge_keeps (top : Bool) (exprs : Tbl ExprEntry) (k : Key) (v : Val) : ∀ (b a : Entries),
    lookup k a = some v → v.isDict = false → ¬ (top = true ∧ selfRef exprs k v = true) →
    lookup k (mergeD top exprs a b) = some v
  | [], a, h, _, _ => by rw [mergeD_nil]; exact h
  | (kb, vb) :: b, a, h, hv, hs => by
    rw [mergeD_cons]
    refine merge_keeps top exprs k v b _ ?_ hv hs
    rw [lookup_mstep]
    by_cases hk : kb = k
    · subst hk
      have hc : ¬ (top && selfRef exprs kb v) = true := by simpa using hs
      simp only [if_true, h, mergeVal_some_some top exprs kb (Or.inl hv), hc]
      rfl
    · simp only [hk, if_false]; exact h

/-- **C4.** the same at any depth: a non-dict value reachable in `a` by a key path through dicts is
    still there after the merge.  Below the top level `_recursive_merge` runs with `top = false`, so
    the self-reference exception can only concern a path of length one. -/
theorem merge_keeps_deep (exprs : Tbl ExprEntry) (v : Val) (hv : v.isDict = false) : ∀ (p : List Key) (top : Bool) (a b : Entries),
    getD a p = some v → (∀ k, p = [k] → ¬ (top = true ∧ selfRef exprs k v = true)) →
    getD (mergeD top exprs a b) p = some v
  | [], _, a, _, h, _ => by
    simp only [getD, getV, Option.some.injEq] at h
    subst h; simp [Val.isDict] at hv
  | [k], top, a, b, h, hs => by
    simp only [getD_cons, getV] at h ⊢
    have ha : lookup k a = some v := by
      cases hl : lookup k a with
      | none => rw [hl] at h; simp at h
      | some w => rw [hl] at h; simpa using h
    rw [merge_keeps top exprs k v b a ha hv (hs k rfl)]
  | k :: k' :: p, top, a, b, h, _ => by
    -- the first key leads to a dict `sub`, and keeps doing so while `b` is merged item by item
    obtain ⟨sub, hsub, hget⟩ : ∃ sub, lookup k a = some (.dict sub) ∧ getD sub (k' :: p) = some v := by
      rw [getD_cons] at h
      cases hl : lookup k a with
      | none => rw [hl] at h; simp at h
      | some w =>
        rw [hl] at h
        cases w with
        | dict sub => exact ⟨sub, rfl, h⟩
        | leaf x => simp [getV] at h
        | list xs => simp [getV] at h
    suffices H : ∀ (b a : Entries) (sub : Entries), lookup k a = some (.dict sub) → getD sub (k' :: p) = some v →
        ∃ sub', lookup k (mergeD top exprs a b) = some (.dict sub') ∧ getD sub' (k' :: p) = some v by
      obtain ⟨sub', h1, h2⟩ := H b a sub hsub hget
      rw [getD_cons, h1]; exact h2
    intro b
    induction b with
    | nil => intro a sub h1 h2; rw [mergeD_nil]; exact ⟨sub, h1, h2⟩
    | cons e b ih =>
      obtain ⟨kb, vb⟩ := e
      intro a sub h1 h2
      rw [mergeD_cons]
      by_cases hk : kb = k
      · subst hk
        cases vb with
        | dict od =>
          refine ih _ (mergeD false exprs sub od) ?_ ?_
          · rw [lookup_mstep]; simp only [if_true, h1, mergeVal_dict_dict]
          · exact merge_keeps_deep exprs v hv (k' :: p) false sub od h2 (fun _ _ hc => by simp at hc)
        | leaf x =>
          refine ih _ sub ?_ h2
          rw [lookup_mstep]
          simp only [if_true, h1, mergeVal_some_some top exprs kb (av := .dict sub) (bv := .leaf x) (Or.inr rfl),
            selfRef_dict, Bool.and_false]
          rfl
        | list xs =>
          refine ih _ sub ?_ h2
          rw [lookup_mstep]
          simp only [if_true, h1, mergeVal_some_some top exprs kb (av := .dict sub) (bv := .list xs) (Or.inr rfl),
            selfRef_dict, Bool.and_false]
          rfl
      · refine ih _ sub ?_ h2
        rw [lookup_mstep]; simp only [hk, if_false]; exact h1

/-- **C5.** a key that `a` does not have gets `b`'s value -/
theorem merge_adds (top : Bool) (exprs : Tbl ExprEntry) (a b : Entries) (hb : (keys b).Nodup) (k : Key)
    (h : lookup k a = none) : lookup k (mergeD top exprs a b) = lookup k b := by
  rw [merge_lookup_mergeVal top exprs k b a hb, h]; rfl

/-- **C6.** the documented exception: a top-level self-reference placeholder is filled from `b` -/
theorem merge_fills_selfref (exprs : Tbl ExprEntry) (a b : Entries) (hb : (keys b).Nodup) (k : Key) (v w : Val)
    (ha : lookup k a = some v) (hs : selfRef exprs k v = true) (hw : lookup k b = some w)
    (hnd : v.isDict = false ∨ w.isDict = false) :
    lookup k (mergeD true exprs a b) = some w := by
  rw [merge_lookup_mergeVal true exprs k b a hb, ha, hw, mergeVal_some_some true exprs k hnd]
  simp [hs]

/-- (the side condition of `merge_fills_selfref` is automatic: a self-reference is a string) -/
theorem merge_fills_selfref' (exprs : Tbl ExprEntry) (a b : Entries) (hb : (keys b).Nodup) (k : Key) (v w : Val)
    (ha : lookup k a = some v) (hs : selfRef exprs k v = true) (hw : lookup k b = some w) :
    lookup k (mergeD true exprs a b) = some w :=
  merge_fills_selfref exprs a b hb k v w ha hs hw (Or.inl (selfRef_isDict hs))

/-! #### idempotence -/

/-- merging a dict into itself changes nothing, at the top level of an `SDict` either: a self-reference placeholder is
    overwritten with the value it has -/
theorem mergeD_self (exprs : Tbl ExprEntry) (top : Bool) : ∀ a : Entries, NodupKeysV (.dict a) → mergeD top exprs a a = a := by
  suffices H : ∀ a : Entries, ∀ top, NodupKeysV (.dict a) → mergeD top exprs a a = a from fun a => H a top
  refine Entries.ind_sub fun es ih top hn => mergeD_absorb top exprs es es fun e he =>
    ⟨e.2, lookup_of_mem_nodup hn.1 he, fun td od h1 h2 => ?_, fun _ _ => rfl⟩
  obtain rfl : td = od := Val.dict.inj (h1.symm.trans h2)
  exact ih e he td h1 false (h1 ▸ nodupKeysEs_iff.mp hn.2 e he)

/-- **C8.** `merge` of a dict into itself is a no-op -/
theorem merge_noop_self (exprs : Tbl ExprEntry) (a : Entries) (hn : NodupKeysV (.dict a)) :
    mergeD false exprs a a = a := mergeD_self exprs false a hn


/-- one level of the idempotence proof, given idempotence for the dicts nested in `b` -/
theorem merge_idem_core (top : Bool) (exprs : Tbl ExprEntry) (a b : Entries) (hb : (keys b).Nodup)
    (hsub : ∀ e ∈ b, ∀ bd, e.2 = .dict bd →
      (∀ ad, mergeD false exprs (mergeD false exprs ad bd) bd = mergeD false exprs ad bd) ∧
      mergeD false exprs bd bd = bd) :
    mergeD top exprs (mergeD top exprs a b) b = mergeD top exprs a b := by
  apply mergeD_absorb
  intro e he
  obtain ⟨k, v⟩ := e
  dsimp only
  have hlb : lookup k b = some v := lookup_of_mem_nodup hb he
  rw [merge_lookup_mergeVal top exprs k b a hb, hlb]
  have hself : ∀ td od, v = .dict td → v = .dict od → mergeD false exprs td od = td := by
    intro td od h1 h2
    rw [h1] at h2; cases h2
    exact (hsub (k, v) he td h1).2
  cases hla : lookup k a with
  | none => exact ⟨v, rfl, hself, fun _ _ => rfl⟩
  | some av =>
    by_cases hnd : av.isDict = false ∨ v.isDict = false
    · rw [mergeVal_some_some top exprs k hnd]
      by_cases hc : (top && selfRef exprs k av) = true
      · simp only [hc, if_true]
        exact ⟨v, rfl, hself, fun _ _ => rfl⟩
      · simp only [hc]
        refine ⟨av, rfl, ?_, ?_⟩
        · intro td od h1 h2
          rw [h1, h2] at hnd; simp [Val.isDict] at hnd
        · intro h1 h2
          rw [h1, h2] at hc; simp at hc
    · cases av with
      | dict ad =>
        cases v with
        | dict bd =>
          rw [mergeVal_dict_dict]
          refine ⟨_, rfl, ?_, ?_⟩
          · intro td od h1 h2
            cases h1; cases h2
            exact (hsub (k, .dict bd) he bd rfl).1 ad
          · intro _ h2; rw [selfRef_dict] at h2; exact absurd h2 (by decide)
        | _ => simp [Val.isDict] at hnd
      | _ => simp [Val.isDict] at hnd

/-- **C7.** merging the same dict a second time changes nothing (`b` with unique keys at every level) -/
theorem merge_idem (exprs : Tbl ExprEntry) (a b : Entries) (hb : NodupKeysV (.dict b)) :
    mergeD false exprs (mergeD false exprs a b) b = mergeD false exprs a b :=
  Entries.ind_sub
    (P := fun b => NodupKeysV (.dict b) → ∀ a, mergeD false exprs (mergeD false exprs a b) b = mergeD false exprs a b)
    (fun b ih hb a => merge_idem_core false exprs a b hb.1 fun e he bd h =>
      have hbd : NodupKeysV (.dict bd) := h ▸ nodupKeysEs_iff.mp hb.2 e he
      ⟨ih e he bd h hbd, merge_noop_self exprs bd hbd⟩) b hb a

/-- **C7'.** the same for the outermost call on an `SDict` (`top = true`): a filled self-reference
    placeholder is at worst re-filled with the same value -/
theorem merge_idem_top (exprs : Tbl ExprEntry) (a b : Entries) (hb : NodupKeysV (.dict b)) :
    mergeD true exprs (mergeD true exprs a b) b = mergeD true exprs a b :=
  merge_idem_core true exprs a b hb.1 fun e he bd h =>
    have hbd : NodupKeysV (.dict bd) := h ▸ nodupKeysEs_iff.mp hb.2 e he
    ⟨fun ad => merge_idem exprs ad bd hbd, merge_noop_self exprs bd hbd⟩

/-! #### the id-keyed side tables -/

/-- **C9a.** table merge: an id already in the table keeps its entry -/
theorem tbl_merge_keeps {α} (i : Nat) (x : α) : ∀ (o t : Tbl α),
    Tbl.get? i t = some x → Tbl.get? i (Tbl.merge t o) = some x
  | [], _, h => h
  | (j, a) :: o, t, h => by
    rw [tbl_merge_cons]
    apply tbl_merge_keeps i x o
    split
    · exact h
    · rw [tbl_get_append, h]; rfl

/-- **C9b.** table merge: a new id gets the (first) entry of the other table.
    (No uniqueness of the ids of `o` is needed: the first entry wins on both sides.) -/
theorem tbl_merge_adds {α} (i : Nat) : ∀ (o t : Tbl α),
    Tbl.get? i t = none → Tbl.get? i (Tbl.merge t o) = Tbl.get? i o
  | [], _, h => h
  | (j, a) :: o, t, h => by
    rw [tbl_merge_cons]
    by_cases hj : j = i
    · subst hj
      simp only [h, Option.isSome_none, Bool.false_eq_true, if_false, Tbl.get?, if_true]
      exact tbl_merge_keeps j a o _ (by rw [tbl_get_append, h]; simp)
    · have hnone : Tbl.get? i (if (Tbl.get? (j, a).1 t).isSome then t else t ++ [(j, a)]) = none := by
        split
        · exact h
        · rw [tbl_get_append, h]; simp [hj]
      rw [tbl_merge_adds i o _ hnone]
      simp [Tbl.get?, hj]

/-- **C9c.** table update: the other table's entry wins (ids of `o` unique, as in any Python dict) -/
theorem tbl_update_overrides {α} (i : Nat) : ∀ (o t : Tbl α), (o.map (·.1)).Nodup →
    Tbl.get? i (Tbl.update t o) = (Tbl.get? i o).or (Tbl.get? i t)
  | [], _, _ => by simp [Tbl.update, Tbl.get?]
  | (j, a) :: o, t, hn => by
    have hn' := List.nodup_cons.mp hn
    rw [tbl_update_cons, tbl_update_overrides i o _ hn'.2, tbl_get_set]
    by_cases hj : j = i
    · subst hj
      have : Tbl.get? j o = none := by
        have hnot := hn'.1
        clear hn hn'
        induction o with
        | nil => rfl
        | cons e o ih =>
          simp only [List.map_cons, List.mem_cons, not_or] at hnot
          have : ¬ e.1 = j := fun h => hnot.1 h.symm
          simp [Tbl.get?, this, ih hnot.2]
      simp [Tbl.get?, this]
    · simp [Tbl.get?, hj]

/-- without uniqueness: the *last* entry of `o` for an id wins -/
theorem tbl_update_overrides_last {α} (i : Nat) : ∀ (o t : Tbl α),
    Tbl.get? i (Tbl.update t o) = (Tbl.get? i o.reverse).or (Tbl.get? i t)
  | [], _ => by simp [Tbl.update, Tbl.get?]
  | (j, a) :: o, t => by
    rw [tbl_update_cons, tbl_update_overrides_last i o, tbl_get_set, List.reverse_cons, tbl_get_append]
    cases Tbl.get? i o.reverse <;> by_cases hj : j = i <;> simp [hj]

/-- **C10.** `merge` with an `SDict` argument merges the four tables (existing ids keep their
    entry), provided the merged data has no placeholder key for `_clean` to act on -/
theorem merge_tables (s m : SD) (hp : NoPhEs (mergeD true s.exprs s.data m.data)) :
    (s.merge (.sd m)).exprs = Tbl.merge s.exprs m.exprs ∧
    (s.merge (.sd m)).lineC = Tbl.merge s.lineC m.lineC ∧
    (s.merge (.sd m)).blockC = Tbl.merge s.blockC m.blockC ∧
    (s.merge (.sd m)).incl = Tbl.merge s.incl m.incl := by
  unfold SD.merge
  exact clean_tables _ (by rw [postMerge_data]; exact hp)

/-- the hypothesis of `merge_tables` follows from the same fact about the two operands; with
    unique keys the data is the merged data as well -/
theorem merge_tables' (s m : SD) (hn : NodupKeysV (.dict s.data)) (hp : NoPhEs s.data)
    (hmn : NodupKeysEs m.data) (hmp : NoPhEs m.data) :
    (s.merge (.sd m)).exprs = Tbl.merge s.exprs m.exprs ∧
    (s.merge (.sd m)).lineC = Tbl.merge s.lineC m.lineC ∧
    (s.merge (.sd m)).blockC = Tbl.merge s.blockC m.blockC ∧
    (s.merge (.sd m)).incl = Tbl.merge s.incl m.incl ∧
    (s.merge (.sd m)).data = mergeD true s.exprs s.data m.data := by
  have h2 := noPhEs_mergeD s.exprs true s.data m.data hp hmp
  obtain ⟨a, b, c, d⟩ := merge_tables s m h2
  refine ⟨a, b, c, d, ?_⟩
  rw [merge_eq s (.sd m) (nodupV_mergeD s.exprs true s.data m.data hn hmn) h2]; rfl

theorem merge_tables_plain (s : SD) (o : Entries)
    (hn : NodupKeysV (.dict (mergeD true s.exprs s.data o))) (hp : NoPhEs (mergeD true s.exprs s.data o)) :
    s.merge (.plain o) = { s with data := mergeD true s.exprs s.data o } := by
  rw [merge_eq s (.plain o) hn hp]; rfl

/-- **C11.** `update` with an `SDict` argument updates the four tables (the argument's entries win) -/
theorem update_tables (s m : SD) (hp : NoPhEs (updateD s.data m.data)) :
    (s.update (.sd m)).exprs = Tbl.update s.exprs m.exprs ∧
    (s.update (.sd m)).lineC = Tbl.update s.lineC m.lineC ∧
    (s.update (.sd m)).blockC = Tbl.update s.blockC m.blockC ∧
    (s.update (.sd m)).incl = Tbl.update s.incl m.incl := by
  unfold SD.update
  exact clean_tables _ (by rw [postUpdate_data]; exact hp)

theorem update_tables' (s m : SD) (hn : NodupKeysV (.dict s.data)) (hp : NoPhEs s.data)
    (hmn : NodupKeysEs m.data) (hmp : NoPhEs m.data) :
    (s.update (.sd m)).exprs = Tbl.update s.exprs m.exprs ∧
    (s.update (.sd m)).lineC = Tbl.update s.lineC m.lineC ∧
    (s.update (.sd m)).blockC = Tbl.update s.blockC m.blockC ∧
    (s.update (.sd m)).incl = Tbl.update s.incl m.incl ∧
    (s.update (.sd m)).data = updateD s.data m.data := by
  have h2 := noPhEs_updateD hp hmp
  obtain ⟨a, b, c, d⟩ := update_tables s m h2
  refine ⟨a, b, c, d, ?_⟩
  rw [update_eq s (.sd m) (nodupV_updateD hn hmn) h2]; rfl

/-! ## D. non-vacuity: the hypotheses are satisfiable and the theorems say something -/

section examples

private def sk (s : String) : Key := .str s.toList
private def sv (s : String) : Val := .leaf (.str s.toList)
private def iv (z : Int) : Val := .leaf (.int z)

/-- `{a: "banana", d: {x: 1}}` -/
private def exA : Entries := [(sk "a", sv "banana"), (sk "d", .dict [(sk "x", iv 1)])]
/-- `{a: 1, d: {x: 2, y: 3}, n: 5}` -/
private def exB : Entries := [(sk "a", iv 1), (sk "d", .dict [(sk "x", iv 2), (sk "y", iv 3)]), (sk "n", iv 5)]
/-- `{a: "banana", d: {x: 1, y: 3}, n: 5}` -/
private def exAB : Entries := [(sk "a", sv "banana"), (sk "d", .dict [(sk "x", iv 1), (sk "y", iv 3)]), (sk "n", iv 5)]

private theorem sk_inj (a b : String) : sk a = sk b ↔ a = b := by simp [sk, String.toList_inj]

private theorem exA_nodup : NodupKeysV (.dict exA) := by
  simp [exA, NodupKeysV, NodupKeysEs, keys, sk_inj, sv, iv]
private theorem exB_nodup : NodupKeysV (.dict exB) := by
  simp [exB, NodupKeysV, NodupKeysEs, keys, sk_inj, iv]
private theorem exA_noPh : NoPhEs exA := by
  simp only [exA, NoPhEs, NoPhV, sv, iv]; decide +kernel
private theorem exB_noPh : NoPhEs exB := by
  simp only [exB, NoPhEs, NoPhV, iv]; decide +kernel

/-- the merge of the task's example, computed -/
example : mergeD false [] exA exB = exAB := by
  simp [exA, exB, exAB, mergeD_cons, mergeD_nil, mstep, lookup, setKey, sk_inj, sv, iv]

/-- … also as the outermost call on an `SDict` ("banana" does not refer to `$a`) -/
example : mergeD true [] exA exB = exAB := by
  have h : selfRef [] (sk "a") (sv "banana") = false := by decide
  simp only [sv] at h; simp at h
  simp [exA, exB, exAB, mergeD_cons, mergeD_nil, mstep, lookup, setKey, sk_inj, h, sv, iv]

/-- `{v: "$v+1", w: 0}`: `v` is a self-reference placeholder -/
private def exC : Entries := [(sk "v", sv "$v+1"), (sk "w", iv 0)]
/-- `{v: 7, w: 8}` -/
private def exD : Entries := [(sk "v", iv 7), (sk "w", iv 8)]

private theorem exC_selfRef : selfRef [] (sk "v") (sv "$v+1") = true := by decide +kernel

private theorem exC_nodup : NodupKeysV (.dict exC) := by
  simp [exC, NodupKeysV, NodupKeysEs, keys, sk_inj, sv, iv]
private theorem exD_nodup : NodupKeysV (.dict exD) := by
  simp [exD, NodupKeysV, NodupKeysEs, keys, sk_inj, iv]
private theorem exC_noPh : NoPhEs exC := by
  simp only [exC, NoPhEs, NoPhV, sv, iv]; decide +kernel
private theorem exD_noPh : NoPhEs exD := by
  simp only [exD, NoPhEs, NoPhV, iv]; decide +kernel

/-- `clean_id` applies to a dict with nesting and a non-empty table -/
example : ({ data := exA, lineC := [(1, "// c".toList)] } : SD).clean = { data := exA, lineC := [(1, "// c".toList)] } :=
  clean_id _ exA_nodup exA_noPh

/-- `step_refines` applies to `update`, and the result is what builtin `dict.update` gives -/
example : (step { data := exA } (.update (.plain exB))).1.data = updateD exA exB :=
  (step_refines { data := exA } (.update (.plain exB)) exA_nodup exA_noPh rfl exB_noPh exB_nodup.2).1
example : updateD exA exB = exB := by decide

/-- `run_refines_trace` applies to a program that sets, pops, updates, copies and hits a `KeyError` -/
example : runS { data := exA } [.setitem (sk "z") (iv 9), .pop (sk "a"), .update (.plain exB), .copy, .delitem (sk "q")]
    = runD exA [.setitem (sk "z") (iv 9), .pop (sk "a"), .update (.plain exB), .copy, .delitem (sk "q")] := by
  apply run_refines_trace _ _ exA_nodup exA_noPh
  intro op hop
  simp only [List.mem_cons, List.not_mem_nil, or_false] at hop
  rcases hop with rfl | rfl | rfl | rfl | rfl
  · exact ⟨rfl, ⟨by decide, trivial⟩, trivial⟩
  · exact ⟨rfl, trivial, trivial⟩
  · exact ⟨rfl, exB_noPh, exB_nodup.2⟩
  · exact ⟨rfl, trivial, trivial⟩
  · exact ⟨rfl, trivial, trivial⟩
example : (runD exA [.setitem (sk "z") (iv 9), .pop (sk "a"), .update (.plain exB), .copy, .delitem (sk "q")]).map (·.2)
    = [.unit, .val (sv "banana"), .unit, .unit, .keyError] := by rfl

/-- `merge_keeps`: "banana" survives the merge of `{a: 1, …}` -/
example : lookup (sk "a") (mergeD true [] exA exB) = some (sv "banana") :=
  merge_keeps true [] (sk "a") (sv "banana") exB exA (by decide) rfl (by decide)

/-- `merge_keeps_deep`: so does `d.x = 1` -/
example : getD (mergeD true [] exA exB) [sk "d", sk "x"] = some (iv 1) :=
  merge_keeps_deep [] (iv 1) rfl [sk "d", sk "x"] true exA exB (by decide) (by intro k h; cases h)

/-- `merge_keys`: key order of the merged dict -/
example : keys (mergeD true [] exA exB) = [sk "a", sk "d", sk "n"] := by
  rw [merge_keys true [] exB exA exB_nodup.1]; decide

/-- `merge_fills_selfref`: the placeholder `v: "$v+1"` is filled, the ordinary `w: 0` is kept -/
example : lookup (sk "v") (mergeD true [] exC exD) = some (iv 7) :=
  merge_fills_selfref [] exC exD exD_nodup.1 (sk "v") (sv "$v+1") (iv 7) (by decide) exC_selfRef (by decide) (Or.inl rfl)
example : lookup (sk "w") (mergeD true [] exC exD) = some (iv 0) :=
  merge_keeps true [] (sk "w") (iv 0) exD exC (by decide) rfl (by decide)
/-- … but only at the top level of an `SDict` -/
example : lookup (sk "v") (mergeD false [] exC exD) = some (sv "$v+1") :=
  merge_keeps false [] (sk "v") (sv "$v+1") exD exC (by decide) rfl (by decide)

/-- `merge_idem`, `merge_idem_top` instantiated -/
example : mergeD false [] (mergeD false [] exA exB) exB = mergeD false [] exA exB := merge_idem [] exA exB exB_nodup
example : mergeD true [] (mergeD true [] exC exD) exD = mergeD true [] exC exD := merge_idem_top [] exC exD exD_nodup

/-- `merge_tables'`: existing ids keep their text, new ids are added -/
example : (({ data := exC, lineC := [(1, "// a".toList)] } : SD).merge
      (.sd { data := exD, lineC := [(1, "// b".toList), (2, "// c".toList)] })).lineC
    = [(1, "// a".toList), (2, "// c".toList)] := by
  rw [(merge_tables' _ _ exC_nodup exC_noPh exD_nodup.2 exD_noPh).2.1]; decide

/-- `update_tables'`: the argument's text wins -/
example : (({ data := exC, lineC := [(1, "// a".toList)] } : SD).update
      (.sd { data := exD, lineC := [(1, "// b".toList), (2, "// c".toList)] })).lineC
    = [(1, "// b".toList), (2, "// c".toList)] := by
  rw [(update_tables' _ _ exC_nodup exC_noPh exD_nodup.2 exD_noPh).2.1]; decide

end examples

/-! #### the uniqueness hypotheses on `b` are needed (a pair list may repeat a key; a dict cannot) -/

theorem merge_keys_needs_nodup :
    ¬ ∀ (top : Bool) (exprs : Tbl ExprEntry) (b a : Entries),
      keys (mergeD top exprs a b) = keys a ++ (keys b).filter (fun k => !hasKey k a) := by
  intro h
  have := h false [] [(.int 1, .leaf .none), (.int 1, .leaf .none)] []
  simp [mergeD_cons, mergeD_nil, mstep, lookup, keys, hasKey] at this

theorem merge_adds_needs_nodup :
    ¬ ∀ (top : Bool) (exprs : Tbl ExprEntry) (a b : Entries) (k : Key),
      lookup k a = none → lookup k (mergeD top exprs a b) = lookup k b := by
  intro h
  have := h false [] [] [(.int 1, .dict [(.int 2, .leaf .none)]), (.int 1, .dict [(.int 3, .leaf .none)])] (.int 1) rfl
  simp [mergeD_cons, mergeD_nil, mstep, lookup, setKey] at this

theorem tbl_update_overrides_needs_nodup :
    ¬ ∀ (i : Nat) (o t : Tbl Nat), Tbl.get? i (Tbl.update t o) = (Tbl.get? i o).or (Tbl.get? i t) := by
  intro h
  have := h 1 [(1, 10), (1, 20)] []
  revert this; decide

/-- placeholder entries at the top level only (a file whose comments and directives all stand outside the nested dicts):
    `_clean` is the identity as soon as `_clean_data` is the identity on the top level -/
theorem clean_of_top (s : SD) (hlev : cleanLevel s s.data = (s, s.data)) (hn : (keys s.data).Nodup)
    (hsub : ∀ k sub, (k, Val.dict sub) ∈ s.data → NoPhEs sub ∧ NodupKeysV (.dict sub)) : s.clean = s := by
  rw [SD.clean_eq, cleanRec_fixed
    (F := fun s' lvl => (s' = s ∧ lvl = s.data) ∨ (NoPhEs lvl ∧ NodupKeysV (.dict lvl))) ?_ ?_ ?_ _ s s.data
    (Or.inl ⟨rfl, rfl⟩)]
  · intro s' lvl h
    rcases h with ⟨rfl, rfl⟩ | h
    · exact hlev
    · exact cleanLevel_id s' lvl (noPhEs_keys h.1)
  · intro s' lvl h
    rcases h with ⟨_, rfl⟩ | h
    · exact hn
    · exact h.2.1
  · intro s' lvl k sub h he
    rcases h with ⟨_, rfl⟩ | h
    · exact Or.inr (hsub k sub he)
    · exact Or.inr ⟨(noPhEs_iff.mp h.1 _ he).2, nodupKeysEs_iff.mp h.2.2 _ he⟩

end DictIO.C07
