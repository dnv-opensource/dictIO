/-
  C03 for commented documents -- "reading any well-formed file, writing the result, and reading the written file yields
  the same data as the first read … the written text itself stabilises after one cycle".

  Setting: `items` a commented document, `denC c items` what the reader returns for any admissible layout of it
  (`C12.C12_read_commented`), `writtenDoc2 items` the canonical document of `C12write` (repeated comments dropped, the
  writer's spelling, top-level block comments first, the default header in front unless the document has its own).

    `fmtSD_explicit`     for every SDict with `WOK sd`:  `fmtSD .native sd = some (removeTrailingSpaces (fmtDoc 0 (docSD sd)))`
                         — the written text as an explicit function (`fmtDoc`: every entry and comment on its lines) of
                         the written document; in place of the "some admissible gaps" of `C12W.C12_write_commented`
                         (`C12write`) it gives the gaps themselves
                         (proved with layouts that carry two texts with the same gaps: `LaysP` of `C12xtok`, `lays_entriesP`,
                         `fmtT` of `C12lay`; `insert_comments_layout` gives the text after the passes as `fmtT` under the tables,
                         `fmtT_doc` says that this is `fmtDoc` of the written document)
    `written_text`       `fmtSD .native (denC c items) = some (cycText items)`, `cycText items` a function of
                         `writtenDoc2 items` alone (not of the ids the counter handed out)
    `writtenDoc2_idem`   `writtenDoc2 (writtenDoc2 items) = writtenDoc2 items` (with `written_own`: the written document
                         has a header of its own — also when that is the default header added in the first cycle —,
                         `written_dedup`, `written_cnorm`, `cnorm_idemI`, `hdr_fresh`; the top level of the canonical
                         document is known through `lvl_canon`, `top_head`)
    `C03_commented_second_write` / `…'`   writing the re-read SDict gives the bytes of the first write
    `C03_commented_cycles'`   ALL cycles, the first included, write `cycText items`, and every re-read is
                         `denC cₙ (writtenDoc2 items)` (ids from the counter at that point); the iteration is
                         `cycles_written`, from any SDict that is written as `cycText items`
    `hw2_written`        the writer hypotheses for the canonical document follow from those for the document, EXCEPT
                         `indep` (and given room for the default header among the block ids);
                         `second_write_needs_indep` (finding): the writer hoists the top-level block comments, so the
                         table of the re-read lists them in another order, and a nested `/*b*/` that occurs inside a
                         later top-level comment `/* x /*b*/` is written in cycle 1 and lost in cycle 2
    `exW_two_cycles`, `exDup_two_cycles`   non-vacuity
-/
import DictIO.Props.C12round
import DictIO.Props.C03

namespace DictIO.C03c
open DictIO DictIO.C12W

/-! ## 1. the writer on a commented document (a function of the document alone) -/

mutual
  /-- `fmtList` on the written spelling of the list -/
  def fmtSList (lvl : Nat) (inList : Bool) (xs : List Src) : Str :=
    fline lvl ['('] ++ fmtSItems lvl xs.length 0 true xs ++ fline lvl (if inList then [')'] else [')', ';'])
  def fmtSItems (lvl n idx : Nat) (first : Bool) : List Src → Str
    | [] => []
    | .list ys :: rest => fmtSList (lvl + 1) true ys ++ fmtSItems lvl n (idx + 1) first rest
    | .dict es :: rest =>
        fline (lvl + 1) [] ++ fline (lvl + 1) ['{'] ++ fmtSEs (lvl + 2) es ++ fline (lvl + 1) ['}'] ++
          fmtSItems lvl n (idx + 1) true rest
    | .lit l :: rest =>
        let value := l.tok.text
        let itemLevel := if first then lvl + 1 else 1
        let last := (idx + 1) % 10 == 0 || idx + 1 == n
        if last then fline itemLevel value ++ fmtSItems lvl n (idx + 1) true rest
        else fline itemLevel (value ++ spaces (14 - value.length)) false ++ fmtSItems lvl n (idx + 1) false rest
  def fmtSEs (lvl : Nat) : SrcEntries → Str
    | [] => []
    | (k, .dict es) :: rest => fline lvl k ++ fline lvl ['{'] ++ fmtSEs (lvl + 1) es ++ fline lvl ['}'] ++ fmtSEs lvl rest
    | (k, .list xs) :: rest => fline lvl k ++ fmtSList lvl false xs ++ fmtSEs lvl rest
    | (k, .lit l) :: rest =>
        fline lvl (k ++ spaces (max 8 (30 - k.length - 4 * lvl)) ++ l.tok.text ++ [';']) ++ fmtSEs lvl rest
end

theorem srcOfXs_length : ∀ (xs : List Val), (srcOfXs .native xs).length = xs.length
  | [] => by simp [srcOfXs]
  | v :: xs => by simp [srcOfXs, srcOfXs_length xs]

/-- on the value domain the writer's text is the text of the written spelling: the statement for a dict and for a list -/
def FmtSrc : Val → Prop
  | .dict es => ∀ (d lvl : Nat), domEs .native d es = true → fmtEntries .native lvl es = fmtSEs lvl (srcOfEs .native es)
  | .list xs => ∀ (d lvl n idx : Nat) (first : Bool), domXs .native d xs = true →
      fmtItems .native lvl n idx first xs = fmtSItems lvl n idx first (srcOfXs .native xs)
  | .leaf _ => True

theorem fmt_src (v : Val) : FmtSrc v := by
  refine Val.ind (P := FmtSrc) (Q := fun es => FmtSrc (.dict es)) (R := fun xs => FmtSrc (.list xs))
    (fun _ => trivial) (fun _ h => h) (fun _ h => h) ?_ ?_ ?_ ?_ v
  · intro d lvl _; simp [fmtEntries, srcOfEs, fmtSEs]
  · intro k v es hv hes d lvl h
    cases v with
    | leaf x =>
      simp only [domEs, Bool.and_eq_true] at h
      simp only [fmtEntries, srcOfEs, srcOfV, fmtSEs, C01.written_text, C01.formatKey_dom h.1.1, hes d lvl h.2]
    | dict sub =>
      simp only [domEs, domV, Bool.and_eq_true] at h
      simp only [fmtEntries, srcOfEs, srcOfV, fmtSEs, hv (d + 1) (lvl + 1) h.1.2.1, hes d lvl h.2]
    | list xs =>
      simp only [domEs, domV, Bool.and_eq_true] at h
      simp only [fmtEntries, srcOfEs, srcOfV, fmtSEs, fmtList, fmtSList, srcOfXs_length,
        hv (d + 1) lvl xs.length 0 true h.1.2, hes d lvl h.2]
  · intro d lvl n idx first _; simp [fmtItems, srcOfXs, fmtSItems]
  · intro v xs hv hxs d lvl n idx first h
    cases v with
    | leaf x =>
      simp only [domXs, Bool.and_eq_true] at h
      simp only [fmtItems, srcOfXs, srcOfV, fmtSItems, C01.written_text, hxs d lvl n (idx + 1) true h.2,
        hxs d lvl n (idx + 1) false h.2]
    | dict es =>
      simp only [domXs, domV, Bool.and_eq_true] at h
      simp only [fmtItems, srcOfXs, srcOfV, fmtSItems, hv (d + 1) (lvl + 2) h.1.1, hxs d lvl n (idx + 1) true h.2]
    | list ys =>
      simp only [domXs, domV, Bool.and_eq_true] at h
      simp only [fmtItems, srcOfXs, srcOfV, fmtSItems, fmtList, fmtSList, srcOfXs_length,
        hv (d + 1) (lvl + 1) ys.length 0 true h.1, hxs d lvl n (idx + 1) first h.2]

theorem fmtItems_src (d lvl n idx : Nat) (first : Bool) (xs : List Val) (h : domXs .native d xs = true) :
    fmtItems .native lvl n idx first xs = fmtSItems lvl n idx first (srcOfXs .native xs) :=
  fmt_src (.list xs) d lvl n idx first h

theorem fmtEntries_src : ∀ (d lvl : Nat) (es : Entries), domEs .native d es = true →
    fmtEntries .native lvl es = fmtSEs lvl (srcOfEs .native es) :=
  fun d lvl es => fmt_src (.dict es) d lvl
theorem fmtList_src (d lvl : Nat) (b : Bool) (xs : List Val) (h : domXs .native d xs = true) :
    fmtList .native lvl b xs = fmtSList lvl b (srcOfXs .native xs) := by
  rw [fmtList, fmtSList, srcOfXs_length, fmtItems_src d lvl xs.length 0 true xs h]

/-- **the writer on a commented document**: every entry and every comment on lines of its own, at the indentation of
    its level -/
def fmtDoc (lvl : Nat) : List CItem → Str
  | [] => []
  | .entry k (.lit l) :: r => fline lvl (k ++ padOf lvl k ++ l.tok.text ++ [';']) ++ fmtDoc lvl r
  | .entry k (.dict items) :: r =>
    fline lvl k ++ fline lvl ['{'] ++ fmtDoc (lvl + 1) items ++ fline lvl ['}'] ++ fmtDoc lvl r
  | .entry k (.list xs) :: r => fline lvl k ++ fmtSList lvl false xs ++ fmtDoc lvl r
  | .lineC x :: r => fline lvl (lineFull x) ++ fmtDoc lvl r
  | .blockC x :: r => fline lvl (blockFull x) ++ fmtDoc lvl r

theorem fmtDoc_flatMap (lvl : Nat) : ∀ (X : List CItem), fmtDoc lvl X = X.flatMap fun it => fmtDoc lvl [it] :=
  flatMap_of_cons (f := fmtDoc lvl) (by simp [fmtDoc]) fun it X => by
    cases it with
    | entry k v => cases v <;> simp [fmtDoc]
    | _ => simp [fmtDoc]

/-- the output with the comments in place is the writer's text for the document `docEs L B D` -/
theorem fmtT_doc (L B : Tbl Str) (hL : ∀ e ∈ L, ∃ x, e.2 = lineFull x) (hB : ∀ e ∈ B, ∃ x, e.2 = blockFull x) :
    ∀ (d lvl : Nat) (D : Entries), wshEs d D = true → phCov L B D = true →
    fmtT (tauOf L B) lvl D = fmtDoc lvl (docEs L B D) := by
  intro d lvl D
  induction D using Entries.ind generalizing d lvl with
  | nil => intro _ _; simp [fmtT, docEs, fmtDoc]
  | leaf k x r ih =>
    intro hw hc
    simp only [wshEs, Bool.and_eq_true] at hw
    simp only [phCov, Bool.and_eq_true] at hc
    have ih := ih d lvl hw.2 hc.2
    cases hp : phOf k x with
    | none => simp only [fmtT, docEs, hp, fmtDoc, C01.written_text, ih]
    | some li =>
      obtain ⟨l, i⟩ := li
      rw [hp] at hc
      cases l with
      | true =>
        obtain ⟨t, ht⟩ := Option.isSome_iff_exists.mp hc.1
        obtain ⟨y, hy⟩ := hL _ (tbl_get_mem ht)
        simp only at hy
        subst hy
        simp only [fmtT, docEs, hp, fmtDoc, tauOf, if_true, ht, Option.getD_some, lineFull, lineBody_eq, ih]
      | false =>
        obtain ⟨t, ht⟩ := Option.isSome_iff_exists.mp hc.1
        obtain ⟨y, hy⟩ := hB _ (tbl_get_mem ht)
        simp only at hy
        subst hy
        simp only [fmtT, docEs, hp, fmtDoc, tauOf, Bool.false_eq_true, if_false, ht, Option.getD_some, blockFull,
          blockBody_eq, ih]
  | list k xs r ih =>
    intro hw hc
    simp only [wshEs, Bool.and_eq_true] at hw
    simp only [phCov] at hc
    simp only [fmtT, docEs, fmtDoc, fmtList_src (d + 1) lvl false xs hw.1.2, ih d lvl hw.2 hc]
  | dict k es r ihs ih =>
    intro hw hc
    simp only [wshEs, Bool.and_eq_true] at hw
    simp only [phCov, Bool.and_eq_true] at hc
    simp only [fmtT, docEs, fmtDoc, ihs (d + 1) (lvl + 1) hw.1.2 hc.1, ih d lvl hw.2 hc.2]

/-! ## 2. the written text as a function of the document: `fmtSD sd = rts (fmtDoc 0 (docSD sd))` -/

theorem fmtDoc_hdrItems (B : Tbl Str) :
    fmtDoc 0 (hdrItems B) = if ownHeader B then [] else (XTok.cmt false C12.hdrComment).text ++ ['\n'] := by
  simp only [hdrItems]
  split
  · simp only [fmtDoc]
  · simp only [fmtDoc, fline0, show blockFull C12.hdrBody = C12.hdrComment from C12.hdrComment_shape.symm,
      List.append_nil, XTok.text]

/-- **the written text is a function of the written document.**  For every SDict with `WOK sd` the writer's text is
    `remove_trailing_spaces` of the plain line-by-line text of `docSD sd`. -/
theorem fmtSD_explicit (sd : SD) (h : WOK sd) :
    fmtSD .native sd = some (removeTrailingSpaces (fmtDoc 0 (docSD sd))) := by
  obtain ⟨t, r, _, htxt, _, _, hfmt⟩ := insert_comments_layout sd h
  have hdocT := fmtT_doc sd.lineC sd.blockC
    (fun e he => by obtain ⟨x, hx, _⟩ := (h.lineT e he).2; exact ⟨x, hx⟩)
    (fun e he => by obtain ⟨x, hx, _⟩ := (h.blockT e he).2; exact ⟨x, hx⟩) 1 0 (hoistPlaceholders sd.data) h.shape h.cov
  rw [fmtSD_noIncl sd h.incl, htxt, hfmt, docSD, fmtDoc_flatMap, List.flatMap_append, ← fmtDoc_flatMap, ← fmtDoc_flatMap,
    ← hdocT, fmtDoc_hdrItems]

/-- **the text written for a commented document** is a function of `writtenDoc2 items` alone (not of the ids drawn) -/
theorem written_text {c : Counter} {items : List CItem} (H : HW2 c items) :
    fmtSD .native (denC c items) = some (removeTrailingSpaces (fmtDoc 0 (writtenDoc2 items))) := by
  obtain ⟨hwok, hdoc⟩ := sdOf2_facts H
  rw [denC_closed2 H.toHDoc2, fmtSD_explicit _ hwok, hdoc]

/-! ## 3. the canonical document is a fixed point of the canonicalisation -/

theorem keyOfStr_keyStr {k : Key} (h : isDomKey k = true) : keyOfStr (keyStr k) = k := by
  simp [keyOfStr, C01.domKey_types_back h]

mutual
  theorem cnorm_idemV : ∀ (v : CSrc) (d : Nat), CSrcWFV d v = true → okV d v = true → cnormV (cnormV v) = cnormV v
    | .lit l, d, hwf, hok => by
      simp only [CSrcWFV, okV, Bool.and_eq_true] at hwf hok
      simp only [cnormV, C01.den_writtenLit hok.1, C03.normScalar_den hwf.1]
    | .list xs, d, hwf, hok => by
      simp only [CSrcWFV, okV] at hwf hok
      simp only [cnormV, C01.den_srcOfXs (d + 1) _ hok, C03.norm_denXs (d + 1) xs hwf]
    | .dict items, d, hwf, hok => by
      simp only [CSrcWFV, okV] at hwf hok
      simp only [cnormV, cnorm_idemI items (d + 1) hwf hok]
  /-- respelling twice is respelling once: what the reader returns is already typed -/
  theorem cnorm_idemI : ∀ (items : List CItem) (d : Nat), CSrcWFItems d items = true → okI d items = true →
      cnormI (cnormI items) = cnormI items
    | [], _, _, _ => by simp only [cnormI]
    | .entry k v :: r, d, hwf, hok => by
      simp only [CSrcWFItems, okI, Bool.and_eq_true] at hwf hok
      simp only [cnormI, keyOfStr_keyStr hok.1.1, cnorm_idemV v d hwf.1.2 hok.1.2, cnorm_idemI r d hwf.2 hok.2]
    | .lineC x :: r, d, hwf, hok => by
      simp only [CSrcWFItems, okI, Bool.and_eq_true] at hwf hok
      simp only [cnormI, cnorm_idemI r d hwf.2 hok.2]
    | .blockC x :: r, d, hwf, hok => by
      simp only [CSrcWFItems, okI, Bool.and_eq_true] at hwf hok
      simp only [cnormI, cnorm_idemI r d hwf.2 hok.2]
end

theorem cnormI_flatMap : ∀ (X : List CItem), cnormI X = X.flatMap fun it => cnormI [it] :=
  flatMap_of_cons (f := cnormI) (by simp [cnormI]) fun it X => by cases it <;> simp [cnormI]

theorem cnormI_append (a b : List CItem) : cnormI (a ++ b) = cnormI a ++ cnormI b := by
  rw [cnormI_flatMap, List.flatMap_append, ← cnormI_flatMap, ← cnormI_flatMap]

theorem isBlock_entry (k : Str) (v : CSrc) : isBlockItem (.entry k v) = false := rfl
theorem isBlock_line (x : Str) : isBlockItem (.lineC x) = false := rfl
theorem isBlock_block (x : Str) : isBlockItem (.blockC x) = true := rfl

theorem cnormI_filter_block (a : List CItem) :
    cnormI (a.filter isBlockItem) = (cnormI a).filter isBlockItem ∧
    cnormI (a.filter fun it => !isBlockItem it) = (cnormI a).filter fun it => !isBlockItem it := by
  rw [cnormI_flatMap (a.filter _), cnormI_flatMap (a.filter _), cnormI_flatMap a]
  constructor <;> exact flatMap_filter_of fun it _ => by cases it <;> simp [cnormI, isBlockItem]

/-! ### no comment twice at one level -/


theorem nubFrom_facts : ∀ (l seen : List Str), (nubFrom seen l).Nodup ∧ ∀ y ∈ nubFrom seen l, y ∉ seen ∧ y ∈ l
  | [], _ => by simp [nubFrom]
  | x :: r, seen => by
    simp only [nubFrom]
    split
    · obtain ⟨h1, h2⟩ := nubFrom_facts r seen
      exact ⟨h1, fun y hy => ⟨(h2 y hy).1, List.mem_cons_of_mem _ (h2 y hy).2⟩⟩
    · next hc =>
      obtain ⟨h1, h2⟩ := nubFrom_facts r (seen ++ [x])
      have hx : x ∉ seen := fun hm => hc (List.contains_iff_mem.mpr hm)
      refine ⟨List.nodup_cons.mpr ⟨fun hm => (h2 x hm).1 (by simp), h1⟩, ?_⟩
      intro y hy
      rcases List.mem_cons.mp hy with rfl | hy
      · exact ⟨hx, List.mem_cons_self⟩
      · exact ⟨fun hm => (h2 y hy).1 (by simp [hm]), List.mem_cons_of_mem _ (h2 y hy).2⟩

mutual
  theorem dedup_nrV : ∀ (v : CSrc), vNR (dedupV v)
    | .lit l => by simp only [dedupV, vNR]
    | .list xs => by simp only [dedupV, vNR]
    | .dict items => by
      simp only [dedupV, vNR, levelNR]
      obtain ⟨a, b, _⟩ := lvl_dedup items [] []
      rw [a, b]
      exact ⟨⟨(nubFrom_facts _ []).1, (nubFrom_facts _ []).1⟩, dedup_nrI items [] []⟩
  /-- what is left after the removal has no repetition below any level -/
  theorem dedup_nrI : ∀ (items : List CItem) (sl sb : List Str), subsNR (dedupLvl sl sb items)
    | [], _, _ => by simp only [dedupLvl, subsNR]
    | .entry k v :: r, sl, sb => by
      simp only [dedupLvl, subsNR]
      exact ⟨dedup_nrV v, dedup_nrI r sl sb⟩
    | .lineC x :: r, sl, sb => by
      simp only [dedupLvl]
      split
      · exact dedup_nrI r sl sb
      · simp only [subsNR]; exact dedup_nrI r _ sb
    | .blockC x :: r, sl, sb => by
      simp only [dedupLvl]
      split
      · exact dedup_nrI r sl sb
      · simp only [subsNR]; exact dedup_nrI r sl _
end

theorem lvl_cnorm : ∀ (items : List CItem), lvlLines (cnormI items) = lvlLines items ∧
    lvlBlocks (cnormI items) = lvlBlocks items
  | [] => by simp [cnormI]
  | .entry k v :: r => by simp only [cnormI, lvlLines, lvlBlocks, lvl_cnorm r]; exact ⟨trivial, trivial⟩
  | .lineC x :: r => by simp only [cnormI, lvlLines, lvlBlocks, lvl_cnorm r]; exact ⟨trivial, trivial⟩
  | .blockC x :: r => by simp only [cnormI, lvlLines, lvlBlocks, lvl_cnorm r]; exact ⟨trivial, trivial⟩

theorem lvl_canon (items : List CItem) :
    lvlLines (cnormI (dedupI items)) = nubFrom [] (lvlLines items) ∧
    lvlBlocks (cnormI (dedupI items)) = nubFrom [] (lvlBlocks items) :=
  ⟨(lvl_cnorm _).1.trans (lvl_dedup items [] []).1, (lvl_cnorm _).2.trans (lvl_dedup items [] []).2.1⟩

mutual
  theorem cnorm_nrV : ∀ (v : CSrc), vNR v → vNR (cnormV v)
    | .lit l, _ => by simp only [cnormV, vNR]
    | .list xs, _ => by simp only [cnormV, vNR]
    | .dict items, h => by
      simp only [vNR, levelNR] at h
      simp only [cnormV, vNR, levelNR, lvl_cnorm items]
      exact ⟨h.1, cnorm_nrI items h.2⟩
  theorem cnorm_nrI : ∀ (items : List CItem), subsNR items → subsNR (cnormI items)
    | [], _ => by simp only [cnormI, subsNR]
    | .entry k v :: r, h => by
      simp only [subsNR] at h
      simp only [cnormI, subsNR]
      exact ⟨cnorm_nrV v h.1, cnorm_nrI r h.2⟩
    | .lineC x :: r, h => by
      simp only [subsNR] at h
      simp only [cnormI, subsNR]
      exact cnorm_nrI r h
    | .blockC x :: r, h => by
      simp only [subsNR] at h
      simp only [cnormI, subsNR]
      exact cnorm_nrI r h
end

theorem lvlLines_flatMap : ∀ (X : List CItem), lvlLines X = X.flatMap fun it => lvlLines [it] :=
  flatMap_of_cons (f := lvlLines) (by simp [lvlLines]) fun it X => by cases it <;> simp [lvlLines]

theorem lvlBlocks_flatMap : ∀ (X : List CItem), lvlBlocks X = X.flatMap fun it => lvlBlocks [it] :=
  flatMap_of_cons (f := lvlBlocks) (by simp [lvlBlocks]) fun it X => by cases it <;> simp [lvlBlocks]

theorem subsNR_all : ∀ (X : List CItem), subsNR X ↔ ∀ it ∈ X, subsNR [it] :=
  forall_of_cons (f := subsNR) (by simp [subsNR]) fun it X => by cases it <;> simp [subsNR]

/-- the written document has the items of the document in the writer's spelling, without the repeated comments, behind
    the default header if that is added; only their order is another -/
theorem writtenDoc2_perm (items : List CItem) : (writtenDoc2 items).Perm
    ((if ownHeaderI items then [] else [.blockC C12.hdrBody]) ++ cnormI (dedupI items)) :=
  (List.filter_append_perm _ _).append_left _

/-! ### the first block comment; the default header is no comment of the document -/

mutual
  theorem blockHead_dedupV : ∀ (v : CSrc), (blockFullsV (dedupV v)).head? = (blockFullsV v).head?
    | .lit l => by simp only [dedupV]
    | .list xs => by simp only [dedupV]
    | .dict items => by simp only [dedupV, blockFullsV, blockHead_dedupI items []]
  /-- the first block comment of the document is never a repetition -/
  theorem blockHead_dedupI : ∀ (items : List CItem) (sl : List Str),
      (blockFullsI (dedupLvl sl [] items)).head? = (blockFullsI items).head?
    | [], _ => by simp only [dedupLvl]
    | .entry k v :: r, sl => by
      simp only [dedupLvl, blockFullsI, List.head?_append, blockHead_dedupV v, blockHead_dedupI r sl]
    | .lineC x :: r, sl => by
      simp only [dedupLvl]
      split
      · simp only [blockFullsI, blockHead_dedupI r sl]
      · simp only [blockFullsI, blockHead_dedupI r _]
    | .blockC x :: r, sl => by
      simp only [dedupLvl, List.contains_nil, Bool.false_eq_true, if_false, blockFullsI, List.head?_cons]
end

theorem firstTop_head : ∀ (items : List CItem), firstBlockTop items = true →
    (blockFullsI items).head? = (lvlBlocks items).head?.map blockFull
  | [], _ => by simp [blockFullsI, lvlBlocks]
  | .blockC x :: r, _ => by simp [blockFullsI, lvlBlocks, blockFull]
  | .lineC x :: r, h => by
    simp only [firstBlockTop] at h
    simp only [blockFullsI, lvlBlocks, firstTop_head r h]
  | .entry k v :: r, h => by
    simp only [firstBlockTop, Bool.and_eq_true, List.isEmpty_iff] at h
    simp only [blockFullsI, lvlBlocks, h.1, List.nil_append, firstTop_head r h.2]

/-- the first block comment stays the first at the top level of the canonical document: nothing has been seen before it -/
theorem top_head {items : List CItem} (hf : firstBlockTop items = true) {t0 : Str} {r0 : List Str}
    (hb : blockFullsI items = t0 :: r0) :
    ∃ x0 ys, lvlBlocks (cnormI (dedupI items)) = x0 :: ys ∧ t0 = blockFull x0 := by
  have h1 := firstTop_head items hf
  rw [hb] at h1
  cases hlb : lvlBlocks items with
  | nil => rw [hlb] at h1; simp at h1
  | cons x0 rb =>
    rw [hlb] at h1
    simp only [List.head?_cons, Option.map_some, Option.some.injEq] at h1
    refine ⟨x0, nubFrom ([] ++ [x0]) rb, ?_, h1⟩
    rw [(lvl_canon items).2, hlb]; simp [nubFrom]

theorem blockFullsI_flatMap : ∀ (X : List CItem), blockFullsI X = X.flatMap fun it => blockFullsI [it] :=
  flatMap_of_cons (f := blockFullsI) (by simp [blockFullsI]) fun it X => by cases it <;> simp [blockFullsI]

theorem blockFullsI_append (a b : List CItem) : blockFullsI (a ++ b) = blockFullsI a ++ blockFullsI b := by
  rw [blockFullsI_flatMap, List.flatMap_append, ← blockFullsI_flatMap, ← blockFullsI_flatMap]

theorem blockFulls_filterB : ∀ (a : List CItem), blockFullsI (a.filter isBlockItem) = (lvlBlocks a).map blockFull
  | [] => by simp [blockFullsI, lvlBlocks]
  | .entry k v :: a => by
    simp only [List.filter_cons, isBlock_entry, Bool.false_eq_true, if_false, lvlBlocks, blockFulls_filterB a]
  | .lineC x :: a => by
    simp only [List.filter_cons, isBlock_line, Bool.false_eq_true, if_false, lvlBlocks, blockFulls_filterB a]
  | .blockC x :: a => by
    simp only [List.filter_cons, isBlock_block, if_true, blockFullsI, lvlBlocks, List.map_cons, blockFulls_filterB a,
      blockFull]

theorem filterB_map : ∀ (a : List CItem), a.filter isBlockItem = (lvlBlocks a).map CItem.blockC
  | [] => by simp [lvlBlocks]
  | .entry k v :: a => by simp only [List.filter_cons, isBlock_entry, Bool.false_eq_true, if_false, lvlBlocks, filterB_map a]
  | .lineC x :: a => by simp only [List.filter_cons, isBlock_line, Bool.false_eq_true, if_false, lvlBlocks, filterB_map a]
  | .blockC x :: a => by simp only [List.filter_cons, isBlock_block, if_true, lvlBlocks, List.map_cons, filterB_map a]

theorem mem_blockFulls (items : List CItem) (x : Str) (h : x ∈ lvlBlocks items) : blockFull x ∈ blockFullsI items := by
  rw [lvlBlocks_flatMap] at h
  rw [blockFullsI_flatMap]
  obtain ⟨it, hit, hx⟩ := List.mem_flatMap.1 h
  refine List.mem_flatMap.2 ⟨it, hit, ?_⟩
  cases it <;> simp [lvlBlocks] at hx
  simp [blockFullsI, blockFull, hx]

theorem indep_notInfix : ∀ (l : List Str) (s : Str), indepFrom s l = true → ∀ t ∈ l, isInfix t s = false
  | [], _, _, t, ht => by cases ht
  | t0 :: r, s, h, t, ht => by
    simp only [indepFrom, Bool.and_eq_true, Bool.not_eq_true'] at h
    rcases List.mem_cons.mp ht with rfl | ht
    · exact h.1
    · have := indep_notInfix r (s ++ t0) h.2 t ht
      cases hc : isInfix t s with
      | false => rfl
      | true =>
        obtain ⟨a, b, e⟩ := isInfix_iff.mp hc
        have : isInfix t (s ++ t0) = true := isInfix_iff.mpr ⟨a, b ++ t0, by rw [e]; simp⟩
        simp_all

section
variable {c : Counter} {items : List CItem} (H : HW2 c items)
include H

/-- the default header is not among the block comments of the document that has no header of its own -/
theorem hdr_fresh (hown : ownHeaderI items = false) : C12.hdrBody ∉ lvlBlocks (cnormI (dedupI items)) := by
  intro hm
  rw [(lvl_cnorm _).2] at hm
  have hin := mem_blockFulls _ _ hm
  have hhd : (blockFullsI (dedupI items)).head? = (blockFullsI items).head? := blockHead_dedupI items []
  have hindep := H.indep
  cases hb : blockFullsI (dedupI items) with
  | nil => rw [hb] at hin; cases hin
  | cons t rest =>
    rw [hb] at hhd hin
    simp only [writtenBlocks, hb] at hindep
    have ht : containsCpp t = false := by
      simp only [ownHeaderI] at hown
      cases hbi : blockFullsI items with
      | nil => rw [hbi] at hhd; simp at hhd
      | cons t' r' =>
        rw [hbi] at hhd hown
        simp only [List.head?_cons, Option.some.injEq] at hhd
        rw [hhd]; exact hown
    have hne : blockFull C12.hdrBody ≠ t := by
      intro e
      rw [← e, show blockFull C12.hdrBody = C12.hdrComment from C12.hdrComment_shape.symm, C12.hdrComment_cpp] at ht
      cases ht
    have hrest : blockFull C12.hdrBody ∈ rest := by
      rcases List.mem_cons.mp hin with e | h
      · exact absurd e hne
      · exact h
    simp only [indepFrom, Bool.and_eq_true, Bool.not_eq_true'] at hindep
    have := indep_notInfix rest _ hindep.2 _ hrest
    rw [C12.makeDefault_native, ht] at this
    simp only [Bool.false_eq_true, if_false] at this
    rw [List.nil_append] at this
    have hinf : isInfix (blockFull C12.hdrBody) (nativeHeader ++ t) = true := by
      rw [show blockFull C12.hdrBody = C12.hdrComment from C12.hdrComment_shape.symm, C12.nativeHeader_split]
      exact isInfix_iff.mpr ⟨[], ['\n'] ++ t, by simp⟩
    rw [hinf] at this
    cases this

theorem written_own : ownHeaderI (writtenDoc2 items) = true := by
  cases hown : ownHeaderI items with
  | false =>
    have e : blockFullsI (writtenDoc2 items) = C12.hdrComment :: blockFullsI (canonItems (dedupI items)) := by
      simp only [writtenDoc2, hown, Bool.false_eq_true, if_false, List.singleton_append, blockFullsI]
      rw [show ('/' :: '*' :: C12.hdrBody ++ ['*', '/']) = C12.hdrComment from C12.hdrComment_shape.symm]
    simp only [ownHeaderI, e]
    exact C12.hdrComment_cpp
  | true =>
    have hown0 := hown
    simp only [ownHeaderI] at hown
    cases hbi : blockFullsI items with
    | nil => rw [hbi] at hown; cases hown
    | cons t0 r0 =>
      rw [hbi] at hown
      obtain ⟨x0, ys, hl, rfl⟩ := top_head H.first hbi
      have e : blockFullsI (writtenDoc2 items) = blockFull x0 :: (ys.map blockFull ++
          blockFullsI ((cnormI (dedupI items)).filter fun it => !isBlockItem it)) := by
        simp only [writtenDoc2, hown0, if_true, List.nil_append, canonItems, blockFullsI_append, blockFulls_filterB, hl,
          List.map_cons, List.cons_append]
      simp only [ownHeaderI, e]
      exact hown

theorem written_first : firstBlockTop (writtenDoc2 items) = true := by
  cases hown : ownHeaderI items with
  | false => simp only [writtenDoc2, hown, Bool.false_eq_true, if_false, List.singleton_append, firstBlockTop]
  | true =>
    cases hbi : blockFullsI items with
    | nil => simp [ownHeaderI, hbi] at hown
    | cons t0 r0 =>
      obtain ⟨x0, ys, hl, _⟩ := top_head H.first hbi
      simp only [writtenDoc2, hown, if_true, List.nil_append, canonItems, filterB_map, hl, List.map_cons, List.cons_append,
        firstBlockTop]

theorem written_dedup : dedupI (writtenDoc2 items) = writtenDoc2 items := by
  have hp := writtenDoc2_perm items
  have hLN : (lvlLines (cnormI (dedupI items))).Nodup := (lvl_canon items).1 ▸ (nubFrom_facts _ []).1
  have hBN : (lvlBlocks (cnormI (dedupI items))).Nodup := (lvl_canon items).2 ▸ (nubFrom_facts _ []).1
  have hsub : subsNR (cnormI (dedupI items)) := cnorm_nrI _ (dedup_nrI items [] [])
  apply dedup_fixI _ [] [] (by simp) _ (by simp)
  · -- block comments
    rw [lvlBlocks_flatMap, (hp.flatMap_right _).nodup_iff, List.flatMap_append, ← lvlBlocks_flatMap, ← lvlBlocks_flatMap]
    split
    · simpa [lvlBlocks] using hBN
    · next hown =>
      simp only [lvlBlocks, List.singleton_append, List.nodup_cons]
      exact ⟨hdr_fresh H (by simpa using hown), hBN⟩
  · -- sub-levels
    rw [subsNR_all]
    intro it hit
    rcases List.mem_append.1 (hp.mem_iff.1 hit) with h | h
    · split at h
      · cases h
      · cases List.mem_singleton.1 h; trivial
    · exact (subsNR_all _).1 hsub it h
  · -- line comments
    rw [lvlLines_flatMap, (hp.flatMap_right _).nodup_iff, List.flatMap_append, ← lvlLines_flatMap, ← lvlLines_flatMap]
    split <;> simpa [lvlLines] using hLN

theorem written_cnorm : cnormI (writtenDoc2 items) = writtenDoc2 items := by
  have hwfd := wf_dedupI items 1 [] [] H.wf
  have hokd := ok_dedupI items 1 [] [] H.ok
  have hNN : cnormI (cnormI (dedupI items)) = cnormI (dedupI items) := cnorm_idemI _ 1 hwfd hokd
  simp only [writtenDoc2, canonItems, cnormI_append, (cnormI_filter_block _).1, (cnormI_filter_block _).2, hNN]
  split <;> simp [cnormI]

/-- **the canonical document is a fixed point**: canonicalising it again changes nothing -/
theorem writtenDoc2_idem : writtenDoc2 (writtenDoc2 items) = writtenDoc2 items := by
  obtain ⟨ht1, ht2⟩ := writtenDoc2_top items
  rw [writtenDoc2, written_own H, if_pos rfl, List.nil_append, written_dedup H, canonItems, written_cnorm H, ht1, ht2]
  simp only [writtenDoc2, canonItems, List.append_assoc]

end

/-! ## 4. C03 for commented documents -/

/-- the text every cycle writes -/
def cycText (items : List CItem) : Str := removeTrailingSpaces (fmtDoc 0 (writtenDoc2 items))

/-- **C03, second write.**  The text written for the re-read SDict `denC c₂ (writtenDoc2 items)` is, byte for byte,
    the text written for the first read `denC c items`: both are `cycText items`, a function of the canonical document.
    `H₂` are the writer hypotheses for the canonical document; they do not follow from `H` (`second_write_needs_indep`). -/
theorem C03_commented_second_write {c c₂ : Counter} {items : List CItem} (H : HW2 c items)
    (H₂ : HW2 c₂ (writtenDoc2 items)) :
    fmtSD .native (denC c items) = some (cycText items) ∧
    fmtSD .native (denC c₂ (writtenDoc2 items)) = some (cycText items) := by
  refine ⟨written_text H, ?_⟩
  rw [written_text H₂, writtenDoc2_idem H]
  rfl

/-- reading the text a cycle writes: the meaning of the canonical document, the counter valid afterwards -/
theorem read_cycText {c c₂ : Counter} {items : List CItem} (dir : Str) (H : HW2 c items)
    (hc₂ : C13.ValidCounter Gen.counterLimit c₂)
    (hn : C02.countQuotedEs (plainItems (writtenDoc2 items)) ≤ Gen.counterLimit + 1)
    (hd : C02.DocKeysAbsent (plainItems (writtenDoc2 items))) :
    ∃ c', C13.ValidCounter Gen.counterLimit c' ∧
      parseNative true dir c₂ (cycText items) = .ok (denC c₂ (writtenDoc2 items), c') := by
  obtain ⟨text, c', hw, hc', hr⟩ := read_written2 dir H hc₂ hn hd
  rw [written_text H] at hw
  cases hw
  exact ⟨c', hc', hr⟩

/-- `n` cycles "write the SDict, read the text": the text written and the SDict read in each -/
def cycles (dir : Str) : Nat → SD → Counter → List (Str × SD)
  | 0, _, _ => []
  | n + 1, sd, c =>
    match fmtSD .native sd with
    | none => []
    | some t =>
      match parseNative true dir c t with
      | .ok (sd', c') => (t, sd') :: cycles dir n sd' c'
      | .error _ => []

/-- from any SDict that is written as `cycText items`, every cycle writes `cycText items` and reads the meaning of the
    canonical document (with the ids the counter hands out at that point) -/
theorem cycles_written {c : Counter} {items : List CItem} (dir : Str) (H : HW2 c items)
    (H₂ : ∀ c₁, C13.ValidCounter Gen.counterLimit c₁ → HW2 c₁ (writtenDoc2 items))
    (hn : C02.countQuotedEs (plainItems (writtenDoc2 items)) ≤ Gen.counterLimit + 1)
    (hd : C02.DocKeysAbsent (plainItems (writtenDoc2 items))) :
    ∀ (n : Nat) (sd : SD) (c₀ : Counter), fmtSD .native sd = some (cycText items) →
    C13.ValidCounter Gen.counterLimit c₀ →
    (cycles dir n sd c₀).map (·.1) = List.replicate n (cycText items) ∧
    ∀ p ∈ cycles dir n sd c₀, ∃ c', C13.ValidCounter Gen.counterLimit c' ∧ p.2 = denC c' (writtenDoc2 items)
  | 0, _, _, _, _ => ⟨rfl, fun p hp => by cases hp⟩
  | n + 1, sd, c₀, hw, hc₀ => by
    obtain ⟨c', hc', hr⟩ := read_cycText dir H hc₀ hn hd
    obtain ⟨ht, hall⟩ := cycles_written dir H H₂ hn hd n (denC c₀ (writtenDoc2 items)) c'
      (C03_commented_second_write H (H₂ c₀ hc₀)).2 hc'
    simp only [cycles, hw, hr, List.map_cons, List.replicate_succ, ht, List.mem_cons, forall_eq_or_imp]
    exact ⟨trivial, ⟨c₀, hc₀, rfl⟩, hall⟩

/-! ## 5. the writer hypotheses for the canonical document: all but `indep` follow -/

theorem okI_all (d : Nat) : ∀ (X : List CItem), okI d X = X.all fun it => okI d [it] :=
  all_of_cons (f := okI d) (by simp [okI]) fun it X => by cases it <;> simp [okI]

mutual
  theorem ok_cnormV : ∀ (v : CSrc) (d : Nat), CSrcWFV d v = true → okV d v = true → okV d (cnormV v) = true
    | .lit l, d, hwf, hok => by
      simp only [CSrcWFV, okV, Bool.and_eq_true] at hwf hok
      simp only [cnormV, okV, C01.den_writtenLit hok.1, C03.normScalar_den hwf.1, Bool.and_eq_true]
      exact hok
    | .list xs, d, hwf, hok => by
      simp only [CSrcWFV, okV] at hwf hok
      simp only [cnormV, okV, C01.den_srcOfXs (d + 1) _ hok, C03.norm_denXs (d + 1) xs hwf]
      exact hok
    | .dict items, d, hwf, hok => by
      simp only [CSrcWFV, okV] at hwf hok
      simp only [cnormV, okV]
      exact ok_cnormI items (d + 1) hwf hok
  /-- the document in the writer's spelling satisfies the domain conditions again -/
  theorem ok_cnormI : ∀ (items : List CItem) (d : Nat), CSrcWFItems d items = true → okI d items = true →
      okI d (cnormI items) = true
    | [], _, _, _ => by simp [cnormI, okI]
    | .entry k v :: r, d, hwf, hok => by
      simp only [CSrcWFItems, okI, Bool.and_eq_true] at hwf hok
      simp only [cnormI, okI, Bool.and_eq_true, keyOfStr_keyStr hok.1.1]
      exact ⟨⟨hok.1.1, ok_cnormV v d hwf.1.2 hok.1.2⟩, ok_cnormI r d hwf.2 hok.2⟩
    | .lineC x :: r, d, hwf, hok => by
      simp only [CSrcWFItems, okI, Bool.and_eq_true] at hwf hok
      simp only [cnormI, okI, Bool.and_eq_true]
      exact ⟨hok.1, ok_cnormI r d hwf.2 hok.2⟩
    | .blockC x :: r, d, hwf, hok => by
      simp only [CSrcWFItems, okI, Bool.and_eq_true] at hwf hok
      simp only [cnormI, okI, Bool.and_eq_true]
      exact ⟨hok.1, ok_cnormI r d hwf.2 hok.2⟩
end

theorem levelKeys_flatMap : ∀ (X : List CItem), levelKeys X = X.flatMap fun it => levelKeys [it] :=
  flatMap_of_cons (f := levelKeys) (by simp [levelKeys]) fun it X => by cases it <;> simp [levelKeys]

theorem levelKeys_cnorm {d : Nat} : ∀ (items : List CItem), okI d items = true → levelKeys (cnormI items) = levelKeys items
  | [], _ => by simp [cnormI]
  | .entry k v :: r, h => by
    simp only [okI, Bool.and_eq_true] at h
    simp only [cnormI, levelKeys, keyOfStr_keyStr h.1.1, levelKeys_cnorm r h.2]
  | .lineC x :: r, h => by
    simp only [okI, Bool.and_eq_true] at h
    simp only [cnormI, levelKeys, levelKeys_cnorm r h.2]
  | .blockC x :: r, h => by
    simp only [okI, Bool.and_eq_true] at h
    simp only [cnormI, levelKeys, levelKeys_cnorm r h.2]

theorem klvI_all : ∀ (X : List CItem), klvI X = X.all fun it => klvI [it] :=
  all_of_cons (f := klvI) (by simp [klvI]) fun it X => by cases it <;> simp [klvI]

mutual
  theorem klv_cnormV : ∀ (v : CSrc) (d : Nat), okV d v = true → klvV v = true → klvV (cnormV v) = true
    | .lit l, _, _, _ => by simp only [cnormV, klvV]
    | .list xs, _, _, _ => by simp only [cnormV, klvV]
    | .dict items, d, hok, h => by
      simp only [okV] at hok
      simp only [klvV, Bool.and_eq_true, decide_eq_true_eq] at h
      simp only [cnormV, klvV, Bool.and_eq_true, decide_eq_true_eq, levelKeys_cnorm items hok]
      exact ⟨h.1, klv_cnormI items (d + 1) hok h.2⟩
  theorem klv_cnormI : ∀ (items : List CItem) (d : Nat), okI d items = true → klvI items = true →
      klvI (cnormI items) = true
    | [], _, _, _ => by simp [cnormI, klvI]
    | .entry k v :: r, d, hok, h => by
      simp only [okI, Bool.and_eq_true] at hok
      simp only [klvI, Bool.and_eq_true] at h
      simp only [cnormI, klvI, Bool.and_eq_true]
      exact ⟨klv_cnormV v d hok.1.2 h.1, klv_cnormI r d hok.2 h.2⟩
    | .lineC x :: r, d, hok, h => by
      simp only [okI, Bool.and_eq_true] at hok
      simp only [klvI] at h
      simp only [cnormI, klvI]
      exact klv_cnormI r d hok.2 h
    | .blockC x :: r, d, hok, h => by
      simp only [okI, Bool.and_eq_true] at hok
      simp only [klvI] at h
      simp only [cnormI, klvI]
      exact klv_cnormI r d hok.2 h
end

mutual
  theorem klv_dedupV : ∀ (v : CSrc), klvV v = true → klvV (dedupV v) = true
    | .lit l, _ => by simp only [dedupV, klvV]
    | .list xs, _ => by simp only [dedupV, klvV]
    | .dict items, h => by
      simp only [klvV, Bool.and_eq_true, decide_eq_true_eq] at h
      simp only [dedupV, klvV, Bool.and_eq_true, decide_eq_true_eq, (lvl_dedup items [] []).2.2]
      exact ⟨h.1, klv_dedupI items [] [] h.2⟩
  theorem klv_dedupI : ∀ (items : List CItem) (sl sb : List Str), klvI items = true → klvI (dedupLvl sl sb items) = true
    | [], _, _, _ => by simp [dedupLvl, klvI]
    | .entry k v :: r, sl, sb, h => by
      simp only [klvI, Bool.and_eq_true] at h
      simp only [dedupLvl, klvI, Bool.and_eq_true]
      exact ⟨klv_dedupV v h.1, klv_dedupI r sl sb h.2⟩
    | .lineC x :: r, sl, sb, h => by
      simp only [klvI] at h
      simp only [dedupLvl]
      split
      · exact klv_dedupI r sl sb h
      · simp only [klvI]; exact klv_dedupI r _ sb h
    | .blockC x :: r, sl, sb, h => by
      simp only [klvI] at h
      simp only [dedupLvl]
      split
      · exact klv_dedupI r sl sb h
      · simp only [klvI]; exact klv_dedupI r sl _ h
end

theorem lineFullsI_flatMap : ∀ (X : List CItem), lineFullsI X = X.flatMap fun it => lineFullsI [it] :=
  flatMap_of_cons (f := lineFullsI) (by simp [lineFullsI]) fun it X => by cases it <;> simp [lineFullsI]

mutual
  theorem lineFulls_cnormV : ∀ (v : CSrc), lineFullsV (cnormV v) = lineFullsV v
    | .lit l => by simp only [cnormV, lineFullsV]
    | .list xs => by simp only [cnormV, lineFullsV]
    | .dict items => by simp only [cnormV, lineFullsV, lineFulls_cnormI items]
  theorem lineFulls_cnormI : ∀ (items : List CItem), lineFullsI (cnormI items) = lineFullsI items
    | [] => by simp only [cnormI]
    | .entry k v :: r => by simp only [cnormI, lineFullsI, lineFulls_cnormV v, lineFulls_cnormI r]
    | .lineC x :: r => by simp only [cnormI, lineFullsI, lineFulls_cnormI r]
    | .blockC x :: r => by simp only [cnormI, lineFullsI, lineFulls_cnormI r]
end

mutual
  theorem count_dedupV : ∀ (v : CSrc), (lineFullsV (dedupV v)).length ≤ (lineFullsV v).length ∧
      (blockFullsV (dedupV v)).length ≤ (blockFullsV v).length
    | .lit l => by simp only [dedupV]; exact ⟨Nat.le_refl _, Nat.le_refl _⟩
    | .list xs => by simp only [dedupV]; exact ⟨Nat.le_refl _, Nat.le_refl _⟩
    | .dict items => by simp only [dedupV, lineFullsV, blockFullsV]; exact count_dedupI items [] []
  /-- the removal of repetitions does not add comments -/
  theorem count_dedupI : ∀ (items : List CItem) (sl sb : List Str),
      (lineFullsI (dedupLvl sl sb items)).length ≤ (lineFullsI items).length ∧
      (blockFullsI (dedupLvl sl sb items)).length ≤ (blockFullsI items).length
    | [], _, _ => by simp [dedupLvl]
    | .entry k v :: r, sl, sb => by
      obtain ⟨a1, a2⟩ := count_dedupV v
      obtain ⟨b1, b2⟩ := count_dedupI r sl sb
      simp only [dedupLvl, lineFullsI, blockFullsI, List.length_append]
      exact ⟨by omega, by omega⟩
    | .lineC x :: r, sl, sb => by
      simp only [dedupLvl]
      split
      · obtain ⟨b1, b2⟩ := count_dedupI r sl sb
        simp only [lineFullsI, blockFullsI, List.length_cons]
        exact ⟨by omega, b2⟩
      · obtain ⟨b1, b2⟩ := count_dedupI r (sl ++ [x]) sb
        simp only [lineFullsI, blockFullsI, List.length_cons]
        exact ⟨by omega, b2⟩
    | .blockC x :: r, sl, sb => by
      simp only [dedupLvl]
      split
      · obtain ⟨b1, b2⟩ := count_dedupI r sl sb
        simp only [lineFullsI, blockFullsI, List.length_cons]
        exact ⟨b1, by omega⟩
      · obtain ⟨b1, b2⟩ := count_dedupI r sl (sb ++ [x])
        simp only [lineFullsI, blockFullsI, List.length_cons]
        exact ⟨b1, by omega⟩
end

/-- **the writer hypotheses for the canonical document**: they follow from those for the document, except that the
    block comments must be independent in the order in which the canonical document lists them (`hind`; it does not
    follow: `second_write_needs_indep`), and that there is room for the default header among the 10^6 block ids. -/
theorem hw2_written {c c₂ : Counter} {items : List CItem} (H : HW2 c items)
    (hc₂ : C13.ValidCounter Gen.counterLimit c₂) (hblk : (blockFullsI items).length < 1000000)
    (hind : indepFrom [] (writtenBlocks (writtenDoc2 items)) = true) : HW2 c₂ (writtenDoc2 items) := by
  have hwfd : CSrcWFItems 1 (dedupI items) = true := wf_dedupI items 1 [] [] H.wf
  have hokd : okI 1 (dedupI items) = true := ok_dedupI items 1 [] [] H.ok
  have hokN : okI 1 (cnormI (dedupI items)) = true := ok_cnormI _ 1 hwfd hokd
  have hkd : levelKeys (dedupI items) = levelKeys items := (lvl_dedup items [] []).2.2
  have hkN : levelKeys (cnormI (dedupI items)) = levelKeys items := by
    rw [levelKeys_cnorm _ hokd]; exact hkd
  have hklN : klvI (cnormI (dedupI items)) = true := klv_cnormI _ 1 hokd (klv_dedupI items [] [] H.keysAll)
  have cl : (lineFullsI (dedupI items)).length ≤ (lineFullsI items).length := (count_dedupI items [] []).1
  have cb : (blockFullsI (dedupI items)).length ≤ (blockFullsI items).length := (count_dedupI items [] []).2
  have hp := writtenDoc2_perm items
  refine ⟨⟨writtenDoc2_wf H, ?_, ?_, ?_, ?_, ?_, hc₂⟩, ?_, ?_⟩
  · -- ok
    rw [okI_all, hp.all_eq, List.all_append, ← okI_all, ← okI_all, hokN, Bool.and_true]
    split
    · rfl
    · have : blockTextOK C12.hdrBody = true := by decide +kernel
      simp [okI, this]
  · -- keys of the top level
    rw [levelKeys_flatMap, (hp.flatMap_right _).nodup_iff, List.flatMap_append, ← levelKeys_flatMap, ← levelKeys_flatMap, hkN]
    split <;> simpa [levelKeys] using H.keys
  · -- keys below
    rw [klvI_all, hp.all_eq, List.all_append, ← klvI_all, ← klvI_all, hklN, Bool.and_true]
    split <;> rfl
  · -- line comments
    rw [lineFullsI_flatMap, (hp.flatMap_right _).length_eq, List.flatMap_append, ← lineFullsI_flatMap,
      ← lineFullsI_flatMap, lineFulls_cnormI, List.length_append]
    have := H.nLine
    split <;> simp only [lineFullsI, List.length_nil] <;> omega
  · -- block comments
    rw [blockFullsI_flatMap, (hp.flatMap_right _).length_eq, List.flatMap_append, ← blockFullsI_flatMap,
      ← blockFullsI_flatMap, blockFulls_cnormI, List.length_append]
    split <;> simp only [blockFullsI, List.length_cons, List.length_nil] <;> omega
  · exact written_first H
  · rw [written_dedup H]; exact hind

/-- **C03, second write, sharp form**: the only hypotheses on the canonical document are the independence of its block
    comments in its own order and the room for the default header. -/
theorem C03_commented_second_write' {c c₂ : Counter} {items : List CItem} (H : HW2 c items)
    (hc₂ : C13.ValidCounter Gen.counterLimit c₂) (hblk : (blockFullsI items).length < 1000000)
    (hind : indepFrom [] (writtenBlocks (writtenDoc2 items)) = true) :
    fmtSD .native (denC c items) = some (cycText items) ∧
    fmtSD .native (denC c₂ (writtenDoc2 items)) = some (cycText items) :=
  C03_commented_second_write H (hw2_written H hc₂ hblk hind)

/-- **C03, every cycle, sharp form** -/
theorem C03_commented_cycles' {c : Counter} {items : List CItem} (dir : Str) (H : HW2 c items)
    (hblk : (blockFullsI items).length < 1000000)
    (hind : indepFrom [] (writtenBlocks (writtenDoc2 items)) = true)
    (hn : C02.countQuotedEs (plainItems (writtenDoc2 items)) ≤ Gen.counterLimit + 1)
    (hd : C02.DocKeysAbsent (plainItems (writtenDoc2 items))) (n : Nat) {c₀ : Counter}
    (hc₀ : C13.ValidCounter Gen.counterLimit c₀) :
    (cycles dir n (denC c items) c₀).map (·.1) = List.replicate n (cycText items) ∧
    ∀ p ∈ cycles dir n (denC c items) c₀,
      ∃ c', C13.ValidCounter Gen.counterLimit c' ∧ p.2 = denC c' (writtenDoc2 items) :=
  cycles_written dir H (fun _ hc₁ => hw2_written H hc₁ hblk hind) hn hd n _ c₀ (written_text H) hc₀

/-! ## 6. non-vacuity: two cycles on `exW` and on `exDup` -/

theorem exW_hw2 : HW2 none exW := exW_hw.toHW2

theorem exW_cycText : cycText exW = exWText := by
  have h1 := written_text exW_hw2
  rw [exW_written] at h1
  exact (Option.some.inj h1).symm

/-- two cycles from the SDict read from `exW`: both write `exWText` -/
theorem exW_two_cycles (dir : Str) :
    (cycles dir 2 (denC none exW) none).map (·.1) = [exWText, exWText] ∧
    ∀ p ∈ cycles dir 2 (denC none exW) none, ∃ c', p.2 = denC c' (writtenDoc2 exW) := by
  have hn : C02.countQuotedEs (plainItems (writtenDoc2 exW)) ≤ Gen.counterLimit + 1 := by
    unfold exW; literal_chars; decide +kernel
  have hd : C02.DocKeysAbsent (plainItems (writtenDoc2 exW)) := by unfold exW; literal_chars; decide +kernel
  obtain ⟨ht, hall⟩ := C03_commented_cycles' dir exW_hw2 (by decide +kernel) (by unfold exW; literal_chars; decide +kernel)
    hn hd 2 (Or.inl rfl)
  refine ⟨?_, fun p hp => ?_⟩
  · rw [ht, exW_cycText]; rfl
  · obtain ⟨c', _, h⟩ := hall p hp
    exact ⟨c', h⟩

theorem exDup_cycText : cycText exDup = exDupText := by
  have h1 := written_text exDup_hw
  rw [exDup_written] at h1
  exact (Option.some.inj h1).symm

/-- two cycles from the SDict read from `exDup` (repeated comments): both write `exDupText` -/
theorem exDup_two_cycles (dir : Str) :
    (cycles dir 2 (denC none exDup) none).map (·.1) = [exDupText, exDupText] ∧
    ∀ p ∈ cycles dir 2 (denC none exDup) none, ∃ c', p.2 = denC c' (writtenDoc2 exDup) := by
  have hn : C02.countQuotedEs (plainItems (writtenDoc2 exDup)) ≤ Gen.counterLimit + 1 := by
    unfold exDup; literal_chars; decide +kernel
  have hd : C02.DocKeysAbsent (plainItems (writtenDoc2 exDup)) := by unfold exDup; literal_chars; decide +kernel
  obtain ⟨ht, hall⟩ := C03_commented_cycles' dir exDup_hw (by decide +kernel)
    (by unfold exDup; literal_chars; decide +kernel) hn hd 2 (Or.inl rfl)
  refine ⟨?_, fun p hp => ?_⟩
  · rw [ht, exDup_cycText]; rfl
  · obtain ⟨c', _, h⟩ := hall p hp
    exact ⟨c', h⟩

/-! ## 7. the writer hypotheses for the canonical document do not follow: the order of the block comments changes -/

/-- `/* C++ A */ sub { /*b*/ } /* x /*b*/` — the nested comment `/*b*/` occurs inside the later top-level comment -/
def exO : List CItem :=
  [.blockC " C++ A ".toList, .entry "sub".toList (.dict [.blockC "b".toList]), .blockC " x /*b".toList]

/-- the data read from `exO` (ids `0`, `i`, `j`) -/
def exOData (i j : Nat) : Entries :=
  [phEntry false 0, phEntry false i, (.str "sub".toList, .dict [phEntry false j])]

theorem exO_raw (i j : Nat) : fmtEntries .native 0 (exOData i j) =
    fline 0 (XTok.ph false 0 (padOf 0 (phWord false 0))).text ++
      (fline 0 (XTok.ph false i (padOf 0 (phWord false i))).text ++
        (fline 0 "sub".toList ++ fline 0 ['{'] ++ fline 1 (XTok.ph false j (padOf 1 (phWord false j))).text ++ fline 0 ['}'])) := by
  simp only [exOData, fmt_phEntry, fmtEntries, keyStr, List.append_nil]

theorem exO_hw2 : HW2 none exO := by
  unfold exO
  literal_chars
  exact ⟨⟨by decide +kernel, by decide +kernel, by decide +kernel, by decide +kernel, by decide +kernel, by decide +kernel,
    Or.inl rfl⟩, by decide +kernel, by decide +kernel⟩

/-- **finding (a second cycle can lose a block comment).**  `HW2` holds for `exO`: in the source the nested `/*b*/`
    comes before `/* x /*b*/`, so the `bc in sofar` test of `insert_block_comments` does not fire.  The writer hoists
    the top-level block comments, so in the written file — and in the table of its re-read — `/* x /*b*/` comes first;
    in the second cycle `/*b*/` is found inside what was written before it and is written as the empty text.  Hence
    the hypothesis `H₂` of `C03_commented_second_write` (its `indep` part is false here). -/
theorem second_write_needs_indep :
    HW2 none exO ∧
    fmtSD .native (denC none exO) = some "/* C++ A */\n/* x /*b*/\nsub\n{\n    /*b*/\n}\n".toList ∧
    fmtSD .native (denC none (writtenDoc2 exO)) = some "/* C++ A */\n/* x /*b*/\nsub\n{\n\n}\n".toList ∧
    indepFrom [] (writtenBlocks (dedupI (writtenDoc2 exO))) = false := by
  refine ⟨exO_hw2, ?_, ?_, by unfold exO; literal_chars; decide +kernel⟩
  · have h : hoistPlaceholders (denC none exO).data = exOData 2 1 ∧
        (denC none exO).lineC = [] ∧
        (denC none exO).blockC = [(0, "/* C++ A */".toList), (1, "/*b*/".toList), (2, "/* x /*b*/".toList)] ∧
        (denC none exO).incl = [] := by unfold exO; literal_chars; decide +kernel
    rw [fmtSD_noIncl _ h.2.2.2, h.1, h.2.1, h.2.2.1, exO_raw]
    literal_chars
    decide +kernel
  · have h : hoistPlaceholders (denC none (writtenDoc2 exO)).data = exOData 1 2 ∧
        (denC none (writtenDoc2 exO)).lineC = [] ∧
        (denC none (writtenDoc2 exO)).blockC =
          [(0, "/* C++ A */".toList), (1, "/* x /*b*/".toList), (2, "/*b*/".toList)] ∧
        (denC none (writtenDoc2 exO)).incl = [] := by unfold exO; literal_chars; decide +kernel
    rw [fmtSD_noIncl _ h.2.2.2, h.1, h.2.1, h.2.2.1, exO_raw]
    literal_chars
    decide +kernel
end DictIO.C03c
