/-
  C17 -- the regular expressions of the library functions this property's model was written against, pinned against the
  table regenerated from the sources on every run (Generated/Regex.lean, harness/extract_regex.py).  After a changed
  pattern the row stated below is no longer in the table and the membership proof fails: the hand-written recogniser
  of the model is then no longer justified, and the check searches for a failing input.
  Generated by tools/mkrepins.py (never run by a check).
-/
import DictIO.Lemmas.Regex

namespace DictIO.C17.Re
open DictIO.Gen

theorem re_cli_dict_parser__validate_scope :
    regexesOf "cli/dict_parser.py" "_validate_scope" = ["match:^\\s*\\["] :=
  regexesOf_of_mem (by simp only [regexTable, List.mem_cons, true_or, or_true])

theorem re_dict_writer_create_target_file_name :
    regexesOf "dict_writer.py" "create_target_file_name" = ["sub:^{re.escape(prefix)}"] :=
  regexesOf_of_mem (by simp only [regexTable, List.mem_cons, true_or, or_true])

end DictIO.C17.Re
