/-
  C01, route 3 -- `SDict(d).dump(f)` then `SDict().load(f)`: the statement `C01_roundtrip_dump_statement` of
  Props/C01.lean, proved.

  `dump` writes `fmtSD .native { data := normEs d }` = the header block comment followed by the plain text of
  `normEs d` (`C12.fmtSD_text`).  `load` reads that file with comments on: the header comes back as block comment 0
  and one placeholder entry in front of the data (`C12.read_dumped`); the reader stages above the parser
  (`_merge_includes`, `_eval_expressions`) change nothing (`readFile_clean` of Props/C01.lean).

    `readFile_of_parse_hdr`, `readFile_dumped_fs`, `readFile_dumped`
                             `DictReader.read` on a file with header / on a dumped file (any file system and options /
                             one file, default options), counter valid afterwards
    `dropPh_hdr`             removing the placeholder entries gives the data back
    `C01_roundtrip_dump`     the statement
-/
import DictIO.Props.C12hdr

namespace DictIO.C01
open DictIO

attribute [local irreducible] nativeHeader

/-! ## reading a dumped file -/

/-- removing the placeholder entries from what `load` returns gives the data back -/
theorem dropPh_hdr {D : Entries} (hp : C07.NoPhEs D) : dropPhEntries (C12.hdrSD D).data = D := by
  have hk := C07.noPhEs_keys hp
  show List.filter _ (C12.hdrEntry :: D) = D
  rw [List.filter_cons]
  have : (!C07.isPhKey C12.hdrEntry.1) = false := by
    show (!C07.isPhKey (.str C12.hdrPh)) = false
    rw [C12.hdrPh_isPh]; rfl
  rw [this]
  simp only [Bool.false_eq_true, if_false]
  exact List.filter_eq_self.mpr fun e he => by rw [hk e.1 (List.mem_map_of_mem he)]; rfl

/-- `DictReader.read` with default options on a native file whose text parses to a dict with the header placeholder
    entry and the header comment: the stages above the parser change nothing -/
theorem readFile_of_parse_hdr {D : Entries} {c c' : Counter} (ev : Str → EvalResult) (p : Comps) (text : Str)
    (hparse : parseNative true (pathStr p.dropLast) c text = .ok (C12.hdrSD D, c'))
    (hp : C07.NoPhEs D) (hn : NodupKeysV (.dict D))
    (hj : isJsonPath p = false) (hx : isXmlPath p = false) (hr : resolveSpelled p = p) :
    readFile ev [(p, .native text)] {} c p = .ok (.ok (C12.hdrSD D) c') :=
  readFile_clean (o := {}) (by rw [hr]; exact fs_get_single _ _) hx hj hparse rfl rfl
    (C12.clean_single_header _ D rfl hp hn) (C12.hdr_nodup hp hn)

/-- `DictReader.read`, with any options that keep the comments, of the text `dump` writes for a normalised dict `D` of
    the value domain, in EVERY file system that holds it at `target`: `D` with the header placeholder entry in front
    and the header comment in the block-comment table; the same counter in all of them, one that can occur -/
theorem readFile_dumped_fs {D : Entries} {c : Counter} (ev : Str → EvalResult) (target : Comps) (o : ReadOpts)
    (ho : o.comments = true) (hdom : DomC01 .native D = true) (hnorm : normEs D = D) (hd : DocKeysAbsent' D)
    (hn : C02.countQuotedEs (srcOfEs .native D) ≤ Gen.counterLimit + 1) (hc : C13.ValidCounter Gen.counterLimit c)
    (hj : isJsonPath target = false) (hx : isXmlPath target = false) (hr : resolveSpelled target = target) :
    ∃ c', C13.ValidCounter Gen.counterLimit c' ∧
      ∀ fs : FS, fs.get target = some (.native (nativeHeader ++ fmtPlain .native D)) →
        readFile ev fs o c target = .ok (readPost o (C12.hdrSD D) c') := by
  obtain ⟨c', hv, hparse⟩ := C12.read_dumped (c := c) (pathStr target.dropLast) hdom hnorm hd hn hc
  have hinv := norm_invariants hdom
  rw [hnorm] at hinv
  exact ⟨c', hv, fun fs hget => readFile_clean (by rw [hr]; exact hget) hx hj (by rw [ho]; exact hparse) rfl rfl
    (C12.clean_single_header _ D rfl hinv.1 hinv.2) (C12.hdr_nodup hinv.1 hinv.2)⟩

/-- … with the default options (comments on, includes on), in the one-file file system -/
theorem readFile_dumped {D : Entries} {c : Counter} (ev : Str → EvalResult) (target : Comps)
    (hdom : DomC01 .native D = true) (hnorm : normEs D = D) (hd : DocKeysAbsent' D)
    (hn : C02.countQuotedEs (srcOfEs .native D) ≤ Gen.counterLimit + 1) (hc : C13.ValidCounter Gen.counterLimit c)
    (hj : isJsonPath target = false) (hx : isXmlPath target = false) (hr : resolveSpelled target = target) :
    ∃ c', C13.ValidCounter Gen.counterLimit c' ∧
      readFile ev [(target, .native (nativeHeader ++ fmtPlain .native D))] {} c target =
        .ok (.ok (C12.hdrSD D) c') := by
  obtain ⟨c', hv, h⟩ := readFile_dumped_fs (c := c) ev target {} rfl hdom hnorm hd hn hc hj hx hr
  exact ⟨c', hv, h _ (fs_get_single _ _)⟩

/-- **C01, route 3** (`SDict(d).dump(f)` then `SDict().load(f)`).  `dump` writes the default header in front of the
    dict; `load` reads the file with comments on, so the header comes back as a block-comment table entry and one
    placeholder entry in the data.  Apart from that placeholder entry the data read is `normEs d`.
    (`text` is `nativeHeader ++ fmtPlain .native (normEs d)`, `sd` is `C12.hdrSD (normEs d)`.) -/
theorem C01_roundtrip_dump : C01_roundtrip_dump_statement := by
  intro ev d c target hdom hd hn hc hj hx hr
  obtain ⟨c', _, hread⟩ := readFile_dumped (c := c) ev target hdom (normEs_idem d) (docKeysAbsent_norm hd) hn hc hj hx hr
  have hp := (norm_invariants hdom).1
  rw [normEs_idem] at hp
  exact ⟨nativeHeader ++ fmtPlain .native (normEs d), C12.hdrSD (normEs d), c', C12.fmtSD_text (normEs d), hread,
    dropPh_hdr hp⟩

/-- the explicit form: what is written and what is read -/
theorem C01_roundtrip_dump_explicit {d : Entries} {c : Counter} (ev : Str → EvalResult) (target : Comps)
    (hdom : DomC01 .native (normEs d) = true) (hd : DocKeysAbsent' d)
    (hn : C02.countQuotedEs (srcOfEs .native (normEs d)) ≤ Gen.counterLimit + 1)
    (hc : C13.ValidCounter Gen.counterLimit c)
    (hj : isJsonPath target = false) (hx : isXmlPath target = false) (hr : resolveSpelled target = target) :
    fmtSD .native { data := normEs d } = some (nativeHeader ++ fmtPlain .native (normEs d)) ∧
    ∃ c', readFile ev [(target, .native (nativeHeader ++ fmtPlain .native (normEs d)))] {} c target =
      .ok (.ok { data := (Key.str C12.hdrPh, Val.leaf (.str C12.hdrPh)) :: normEs d,
                 blockC := [(0, C12.hdrComment)] } c') := by
  obtain ⟨c', _, hread⟩ := readFile_dumped (c := c) ev target hdom (normEs_idem d) (docKeysAbsent_norm hd) hn hc hj hx hr
  exact ⟨C12.fmtSD_text (normEs d), c', hread⟩

/-! ## non-vacuity: the example dict of `C01fmt` -/

theorem exDict_route3 (ev : Str → EvalResult) :
    ∃ text sd c', fmtSD .native { data := exDict } = some text ∧
      readFile ev [(["w".toList, "dict".toList], .native text)] {} none ["w".toList, "dict".toList] = .ok (.ok sd c') ∧
      dropPhEntries sd.data = exDict := by
  have h := C01_roundtrip_dump ev exDict none ["w".toList, "dict".toList]
    (by rw [exDict_norm]; exact exDict_dom) exDict_docKeys (by rw [exDict_norm, exDict_count]; decide) (Or.inl rfl)
    (by decide) (by decide) (by decide)
  rw [exDict_norm] at h
  exact h

end DictIO.C01
