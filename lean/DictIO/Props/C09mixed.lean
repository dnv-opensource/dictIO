/-
  C09 (mixed) -- the equivalence of Props/C09equiv.lean for MIXED include graphs: every file of a model document is
  rendered independently in native or in JSON syntax.

  A rendering is given by a choice function `syn : Comps → Bool` on the (resolved) file paths, `true` = JSON
  (`renderMixed syn doc`; only files of the document count: `eff`).  The file `p` is written to `p` (native text
  `nativeText`) or to `jsonPathOf p` (JSON, the content tree as it is); an include name `n` in a file of directory `d` is
  spelled `n.json` exactly when its target `resolveSpelled (spellJoin d n)` is a JSON-rendered file (`rn`, `renameC` of
  Props/C09equiv.lean).

    `C09_equiv_mixed`          any two renderings `synA`, `synB` of a well-formed document read to equal data up to the
                               placeholder entries (general form `C09_equiv_mixed_choice`: also `stripEs` at every level)
    `C09_equiv_mixed_native`   any rendering against `renderNative doc` of Props/C09.lean (`viewM` against `viewN`)
    `viewM`, `rec_congrM`      a mixed rendering is a `View` of the document (path map `pathM`, name map `rn`):
                               `_merge_includes_recursive` on it computes `mergeDoc` (`View.mergeRec` of Props/C09equiv.lean)
    `ExM.exM_equiv`            non-vacuity: `Ex.exDoc` with `main` native, `a` JSON, `sub/b` native, evaluated in the kernel

  Hypotheses beyond `DocWF` of C09equiv: `NoClash doc` -- no file path and no include target of the document is the JSON
  path `q.json` of a file `q` of the document.  Without it (argued, no witness proved here) two files can be rendered to one path
  (`/w/a` in JSON and a native `/w/a.json`), and a missing target `a.json` is found in the renderings that put `/w/a` in
  JSON and missing in the others.  `root ∈ doc.map (·.1)`, no `.`/`..` in `root`, valid counters: as in Props/C09equiv.lean.
-/
import DictIO.Props.C09equiv

namespace DictIO.C09.Mixed
open DictIO DictIO.C07 DictIO.C06 DictIO.C06fold DictIO.C09

/-! ## 0. mixed renderings -/

/-- the path of the rendering of the file `p`: `.json` is appended exactly for the JSON-rendered files -/
def pathM (s : Comps → Bool) (p : Comps) : Comps := if s p then jsonPathOf p else p

/-- the body of the rendering of a file: JSON (the tree as it is) or native text -/
def bodyM (s : Comps → Bool) (f : Comps × Entries) : FileBody :=
  if s f.1 then .json (renameC s f.1.dropLast f.2) else .native (nativeText (renameC s f.1.dropLast f.2))

/-- the file system of a mixed rendering -/
def renderM (s : Comps → Bool) (doc : Doc) : FS := doc.map fun f => (pathM s f.1, bodyM s f)

/-- the effective choice: only files of the document are rendered -/
def eff (doc : Doc) (syn : Comps → Bool) (t : Comps) : Bool := doc.any (fun f => f.1 == t) && syn t

/-- a choice that renders files of the document only -/
def Choice (doc : Doc) (s : Comps → Bool) : Prop := ∀ t, s t = true → t ∈ doc.map (·.1)

theorem eff_choice (doc : Doc) (syn : Comps → Bool) : Choice doc (eff doc syn) := by
  intro t h
  simp only [eff, Bool.and_eq_true, List.any_eq_true, beq_iff_eq] at h
  obtain ⟨⟨f, hf, rfl⟩, _⟩ := h
  exact List.mem_map_of_mem hf

/-! ## 1. the renamed content tree of a file is well formed -/

/-- `t` is not the JSON path of a file of the document -/
def ClashFree (doc : Doc) (t : Comps) : Prop := ∀ g ∈ doc, t ≠ jsonPathOf g.1

/-- no file path and no include target of the document is the JSON path of a file of the document: the renderings of
    two files never get the same path, and a missing target stays missing in every rendering -/
structure NoClash (doc : Doc) : Prop where
  paths : ∀ f ∈ doc, ClashFree doc f.1
  targets : ∀ f ∈ doc, ∀ n ∈ inclNames f.2, ClashFree doc (targetOf f.1.dropLast n)

/-- the target of a spelled name is the rendering of the target of the name -/
theorem rn_target (s : Comps → Bool) (d : Comps) {n : Str} (h : nameOK n = true) :
    targetOf d (rn s d n) = pathM s (targetOf d n) ∧ (spellJoin d (rn s d n)).dropLast = (spellJoin d n).dropLast := by
  unfold rn pathM
  cases hs : s (targetOf d n) with
  | true => simp only [if_true]; exact ⟨(spell_json d h).2.1, (spell_json d h).1⟩
  | false => simp only [Bool.false_eq_true, if_false, and_self]

theorem rn_inj {doc : Doc} {s : Comps → Bool} (hs : Choice doc s) (d : Comps) {n m : Str} (hn : nameOK n = true)
    (hm : nameOK m = true) (cn : ClashFree doc (targetOf d n)) (cm : ClashFree doc (targetOf d m))
    (h : rn s d n = rn s d m) : n = m := by
  have key : ∀ {a b : Str}, nameOK a = true → s (targetOf d a) = true → ClashFree doc (targetOf d b) →
      a ++ ".json".toList = b → False := by
    intro a b ha hsa cb e
    obtain ⟨g, hg, hg1⟩ := List.mem_map.mp (hs _ hsa)
    apply cb g hg
    rw [hg1, ← e]
    exact (spell_json d ha).2.1
  unfold rn at h
  cases h1 : s (targetOf d n) <;> cases h2 : s (targetOf d m) <;> simp only [h1, h2, if_true, Bool.false_eq_true, if_false] at h
  · exact h
  · exact (key hm h2 cn h.symm).elim
  · exact (key hn h1 cm h).elim
  · exact List.append_cancel_right h

theorem renamed_wf {doc : Doc} {s : Comps → Bool} (hs : Choice doc s) (d : Comps) {es : Entries} (hw : ContentWF es)
    (hc : ∀ n ∈ inclNames es, ClashFree doc (targetOf d n)) : ContentWF (renameC s d es) :=
  renameC_wf s d hw fun a ha b hb h => rn_inj hs d (hw.names a ha) (hw.names b hb) (hc a ha) (hc b hb) h

/-! ## 2. paths of a mixed rendering -/

/-- the paths on which every mixed rendering is faithful: not the root directory, not the JSON path of a file of the
    document -/
abbrev Adm (doc : Doc) (t : Comps) : Prop := t ≠ [] ∧ ClashFree doc t

theorem pathM_beq {doc : Doc} {s : Comps → Bool} (hs : Choice doc s) {p t : Comps} (hp : Adm doc p) (ht : Adm doc t) :
    (pathM s p == pathM s t) = (p == t) := by
  unfold pathM
  cases h1 : s p <;> cases h2 : s t <;> simp only [if_true, Bool.false_eq_true, if_false]
  · have a1 : p ≠ t := fun e => by rw [e, h2] at h1; cases h1
    obtain ⟨g, hg, e⟩ := List.mem_map.mp (hs t h2)
    have a2 : p ≠ jsonPathOf t := by rw [← e]; exact hp.2 g hg
    rw [beq_eq_false_iff_ne.mpr a1, beq_eq_false_iff_ne.mpr a2]
  · have a1 : p ≠ t := fun e => by rw [e, h2] at h1; cases h1
    obtain ⟨g, hg, e⟩ := List.mem_map.mp (hs p h1)
    have a2 : jsonPathOf p ≠ t := by rw [← e]; exact fun e' => ht.2 g hg e'.symm
    rw [beq_eq_false_iff_ne.mpr a1, beq_eq_false_iff_ne.mpr a2]
  · exact jsonPathOf_beq hp.1 ht.1

/-! ## 3. the include merge on two mixed renderings -/

theorem adm_doc {doc : Doc} (hd : DocWF doc) (hn : NoClash doc) : ∀ f ∈ doc, Adm doc f.1 :=
  fun f hf => ⟨hd.paths f hf, hn.paths f hf⟩

/-- a mixed rendering: the file `t` at `pathM s t`, the include names respelled by `rn s` -/
theorem viewM {doc : Doc} {s : Comps → Bool} (hd : DocWF doc) (hn : NoClash doc) (hs : Choice doc s) :
    View doc (Adm doc) (renderM s doc) (pathM s) (rn s) (bodyM s) where
  spell := fun d _ h => rn_target s d h
  name_target := fun h => by unfold rn; rw [h]
  files := rfl
  doc_adm := adm_doc hd hn
  path_beq := pathM_beq hs
  body_spec := fun f hf => ⟨_, renamed_wf hs f.1.dropLast (hd.content f hf) (hn.targets f hf),
    by unfold bodyM; cases s f.1 <;> simp, (renameC_names s f.1.dropLast f.2).2, (renameC_names s f.1.dropLast f.2).1⟩

theorem adm_targets {doc : Doc} (hd : DocWF doc) (hn : NoClash doc) :
    ∀ f ∈ doc, ∀ m ∈ inclNames f.2, Adm doc (targetOf f.1.dropLast m) :=
  fun f hf m hm => ⟨(spell_json _ ((hd.content f hf).names m hm)).2.2, hn.targets f hf m hm⟩

/-- what the induction proves for one amount of fuel: the dicts `x`, `y` are what two renderings give for one file whose
    include names are `names`, read in the directory `dir` -/
def RecCongrM (doc : Doc) (sA sB : Comps → Bool) (fuel : Nat) : Prop :=
  ∀ (anc : List Comps) (x y : SD) (dir : Comps) (c c' : Counter) (r r' : SD) (c1 c1' : Counter) (names : List Str),
    (∀ a ∈ anc, a ∈ doc.map (·.1)) → Good x → Good y → S x = S y →
    (∀ n ∈ names, nameOK n = true) → (∀ n ∈ names, ClashFree doc (targetOf dir n)) →
    filesOf x = names.map (rn sA dir) → filesOf y = names.map (rn sB dir) → Valid c → Valid c' →
    mergeIncludesRec (renderM sA doc) true fuel (anc.map (pathM sA)) x dir c = .ok (r, c1) →
    mergeIncludesRec (renderM sB doc) true fuel (anc.map (pathM sB)) y dir c' = .ok (r', c1') →
    Out r r' c1 c1'

/-- **the congruence lemma for `_merge_includes_recursive` on two mixed renderings** -/
theorem rec_congrM {doc : Doc} {sA sB : Comps → Bool} (hd : DocWF doc) (hnc : NoClash doc) (hsA : Choice doc sA)
    (hsB : Choice doc sB) : ∀ fuel, RecCongrM doc sA sB fuel := by
  intro fuel anc x y dir c c' r r' c1 c1' names hanc gx gy hs hnames hcn hfx hfy hc hc' h h'
  have hanc' : ∀ a ∈ anc, Adm doc a := fun a ha => by
    obtain ⟨g, hg, rfl⟩ := List.mem_map.mp (hanc a ha)
    exact adm_doc hd hnc g hg
  have hcn' : ∀ n ∈ names, Adm doc (targetOf dir n) := fun n hn => ⟨(spell_json dir (hnames n hn)).2.2, hcn n hn⟩
  obtain ⟨g1, s1⟩ := (viewM hd hnc hsA).mergeRec hd (adm_targets hd hnc) fuel anc x dir c r c1 names hanc' gx hnames hcn' hfx hc h
  obtain ⟨g2, s2⟩ := (viewM hd hnc hsB).mergeRec hd (adm_targets hd hnc) fuel anc y dir c' r' c1' names hanc' gy hnames hcn' hfy hc' h'
  exact ⟨g1, g2, by rw [s1, s2, hs], mergeIncludesRec_valid _ _ _ _ _ _ _ _ h hc,
    mergeIncludesRec_valid _ _ _ _ _ _ _ _ h' hc'⟩

/-! ## 4. the whole reader -/

theorem pathM_root {s : Comps → Bool} {root : Comps} (hroot : ∀ comp ∈ root, isDots comp = false) :
    resolveSpelled (pathM s root) = pathM s root ∧ (pathM s root).dropLast = root.dropLast := by
  obtain ⟨r1, r2⟩ := resolve_jsonPathOf hroot
  unfold pathM
  split
  · exact ⟨r2, dropLast_jsonPathOf root⟩
  · exact ⟨r1, rfl⟩

/-- **C09, equivalence of mixed renderings** (effective choices).  Any two renderings of a well-formed model document in
    which every file is rendered in native or in JSON syntax, the include names spelled to match, read to equal data up
    to the comment / include placeholder entries -/
theorem C09_equiv_mixed_choice (ev : Str → EvalResult) (doc : Doc) (root : Comps) (sA sB : Comps → Bool) (c c' : Counter)
    (hd : DocWF doc) (hnc : NoClash doc) (hsA : Choice doc sA) (hsB : Choice doc sB)
    (hr : root ∈ doc.map (·.1)) (hroot : ∀ comp ∈ root, isDots comp = false) (hc : Valid c) (hc' : Valid c') :
    ∀ sdA cA sdB cB,
      readFile ev (renderM sA doc) {} c (pathM sA root) = .ok (.ok sdA cA) →
      readFile ev (renderM sB doc) {} c' (pathM sB root) = .ok (.ok sdB cB) →
      C01.dropPhEntries sdA.data = C01.dropPhEntries sdB.data ∧ stripEs sdA.data = stripEs sdB.data := by
  intro sdA cA sdB cB h h'
  obtain ⟨g, hg, rfl⟩ := List.mem_map.mp hr
  obtain ⟨f, hf, d1, s1⟩ := (viewM hd hnc hsA).read hd (adm_targets hd hnc) ev (adm_doc hd hnc g hg) (pathM_root hroot) hc h
  obtain ⟨f', hf', d2, s2⟩ := (viewM hd hnc hsB).read hd (adm_targets hd hnc) ev (adm_doc hd hnc g hg) (pathM_root hroot) hc' h'
  rw [hf] at hf'
  cases hf'
  exact ⟨by rw [d1, d2, s1, s2], by rw [s1, s2]⟩

/-- the mixed rendering of a document for a choice function `syn : Comps → Bool` (`true`: JSON) on its files -/
abbrev renderMixed (syn : Comps → Bool) (doc : Doc) : FS := renderM (eff doc syn) doc

/-- the path of the rendering of a file of the document -/
abbrev pathMixed (syn : Comps → Bool) (doc : Doc) (p : Comps) : Comps := pathM (eff doc syn) p

/-- **C09, equivalence, mixed include graphs.**  For any two choice functions: the two renderings of a well-formed
    document without expressions read to equal data up to the placeholder entries -/
theorem C09_equiv_mixed (ev : Str → EvalResult) (doc : Doc) (root : Comps) (synA synB : Comps → Bool) (c c' : Counter)
    (hd : DocWF doc) (hnc : NoClash doc) (hr : root ∈ doc.map (·.1)) (hroot : ∀ comp ∈ root, isDots comp = false)
    (hc : Valid c) (hc' : Valid c') :
    ∀ sdA cA sdB cB,
      readFile ev (renderMixed synA doc) {} c (pathMixed synA doc root) = .ok (.ok sdA cA) →
      readFile ev (renderMixed synB doc) {} c' (pathMixed synB doc root) = .ok (.ok sdB cB) →
      C01.dropPhEntries sdA.data = C01.dropPhEntries sdB.data :=
  fun sdA cA sdB cB h h' =>
    (C09_equiv_mixed_choice ev doc root _ _ c c' hd hnc (eff_choice doc synA) (eff_choice doc synB) hr hroot hc hc'
      sdA cA sdB cB h h').1

/-! ## 5. a mixed rendering against the native rendering of C09.lean -/

/-- any mixed rendering against the native rendering of Props/C09.lean -/
theorem C09_equiv_mixed_native (ev : Str → EvalResult) (doc : Doc) (root : Comps) (syn : Comps → Bool) (c c' : Counter)
    (hd : DocWF doc) (hnc : NoClash doc) (hr : root ∈ doc.map (·.1)) (hroot : ∀ comp ∈ root, isDots comp = false)
    (hc : Valid c) (hc' : Valid c') :
    ∀ sdM cM sdN cN,
      readFile ev (renderMixed syn doc) {} c (pathMixed syn doc root) = .ok (.ok sdM cM) →
      readFile ev (renderNative doc) {} c' root = .ok (.ok sdN cN) →
      C01.dropPhEntries sdM.data = C01.dropPhEntries sdN.data := by
  intro sdM cM sdN cN h h'
  obtain ⟨g, hg, rfl⟩ := List.mem_map.mp hr
  obtain ⟨f, hf, d1, s1⟩ := (viewM hd hnc (eff_choice doc syn)).read hd (adm_targets hd hnc) ev (adm_doc hd hnc g hg)
    (pathM_root hroot) hc h
  obtain ⟨f', hf', d2, s2⟩ := (viewN hd).read hd (targets_ne hd) ev (hd.paths g hg) ⟨(resolve_jsonPathOf hroot).1, rfl⟩ hc' h'
  rw [hf] at hf'
  cases hf'
  rw [d1, d2, s1, s2]

/-! ## 6. non-vacuity: `Ex.exDoc` with `main` native, `a` JSON, `sub/b` native -/

namespace ExM
open DictIO.C09.Ex

/-- `/w/a` in JSON, the other files native -/
def synEx : Comps → Bool := fun p => p == ["w".toList, "a".toList]

def mainC' : Entries :=
  [(sk "#include", sv "a.json"), (sk "x", .leaf (.int 1)), (sk "#include 2", sv "sub/b"), (sk "d", .dict [(sk "p", sv "main")])]

def bC' : Entries :=
  [(sk "#include", sv "../a.json"), (sk "z", sv "hello world"), (sk "d", .dict [(sk "r", .leaf (.float "1.5".toList))]),
   (sk "#include 2", sv "nothere")]

theorem mainC'_text : nativeText mainC' = C01.unlines
    ["#include 'a.json'", "#include 'sub/b'", "x                             1;", "d", "{", "    p                         main;", "}"] := by
  have e1 : inclNames mainC' = ["a.json".toList, "sub/b".toList] := by decide +kernel
  have e2 : restOf mainC' = [(sk "x", .leaf (.int 1)), (sk "d", .dict [(sk "p", sv "main")])] := by decide +kernel
  rw [nativeText_eval _ e1 e2 (by decide +kernel)]
  simp only [C01.unlines, List.flatMap_cons, List.flatMap_nil]
  unfold lineOf
  literal_chars
  simp only [sk, sv, fmtEntries, formatKey, keyStr, formatScalar]
  decide +kernel

theorem bC'_text : nativeText bC' = C01.unlines
    ["#include '../a.json'", "#include 'nothere'", "z                             'hello world';", "d", "{",
     "    r                         1.5;", "}"] := by
  have e1 : inclNames bC' = ["../a.json".toList, "nothere".toList] := by decide +kernel
  have e2 : restOf bC' = [(sk "z", sv "hello world"), (sk "d", .dict [(sk "r", .leaf (.float "1.5".toList))])] := by
    decide +kernel
  rw [nativeText_eval _ e1 e2 (by decide +kernel)]
  simp only [C01.unlines, List.flatMap_cons, List.flatMap_nil]
  unfold lineOf
  literal_chars
  simp only [sk, sv, fmtEntries, formatKey, keyStr, formatScalar]
  decide +kernel

/-- the mixed rendering of the example: `/w/main` and `/w/sub/b` as native texts (their includes of `a` spelled `a.json`,
    `../a.json`), `/w/a.json` as JSON -/
def exFsM : FS :=
  [(["w".toList, "main".toList], .native (C01.unlines
      ["#include 'a.json'", "#include 'sub/b'", "x                             1;", "d", "{", "    p                         main;", "}"])),
   (["w".toList, "a.json".toList], .json aC),
   (["w".toList, "sub".toList, "b".toList], .native (C01.unlines
      ["#include '../a.json'", "#include 'nothere'", "z                             'hello world';", "d", "{",
       "    r                         1.5;", "}"]))]

theorem exM_fs : renderMixed synEx exDoc = exFsM := by
  have s1 : eff exDoc synEx ["w".toList, "main".toList] = false := by decide +kernel
  have s2 : eff exDoc synEx ["w".toList, "a".toList] = true := by decide +kernel
  have s3 : eff exDoc synEx ["w".toList, "sub".toList, "b".toList] = false := by decide +kernel
  have r1 : renameC (eff exDoc synEx) ["w".toList] mainC = mainC' := by decide +kernel
  have r2 : renameC (eff exDoc synEx) ["w".toList] aC = aC := by decide +kernel
  have r3 : renameC (eff exDoc synEx) ["w".toList, "sub".toList] bC = bC' := by decide +kernel
  have j : jsonPathOf ["w".toList, "a".toList] = ["w".toList, "a.json".toList] := by decide +kernel
  have d1 : (["w".toList, "main".toList] : Comps).dropLast = ["w".toList] := rfl
  have d2 : (["w".toList, "a".toList] : Comps).dropLast = ["w".toList] := rfl
  have d3 : (["w".toList, "sub".toList, "b".toList] : Comps).dropLast = ["w".toList, "sub".toList] := rfl
  unfold renderMixed renderM
  generalize eff exDoc synEx = s at s1 s2 s3 r1 r2 r3
  simp only [exDoc, List.map_cons, List.map_nil, pathM, bodyM, s1, s2, s3, if_true, Bool.false_eq_true, if_false,
    d1, d2, d3, r1, r2, r3, mainC'_text, bC'_text, j]
  rfl

theorem exM_noClash : NoClash exDoc := by
  refine ⟨?_, ?_⟩
  · show ∀ f ∈ exDoc, ∀ g ∈ exDoc, f.1 ≠ jsonPathOf g.1
    decide +kernel
  · show ∀ f ∈ exDoc, ∀ n ∈ inclNames f.2, ∀ g ∈ exDoc, resolveSpelled (spellJoin f.1.dropLast n) ≠ jsonPathOf g.1
    decide +kernel

set_option synthInstance.maxSize 1000 in
theorem exM_read : (Ex.dataOf (readFile evalInt (renderMixed synEx exDoc) {} none (pathMixed synEx exDoc exRoot))).map
    C01.dropPhEntries = some exExpected := by
  rw [exM_fs]
  have : pathMixed synEx exDoc exRoot = exRoot := by decide +kernel
  rw [this]
  unfold exFsM exRoot
  simp only [C01.unlines, List.flatMap_cons, List.flatMap_nil]
  literal_chars
  decide +kernel

/-- the theorem on the example: the mixed read and the all-native read both succeed and agree up to placeholder entries -/
theorem exM_equiv : ∃ sdM cM sdN cN,
    readFile evalInt (renderMixed synEx exDoc) {} none (pathMixed synEx exDoc exRoot) = .ok (.ok sdM cM) ∧
    readFile evalInt (renderNative exDoc) {} none exRoot = .ok (.ok sdN cN) ∧
    C01.dropPhEntries sdM.data = C01.dropPhEntries sdN.data ∧ C01.dropPhEntries sdM.data = exExpected := by
  have h1 := exM_read
  have h2 := exDoc_native
  cases hM : readFile evalInt (renderMixed synEx exDoc) {} none (pathMixed synEx exDoc exRoot) with
  | error z => rw [hM] at h1; cases h1
  | ok rM =>
    cases rM with
    | exit1 => rw [hM] at h1; cases h1
    | ok sdM cM =>
      cases hN : readFile evalInt (renderNative exDoc) {} none exRoot with
      | error z => rw [hN] at h2; cases h2
      | ok rN =>
        cases rN with
        | exit1 => rw [hN] at h2; cases h2
        | ok sdN cN =>
          refine ⟨sdM, cM, sdN, cN, rfl, rfl, ?_, ?_⟩
          · exact C09_equiv_mixed_native evalInt exDoc exRoot synEx none none exDoc_wf exM_noClash (by decide) (by decide)
              (Or.inl rfl) (Or.inl rfl) sdM cM sdN cN hM hN
          · rw [hM] at h1
            simpa [Ex.dataOf] using h1

end ExM
end DictIO.C09.Mixed
