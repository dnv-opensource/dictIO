/-
  C17 -- the dictParser command line does exactly what the API does.
  `Gen.apiArgs` and `Gen.optionTable` are regenerated from the running code on every check
  (`harness/extract_cli.py`): a polarity or wiring change in `main()` changes `apiArgs` and breaks `cli_calls_api`.
  argparse (argv ↦ Namespace), process start-up and logging set-up are not modelled (correspondence only).
-/
import DictIO.Model.Cli
import DictIO.Lemmas.Literal

namespace DictIO.C17
open DictIO DictIO.Gen

/-- the documented wiring of the flags: `-I` switches include merging *off*, `-C` comments *off*, the rest is
    passed through, the scope text goes through `_validate_scope` -/
theorem cli_calls_api (ns : Namespace) :
    apiArgs ns =
      { sourceFile := ns.dict, includes := !ns.ignoreIncludes, mode := ns.mode, order := ns.order,
        comments := !ns.ignoreComments, scope := .validated ns.scope, output := ns.output } := rfl

/-- polarity spelled out: without `-I` includes are merged, with it they are not (same for `-C`) -/
theorem cli_polarity (ns : Namespace) :
    ((apiArgs ns).includes = true ↔ ns.ignoreIncludes = false) ∧ ((apiArgs ns).comments = true ↔ ns.ignoreComments = false) := by
  rw [cli_calls_api]
  simp only [Bool.not_eq_true', and_self]

/-- console and log options do not influence what is parsed or written -/
theorem cli_logging_irrelevant (ns : Namespace) (q v : Bool) (l : Option String) (ll : String) :
    apiArgs { ns with quiet := q, verbose := v, log := l, logLevel := ll } = apiArgs ns := rfl

/-- the option table is exactly the documented one: flags, destinations, defaults, choices -/
theorem option_table :
    optionTable = [
      ([], "dict", "_StoreAction", "None", []),
      (["-I", "--ignore-includes"], "ignore_includes", "_StoreTrueAction", "False", []),
      (["--mode"], "mode", "_StoreAction", "'w'", ["a", "w"]),
      (["--order"], "order", "_StoreTrueAction", "False", []),
      (["-C", "--ignore-comments"], "ignore_comments", "_StoreTrueAction", "False", []),
      (["--scope"], "scope", "_StoreAction", "None", []),
      (["-o", "--output"], "output", "_StoreAction", "'cpp'", ["cpp", "foam", "xml", "json"]),
      (["-q", "--quiet"], "quiet", "_StoreTrueAction", "False", []),
      (["-v", "--verbose"], "verbose", "_StoreTrueAction", "False", []),
      (["--log"], "log", "_StoreAction", "None", []),
      (["--log-level"], "log_level", "_StoreAction", "'WARNING'", ["DEBUG", "INFO", "WARNING", "ERROR", "CRITICAL"])] := rfl

/-- the mode and output options only accept what the API understands -/
theorem option_choices_valid :
    (optionTable.find? (·.2.1 == "mode")).map (·.2.2.2.2) = some ["a", "w"] ∧
    (optionTable.find? (·.2.1 == "output")).map (·.2.2.2.2) = some ["cpp", "foam", "xml", "json"] := by decide +kernel

/-- a scope given as a plain word is one key, kept as text -/
theorem scope_word (w : Str) (h : ∀ r, w.dropWhile isWs ≠ '[' :: r) :
    validateScope (some w) = some [.str w] := by
  unfold validateScope
  cases hw : w.dropWhile isWs with
  | nil => simp [hw]
  | cons c r =>
    by_cases hc : c = '['
    · exact absurd (hc ▸ hw) (h r)
    · simp only [hw]
      split
      · rename_i r' heq
        cases heq
        exact absurd rfl hc
      · rfl

/-- nothing given: no scope -/
theorem scope_none : validateScope none = none := rfl

/-! #### known finding D25 (negative result, proved): a numeric scope is typed only in the list form -/

theorem scope_number_word_vs_list :
    validateScope (some "1".toList) = some [.str "1".toList] ∧ validateScope (some "[1]".toList) = some [.int 1] := by
  literal_chars; decide +kernel

/-! #### non-vacuity -/

example : validateScope (some "[ a , b ]".toList) = some [.str "a".toList, .str "b".toList] := by
  literal_chars; decide +kernel
example : validateScope (some "['a', \"b c\"]".toList) = some [.str "a".toList, .str "b c".toList] := by
  literal_chars; decide +kernel
example : apiArgs { dict := "f", ignoreIncludes := true, mode := "a", order := true, ignoreComments := false, scope := some "x",
                    output := "json", quiet := false, verbose := true, log := none, logLevel := "INFO" }
    = { sourceFile := "f", includes := false, mode := "a", order := true, comments := true, scope := .validated (some "x"), output := "json" } := rfl

end DictIO.C17
