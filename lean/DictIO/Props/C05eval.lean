/-
  C05 -- what the functions of `DictReader._eval_expressions` do, on the model alone (no specification, no invariant):
  the substitution functions on flat data (`updV`, `updEs`; `final_flat`: the write-back at the end), the variable table
  of any dictionary (`getVar_assignAll`, `getVar_varsEs`), `resolveRef` (`resolveRef_val_induct`: how an answer that is a
  value arises), `resolveAll` (`resolveAll_eq`), and one step of `evalPass`: what it does with its entry is decided from
  the resolved references and the text alone (`outOf`: a `Verdict`, settled with a value or staying with a text;
  `Outcome`, the five ways it is reached) and then applied to the state (`applyOut`), in one equation `passStep_eq`.
  C05acyclic.lean puts the specification and the invariant on top; C05nested.lean runs the same step on a tree.
-/
import DictIO.Props.C05
import DictIO.Lemmas.SelMap
import DictIO.Lemmas.Tbl
import DictIO.Lemmas.Ph

namespace DictIO.C05
open DictIO

def noD (s : Str) : Bool := !s.contains '$'

theorem noD_iff {s : Str} : noD s = true ↔ '$' ∉ s := by
  simp [noD]

/-! ### the placeholder words `EXPRESSIONnnnnnn` -/

/-- the placeholder word of expression `i`; not to be confused with `C12W.phOf` (Props/C12lay.lean), which recognises a
    comment placeholder entry -/
def phOf (i : Nat) : Str := kwExpr ++ padSix i

theorem phOf_inj {i j : Nat} (h : phOf i = phOf j) : i = j := padSix_inj (List.append_cancel_left h)

theorem phOf_infix {i j : Nat} (hi : i < 1000000) (hj : j < 1000000) (h : isInfix (phOf i) (phOf j) = true) : i = j :=
  ph_infix_inj kwExpr hi hj h

theorem phOf_not_infix {s : Str} (i : Nat) (h : isInfix kwExpr s = false) : isInfix (phOf i) s = false :=
  isInfix_append_false _ h

theorem isInfix_kw_phOf (i : Nat) : isInfix kwExpr (phOf i) = true :=
  kw_infix_ph kwExpr i

theorem insertExpression_phOf (exprs : Tbl ExprEntry) {i : Nat} (h : i < 1000000) (e : ExprEntry)
    (hg : exprs.get? i = some e) : insertExpression exprs (phOf i) = e.expression := by
  have hk : kwExpr ∈ phKeywords := by simp [phKeywords]
  simp [insertExpression, phOf, Ph.containsPh_word (Ph.kw_ne_nil hk) h, Ph.firstSix_word hk h, hg]

theorem insertExpression_plain (exprs : Tbl ExprEntry) {t : Str} (h : isInfix kwExpr t = false) :
    insertExpression exprs t = t := by
  simp [insertExpression, containsPh_false (isInfix_self _) h]

/-! ### (4) the substitution functions on flat data change the entries that hold the placeholder, and only those -/

/-- the new value of an entry: a string that contains the placeholder word is replaced -/
def updV (ph : Str) (v' : Val) : Val → Val
  | .leaf (.str t) => if isInfix ph t then v' else .leaf (.str t)
  | v => v

def updEs (ph : Str) (v' : Val) (es : Entries) : Entries := es.map fun d => (d.1, updV ph v' d.2)

theorem substLeaf_eq_substVal (ph : Str) (x : Scalar) :
    (∀ d v, substLeafV ph x d v = substValV ph (.leaf x) d v) ∧
    (∀ d xs, substLeafXs ph x d xs = substValXs ph (.leaf x) d xs) ∧
    (∀ d es, substLeafEs ph x d es = substValEs ph (.leaf x) d es) := by
  apply substLeafV.mutual_induct ph
    (fun d v => substLeafV ph x d v = substValV ph (.leaf x) d v)
    (fun d xs => substLeafXs ph x d xs = substValXs ph (.leaf x) d xs)
    (fun d es => substLeafEs ph x d es = substValEs ph (.leaf x) d es)
  · intro d s h1 h2; simp only [substLeafV, substValV, h1, h2, if_true]
  · intro d s h1 h2; simp only [substLeafV, substValV, h1, h2, if_true, if_false]
  · intro d s h1; simp only [substLeafV, substValV, h1]
  · intro d y hy
    cases y with
    | str s => exact absurd rfl (hy s)
    | _ => rfl
  · intro d es ih; simp only [substLeafV, substValV, ih]
  · intro d xs ih; simp only [substLeafV, substValV, ih]
  · intro d; rfl
  · intro d k v es ih1 ih2; simp only [substLeafEs, substValEs, ih1, ih2]
  · intro d; rfl
  · intro d v xs ih1 ih2; simp only [substLeafXs, substValXs, ih1, ih2]

theorem substLeafEs_eq (ph : Str) (x : Scalar) (d : Nat) (es : Entries) :
    substLeafEs ph x d es = substValEs ph (.leaf x) d es := (substLeaf_eq_substVal ph x).2.2 d es

theorem substValV_leaf (ph : Str) (v : Val) (y : Scalar) : substValV ph v 1 (.leaf y) = .ok (updV ph v (.leaf y)) := by
  cases y <;> simp [substValV, updV]
  split <;> rfl

theorem substValEs_flat (ph : Str) (w : Val) : ∀ es : Entries, (∀ d ∈ es, d.2.isLeaf = true) →
    substValEs ph w 1 es = .ok (updEs ph w es)
  | [], _ => by simp [substValEs, updEs]
  | (k, v) :: es, h => by
    have hv := h (k, v) List.mem_cons_self
    have ih := substValEs_flat ph w es (fun d hd => h d (List.mem_cons_of_mem _ hd))
    cases v with
    | leaf y =>
      simp only [substValEs, substValV_leaf, ih, bind, Except.bind, pure, Except.pure, updEs, List.map_cons]
    | dict _ => cases hv
    | list _ => cases hv

theorem substLeafEs_flat (ph : Str) (x : Scalar) (es : Entries) (h : ∀ d ∈ es, d.2.isLeaf = true) :
    substLeafEs ph x 1 es = .ok (updEs ph (.leaf x) es) := by
  rw [substLeafEs_eq, substValEs_flat ph _ es h]

theorem keys_updEs (ph : Str) (v' : Val) (es : Entries) : keys (updEs ph v' es) = keys es :=
  keys_mapVal _ es

theorem lookup_updEs (ph : Str) (v' : Val) (k : Key) (es : Entries) :
    lookup k (updEs ph v' es) = (lookup k es).map (updV ph v') :=
  lookup_mapVal _ k es

theorem mem_updEs {ph : Str} {v' : Val} {es : Entries} {d : Key × Val} (h : d ∈ updEs ph v' es) :
    ∃ v, (d.1, v) ∈ es ∧ d.2 = updV ph v' v := by
  simp only [updEs, List.mem_map] at h
  obtain ⟨d0, h0, rfl⟩ := h
  exact ⟨d0.2, h0, rfl⟩

theorem updV_self (ph : Str) (v' : Val) : updV ph v' (.leaf (.str ph)) = v' := by
  simp only [updV, isInfix_self, if_true]

theorem updV_miss {ph t : Str} (v' : Val) (h : isInfix ph t = false) : updV ph v' (.leaf (.str t)) = .leaf (.str t) := by
  simp only [updV, h, Bool.false_eq_true, if_false]

theorem updV_phOf_plain (i : Nat) (v' : Val) {t : Str} (h : isInfix kwExpr t = false) :
    updV (phOf i) v' (.leaf (.str t)) = .leaf (.str t) :=
  updV_miss v' (phOf_not_infix i h)

theorem updV_phOf_ne {i j : Nat} (hi : i < 1000000) (hj : j < 1000000) (hne : j ≠ i) (v' : Val) :
    updV (phOf i) v' (.leaf (.str (phOf j))) = .leaf (.str (phOf j)) :=
  updV_miss v' (Bool.eq_false_iff.mpr fun h => hne (phOf_infix hi hj h).symm)

theorem updV_leaf (ph : Str) {v v' : Val} (h : v.isLeaf = true) (h' : v'.isLeaf = true) : (updV ph v' v).isLeaf = true := by
  cases v with
  | leaf y =>
    cases y with
    | str t => simp only [updV]; split <;> assumption
    | int _ => exact h
    | float _ => exact h
    | bool _ => exact h
    | none => exact h
  | dict _ => cases h
  | list _ => cases h

theorem final_flat : ∀ (exprs : Tbl ExprEntry) (d : Entries), (∀ x ∈ d, x.2.isLeaf = true) →
    exprs.foldlM (fun d e => substLeafEs e.2.name (.str e.2.expression) 1 d) d =
      .ok (d.map fun x => (x.1, exprs.foldl (fun v e => updV e.2.name (.leaf (.str e.2.expression)) v) x.2))
  | [], d, _ => by
    have : (d.map fun x => (x.1, ([] : Tbl ExprEntry).foldl
        (fun v e => updV e.2.name (.leaf (.str e.2.expression)) v) x.2)) = d := by simp
    rw [this]; rfl
  | e :: exprs, d, h => by
    rw [List.foldlM_cons, substLeafEs_flat _ _ _ h]
    simp only [bind, Except.bind]
    rw [final_flat exprs _ (fun x hx => by
      obtain ⟨v, hv, hx2⟩ := mem_updEs hx
      rw [hx2]; exact updV_leaf _ (h _ hv) rfl)]
    simp [updEs, List.map_map, Function.comp_def]

theorem lookup_isSome_of_keys {k : Key} {es es' : Entries} (hk : keys es' = keys es) {v : Val}
    (h : lookup k es = some v) : ∃ v', lookup k es' = some v' := by
  cases h' : lookup k es' with
  | some v' => exact ⟨v', rfl⟩
  | none =>
    rw [lookup_eq_none_iff, hk, ← lookup_eq_none_iff, h] at h'
    cases h'

/-! ### the variable table -/

theorem getVar_setVar (k n : Str) (v : Val) : ∀ acc : List (Str × Val),
    getVar n (setVar k v acc) = if k = n then some v else getVar n acc
  | [] => by
    by_cases h : k = n <;> simp [setVar, getVar, h]
  | (k', v') :: r => by
    have ih := getVar_setVar k n v r
    simp only [setVar, getVar] at ih ⊢
    by_cases h1 : k' = k
    · subst h1
      by_cases h2 : k' = n <;> simp [h2]
    · have h1' : (k' == k) = false := by simpa using h1
      simp only [h1', Bool.false_eq_true, if_false, List.find?_cons]
      by_cases h2 : k' = n
      · subst h2
        have : ¬ k = k' := fun e => h1 e.symm
        simp [this]
      · have h2' : (k' == n) = false := by simpa using h2
        simp only [h2']
        exact ih

end DictIO.C05

/- The table of any dictionary, nested dicts and lists included: the assignments in the order `declsEs`, the last one to a
   name wins (headline: `variables_nested` in C05nested.lean, whose namespace the definitions have). -/
namespace DictIO.C05nested
open DictIO DictIO.C05

/-- what `variables[key] = …` stores for one entry: the name and the stored value; `none` if nothing is stored
    (an integer key, or a string value that refers to its own key) -/
def assigned (exprs : Tbl ExprEntry) : Key → Val → Option (Str × Val)
  | .str ks, .leaf (.str s) =>
    if selfRef [] (.str ks) (.leaf (.str (insertExpression exprs s))) then none
    else some (ks, .leaf (.str (insertExpression exprs s)))
  | .str ks, v => some (ks, v)
  | .int _, _ => none

theorem assignVar_eq (exprs : Tbl ExprEntry) (k : Key) (v : Val) (acc : List (Str × Val)) :
    assignVar exprs k v acc = match assigned exprs k v with
      | some p => setVar p.1 p.2 acc
      | none => acc := by
  cases k with
  | int _ => rfl
  | str ks =>
    cases v with
    | leaf x =>
      cases x with
      | str s =>
        simp only [assignVar, assigned]
        split <;> rfl
      | int _ => rfl
      | float _ => rfl
      | bool _ => rfl
      | none => rfl
    | dict _ => rfl
    | list _ => rfl

mutual
  /-- the declarations of a dictionary in the order `SDict.variables` assigns them: the content of a nested dict
      (and of the dicts inside a list) first, then the key itself -/
  def declsEs : Entries → List (Key × Val)
    | [] => []
    | (k, .dict d) :: es => declsEs d ++ (k, .dict d) :: declsEs es
    | (k, .list l) :: es => (if listContainsDict l then declsXs l else []) ++ (k, .list l) :: declsEs es
    | (k, .leaf x) :: es => (k, .leaf x) :: declsEs es
  def declsXs : List Val → List (Key × Val)
    | [] => []
    | .dict d :: xs => declsEs d ++ declsXs xs
    | .list l :: xs => declsXs l ++ declsXs xs
    | .leaf _ :: xs => declsXs xs
end

def assignAll (exprs : Tbl ExprEntry) (L : List (Key × Val)) (acc : List (Str × Val)) : List (Str × Val) :=
  L.foldl (fun a d => assignVar exprs d.1 d.2 a) acc

theorem assignAll_append (exprs : Tbl ExprEntry) (L1 L2 : List (Key × Val)) (acc : List (Str × Val)) :
    assignAll exprs (L1 ++ L2) acc = assignAll exprs L2 (assignAll exprs L1 acc) := by
  simp [assignAll, List.foldl_append]

theorem vars_eq (exprs : Tbl ExprEntry) :
    (∀ es acc, varsEs exprs es acc = assignAll exprs (declsEs es) acc) ∧
    (∀ xs acc, varsXs exprs xs acc = assignAll exprs (declsXs xs) acc) := by
  apply declsEs.mutual_induct (motive1 := fun es => ∀ acc, varsEs exprs es acc = assignAll exprs (declsEs es) acc)
    (motive2 := fun xs => ∀ acc, varsXs exprs xs acc = assignAll exprs (declsXs xs) acc)
  · intro acc; simp [varsEs, declsEs, assignAll]
  · intro k d es ih1 ih2 acc
    rw [varsEs, declsEs, assignAll_append, ih1, ih2]; rfl
  · intro k l es ih1 ih2 acc
    rw [varsEs, declsEs, assignAll_append, ih2]
    by_cases h : listContainsDict l = true
    · simp only [h, if_true, ih1]; rfl
    · simp only [h]; rfl
  · intro k x es ih acc
    rw [varsEs, declsEs, ih]; rfl
  · intro acc; simp [varsXs, declsXs, assignAll]
  · intro d xs ih1 ih2 acc
    rw [varsXs, declsXs, assignAll_append, ih1, ih2]
  · intro l xs ih1 ih2 acc
    rw [varsXs, declsXs, assignAll_append, ih1, ih2]
  · intro x xs ih acc
    rw [varsXs, declsXs, ih]

theorem varsEs_eq (exprs : Tbl ExprEntry) : ∀ (es : Entries) (acc : List (Str × Val)),
    varsEs exprs es acc = assignAll exprs (declsEs es) acc := (vars_eq exprs).1

theorem varsXs_eq (exprs : Tbl ExprEntry) : ∀ (xs : List Val) (acc : List (Str × Val)),
      varsXs exprs xs acc = assignAll exprs (declsXs xs) acc := (vars_eq exprs).2

/-- the value the table holds for `n` after the assignments `L`: the last assignment to `n` that stores something -/
def lastDecl (exprs : Tbl ExprEntry) (n : Str) : List (Key × Val) → Option Val
  | [] => none
  | d :: r => match lastDecl exprs n r with
    | some v => some v
    | none => match assigned exprs d.1 d.2 with
      | some p => if p.1 = n then some p.2 else none
      | none => none

theorem getVar_assignAll (exprs : Tbl ExprEntry) (n : Str) : ∀ (L : List (Key × Val)) (acc : List (Str × Val)),
    getVar n (assignAll exprs L acc) = match lastDecl exprs n L with
      | some v => some v
      | none => getVar n acc
  | [], acc => rfl
  | d :: r, acc => by
    have ih := getVar_assignAll exprs n r (assignVar exprs d.1 d.2 acc)
    simp only [assignAll, List.foldl_cons] at ih ⊢
    rw [ih, lastDecl]
    cases lastDecl exprs n r with
    | some v => rfl
    | none =>
      simp only [assignVar_eq]
      cases assigned exprs d.1 d.2 with
      | none => rfl
      | some p =>
        simp only [getVar_setVar]
        by_cases h : p.1 = n <;> simp [h]

theorem assigned_key {exprs : Tbl ExprEntry} {k : Key} {v : Val} {p : Str × Val} (h : assigned exprs k v = some p) :
    k = .str p.1 := by
  cases k with
  | int _ => cases h
  | str ks =>
    cases v with
    | leaf x =>
      cases x with
      | str s =>
        simp only [assigned] at h
        split at h
        · cases h
        · cases h; rfl
      | int _ => cases h; rfl
      | float _ => cases h; rfl
      | bool _ => cases h; rfl
      | none => cases h; rfl
    | dict _ => cases h; rfl
    | list _ => cases h; rfl

theorem lastDecl_filter (exprs : Tbl ExprEntry) (n : Str) : ∀ L : List (Key × Val),
    lastDecl exprs n L = lastDecl exprs n (L.filter fun d => d.1 == Key.str n)
  | [] => rfl
  | d :: r => by
    have ih := lastDecl_filter exprs n r
    by_cases hd : d.1 = Key.str n
    · have : (d.1 == Key.str n) = true := by simpa using hd
      simp only [List.filter_cons, this, if_true, lastDecl, ih]
    · have hf : (d.1 == Key.str n) = false := by simpa using hd
      simp only [List.filter_cons, hf, lastDecl, Bool.false_eq_true, if_false]
      rw [← ih]
      cases lastDecl exprs n r with
      | some v => simp
      | none =>
        cases ha : assigned exprs d.1 d.2 with
        | none => simp
        | some p =>
          have := assigned_key ha
          have hne : p.1 ≠ n := fun e => hd (by rw [this, e])
          simp [hne]

theorem declsEs_leaves : ∀ (F : Entries), (∀ d ∈ F, d.2.isLeaf = true) → declsEs F = F
  | [], _ => by simp [declsEs]
  | (k, .leaf x) :: es, h => by
    rw [declsEs, declsEs_leaves es (fun d hd => h d (List.mem_cons_of_mem _ hd))]
  | (k, .list l) :: es, h => by have := h _ List.mem_cons_self; cases this
  | (k, .dict dd) :: es, h => by have := h _ List.mem_cons_self; cases this

end DictIO.C05nested

namespace DictIO.C05
open DictIO

/-- the value a variable gets: a placeholder is replaced by the pending expression text -/
def varVal (exprs : Tbl ExprEntry) : Val → Val
  | .leaf (.str s) => .leaf (.str (insertExpression exprs s))
  | v => v

/-- an entry that refers to itself is no variable -/
def skipVar (exprs : Tbl ExprEntry) (n : Str) : Val → Bool
  | .leaf (.str s) => selfRef [] (.str n) (.leaf (.str (insertExpression exprs s)))
  | _ => false

theorem assigned_leaf (exprs : Tbl ExprEntry) (n : Str) (x : Scalar) :
    C05nested.assigned exprs (.str n) (.leaf x) =
      if skipVar exprs n (.leaf x) = false then some (n, varVal exprs (.leaf x)) else none := by
  cases x with
  | str s => simp only [C05nested.assigned, skipVar, varVal]; split <;> simp_all
  | _ => rfl

/-- **(V)** the variable `n` of a flat dictionary with unique names: the last assignment to `n` is its one declaration -/
theorem getVar_varsEs (exprs : Tbl ExprEntry) (n : Str) : ∀ (es : Entries) (acc : List (Str × Val)),
    (∀ d ∈ es, isStrKey d.1 = true ∧ d.2.isLeaf = true) → (keys es).Nodup →
    getVar n (varsEs exprs es acc) =
      match lookup (.str n) es with
      | none => getVar n acc
      | some v => if skipVar exprs n v = false then some (varVal exprs v) else getVar n acc := by
  intro es acc hf hn
  rw [C05nested.varsEs_eq, C05nested.getVar_assignAll, C05nested.lastDecl_filter,
    C05nested.declsEs_leaves es (fun d hd => (hf d hd).2), filter_key_nodup _ es hn]
  cases hl : lookup (.str n) es with
  | none => rfl
  | some v =>
    have hleaf := (hf _ (lookup_some_mem hl)).2
    cases v with
    | leaf x =>
      simp only [C05nested.lastDecl, assigned_leaf]
      by_cases h : skipVar exprs n (.leaf x) = false
      · simp only [h, if_true]
      · simp [h]
    | dict _ => cases hleaf
    | list _ => cases hleaf

theorem varsEs_length_pos (exprs : Tbl ExprEntry) (n : Str) (es : Entries) (v : Val)
    (h : getVar n (varsEs exprs es []) = some v) : 1 ≤ (varsEs exprs es []).length := by
  cases hv : varsEs exprs es [] with
  | nil => rw [hv] at h; simp [getVar] at h
  | cons a r => simp

/-! ### `resolveRef` and its `follow` -/

def afterD (x : Str) : Str := match x with | '$' :: r => r | r => r

theorem refName_eq (x : Str) : refName x = (afterD x).takeWhile (· != '[') := rfl

def idxOf (x : Str) : Option Str :=
  let idxTxt := (afterD x).dropWhile (· != '[')
  if idxTxt.length ≥ 3 && idxTxt.getLast? == some ']' then some idxTxt else (if idxTxt.isEmpty then some [] else none)

/-- the last step of `resolveRef`: the followed value `v1` under the index text `idx` -/
def idxTail (idx : Str) (v1 : Val) : Resolved :=
  if idx.isEmpty then .val v1
  else (match parseIndexing idx with
    | some path => (match indexVal v1 path with
      | some y => .val y
      | none => .val v1)
    | none => .unsupported)

theorem resolveRef_succ (vars : List (Str × Val)) (f : Nat) (vis : List Str) (x : Str) :
    resolveRef vars (f + 1) vis x =
      match idxOf x with
      | none => .unsupported
      | some idx =>
        if vis.contains (refName x) then .none
        else match getVar (refName x) vars with
          | none => .none
          | some v0 =>
            match (resolveRef.follow vars f (vis ++ [refName x]) v0 (refName x)).1 with
            | .val v =>
              if idx.isEmpty then .val v
              else (match parseIndexing idx with
                | some path => (match indexVal v path with
                  | some y => .val y
                  | none => .val v)
                | none => .unsupported)
            | other => other := by
  rw [resolveRef.eq_def]
  simp only [idxOf, refName_eq, afterD]
  rfl

theorem follow_succ (vars : List (Str × Val)) (f : Nat) (vis : List Str) (v : Val) (last : Str) :
    resolveRef.follow vars (f + 1) vis v last =
      match v with
      | .leaf (.str s) =>
        if s.contains '$' then
          (match resolveRef vars f vis s with
           | .val v' => resolveRef.follow vars f vis v' (refName s)
           | .none => (.none, last)
           | .unsupported => (.unsupported, last))
        else (.val v, last)
      | .leaf _ => (.val v, last)
      | other => if anyStrLeafV (·.contains '$') other then (.unsupported, last) else (.val other, last) := by
  rw [resolveRef.follow.eq_def]
  rfl

theorem follow_zero (vars : List (Str × Val)) (vis : List Str) (v : Val) (last : Str) :
    resolveRef.follow vars 0 vis v last = (.none, last) := by
  rw [resolveRef.follow.eq_def]

theorem isDigit_dollar : isDigit '$' = false := by decide +kernel

theorem isIntLit_noD {s : Str} (h : isIntLit s = true) : '$' ∉ s := by
  obtain ⟨sign, ds, tail, rfl, hs, _, hd, ht⟩ := C04.isIntLit_iff.mp h
  simp only [List.mem_append, not_or]
  refine ⟨⟨?_, ?_⟩, ?_⟩
  · rcases hs with rfl | rfl | rfl <;> simp
  · intro hm; have := hd _ hm; rw [isDigit_dollar] at this; cases this
  · rcases ht with rfl | rfl <;> simp

theorem parseIndexingFuel_noD : ∀ (f : Nat) (s : Str) (p : List Int), parseIndexingFuel f s = some p → '$' ∉ s
  | 0, _, _, h => by simp [parseIndexingFuel] at h
  | f + 1, [], _, _ => by simp
  | f + 1, c :: r, p, h => by
    by_cases hc : c = '['
    · subst hc
      simp only [parseIndexingFuel] at h
      split at h
      · rename_i rest hdw
        split at h
        · rename_i hi
          simp only [Bool.and_eq_true] at hi
          cases hr : parseIndexingFuel f rest with
          | none => rw [hr] at h; cases h
          | some p' =>
            have ih := parseIndexingFuel_noD f rest p' hr
            have hb := isIntLit_noD hi.1
            have : r = r.takeWhile (· != ']') ++ ']' :: rest := by
              rw [← hdw, List.takeWhile_append_dropWhile]
            rw [this]
            simp only [List.mem_cons, List.mem_append, not_or]
            exact ⟨by decide, hb, by decide, ih⟩
        · cases h
      · cases h
    · exfalso
      rw [parseIndexingFuel.eq_def] at h
      split at h <;> simp_all

theorem parseIndexing_noD {s : Str} {p : List Int} (h : parseIndexing s = some p) : '$' ∉ s :=
  parseIndexingFuel_noD _ s p h

/-- values without `$` in their text -/
def dfree : Val → Bool
  | .leaf y => noD (pyStrScalar y)
  | _ => false

theorem resolveRef_val_inv {vars : List (Str × Val)} {f : Nat} {vis : List Str} {x : Str} {v : Val}
    (h : resolveRef vars (f + 1) vis x = .val v) :
    ∃ idx v0 v1, idxOf x = some idx ∧ getVar (refName x) vars = some v0 ∧
      (resolveRef.follow vars f (vis ++ [refName x]) v0 (refName x)).1 = .val v1 ∧ idxTail idx v1 = .val v := by
  rw [resolveRef_succ] at h
  cases hi : idxOf x with
  | none => rw [hi] at h; cases h
  | some idx =>
    rw [hi] at h
    simp only at h
    split at h
    · cases h
    · cases hgv : getVar (refName x) vars with
      | none => rw [hgv] at h; cases h
      | some v0 =>
        rw [hgv] at h
        simp only at h
        cases hfo : (resolveRef.follow vars f (vis ++ [refName x]) v0 (refName x)).1 with
        | none => rw [hfo] at h; cases h
        | unsupported => rw [hfo] at h; cases h
        | val v1 => rw [hfo] at h; exact ⟨idx, v0, v1, rfl, rfl, hfo, h⟩

theorem resolveRef_idx {idx : Str} {v1 v : Val} (h : idxTail idx v1 = .val v) (hne : idx.isEmpty = false) :
    ∃ p, parseIndexing idx = some p := by
  rw [idxTail, hne] at h
  cases hp : parseIndexing idx with
  | none => rw [hp] at h; cases h
  | some p => exact ⟨p, rfl⟩

theorem resolveRef_tail {idx : Str} {a : Scalar} {v : Val}
    (h : (if idx.isEmpty then Resolved.val (.leaf a)
      else (match parseIndexing idx with
        | some path => (match indexVal (.leaf a) path with
          | some y => Resolved.val y
          | none => Resolved.val (.leaf a))
        | none => Resolved.unsupported)) = .val v) :
    v = .leaf a ∧ (idx.isEmpty = false → ∃ p, parseIndexing idx = some p) := by
  refine ⟨?_, resolveRef_idx h⟩
  split at h
  · cases h; rfl
  · split at h
    · rename_i path _
      split at h
      · rename_i y hy
        cases h
        cases path <;> simp [indexVal] at hy
        exact hy.symm
      · cases h; rfl
    · cases h

theorem follow_dfree (vars : List (Str × Val)) (f : Nat) (vis : List Str) (v : Val) (last : Str) (hv : dfree v = true) :
    (resolveRef.follow vars (f + 1) vis v last).1 = .val v := by
  rw [follow_succ]
  cases v with
  | leaf y =>
    cases y with
    | str s =>
      have : '$' ∉ s := noD_iff.mp (by simpa [dfree, pyStrScalar] using hv)
      simp [this]
    | int _ => rfl
    | float _ => rfl
    | bool _ => rfl
    | none => rfl
  | dict _ => cases hv
  | list _ => cases hv

/-- How a `.val` answer arises, as an induction principle over the mutual recursion: `P x v` for the answers of
    `resolveRef`, `Q v0 v` for those of `follow` started at `v0` (it stops at a value without `$`, or resolves the text
    and goes on). -/
theorem resolveRef_val_induct (vars : List (Str × Val)) (P : Str → Val → Prop) (Q : Val → Val → Prop)
    (hstop : ∀ v, (∀ s, v = .leaf (.str s) → s.contains '$' = false) → Q v v)
    (hstep : ∀ s v' v, s.contains '$' = true → P s v' → Q v' v → Q (.leaf (.str s)) v)
    (hres : ∀ f vis x idx v0 v1 v, resolveRef vars f vis x = .val v → idxOf x = some idx →
      getVar (refName x) vars = some v0 → Q v0 v1 → idxTail idx v1 = .val v → P x v) :
    ∀ f, (∀ vis x v, resolveRef vars f vis x = .val v → P x v) ∧
         (∀ vis v0 last v, (resolveRef.follow vars f vis v0 last).1 = .val v → Q v0 v)
  | 0 => by
    refine ⟨fun vis x v h => ?_, fun vis v0 last v h => ?_⟩
    · rw [resolveRef.eq_1] at h; cases h
    · rw [follow_zero] at h; cases h
  | f + 1 => by
    obtain ⟨IP, IQ⟩ := resolveRef_val_induct vars P Q hstop hstep hres f
    refine ⟨fun vis x v h => ?_, fun vis v0 last v h => ?_⟩
    · obtain ⟨idx, v0, v1, hi, hg, hfo, ht⟩ := resolveRef_val_inv h
      exact hres _ _ x idx v0 v1 v h hi hg (IQ _ _ _ _ hfo) ht
    · rw [follow_succ] at h
      cases v0 with
      | leaf y =>
        cases y with
        | str s =>
          simp only at h
          split at h
          · rename_i hc
            cases hr : resolveRef vars f vis s with
            | none => rw [hr] at h; cases h
            | unsupported => rw [hr] at h; cases h
            | val v' => rw [hr] at h; exact hstep s v' v hc (IP _ _ _ hr) (IQ _ _ _ _ h)
          · rename_i hc
            cases h
            exact hstop _ (fun s' hs' => by cases hs'; simpa using hc)
        | int _ => cases h; exact hstop _ (fun s' hs' => by cases hs')
        | float _ => cases h; exact hstop _ (fun s' hs' => by cases hs')
        | bool _ => cases h; exact hstop _ (fun s' hs' => by cases hs')
        | none => cases h; exact hstop _ (fun s' hs' => by cases hs')
      | dict es =>
        simp only at h
        split at h
        · cases h
        · cases h; exact hstop _ (fun s' hs' => by cases hs')
      | list xs =>
        simp only at h
        split at h
        · cases h
        · cases h; exact hstop _ (fun s' hs' => by cases hs')

/-! ### `resolveAll` -/

def rvOf (vars : List (Str × Val)) (r : Str) : Option Val :=
  match resolveRef vars (vars.length + 1) [] r with
  | .val v => some v
  | _ => none

theorem rvOf_val {vars : List (Str × Val)} {r : Str} {v : Val} (h : rvOf vars r = some v) :
    resolveRef vars (vars.length + 1) [] r = .val v := by
  unfold rvOf at h
  split at h
  · rename_i v' hr; cases h; exact hr
  · cases h

def isRes (vars : List (Str × Val)) (r : Str) : Bool :=
  match rvOf vars r with
  | some v => usable v
  | none => false

def pendRefs (exprs : Tbl ExprEntry) : List Str := (exprs.flatMap fun e => findRefs e.2.expression).eraseDups

def resEntry (vars : List (Str × Val)) (r : Str) : Option (Str × Val) :=
  match rvOf vars r with
  | some v => if usable v then some (r, v) else none
  | none => none

/-- the `mapM` of `resolveAll`: it fails exactly if some reference is outside the model -/
theorem resolveAll_mapM_eq (vars : List (Str × Val)) : ∀ (l : List Str),
    l.mapM (fun r => match resolveRef vars (vars.length + 1) [] r with
      | .unsupported => Except.error ParseErr.unsupported
      | .none => Except.ok (r, (none : Option Val))
      | .val v => Except.ok (r, some v)) =
    if l.all (fun r => match resolveRef vars (vars.length + 1) [] r with | .unsupported => false | _ => true)
    then .ok (l.map fun r => (r, rvOf vars r)) else .error .unsupported
  | [] => rfl
  | r :: l => by
    rw [List.mapM_cons, resolveAll_mapM_eq vars l]
    simp only [List.all_cons, List.map_cons, rvOf]
    cases resolveRef vars (vars.length + 1) [] r with
    | unsupported => rfl
    | none =>
      simp only [Bool.true_and, bind, Except.bind, pure, Except.pure]
      generalize l.all _ = b; cases b <;> rfl
    | val v =>
      simp only [Bool.true_and, bind, Except.bind, pure, Except.pure]
      generalize l.all _ = b; cases b <;> rfl

theorem count_res (vars : List (Str × Val)) : ∀ l : List Str,
    (l.filterMap (resEntry vars)).length + (l.filter fun r => !isRes vars r).length = l.length
  | [] => rfl
  | r :: l => by
    have ih := count_res vars l
    simp only [List.filterMap_cons, List.filter_cons, resEntry, isRes] at ih ⊢
    cases hrv : rvOf vars r with
    | none => simp only [Bool.not_false, if_true, List.length_cons]; omega
    | some v =>
      cases hu : usable v with
      | true => simp [hu]; omega
      | false => simp [hu]; omega

theorem resolveAll_eq (exprs : Tbl ExprEntry) (data : Entries) :
    resolveAll exprs data =
      if (pendRefs exprs).all (fun r => match resolveRef (varsEs exprs data []) ((varsEs exprs data []).length + 1) [] r with
        | .unsupported => false | _ => true)
      then .ok ((pendRefs exprs).filterMap (resEntry (varsEs exprs data [])),
        ((pendRefs exprs).filter fun r => !isRes (varsEs exprs data []) r).length)
      else .error .unsupported := by
  have hm := resolveAll_mapM_eq (varsEs exprs data []) (pendRefs exprs)
  have hc := count_res (varsEs exprs data []) (pendRefs exprs)
  unfold resolveAll
  simp only [bind, Except.bind, pure, Except.pure]
  split
  · rename_i err herr
    have h2 := herr.symm.trans hm
    split at h2
    · cases h2
    · rename_i hA; rw [if_neg hA]; cases h2; rfl
  · rename_i rs hrs
    have h2 := hrs.symm.trans hm
    split at h2
    · rename_i hA
      cases h2
      rw [if_pos hA, List.filterMap_map, List.length_map]
      show Except.ok ((pendRefs exprs).filterMap (resEntry (varsEs exprs data [])),
        (pendRefs exprs).length - ((pendRefs exprs).filterMap (resEntry (varsEs exprs data []))).length) = _
      congr 2
      omega
    · cases h2

theorem resolveAll_ok {exprs : Tbl ExprEntry} {data : Entries} {R : List (Str × Val)} {nr : Nat}
    (h : resolveAll exprs data = .ok (R, nr)) :
    R = (pendRefs exprs).filterMap (resEntry (varsEs exprs data [])) ∧
    nr = ((pendRefs exprs).filter fun r => !isRes (varsEs exprs data []) r).length := by
  rw [resolveAll_eq] at h
  split at h
  · cases h; exact ⟨rfl, rfl⟩
  · cases h

theorem find_filterMap (vars : List (Str × Val)) (r : Str) : ∀ l : List Str,
    (l.filterMap (resEntry vars)).find? (fun p => p.1 == r) = if r ∈ l then resEntry vars r else none
  | [] => rfl
  | a :: l => by
    have ih := find_filterMap vars r l
    simp only [List.filterMap_cons]
    cases ha : resEntry vars a with
    | none =>
      simp only [ih, List.mem_cons]
      by_cases e : r = a
      · subst e; simp [ha]
      · simp [e]
    | some p =>
      have hp : p.1 = a := by
        simp only [resEntry] at ha
        split at ha
        · split at ha
          · cases ha; rfl
          · cases ha
        · cases ha
      simp only [List.find?_cons, hp, List.mem_cons]
      by_cases e : a = r
      · subst e; simp [ha]
      · have e' : ¬ r = a := fun x => e x.symm
        have e'' : (a == r) = false := by simpa using e
        simp [e', e'', ih]

theorem nodup_eraseDups : ∀ (n : Nat) (l : List Str), l.length ≤ n → l.eraseDups.Nodup
  | _, [], _ => by simp
  | 0, a :: l, h => by simp at h
  | n + 1, a :: l, h => by
    rw [List.eraseDups_cons, List.nodup_cons]
    constructor
    · intro hm
      have := List.mem_eraseDups.mp hm
      simp at this
    · apply nodup_eraseDups n
      have := List.length_filter_le (fun b => !b == a) l
      simp only [List.length_cons] at h; omega

theorem pendRefs_nodup (exprs : Tbl ExprEntry) : (pendRefs exprs).Nodup := nodup_eraseDups _ _ (Nat.le_refl _)

theorem mem_pendRefs {exprs : Tbl ExprEntry} {r : Str} :
    r ∈ pendRefs exprs ↔ ∃ e ∈ exprs, r ∈ findRefs e.2.expression := by
  simp [pendRefs, List.mem_eraseDups, List.mem_flatMap]

theorem nodup_subset_length_lt' {α} [DecidableEq α] (l1 l2 : List α) (u : α) (hn : l1.Nodup) (hs : ∀ x ∈ l1, x ∈ l2)
    (hu : u ∈ l2) (hu1 : u ∉ l1) : l1.length < l2.length := by
  have := hn.length_le_of_subset (l₂ := l2.erase u) (fun x hx => by
    have hne : x ≠ u := fun e => hu1 (e ▸ hx)
    exact (List.mem_erase_of_ne hne).mpr (hs x hx))
  rw [List.length_erase_of_mem hu] at this
  have hpos : 0 < l2.length := List.length_pos_of_mem hu
  omega

theorem nodup_subset_length_lt (l1 l2 : List Str) (u : Str) (hn : l1.Nodup) (hs : ∀ x ∈ l1, x ∈ l2)
    (hu : u ∈ l2) (hu1 : u ∉ l1) : l1.length < l2.length :=
  nodup_subset_length_lt' l1 l2 u hn hs hu hu1

/-! ### one step of `evalPass` -/

def substAll (ρ : Str → Option Str) (rs : List Str) (x : Str) : Str :=
  rs.foldl (fun x r => match ρ r with | some t => substRefFuel r t (x.length + 1) x | none => x) x

/-- the plain-reference test of `evalPass` -/
def plainOf (resolved : List (Str × Val)) (T : Str) : Option Val :=
  match findRefs T with
  | [r] => if strip T == r then (resolved.find? fun p => p.1 == r).map (·.2) else none
  | _ => none

theorem plainOf_eq_some {R : List (Str × Val)} {T : Str} {v : Val} (h : plainOf R T = some v) :
    ∃ r p, findRefs T = [r] ∧ strip T = r ∧ R.find? (fun p => p.1 == r) = some p ∧ p.2 = v := by
  simp only [plainOf] at h
  split at h
  · rename_i r hrs
    split at h
    · rename_i hstrip
      simp only [Option.map_eq_some_iff] at h
      obtain ⟨p, hf, hpv⟩ := h
      exact ⟨r, p, hrs, by simpa using hstrip, hf, hpv⟩
    · cases h
  · cases h

/-- the body of the loop over the expression table -/
def passStep (ev : Str → EvalResult) (resolved : List (Str × Val)) (st : ExprSt) (e : Nat × ExprEntry) :
    Except ParseErr ExprSt := do
    let refs := findRefs e.2.expression
    if let some v := plainOf resolved e.2.expression then
      let d ← substValEs e.2.name v 1 st.data
      return { data := d, exprs := st.exprs.del e.1 }
    let expr ← refs.foldlM (fun (x : Str) r =>
      match resolved.find? (fun p => p.1 == r) with
      | some (_, v) => match pyStrVal v with
        | some t => Except.ok (substRefFuel r t (x.length + 1) x)
        | none => Except.error ParseErr.unsupported
      | none => Except.ok x) e.2.expression
    if expr.contains '$' then
      pure { st with exprs := st.exprs.set e.1 { e.2 with expression := expr } }
    else match ev expr with
      | .unsupported => Except.error .unsupported
      | .syntaxError => pure { st with exprs := st.exprs.set e.1 { e.2 with expression := expr } }
      | .nameError => do
        let d ← substLeafEs e.2.name (.str expr) 1 st.data
        pure { data := d, exprs := st.exprs.del e.1 }
      | .value (.leaf x) => do
        let d ← substLeafEs e.2.name x 1 st.data
        pure { data := d, exprs := st.exprs.del e.1 }
      | .value _ => Except.error .unsupported

theorem evalPass_eq (ev : Str → EvalResult) (resolved : List (Str × Val)) (st : ExprSt) :
    evalPass ev resolved st = st.exprs.foldlM (passStep ev resolved) st := rfl

/-- the text a resolved reference is replaced by -/
def rhoOf (resolved : List (Str × Val)) (r : Str) : Option Str :=
  match resolved.find? (fun p => p.1 == r) with
  | some (_, v) => pyStrVal v
  | none => none

theorem refFold_eq (resolved : List (Str × Val))
    (hR : ∀ r p, resolved.find? (fun p => p.1 == r) = some p → ∃ t, pyStrVal p.2 = some t) :
    ∀ (rs : List Str) (x : Str),
      rs.foldlM (fun (x : Str) r =>
        match resolved.find? (fun p => p.1 == r) with
        | some (_, v) => match pyStrVal v with
          | some t => Except.ok (substRefFuel r t (x.length + 1) x)
          | none => Except.error ParseErr.unsupported
        | none => Except.ok x) x = Except.ok (substAll (rhoOf resolved) rs x)
  | [], x => rfl
  | r :: rs, x => by
    rw [List.foldlM_cons]
    simp only [substAll, List.foldl_cons, rhoOf]
    cases hf : resolved.find? (fun p => p.1 == r) with
    | none =>
      simp only [bind, Except.bind]
      exact refFold_eq resolved hR rs x
    | some p =>
      obtain ⟨t, ht⟩ := hR r p hf
      obtain ⟨r', v⟩ := p
      simp only at ht
      simp only [ht, bind, Except.bind]
      exact refFold_eq resolved hR rs _

/-- what one step of the pass does with its entry: it is evaluated to `v` and leaves the table, or it stays with the
    text `T'` -/
inductive Verdict where
  | del (v : Val)
  | set (T' : Str)

def applyOut (e : Nat × ExprEntry) (c : ExprSt) : Verdict → Except ParseErr ExprSt
  | .del v => (substValEs e.2.name v 1 c.data).map fun d => ⟨d, c.exprs.del e.1⟩
  | .set T' => .ok ⟨c.data, c.exprs.set e.1 ⟨T', e.2.name⟩⟩

/-- the decision of the step, from the resolved references and the text alone (`none`: outside the model) -/
def outOf (ev : Str → EvalResult) (R : List (Str × Val)) (T : Str) : Option Verdict :=
  match plainOf R T with
  | some v => some (.del v)
  | none =>
    if (substAll (rhoOf R) (findRefs T) T).contains '$' then some (.set (substAll (rhoOf R) (findRefs T) T))
    else match ev (substAll (rhoOf R) (findRefs T) T) with
      | .syntaxError => some (.set (substAll (rhoOf R) (findRefs T) T))
      | .nameError => some (.del (.leaf (.str (substAll (rhoOf R) (findRefs T) T))))
      | .value (.leaf x) => some (.del (.leaf x))
      | _ => none

def HasStr (R : List (Str × Val)) : Prop := ∀ r p, R.find? (fun p => p.1 == r) = some p → ∃ t, pyStrVal p.2 = some t

theorem passStep_eq (ev : Str → EvalResult) {R : List (Str × Val)} (hR : HasStr R) (c : ExprSt) (e : Nat × ExprEntry) :
    passStep ev R c e = match outOf ev R e.2.expression with
      | some o => applyOut e c o
      | none => .error .unsupported := by
  unfold passStep outOf
  simp only []
  cases hp : plainOf R e.2.expression with
  | some v =>
    simp only [applyOut, bind, Except.bind, pure, Except.pure]
    cases substValEs e.2.name v 1 c.data <;> rfl
  | none =>
    simp only [refFold_eq R hR, bind, Except.bind]
    by_cases hc : (substAll (rhoOf R) (findRefs e.2.expression) e.2.expression).contains '$' = true
    · simp only [hc, if_true]; rfl
    · simp only [hc, Bool.false_eq_true, if_false]
      cases hev : ev (substAll (rhoOf R) (findRefs e.2.expression) e.2.expression) with
      | unsupported => rfl
      | syntaxError => rfl
      | nameError =>
        simp only [applyOut, pure, Except.pure, substLeafEs_eq]
        cases substValEs e.2.name _ 1 c.data <;> rfl
      | value v =>
        cases v with
        | leaf x =>
          simp only [applyOut, pure, Except.pure, substLeafEs_eq]
          cases substValEs e.2.name _ 1 c.data <;> rfl
        | dict _ => rfl
        | list _ => rfl

inductive Outcome (ev : Str → EvalResult) (R : List (Str × Val)) (T : Str) : Verdict → Prop where
  | plain {v} : plainOf R T = some v → Outcome ev R T (.del v)
  | left : plainOf R T = none → (substAll (rhoOf R) (findRefs T) T).contains '$' = true →
      Outcome ev R T (.set (substAll (rhoOf R) (findRefs T) T))
  | syn : plainOf R T = none → (substAll (rhoOf R) (findRefs T) T).contains '$' = false →
      ev (substAll (rhoOf R) (findRefs T) T) = .syntaxError → Outcome ev R T (.set (substAll (rhoOf R) (findRefs T) T))
  | name : plainOf R T = none → (substAll (rhoOf R) (findRefs T) T).contains '$' = false →
      ev (substAll (rhoOf R) (findRefs T) T) = .nameError →
      Outcome ev R T (.del (.leaf (.str (substAll (rhoOf R) (findRefs T) T))))
  | val {x} : plainOf R T = none → (substAll (rhoOf R) (findRefs T) T).contains '$' = false →
      ev (substAll (rhoOf R) (findRefs T) T) = .value (.leaf x) → Outcome ev R T (.del (.leaf x))

theorem outOf_some {ev : Str → EvalResult} {R : List (Str × Val)} {T : Str} {o : Verdict} (h : outOf ev R T = some o) :
    Outcome ev R T o := by
  unfold outOf at h
  cases hp : plainOf R T with
  | some v => rw [hp] at h; cases h; exact .plain hp
  | none =>
    rw [hp] at h
    simp only at h
    split at h
    · rename_i hc; cases h; exact .left hp hc
    · rename_i hc
      simp only [Bool.not_eq_true] at hc
      split at h
      · rename_i hev; cases h; exact .syn hp hc hev
      · rename_i hev; cases h; exact .name hp hc hev
      · rename_i x hev; cases h; exact .val hp hc hev
      · cases h

theorem passStep_out {ev : Str → EvalResult} {R : List (Str × Val)} (hR : HasStr R) {c c' : ExprSt} {e : Nat × ExprEntry}
    (h : passStep ev R c e = .ok c') : ∃ o, Outcome ev R e.2.expression o ∧ applyOut e c o = .ok c' := by
  rw [passStep_eq ev hR] at h
  cases ho : outOf ev R e.2.expression with
  | none => rw [ho] at h; cases h
  | some o => rw [ho] at h; exact ⟨o, outOf_some ho, h⟩

theorem applyOut_flat {e : Nat × ExprEntry} {c : ExprSt} (hflat : ∀ d ∈ c.data, d.2.isLeaf = true) (v : Val) :
    applyOut e c (.del v) = .ok ⟨updEs e.2.name v c.data, c.exprs.del e.1⟩ := by
  simp only [applyOut, substValEs_flat _ _ _ hflat]; rfl

end DictIO.C05
