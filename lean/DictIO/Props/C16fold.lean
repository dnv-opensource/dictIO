/-
  C16 -- sequences of writes with arbitrary modes: `C16_fold_statement` of Props/C16.lean, proved (`C16_fold_full`); the
  native fold for either value of `order` (`fold_nat`); append onto a file written with header (`C16_append_header`).

  An append re-reads the file, with the `order` flag of the write.  A file the plain-dict route wrote (first write,
  overwrite) has no header and is read by C01 route 2; a file the `SDict` route wrote (append) starts with the header
  block comment and is read by `C01.readFile_dumped` (C12hdr / C01dump): the data comes back with the header placeholder
  entry in front and the header comment in the block-comment table — and a read with `order=True` sorts that entry
  `BLOCKCOMMENT000000` in AMONG the keys (after the int keys and the words below it, such as `A`).  So the SDict an
  append works on is the dict bare, or the dict with the header entry SOMEWHERE on the top level (`HdrIn`, `ReadOf`).
  The append-merge leaves the entry alone (`HdrIn.merge`, via `C07.filter_mergeD_keep/drop`), `_clean` keeps it
  (`C12.clean_hdr_perm`), `order_keys` keeps it (`HdrIn.order`), the writer hoists it back to the front (`hoist_hdrIn`,
  `fmtSD_hdrIn`).

  The append-merge does not see the key order of the existing dict, up to the order of the result
  (`orderD_merge_orderD`, by `orderD_ext`: a sorted association list with unique keys is determined by its lookups,
  `sorted_ext` of Lemmas/Order).  On domain dicts no entry refers to its own key (`selfRef_dom`), so `_recursive_merge`
  on an `SDict` (`top = true`, self-reference test) is the plain recursive merge of the specification (`mergeD_top_eq`).

  The induction over a sequence of writes (`run_seq_from`, `run_seq`, over `runCore`) is stated once, for an abstract
  file state with its two moves (append, start afresh) and every file system; `fold_nat` is its native instance,
  Props/C16ext.lean has the one for Foam.  The first part (`orderD_ext` … `fmtSD_hdrIn`) is in namespace `C16ext`.
-/
import DictIO.Props.C01dump
import DictIO.Props.C03
import DictIO.Props.C16
import DictIO.Props.C13api
import DictIO.Props.C15file
import DictIO.Lemmas.Writer
import DictIO.Lemmas.Refs


namespace DictIO.C16ext
open DictIO DictIO.C16

attribute [local irreducible] nativeHeader

theorem orderD_ext {x y : Entries} (hx : (keys x).Nodup) (hy : (keys y).Nodup)
    (h : ∀ k, (lookup k x).map orderV = (lookup k y).map orderV) : orderD x = orderD y := by
  apply sorted_ext
  · exact sortBy_sorted Key.totalLe _
  · exact sortBy_sorted Key.totalLe _
  · exact C15.nodup_order hx
  · exact C15.nodup_order hy
  · intro k
    rw [C15.order_lookup x hx k, C15.order_lookup y hy k, h k]

theorem orderD_idem {a : Entries} (h : NodupKeysV (.dict a)) : orderD (orderD a) = orderD a := by
  have := C15.order_idem (.dict a) h
  simpa [orderV, orderD] using this

/-- the statement of `orderD_merge_orderD` for one (dict) value -/
def MergeOrd (v : Val) : Prop :=
  ∀ ad, v = .dict ad → ∀ N, NodupKeysV (.dict N) →
    orderD (mergeD false [] (orderD ad) N) = orderD (mergeD false [] ad N)

theorem mergeOrd_core (a N : Entries) (ha : NodupKeysV (.dict a)) (hN : NodupKeysV (.dict N))
    (IH : ∀ e ∈ a, MergeOrd e.2) :
    orderD (mergeD false [] (orderD a) N) = orderD (mergeD false [] a N) := by
  apply orderD_ext
  · exact (C07.nodupV_mergeD [] false (orderD a) N (nodupV_orderV (.dict a) ha) hN.2).1
  · exact (C07.nodupV_mergeD [] false a N ha hN.2).1
  · intro k
    rw [C07.merge_lookup false [] _ N hN.1 k, C07.merge_lookup false [] a N hN.1 k, C15.order_lookup a ha.1 k]
    cases hka : lookup k a with
    | none => rfl
    | some av =>
      have hmem : (k, av) ∈ a := lookup_some_mem hka
      have hav : NodupKeysV av := nodupKeysEs_iff.mp ha.2 _ hmem
      have hid : orderV (orderV av) = orderV av := C15.order_idem av hav
      cases hkb : lookup k N with
      | none =>
        cases av with
        | leaf x => rfl
        | list xs => rfl
        | dict ad => show some (orderV (orderV (.dict ad))) = some (orderV (.dict ad)); rw [hid]
      | some bv =>
        cases av with
        | leaf x => cases bv <;> rfl
        | list xs => cases bv <;> rfl
        | dict ad =>
          cases bv with
          | leaf y => show some (orderV (orderV (.dict ad))) = some (orderV (.dict ad)); rw [hid]
          | list ys => show some (orderV (orderV (.dict ad))) = some (orderV (.dict ad)); rw [hid]
          | dict bd =>
            have hbd : NodupKeysV (.dict bd) := nodupKeysEs_iff.mp hN.2 _ (lookup_some_mem hkb)
            have := IH _ hmem ad rfl bd hbd
            simp only [Option.map, orderV]
            simp only [orderD] at this
            rw [this]

mutual
  theorem mergeOrdV : ∀ v : Val, NodupKeysV v → MergeOrd v
    | .leaf _, _ => fun _ h => by cases h
    | .list _, _ => fun _ h => by cases h
    | .dict es, h => fun ad e N hN => by
      cases e
      exact mergeOrd_core es N h hN (mergeOrdEs es h.2)
  theorem mergeOrdEs : ∀ es : Entries, NodupKeysEs es → ∀ e ∈ es, MergeOrd e.2
    | [], _, e, he => by simp at he
    | (k, v) :: es, h, e, he => by
      rcases List.mem_cons.mp he with rfl | hm
      · exact mergeOrdV v h.1
      · exact mergeOrdEs es h.2 e hm
end

/-- **the merge does not see the order of the keys of the existing dict** (up to the order of the result) -/
theorem orderD_merge_orderD {a N : Entries} (ha : NodupKeysV (.dict a)) (hN : NodupKeysV (.dict N)) :
    orderD (mergeD false [] (orderD a) N) = orderD (mergeD false [] a N) :=
  mergeOrdV (.dict a) ha a rfl N hN

def isHdr (k : Key) : Bool := k == .str C12.hdrPh
def notHdr (k : Key) : Bool := !isHdr k

/-- `L` is `D` with the header placeholder entry put in at some place -/
structure HdrIn (L D : Entries) : Prop where
  hd : L.filter (fun e => isHdr e.1) = [C12.hdrEntry]
  rest : L.filter (fun e => notHdr e.1) = D

theorem isHdr_false_of_ne {k : Key} (h : k ≠ .str C12.hdrPh) : isHdr k = false := by simpa [isHdr] using h

theorem isHdr_keys {D : Entries} (h : Key.str C12.hdrPh ∉ keys D) : ∀ k ∈ keys D, isHdr k = false :=
  fun _ hk => isHdr_false_of_ne fun e => h (e ▸ hk)

theorem hdrIn_cons {D : Entries} (h : Key.str C12.hdrPh ∉ keys D) : HdrIn (C12.hdrEntry :: D) D := by
  have h1 : D.filter (fun e => isHdr e.1) = [] :=
    List.filter_eq_nil_iff.mpr fun e he => by rw [isHdr_keys h e.1 (List.mem_map_of_mem he)]; decide
  have h2 : D.filter (fun e => notHdr e.1) = D :=
    List.filter_eq_self.mpr fun e he => by simp [notHdr, isHdr_keys h e.1 (List.mem_map_of_mem he)]
  have e1 : isHdr C12.hdrEntry.1 = true := by simp [isHdr, C12.hdrEntry]
  constructor
  · rw [List.filter_cons, if_pos e1, h1]
  · rw [List.filter_cons, if_neg (by simp [notHdr, e1]), h2]

theorem HdrIn.perm {L D : Entries} (h : HdrIn L D) : L.Perm (C12.hdrEntry :: D) := by
  have := List.filter_append_perm (fun e : Key × Val => isHdr e.1) L
  rw [h.hd] at this
  have e : L.filter (fun e => !isHdr e.1) = D := h.rest
  rw [e] at this
  exact this.symm

theorem HdrIn.order {L D : Entries} (h : HdrIn L D) : HdrIn (orderD L) (orderD D) := by
  constructor
  · rw [C15.filter_orderD, h.hd]; rfl
  · rw [C15.filter_orderD, h.rest]

theorem HdrIn.merge {L D : Entries} (h : HdrIn L D) (top : Bool) (exprs : Tbl ExprEntry) {N : Entries}
    (hN : Key.str C12.hdrPh ∉ keys N) : HdrIn (mergeD top exprs L N) (mergeD top exprs D N) := by
  constructor
  · rw [C07.filter_mergeD_drop isHdr top exprs N L (fun e he => isHdr_keys hN e.1 (List.mem_map_of_mem he)), h.hd]
  · rw [C07.filter_mergeD_keep notHdr top exprs N L
      (fun e he => by simp [notHdr, isHdr_keys hN e.1 (List.mem_map_of_mem he)]), h.rest]

theorem hoist_hdrIn {L D : Entries} (h : HdrIn L D) (hD : ∀ k ∈ keys D, C07.isPhKey k = false) :
    hoistPlaceholders L = C12.hdrEntry :: D := by
  have hnm : Key.str C12.hdrPh ∉ keys D := fun hm => by
    have := hD _ hm; rw [C12.hdrPh_isPh] at this; cases this
  have hB : ∀ e ∈ L, C06.selB e.1 = isHdr e.1 := fun e he => by
    rcases List.mem_cons.mp (h.perm.mem_iff.mp he) with rfl | hd
    · simp [C12.hdrEntry, C06.selB, C12.hdrPh_block, isHdr]
    · rw [isHdr_keys hnm e.1 (List.mem_map_of_mem hd)]
      exact Ph.selK_noPh .block (hD e.1 (List.mem_map_of_mem hd))
  exact hoistPlaceholders_single ((List.filter_congr hB).trans h.hd)
    ((List.filter_congr fun e he => by rw [hB e he]; rfl).trans h.rest)
    fun e he => Ph.selK_noPh .incl (hD e.1 (List.mem_map_of_mem he))

theorem fmtSD_hdrIn {L D : Entries} (h : HdrIn L D) (hD : DomC01 .native D = true) :
    fmtSD .native { data := L, blockC := [(0, C12.hdrComment)] } = some (nativeHeader ++ fmtPlain .native D) := by
  have hk := C12.dom_noPh_keys hD
  have e : fmtSD .native { data := L, blockC := [(0, C12.hdrComment)] } = fmtSD .native (C12.hdrSD D) := by
    simp only [fmtSD, C12.hdrSD, hoist_hdrIn h hk, C12.hoist_hdr hk]
  rw [e]
  exact (C12.write_header hD).trans (C12.fmtSD_text D)

end DictIO.C16ext

namespace DictIO.C16
open DictIO

attribute [local irreducible] nativeHeader

theorem norm_mergeD (exprs : Tbl ExprEntry) : ∀ (top : Bool) (t o : Entries),
    normEs t = t → normEs o = o → normEs (mergeD top exprs t o) = mergeD top exprs t o :=
  fun top t o => mergeD_forall (ι := Unit) exprs (P := fun _ es => normEs es = es) (Q := fun _ e => normV e.2 = e.2)
    (fun _ _ => C03.normEs_fix_iff)
    (fun _ _ td od h1 h2 ih => by
      rw [normV] at h1 h2 ⊢
      rw [ih () (Val.dict.inj h1) (Val.dict.inj h2)]) top t o ()

/-- no top-level entry refers to its own key (`$key`, or a comment placeholder `ph ↦ ph`) -/
def NoSelf (exprs : Tbl ExprEntry) (t : Entries) : Prop := ∀ e ∈ t, selfRef exprs e.1 e.2 = false

theorem insertExpression_nil (s : Str) : insertExpression [] s = s := by
  unfold insertExpression
  split
  · split
    · rfl
    · rfl
  · rfl

theorem isExactPh_infix {kw s : Str} (h : isExactPh kw s = true) : isInfix kw s = true := by
  simp only [isExactPh, Bool.and_eq_true] at h
  rw [isInfix_iff]
  obtain ⟨r, hr⟩ := List.isPrefixOf_iff_prefix.mp h.1.1
  exact ⟨[], r, by simp [hr]⟩

theorem kwBlock_split : kwBlock = "BLOCK".toList ++ "COMMENT".toList := by decide +kernel
theorem kwLine_split : kwLine = "LINE".toList ++ "COMMENT".toList := by decide +kernel

/-- a domain entry does not refer to its own key: a domain string has no `$`, a domain key contains neither `COMMENT`
    nor `INCLUDE` -/
theorem selfRef_dom {k : Key} {v : Val} {d : Nat} (hk : isDomKey k = true) (hv : domV .native d v = true) :
    selfRef [] k v = false := by
  cases k with
  | int z => cases v <;> rfl
  | str ks =>
    cases v with
    | dict es => rfl
    | list xs => rfl
    | leaf x =>
      cases x with
      | str vs =>
        simp only [domV, Bool.and_eq_true] at hv
        have hs : isDomStr .native vs = true := hv.1
        obtain ⟨hch, _⟩ := C01.isDomStr_iff.mp hs
        have hnd : '$' ∉ vs := fun hm => (hch _ hm).2 rfl
        simp only [isDomKey, Bool.and_eq_true] at hk
        obtain ⟨_, hc, hi, _⟩ := C02.Main.srcWord_iff.mp hk.1.1
        have e1 : isExactPh kwBlock ks = false := by
          cases h : isExactPh kwBlock ks with
          | false => rfl
          | true =>
            have := isExactPh_infix h
            rw [kwBlock_split] at this
            have := isInfix_of_append this
            rw [hc] at this; cases this
        have e2 : isExactPh kwIncl ks = false := by
          cases h : isExactPh kwIncl ks with
          | false => rfl
          | true =>
            have := isExactPh_infix h
            rw [show kwIncl = "INCLUDE".toList from rfl, hi] at this; cases this
        have e3 : isExactPh kwLine ks = false := by
          cases h : isExactPh kwLine ks with
          | false => rfl
          | true =>
            have := isExactPh_infix h
            rw [kwLine_split] at this
            have := isInfix_of_append this
            rw [hc] at this; cases this
        simp only [selfRef, insertExpression_nil, e1, e2, e3, refersTo_no_dollar ks hnd, Bool.or_self, Bool.and_false]
      | _ => rfl

theorem noSelf_dom {e : Entries} (h : DomC01 .native e = true) : NoSelf [] e := fun x hx =>
  have hd := C01.domEs_mem (C01.domC01_dom h) x hx
  selfRef_dom hd.1 hd.2

/-- a dict the file may hold: in the value domain, normalised, with the side conditions of C01 -/
structure Good (e : Entries) : Prop where
  dom : DomC01 .native e = true
  norm : normEs e = e
  doc : C01.DocKeysAbsent' e
  cnt : C02.countQuotedEs (srcOfEs .native e) ≤ Gen.counterLimit + 1

/-- the path hypotheses of `C01.C01_roundtrip_file` -/
structure PathOK (target : Comps) : Prop where
  hj : isJsonPath target = false
  hx : isXmlPath target = false
  hr : resolveSpelled target = target

/-- the file holds `e`: written by the plain-dict route (first write, overwrite) or by the `SDict` route (append) -/
def FileOf (e : Entries) (t : Str) : Prop :=
  t = fmtPlain .native e ∨ t = nativeHeader ++ fmtPlain .native e

theorem Good.noPh {e : Entries} (h : Good e) : C07.NoPhEs e := by
  have := (C01.norm_invariants h.dom).1; rwa [h.norm] at this

theorem Good.nodup {e : Entries} (h : Good e) : NodupKeysV (.dict e) := by
  have := (C01.norm_invariants h.dom).2; rwa [h.norm] at this

/-- the same dict and the same counter in EVERY file system that holds `t` at the target -/
theorem read_any_fs {e : Entries} {t : Str} {c : Counter} (ev : Str → EvalResult) {target : Comps} (P : PathOK target)
    (o : ReadOpts) (ho : o.comments = true) (h : Good e) (hf : FileOf e t) (hc : C13.ValidCounter Gen.counterLimit c) :
    ∃ sd c', C13.ValidCounter Gen.counterLimit c' ∧ (sd = { data := e } ∨ sd = C12.hdrSD e) ∧
      ∀ fs : FS, fs.get target = some (.native t) → readFile ev fs o c target = .ok (readPost o sd c') := by
  rcases hf with rfl | rfl
  · obtain ⟨c', hv, hr⟩ := C01.read_written_fs (c := c) ev target h.dom h.norm h.doc h.cnt hc P.hj P.hx P.hr
    exact ⟨_, c', hv, .inl rfl, fun fs hget => hr fs o ho hget⟩
  · obtain ⟨c', hv, hr⟩ := C01.readFile_dumped_fs (c := c) ev target o ho h.dom h.norm h.doc h.cnt hc P.hj P.hx P.hr
    exact ⟨_, c', hv, .inr rfl, hr⟩

theorem read_any {e : Entries} {t : Str} {c : Counter} (ev : Str → EvalResult) {target : Comps} (P : PathOK target)
    (h : Good e) (hf : FileOf e t) (hc : C13.ValidCounter Gen.counterLimit c) :
    ∃ sd c', C13.ValidCounter Gen.counterLimit c' ∧
      readFile ev [(target, .native t)] {} c target = .ok (.ok sd c') ∧ (sd = { data := e } ∨ sd = C12.hdrSD e) := by
  obtain ⟨sd, c', hv, hsd, hr⟩ := read_any_fs ev P {} rfl h hf hc
  exact ⟨sd, c', hv, hr _ (C01.fs_get_single _ _), hsd⟩

theorem dropPh_plain {D : Entries} (hp : C07.NoPhEs D) : C01.dropPhEntries ({ data := D } : SD).data = D :=
  List.filter_eq_self.mpr fun e he => by rw [C07.noPhEs_keys hp e.1 (List.mem_map_of_mem he)]; rfl

theorem dropPh_any {D : Entries} {sd : SD} (hp : C07.NoPhEs D) (h : sd = { data := D } ∨ sd = C12.hdrSD D) :
    C01.dropPhEntries sd.data = D := by
  rcases h with rfl | rfl
  · exact dropPh_plain hp
  · exact C01.dropPh_hdr hp

theorem merge_plain {e N : Entries} (he : Good e) (hN : DomC01 .native N = true) (hnN : normEs N = N) :
    ({ data := e } : SD).merge (.plain N) = { data := mergeD true [] e N } := by
  have hiN := C01.norm_invariants hN
  rw [hnN] at hiN
  exact C07.merge_tables_plain { data := e } N (C07.nodupV_mergeD [] true e N he.nodup hiN.2.2)
    (C07.noPhEs_mergeD [] true e N he.noPh hiN.1)

theorem merge_top_false {e N : Entries} (he : Good e) (hN : DomC01 .native N = true) :
    mergeD true [] e N = mergeD false [] e N :=
  mergeD_top_eq [] N e (noSelf_dom he.dom) (noSelf_dom hN)

/-- the dict as the file holds it when the writes carry the flag `order` -/
def ordD (order : Bool) (e : Entries) : Entries := if order then orderD e else e

theorem good_order {s : Entries} (h : Good s) : Good (orderD s) :=
  ⟨C15.DomC01_order h.dom, by rw [C15.normEs_orderD, h.norm], C15.docKeys_order h.doc,
    by rw [C15.countQuoted_order]; exact h.cnt⟩

theorem good_ordD {e : Entries} (order : Bool) (h : Good e) : Good (ordD order e) := by
  cases order
  · exact h
  · exact good_order h

open C16ext in
/-- the SDicts the reader returns for a native file that holds `e`: `e` bare, or — the file has the header — `e` with the
    header placeholder entry somewhere on the top level and the header comment in the table.  As read the entry stands
    in front (`hdrIn_cons`); a read with `order=True` sorts it in among the keys. -/
def ReadOf (e : Entries) (s : SD) : Prop :=
  s = { data := e } ∨ ∃ L, HdrIn L e ∧ s = { data := L, blockC := [(0, C12.hdrComment)] }

theorem ReadOf.order {e : Entries} {s : SD} (h : ReadOf e s) : ReadOf (orderD e) s.order := by
  rcases h with rfl | ⟨L, hL, rfl⟩
  · exact .inl rfl
  · exact .inr ⟨orderD L, hL.order, rfl⟩

theorem ReadOf.merge {e N : Entries} {s : SD} (h : ReadOf e s) (he : Good e) (hN : DomC01 .native N = true)
    (hnN : normEs N = N) : ReadOf (mergeD true [] e N) (s.merge (.plain N)) := by
  have hiN := C01.norm_invariants hN
  rw [hnN] at hiN
  rcases h with rfl | ⟨L, hL, rfl⟩
  · exact .inl (merge_plain he hN hnN)
  · have hL1 : C16ext.HdrIn (mergeD true [] L N) (mergeD true [] e N) := hL.merge true [] (C12.hdr_not_mem hiN.1)
    exact .inr ⟨_, hL1, C12.clean_hdr_perm { data := mergeD true [] L N, blockC := [(0, C12.hdrComment)] } _ hL1.perm
      (C07.noPhEs_mergeD [] true e N he.noPh hiN.1) (C07.nodupV_mergeD [] true e N he.nodup hiN.2.2)⟩

theorem ReadOf.write {M : Entries} {s : SD} (h : ReadOf M s) (hM : DomC01 .native M = true) :
    fmtSD .native s = some (nativeHeader ++ fmtPlain .native M) := by
  rcases h with rfl | ⟨L, hL, rfl⟩
  · exact C12.fmtSD_text M
  · exact C16ext.fmtSD_hdrIn hL hM

theorem ReadOf.read {s : Entries} {t : Str} {c : Counter} (ev : Str → EvalResult) {target : Comps} (P : PathOK target)
    (order : Bool) (h : Good s) (hf : FileOf (ordD order s) t) (hc : C13.ValidCounter Gen.counterLimit c) :
    ∃ sd c', C13.ValidCounter Gen.counterLimit c' ∧ ReadOf (ordD order s) sd ∧
      ∀ fs : FS, fs.get target = some (.native t) → readFile ev fs { order := order } c target = .ok (.ok sd c') := by
  have hE := good_ordD order h
  obtain ⟨sd, c', hv, hsd, hr⟩ := read_any_fs ev P { order := order } rfl hE hf hc
  have hrep : ReadOf (ordD order s) sd := by
    rcases hsd with rfl | rfl
    · exact .inl rfl
    · exact .inr ⟨_, C16ext.hdrIn_cons (C12.hdr_not_mem hE.noPh), rfl⟩
  cases order with
  | false => exact ⟨sd, c', hv, hrep, hr⟩
  | true =>
    refine ⟨sd.order, c', hv, ?_, hr⟩
    have := hrep.order
    rwa [show orderD (ordD true s) = ordD true s from C16ext.orderD_idem h.nodup] at this

/-- append onto a native file that holds `s` (without or with the header): the file then holds the merge, written by
    the `SDict` route, i.e. with the header (kept if it was there, put in front if not) -/
theorem append_nat {s d : Entries} {t : Str} {c : Counter} (ev : Str → EvalResult) {target : Comps} (P : PathOK target)
    (order : Bool) (hs : Good s) (hf : FileOf (ordD order s) t) (hc : C13.ValidCounter Gen.counterLimit c)
    (hd : DomC01 .native (normEs d) = true) (hM : DomC01 .native (mergeD false [] s (normEs d)) = true) :
    ∃ c', C13.ValidCounter Gen.counterLimit c' ∧ ∀ fs : FS, fs.get target = some (.native t) →
      writeCore ev .native fs target ['a'] order (.plain d) c =
        .ok (nativeHeader ++ fmtPlain .native (ordD order (mergeD false [] s (normEs d))), c') := by
  obtain ⟨sd, c', hv, hrep, hr⟩ := ReadOf.read ev P order hs hf hc
  refine ⟨c', hv, fun fs hget => ?_⟩
  have hE := good_ordD order hs
  have hiN := C01.norm_invariants hd
  rw [C01.normEs_idem] at hiN
  have hm := hrep.merge hE hd (C01.normEs_idem d)
  have hkey : ordD order (mergeD true [] (ordD order s) (normEs d)) = ordD order (mergeD false [] s (normEs d)) := by
    rw [merge_top_false hE hd]
    cases order
    · rfl
    · exact C16ext.orderD_merge_orderD hs.nodup hiN.2
  have hMo : DomC01 .native (ordD order (mergeD false [] s (normEs d))) = true := by
    cases order
    · exact hM
    · exact C15.DomC01_order hM
  have hfin : ReadOf (ordD order (mergeD false [] s (normEs d)))
      (if order then (sd.merge (.plain (normEs d))).order else sd.merge (.plain (normEs d))) := by
    rw [← hkey]
    cases order
    · exact hm
    · exact hm.order
  rw [writeCore_append_ok _ (by rw [P.hr]; exact hget) (hr fs hget)]
  simp only [Arg.retype]
  rw [hfin.write hMo]

/-- what `C16_fold_statement` assumes about every dict the file holds along the way -/
def StateOK (e : Entries) : Prop :=
  DomC01 .native e = true ∧ C01.DocKeysAbsent' e ∧ C02.countQuotedEs (srcOfEs .native e) ≤ Gen.counterLimit + 1

theorem good_of (e : Entries) (h : StateOK e) (hn : normEs e = e) : Good e := ⟨h.1, hn, h.2.1, h.2.2⟩

/-- the dict the file holds after one more write -/
def nextState (old : Entries) (m : Str) (d : Entries) : Entries :=
  if m == ['a'] then mergeD false [] old (normEs d) else normEs d

theorem specFold_cons (old : Entries) (m : Str) (d : Entries) (ws : List (Str × Entries)) :
    specFold (some old) ((m, d) :: ws) = specFold (some (nextState old m d)) ws := rfl

theorem specStates_cons (old : Entries) (m : Str) (d : Entries) (ws : List (Str × Entries)) :
    specStates (some old) ((m, d) :: ws) = nextState old m d :: specStates (some (nextState old m d)) ws := rfl

theorem nextState_norm {old : Entries} (h : normEs old = old) (m : Str) (d : Entries) :
    normEs (nextState old m d) = nextState old m d := by
  unfold nextState
  split
  · exact norm_mergeD [] false old (normEs d) h (C01.normEs_idem d)
  · exact C01.normEs_idem d

theorem write_any {e d : Entries} {t : Str} {c : Counter} (ev : Str → EvalResult) {target : Comps} (P : PathOK target)
    (m : Str) (he : Good e) (hf : FileOf e t) (hc : C13.ValidCounter Gen.counterLimit c)
    (hd : DomC01 .native (normEs d) = true) (hM : DomC01 .native (nextState e m d) = true) :
    ∃ t' c', C13.ValidCounter Gen.counterLimit c' ∧
      writeStep ev .native target (some t) m false d c = .ok (t', c') ∧ FileOf (nextState e m d) t' := by
  rw [writeStep_eq_core ev .native (some t) m false d c P.hr]
  by_cases hm : m = ['a']
  · subst hm
    have hM' : DomC01 .native (mergeD false [] e (normEs d)) = true := by simpa [nextState] using hM
    obtain ⟨c', hv, hw⟩ := append_nat ev P false he hf hc hd hM'
    exact ⟨_, c', hv, hw _ (C01.fs_get_single _ _), Or.inr (by simp [nextState, ordD])⟩
  · have hm' : (m == ['a']) = false := by simpa using hm
    refine ⟨_, c, hc, writeCore_fresh_plain false d c (.inl hm), Or.inl ?_⟩
    simp [nextState, hm']

/-! ### the induction

  The file's abstract state `x : τ` (the dict it holds; for Foam also whether it carries the header) evolves by
  `ws.foldl (nx init app)`: an append works on the state (`app`), a write with any other mode starts afresh (`init`).
  The run tracks it, and so does the specification, which sees `g d` of a written dict `d` and holds `π x`.  Step and
  run are stated for EVERY file system that holds the file's text at the target: the text and the counter are the same
  in all of them, so `runWrites` (the target alone) and the API's `apiRun` (a world with other files,
  Props/C16sd.lean) are two views of one run. -/

def RunsTo (ev : Str → EvalResult) (fl : Flavor) (target : Comps) (order : Bool) (fs : FS) (c : Counter)
    (ws : List (Str × Entries)) (t' : Str) (c' : Counter) : Prop :=
  ∃ fs', runCore ev fl target order fs c ws = .ok (fs', c') ∧ fs'.get target = some (.native t') ∧
    ∀ q, q ≠ target → fs'.get q = fs.get q

theorem RunsTo.cons {ev : Str → EvalResult} {fl : Flavor} {target : Comps} {order : Bool} {fs : FS} {c c1 c' : Counter}
    {m : Str} {d : Entries} {ws : List (Str × Entries)} {t1 t' : Str} (hr : resolveSpelled target = target)
    (hw : writeCore ev fl fs target m order (.plain d) c = .ok (t1, c1))
    (h : RunsTo ev fl target order (fs.set target (.native t1)) c1 ws t' c') :
    RunsTo ev fl target order fs c ((m, d) :: ws) t' c' := by
  obtain ⟨fs', h1, h2, h3⟩ := h
  exact ⟨fs', by simp only [runCore, hw, hr]; exact h1, h2, fun q hq => (h3 q hq).trans (C13api.get_set_ne _ _ hq)⟩

section
variable (ev : Str → EvalResult) (fl : Flavor) {target : Comps} (hr : resolveSpelled target = target) (order : Bool)
  {τ : Type} (π : τ → Entries) (g : Entries → Entries) (init : Entries → τ) (app : τ → Entries → τ)
  (G : τ → Prop) (F : τ → Str → Prop) (W S : Entries → Prop)

def nx (x : τ) (w : Str × Entries) : τ := if w.1 == ['a'] then app x w.2 else init w.2

/- `G x`: the state is admissible — kept when the written dict is (`W`) and the dict the specification then holds is
   (`S`); `F x t`: the text `t` represents `x`.  Asked of a flavour: the text a non-append write leaves (`fresh`), and
   one append, in every file system that holds the text at the target (`append`). -/
variable (π_init : ∀ d, π (init d) = normEs (g d))
  (π_app : ∀ x d, π (app x d) = mergeD false [] (π x) (normEs (g d)))
  (G_init : ∀ d, W d → S (π (init d)) → G (init d))
  (G_app : ∀ x d, G x → W d → S (π (app x d)) → G (app x d))
  (fresh : ∀ d, F (init d) (fmtPlain fl (ordD order (normEs d))))
  (append : ∀ {x t c d}, G x → F x t → C13.ValidCounter Gen.counterLimit c → W d → G (app x d) →
    ∃ t' c', C13.ValidCounter Gen.counterLimit c' ∧ F (app x d) t' ∧ ∀ fs : FS, fs.get target = some (.native t) →
      writeCore ev fl fs target ['a'] order (.plain d) c = .ok (t', c'))
include hr π_init π_app G_init G_app fresh append

/-- the run follows the specification fold, from an existing file -/
theorem run_seq_from : ∀ (ws : List (Str × Entries)) {x : τ} {t : Str} {c : Counter}, G x → F x t →
    C13.ValidCounter Gen.counterLimit c →
    (∀ e ∈ specStates (some (π x)) (ws.map fun w => (w.1, g w.2)), S e) → (∀ w ∈ ws, W w.2) →
    ∃ t' c', C13.ValidCounter Gen.counterLimit c' ∧
      specFold (some (π x)) (ws.map fun w => (w.1, g w.2)) = some (π (ws.foldl (nx init app) x)) ∧
      G (ws.foldl (nx init app) x) ∧ F (ws.foldl (nx init app) x) t' ∧
      ∀ fs : FS, fs.get target = some (.native t) → RunsTo ev fl target order fs c ws t' c'
  | [], x, t, c, hG, hF, hc, _, _ => ⟨t, c, hc, rfl, hG, hF, fun fs h => ⟨fs, rfl, h, fun _ _ => rfl⟩⟩
  | (m, d) :: ws, x, t, c, hG, hF, hc, hs, hw => by
    have hπ : π (nx init app x (m, d)) = nextState (π x) m (g d) := by
      unfold nx nextState
      cases m == ['a']
      · exact π_init d
      · exact π_app x d
    have hS : S (π (nx init app x (m, d))) := hs _ (by rw [hπ]; exact List.mem_cons_self)
    have hW := hw _ List.mem_cons_self
    have step : G (nx init app x (m, d)) ∧ ∃ t1 c1, C13.ValidCounter Gen.counterLimit c1 ∧
        F (nx init app x (m, d)) t1 ∧ ∀ fs : FS, fs.get target = some (.native t) →
          writeCore ev fl fs target m order (.plain d) c = .ok (t1, c1) := by
      by_cases hm : m = ['a']
      · subst hm
        have hG1 := G_app x d hG hW hS
        exact ⟨hG1, append hG hF hc hW hG1⟩
      · have e : nx init app x (m, d) = init d := if_neg (by simpa using hm)
        rw [e] at hS ⊢
        exact ⟨G_init d hW hS, _, c, hc, fresh d, fun fs _ => writeCore_fresh_plain order d c (.inl hm)⟩
    obtain ⟨hG1, t1, c1, hv1, hF1, hw1⟩ := step
    obtain ⟨t', c', hv, hspec, hG', hF', hrun⟩ := run_seq_from ws hG1 hF1 hv1
      (fun e he => hs e (by rw [hπ] at he; exact List.mem_cons_of_mem _ he)) (fun w h => hw w (List.mem_cons_of_mem _ h))
    refine ⟨t', c', hv, ?_, hG', hF', fun fs hget => (hrun _ (C13api.get_set_self _ _ _)).cons hr (hw1 fs hget)⟩
    rw [hπ] at hspec; exact hspec

/-- … from a target that does not exist: the first write, whatever its mode, writes the plain text -/
theorem run_seq {m : Str} {d : Entries} {ws : List (Str × Entries)} {c : Counter}
    (hs : ∀ e ∈ specStates none (((m, d) :: ws).map fun w => (w.1, g w.2)), S e) (hw : ∀ w ∈ (m, d) :: ws, W w.2)
    (hc : C13.ValidCounter Gen.counterLimit c) :
    ∃ t' c', C13.ValidCounter Gen.counterLimit c' ∧
      specFold none (((m, d) :: ws).map fun w => (w.1, g w.2)) = some (π (ws.foldl (nx init app) (init d))) ∧
      G (ws.foldl (nx init app) (init d)) ∧ F (ws.foldl (nx init app) (init d)) t' ∧
      ∀ fs : FS, fs.get target = none → RunsTo ev fl target order fs c ((m, d) :: ws) t' c' := by
  have hS : S (π (init d)) := hs _ (by rw [π_init]; exact List.mem_cons_self)
  obtain ⟨t', c', hv, hspec, hG', hF', hrun⟩ := run_seq_from ev fl hr order π g init app G F W S π_init π_app G_init G_app
    fresh append ws (G_init d (hw _ List.mem_cons_self) hS) (fresh d) hc
    (fun e he => hs e (by rw [π_init] at he; exact List.mem_cons_of_mem _ he)) (fun w h => hw w (List.mem_cons_of_mem _ h))
  refine ⟨t', c', hv, ?_, hG', hF', fun fs hnew => (hrun _ (C13api.get_set_self _ _ _)).cons hr
    (writeCore_fresh_plain order d c (.inr (by rw [hr]; exact hnew)))⟩
  rw [π_init] at hspec; exact hspec

end

theorem runWrites_eq_core (ev : Str → EvalResult) (fl : Flavor) {target : Comps} (order : Bool)
    (hr : resolveSpelled target = target) : ∀ (ws : List (Str × Entries)) (cur : Option Str) (c : Counter),
    runWrites ev fl target order cur c ws =
      (runCore ev fl target order (fsOf target cur) c ws).map fun r => ((r.1.get target).bind fun b =>
        match b with | .native t => some t | _ => none, r.2)
  | [], cur, c => by cases cur <;> simp [runWrites, runCore, Except.map, get_fsOf]
  | (m, d) :: ws, cur, c => by
    simp only [runWrites, runCore, writeStep_eq_core ev fl cur m order d c hr]
    cases writeCore ev fl (fsOf target cur) target m order (.plain d) c with
    | error e => rfl
    | ok r => simp only [hr, set_fsOf]; exact runWrites_eq_core ev fl order hr ws (some r.1) r.2

theorem RunsTo.runWrites {ev : Str → EvalResult} {fl : Flavor} {target : Comps} {order : Bool} {c c' : Counter}
    {ws : List (Str × Entries)} {t' : Str} (cur : Option Str) (hr : resolveSpelled target = target)
    (h : RunsTo ev fl target order (fsOf target cur) c ws t' c') :
    runWrites ev fl target order cur c ws = .ok (some t', c') := by
  obtain ⟨fs', h1, h2, _⟩ := h
  rw [runWrites_eq_core ev fl order hr ws cur c, h1]
  simp only [Except.map, h2, Option.bind]

/-- `run_seq` for the native flavour: the abstract state is the (unordered) dict `D` of the specification, the file
    holds `ordD order D` -/
theorem fold_nat (ev : Str → EvalResult) {target : Comps} (P : PathOK target) (order : Bool)
    {ws : List (Str × Entries)} {c : Counter} (hne : ws ≠ []) (hs : ∀ e ∈ specStates none ws, StateOK e)
    (hw : ∀ w ∈ ws, DomC01 .native (normEs w.2) = true) (hc : C13.ValidCounter Gen.counterLimit c) :
    ∃ t' c' D, C13.ValidCounter Gen.counterLimit c' ∧ specFold none ws = some D ∧ Good D ∧ FileOf (ordD order D) t' ∧
      ∀ fs : FS, fs.get target = none → RunsTo ev .native target order fs c ws t' c' := by
  obtain _ | ⟨⟨m, d⟩, ws⟩ := ws
  · exact absurd rfl hne
  have hid : ((m, d) :: ws).map (fun w => (w.1, id w.2)) = (m, d) :: ws := List.map_id _
  obtain ⟨t', c', hv, hspec, hD, hfD, hrun⟩ := run_seq ev .native P.hr order (τ := Entries) id id normEs
    (fun e d => mergeD false [] e (normEs d)) Good (fun s => FileOf (ordD order s))
    (fun d => DomC01 .native (normEs d) = true) StateOK
    (fun _ => rfl) (fun _ _ => rfl) (fun d _ h => good_of _ h (C01.normEs_idem d))
    (fun e d he _ h => good_of _ h (norm_mergeD [] false e (normEs d) he.norm (C01.normEs_idem d)))
    (fun _ => Or.inl rfl)
    (fun he hf hc hd hM => by
      obtain ⟨c', hv, h⟩ := append_nat ev P order he hf hc hd hM.dom
      exact ⟨_, c', hv, Or.inr rfl, h⟩)
    (m := m) (d := d) (ws := ws) (by rw [hid]; exact hs) hw hc
  rw [hid] at hspec
  exact ⟨t', c', _, hv, hspec, hD, hfD, hrun⟩

/-- **C16, sequences of writes** — `C16_fold_statement`, proved.  After any non-empty sequence of writes with arbitrary
    modes to a fresh target, all written dicts and all intermediate results in the value domain, the sequence succeeds
    and reading the file back returns the fold of the specification, up to the header placeholder entry the append
    route writes. -/
theorem C16_fold_full : C16_fold_statement := by
  intro ev target ws c hne hs hw hc hj hx hr
  have P : PathOK target := ⟨hj, hx, hr⟩
  obtain ⟨t', c', D, hv, hspec, hD, hfD, hrun⟩ := fold_nat ev P false hne hs hw hc
  obtain ⟨sd, c₂, _, hread, hsd⟩ := read_any ev P hD hfD hv
  exact ⟨t', c', sd, c₂, D, (hrun [] rfl).runWrites none hr, hread, hspec, dropPh_any hD.noPh hsd⟩

/-- **append onto a dumped file.**  The file holds the `fmtSD` text of a normalised domain dict `e` (header in front).
    Appending `d` writes the `fmtSD` text of the merge `mergeD true [] e (normEs d)` — the header is kept, not
    doubled — and reading that file returns the merge (with the header placeholder entry and the header comment). -/
theorem C16_append_header {e d : Entries} {c : Counter} (ev : Str → EvalResult) {target : Comps} (P : PathOK target)
    (he : Good e) (hc : C13.ValidCounter Gen.counterLimit c) (hd : DomC01 .native (normEs d) = true)
    (hM : StateOK (mergeD true [] e (normEs d))) :
    ∃ t₀ t₁ c' c'', fmtSD .native { data := e } = some t₀ ∧
      writeStep ev .native target (some t₀) ['a'] false d c = .ok (t₁, c') ∧
      fmtSD .native { data := mergeD true [] e (normEs d) } = some t₁ ∧
      readFile ev [(target, .native t₁)] {} c' target = .ok (.ok (C12.hdrSD (mergeD true [] e (normEs d))) c'') := by
  have htf := merge_top_false he hd
  rw [htf] at hM ⊢
  have hG : Good (mergeD false [] e (normEs d)) :=
    good_of _ hM (norm_mergeD [] false e (normEs d) he.norm (C01.normEs_idem d))
  obtain ⟨c', hv, hw⟩ := append_nat ev P false he (Or.inr rfl) hc hd hM.1
  obtain ⟨c'', _, hr⟩ := C01.readFile_dumped (c := c') ev target hG.dom hG.norm hG.doc hG.cnt hv P.hj P.hx P.hr
  exact ⟨_, _, c', c'', C12.fmtSD_text e,
    (writeStep_eq_core ev .native (some _) ['a'] false d c P.hr).trans (hw _ (C01.fs_get_single _ _)), C12.fmtSD_text _, hr⟩

/-! ## non-vacuity: write `{a: 1}`, append `{b: "2", a: 9}`, append `{c: {x: 1}}` -/

def exWs : List (Str × Entries) :=
  [ (['w'], [(.str ['a'], .leaf (.int 1))]),
    (['a'], [(.str ['b'], .leaf (.str ['2'])), (.str ['a'], .leaf (.int 9))]),
    (['a'], [(.str ['c'], .dict [(.str ['x'], .leaf (.int 1))])]) ]

def exFold : Entries :=
  [(.str ['a'], .leaf (.int 1)), (.str ['b'], .leaf (.int 2)), (.str ['c'], .dict [(.str ['x'], .leaf (.int 1))])]

theorem exWs_spec : specFold none exWs = some exFold := by decide +kernel

theorem exWs_states : ∀ e ∈ specStates none exWs, DomC01 .native e = true ∧ C01.DocKeysAbsent' e ∧
    C02.countQuotedEs (srcOfEs .native e) ≤ Gen.counterLimit + 1 := by decide +kernel

theorem exWs_dom : ∀ w ∈ exWs, DomC01 .native (normEs w.2) = true := by decide +kernel

theorem ex_fold (ev : Str → EvalResult) :
    ∃ t c₁ sd c₂, runWrites ev .native ["f".toList] false none none exWs = .ok (some t, c₁) ∧
      readFile ev [(["f".toList], .native t)] {} c₁ ["f".toList] = .ok (.ok sd c₂) ∧
      C01.dropPhEntries sd.data = exFold := by
  obtain ⟨t, c₁, sd, c₂, D, h1, h2, h3, h4⟩ := C16_fold_full ev ["f".toList] exWs none (by decide)
    exWs_states exWs_dom (Or.inl rfl) (by decide) (by decide) (by decide)
  rw [exWs_spec] at h3
  cases h3
  exact ⟨t, c₁, sd, c₂, h1, h2, h4⟩

end DictIO.C16
