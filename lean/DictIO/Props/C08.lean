/-
  C08 -- History independence: what a read returns does not depend on what the process did before
  (the state of the global `BorgCounter`, the spelling of the path given), as far as the model carries it.

    a  `C08_ids_distinct`, `C08_canon_renaming`, `C08_canon_counter_independent`
                              the placeholder ids drawn by one read are pairwise distinct (up to `counterLimit + 1` of them,
                              across the wrap-around too); ids enter the canonical form (`rankCanon`) only through equality;
                              the canonical form of freshly drawn ids does not depend on the counter state      (from C13)
    b  `C08_data_counter_independent`
                              for comment-free sources (well-formed documents in any admissible layout) the *data* read
                              does not depend on the counter at all                                            (from C02)
       `C08_data_counter_independent'`  … and neither do the side tables: the whole `SDict` is the same
    c  `C08_order_wrap` / `C08_order_nowrap` / `C08_alloc_wrap`   known finding D18 as a proved negative: `order=True` sorts
                              the side tables by id, so ids drawn across the wrap-around come out in the other order
       `C08_order_not_canon_invariant`  the same, stated against the canonical form: two tables with the same canonical ids
                              and the same texts are ordered differently
    d  `C08_lookup_by_resolved`, `C08_parseFile_spelling`, `C08_spelling_*`
                              a file is looked up by its normalised path: spellings with `./`, `../` reach the same file

  Not carried by the model: the effect of earlier reads on anything but the counter (the reader has no other global state;
  that is a correspondence-level fact about the Python code).
-/
import DictIO.Model.Reader
import DictIO.Model.Order
import DictIO.Props.C13name
import DictIO.Props.C02main

namespace DictIO.C08
open DictIO

/-! ## a. placeholder ids -/

/-- up to `limit + 1` successive ids are pairwise distinct, whatever the counter state was, even across the
    wrap-around: two placeholders of one read never collide -/
theorem C08_ids_distinct {limit k : Nat} {c : Counter} (hk : k ≤ limit + 1) (hc : C13.ValidCounter limit c) :
    (alloc limit k c).Nodup :=
  C13.alloc_nodup hk hc

/-- the ids drawn are the window `start, start+1, …` modulo `limit + 1` -/
theorem C08_ids_window {limit : Nat} {c : Counter} (hc : C13.ValidCounter limit c) (k : Nat) :
    alloc limit k c = (List.range k).map fun j => (C13.startOf c + j) % (limit + 1) :=
  C13.alloc_eq_range hc k

/-- every id handed out is within the limit (six digits at the generated limit) -/
theorem C08_id_le {limit : Nat} {c : Counter} (hc : C13.ValidCounter limit c) : (Counter.next limit c).1 ≤ limit :=
  next_le _ _

/-- the canonical form (rank of first appearance) is invariant under every injective renaming of the ids:
    ids enter it only through equality -/
theorem C08_canon_renaming {f : Nat → Nat} (hf : Function.Injective f) (ids : List Nat) :
    rankCanon (ids.map f) = rankCanon ids :=
  C13.rankCanon_map_injective hf ids

/-- the canonical form of the ids a read draws does not depend on where the counter stood before the read -/
theorem C08_canon_counter_independent {limit k : Nat} {c c' : Counter} (hk : k ≤ limit + 1)
    (hc : C13.ValidCounter limit c) (hc' : C13.ValidCounter limit c') :
    rankCanon (alloc limit k c) = rankCanon (alloc limit k c') :=
  C13.rankCanon_alloc_indep hk hc hc'

/-! ## b. comment-free sources: the data does not depend on the counter -/

/-- for a well-formed source document (quoted strings allowed; no comments, includes, `$`) in any admissible layout,
    the data read is the same whatever the counter state: the ids of the string-literal placeholders are gone once the
    literals are put back.  Hypotheses: those of `C02_layout_tolerant`, for both counters. -/
theorem C08_data_counter_independent {es : SrcEntries} {gaps : List Str} {tail : Str} {c₁ c₂ : Counter}
    (comments : Bool) (dir : Str)
    (hwf : SrcWFEs 1 es = true) (hg : GapsOKS (srcToksEs es) gaps = true) (ht : tail.all isWs = true)
    (hc₁ : C13.ValidCounter Gen.counterLimit c₁) (hc₂ : C13.ValidCounter Gen.counterLimit c₂)
    (hn : C02.countQuotedEs es ≤ Gen.counterLimit + 1) (hd : C02.DocKeysAbsent es) :
    (parseNative comments dir c₁ (spreadS (srcToksEs es) gaps tail)).map (·.1.data) =
      (parseNative comments dir c₂ (spreadS (srcToksEs es) gaps tail)).map (·.1.data) := by
  obtain ⟨c₁', h₁⟩ := C02.C02_layout_tolerant comments dir hwf hg ht hc₁ hn hd
  obtain ⟨c₂', h₂⟩ := C02.C02_layout_tolerant comments dir hwf hg ht hc₂ hn hd
  rw [h₁, h₂]; rfl

/-- … and the data is the documented meaning of the document -/
theorem C08_data_is_meaning {es : SrcEntries} {gaps : List Str} {tail : Str} {c : Counter}
    (comments : Bool) (dir : Str)
    (hwf : SrcWFEs 1 es = true) (hg : GapsOKS (srcToksEs es) gaps = true) (ht : tail.all isWs = true)
    (hc : C13.ValidCounter Gen.counterLimit c)
    (hn : C02.countQuotedEs es ≤ Gen.counterLimit + 1) (hd : C02.DocKeysAbsent es) :
    (parseNative comments dir c (spreadS (srcToksEs es) gaps tail)).map (·.1.data) = .ok (denSrcEs es []) := by
  obtain ⟨c', h⟩ := C02.C02_layout_tolerant comments dir hwf hg ht hc hn hd
  rw [h]; rfl

/-- the whole `SDict` (data and the four side tables, which are empty) is independent of the counter -/
theorem C08_data_counter_independent' {es : SrcEntries} {gaps : List Str} {tail : Str} {c₁ c₂ : Counter}
    (comments : Bool) (dir : Str)
    (hwf : SrcWFEs 1 es = true) (hg : GapsOKS (srcToksEs es) gaps = true) (ht : tail.all isWs = true)
    (hc₁ : C13.ValidCounter Gen.counterLimit c₁) (hc₂ : C13.ValidCounter Gen.counterLimit c₂)
    (hn : C02.countQuotedEs es ≤ Gen.counterLimit + 1) (hd : C02.DocKeysAbsent es) :
    ∃ sd c₁' c₂', parseNative comments dir c₁ (spreadS (srcToksEs es) gaps tail) = .ok (sd, c₁') ∧
      parseNative comments dir c₂ (spreadS (srcToksEs es) gaps tail) = .ok (sd, c₂') := by
  obtain ⟨c₁', h₁⟩ := C02.C02_layout_tolerant comments dir hwf hg ht hc₁ hn hd
  obtain ⟨c₂', h₂⟩ := C02.C02_layout_tolerant comments dir hwf hg ht hc₂ hn hd
  exact ⟨_, c₁', c₂', h₁, h₂⟩

/-! ## c. known finding D18: `order=True` sorts the side tables by id -/

/-- two ids drawn across the wrap-around … -/
theorem C08_alloc_wrap : alloc Gen.counterLimit 2 (some 999998) = [999999, 0] := by decide

/-- … and two ids drawn anywhere else -/
theorem C08_alloc_nowrap : alloc Gen.counterLimit 2 (some 4) = [5, 6] := by decide

/-- `Tbl.order` puts the comment drawn second in front of the one drawn first when the counter wrapped in between … -/
theorem C08_order_wrap {α} (a b : α) : Tbl.order [(999999, a), (0, b)] = [(0, b), (999999, a)] := by
  simp [Tbl.order, sortBy, insertBy]

/-- … and keeps the order of drawing otherwise -/
theorem C08_order_nowrap {α} (a b : α) : Tbl.order [(5, a), (6, b)] = [(5, a), (6, b)] := by
  simp [Tbl.order, sortBy, insertBy]

/-- **D18 (negative).** the order of a side table after `order=True` is *not* a function of the canonical form of its
    ids and its texts: the same two comments, read at two counter states, have the same canonical ids (`[0, 1]`) but come
    out in opposite orders. -/
theorem C08_order_not_canon_invariant :
    ∃ (t₁ t₂ : Tbl Str), rankCanon (t₁.map (·.1)) = rankCanon (t₂.map (·.1)) ∧ t₁.map (·.2) = t₂.map (·.2) ∧
      (Tbl.order t₁).map (·.2) ≠ (Tbl.order t₂).map (·.2) :=
  ⟨(alloc Gen.counterLimit 2 (some 999998)).zip [['a'], ['b']], (alloc Gen.counterLimit 2 (some 4)).zip [['a'], ['b']],
    by decide, by decide, by decide⟩

/-! ## d. path spelling -/

/-- the file system is consulted with the normalised path only -/
theorem C08_lookup_by_resolved (fs : FS) {p q : Comps} (h : resolveSpelled p = resolveSpelled q) :
    fs.get (resolveSpelled p) = fs.get (resolveSpelled q) := by rw [h]

/-- `parse_file` on a native file: two spellings of the same file with the same directory spelling and name give the
    same result; in general the spelling enters only through `p.dropLast` (the `path` entries of include directives,
    which keep pathlib's spelling) and the suffix tests on the last component. -/
theorem C08_parseFile_spelling (fs : FS) (comments : Bool) (c : Counter) {p q : Comps}
    (h : resolveSpelled p = resolveSpelled q) (hd : p.dropLast = q.dropLast) (hl : p.getLast? = q.getLast?) :
    parseFile fs comments c p = parseFile fs comments c q := by
  unfold parseFile isXmlPath isJsonPath
  rw [h, hd, hl]

/-- `..` pops a component: `/a/b` + `../c/f` is `/a/c/f` -/
theorem C08_spelling_dotdot :
    resolveSpelled (spellJoin ["a".toList, "b".toList] "../c/f".toList) = ["a".toList, "c".toList, "f".toList] := by
  literal_chars
  decide +kernel

/-- `.` is dropped: `/a/b` + `./f` is `/a/b/f`, as is `/a/b` + `f` and `/a/b` + `.//f` -/
theorem C08_spelling_dot :
    resolveSpelled (spellJoin ["a".toList, "b".toList] "./f".toList) = ["a".toList, "b".toList, "f".toList] ∧
    resolveSpelled (spellJoin ["a".toList, "b".toList] "f".toList) = ["a".toList, "b".toList, "f".toList] ∧
    resolveSpelled (spellJoin ["a".toList, "b".toList] ".//f".toList) = ["a".toList, "b".toList, "f".toList] := by
  literal_chars
  decide +kernel

/-- a detour through a sibling directory: `/a/b` + `../b/./f` is `/a/b/f` -/
theorem C08_spelling_detour :
    resolveSpelled (spellJoin ["a".toList, "b".toList] "../b/./f".toList) =
      resolveSpelled ["a".toList, "b".toList, "f".toList] := by
  literal_chars
  decide +kernel

/-- an absolute name ignores the directory -/
theorem C08_spelling_abs :
    resolveSpelled (spellJoin ["x".toList] "/a/b/../b/f".toList) = ["a".toList, "b".toList, "f".toList] := by
  literal_chars
  decide +kernel

/-- the spellings reach the same file of a file system -/
example (body : FileBody) :
    let fs : FS := [(["a".toList, "b".toList, "f".toList], body)]
    (fs.get (resolveSpelled (spellJoin ["a".toList, "b".toList] "../b/./f".toList))).isSome = true ∧
    (fs.get (resolveSpelled (spellJoin ["a".toList, "c".toList] "../b/f".toList))).isSome = true := by
  simp [FS.get, resolveSpelled, joinNorm]
  decide

end DictIO.C08
