/-
  C14 / C17 -- scope reduction **as a read option** (`DictReader.read(..., scope=…)`), through `DictParser.parse`, and the
  two spellings of `--scope` on the command line.  (`Props/C14.lean` is about `SDict.reduce_scope` called directly.)

  What is proved (all for every file system, counter, path, `eval`, options and key type: `Key` = int or str, key text
  is compared with `=` and never interpreted):

  * `C14_read_scope`            the scoped and the unscoped read run the same `readCore` (parse, merge includes, evaluate
                                expressions): same errors (`C14_read_scope_errors`), same counter.  On its result `sd₀` the
                                unscoped read returns `post o sd₀` (order, then include-key removal), the scoped read returns
                                `exit1` when `pathExists sd₀.data scope` is false and `post o (sd₀.reduceScope scope)` otherwise.
                                The scope step comes BEFORE ordering and BEFORE include-key removal.
  * `C14_read_scope_unordered`, `C14_read_scope_of_unscoped`
                                the scoped read expressed through what the unscoped (unordered) read *returns*:
                                scoped = unscoped ; scope step on the returned dict ; (`includes=False`: include-key removal
                                on the new top level) ; (`order=True`: `order_keys`).  Hypothesis `FirstKeyOK`: vacuous for
                                `includes=True`; for `includes=False` the first scope key must not match `INCLUDE[0-9;]+`.
                                The commutations used: include-key removal vs. scope step (`scopeOut_eq_scopeStep`),
                                ordering is last (`C15.readFile_order_flag`).
  * `C14_read_scope_data`, `C14_read_scope_data_core`, `C14_read_scope_plain`, `C14_read_scope_exact_subdict`
                                the data of a scoped read is the sub-dict at that path of the unscoped read's data
                                (`scopeOf … = some sub`, `getPath … = some (.dict sub)`), rebuilt by `update`, `_clean`ed
                                (`C14.reduce_scope_exact`); it is literally `sub` when `sub` has unique keys and no
                                comment / include placeholder keys.
  * `C14_read_scope_ordered`, `reduceScope_order_comm`, `scopeOf_orderD`, `pathExists_orderD`
                                `order_keys` commutes with following a scope path (unique keys), and `reduce_scope` commutes
                                with `order_keys` when the sub-dict holds no placeholder keys.
  * `C14_read_scope_missing`, `C14_read_scope_missing_core`
                                a path that does not exist: `exit1`; `read` and `parse` return `exit1` and the world (files and
                                counter) is unchanged (`C13api.step_fail_safe`): nothing is written.
  * `C14_parse_scope_target`    `parse` with an existing scope writes exactly the file
                                `dir/targetName name "parsed" (scope.map keyText) output`, returns the scoped dict (re-typed: `normEs`), touches no
                                other path; if the serialiser gives up nothing is written.
  * `C17_scope_word_list`, `scope_word_vs_list`, `scope_number_word_vs_list'`
                                `--scope w` and `--scope [w]` give the same one-element scope for a word without blanks,
                                brackets, commas, quotes that `parse_value` types as a string; in general the list form is
                                `[parse_value w]`, the word form `[w]` (finding D25 for every number / bool / none word).

  Refuted (each witness is evaluated in the model):
  * `C14_read_scope_data_statement_false`     with `includes=False` and an `#include` line inside the sub-dict, the scoped read
                                drops the placeholder entry `INCLUDE000000`, the unscoped read keeps it in the nested dict.
  * `C14_read_scope_missing_statement_false`  with `includes=False` and a scope key matched by `INCLUDE[0-9;]+` (`myINCLUDE0`),
                                the unscoped read has deleted the entry, the scoped read finds it.
  * `reduceScope_order_comm_false`            on arbitrary SDicts `reduce_scope` and `order_keys` do not commute (`_clean`
                                keeps the first of two comments with equal text); no file that reads as such an SDict is exhibited.

  Assumed / not covered: argparse and the conversion of `_validate_scope`'s result (scalars) to dict keys are not
  modelled; JSON / XML targets of `parse` make the model give up; `C14_read_scope_ordered` is for `includes=True` only.
-/
import DictIO.Props.C14
import DictIO.Props.C07
import DictIO.Props.C13api
import DictIO.Props.C15file
import DictIO.Props.C17
import DictIO.Lemmas.Assoc
import DictIO.Lemmas.DecEq
import DictIO.Lemmas.Literal

namespace DictIO
namespace C14read
open DictIO

/-- everything `DictReader.read` does **before** the scope step: `parse_file`, `_merge_includes`, `_eval_expressions`.
    The `scope` and `order` options are not looked at. -/
def readCore (ev : Str → EvalResult) (fs : FS) (o : ReadOpts) (c : Counter) (p : Comps) : Except ParseErr (SD × Counter) := do
  let (sd, c) ← parseFile fs o.comments c p
  let (sd, c) ← if o.includes then mergeIncludes fs o.comments sd p.dropLast c else pure (sd, c)
  let sd ← evalExpressions ev sd
  pure (sd, c)

/-- `order_keys()` if requested -/
def ordIf (b : Bool) (s : SD) : SD := if b then s.order else s

/-- `_remove_include_keys` (top level) unless includes were merged -/
def dropIncl (includes : Bool) (s : SD) : SD := if includes then s else { s with data := removeIncludeKeys s.data }

/-- the two steps of `DictReader.read` **after** the scope step, in the order of the code -/
def post (o : ReadOpts) (s : SD) : SD := dropIncl o.includes (ordIf o.order s)

/-- the scope step on the dict as it is before ordering and include-key removal, followed by those two steps -/
def scopeOut (o : ReadOpts) (r : SD × Counter) : ReadOut :=
  if pathExists r.1.data o.scope then .ok (post o (r.1.reduceScope o.scope)) r.2 else .exit1

/-- the scope step applied to what an **unscoped, unordered** read returned: `global_key_exists`, `reduce_scope`,
    and (only for `includes=False`) `_remove_include_keys` on the new top level -/
def scopeStep (includes : Bool) (scope : List Key) : ReadOut → ReadOut
  | .exit1 => .exit1
  | .ok u c => if pathExists u.data scope then .ok (dropIncl includes (u.reduceScope scope)) c else .exit1

/-- the first key of the scope is not one that `_remove_include_keys` deletes (`re.search("INCLUDE[0-9;]+", key)`);
    vacuous when includes are merged (`includes=True`, the default: nothing is deleted then) -/
def FirstKeyOK (o : ReadOpts) : Bool :=
  o.includes || match o.scope with
    | .str k :: _ => !(removeIncludeKeys.containsPhDigits kwIncl k)
    | _ => true

/-- the data a read returned, if it returned a dict -/
def dataOf : Except ParseErr ReadOut → Option Entries
  | .ok (.ok s _) => some s.data
  | _ => none

/-- a read whose data is known returned a dict -/
theorem exists_of_dataOf {x : Except ParseErr ReadOut} {d : Entries} (h : dataOf x = some d) :
    ∃ u c', x = .ok (.ok u c') ∧ u.data = d := by
  cases x with
  | error e => cases h
  | ok r =>
    cases r with
    | exit1 => cases h
    | ok u c' => exact ⟨u, c', rfl, by simpa [dataOf] using h⟩

/-- `readCore` is `readFront` of Lemmas/Reader.lean with the options taken as a record; `post` and `scopeOut` are its
    `readPost` cut at the scope step (`readFile_core`) -/
theorem readCore_eq (ev : Str → EvalResult) (fs : FS) (o : ReadOpts) (c : Counter) (p : Comps) :
    readCore ev fs o c p = readFront ev fs o.includes o.comments c p := by
  unfold readCore readFront
  cases parseFile fs o.comments c p with
  | error e => rfl
  | ok r =>
    cases hi : o.includes with
    | false =>
      simp only [bind, Except.bind, pure, Except.pure, Bool.false_eq_true, if_false]
      cases evalExpressions ev r.1 <;> rfl
    | true =>
      simp only [bind, Except.bind, if_true]
      cases mergeIncludes fs o.comments r.1 p.dropLast r.2 with
      | error e => rfl
      | ok r' => cases evalExpressions ev r'.1 <;> rfl

theorem readFile_core (ev : Str → EvalResult) (fs : FS) (o : ReadOpts) (c : Counter) (p : Comps) :
    readFile ev fs o c p =
      (readCore ev fs o c p).map fun r => if o.scope.isEmpty then .ok (post o r.1) r.2 else scopeOut o r := by
  rw [readFile_eq, readCore_eq]
  congr 1
  funext r
  unfold readPost scopeOut
  cases o.scope.isEmpty <;> cases pathExists r.1.data o.scope <;> rfl

theorem readCore_congr (ev : Str → EvalResult) (fs : FS) {o o' : ReadOpts} (c : Counter) (p : Comps)
    (hc : o.comments = o'.comments) (hi : o.includes = o'.includes) : readCore ev fs o c p = readCore ev fs o' c p := by
  unfold readCore
  rw [hc, hi]

theorem scopeOf_removeIncludeKeys {k : Key} (hk : notInclKey k = true) (p : List Key) (es : Entries) :
    scopeOf (removeIncludeKeys es) (k :: p) = scopeOf es (k :: p) := by
  simp only [scopeOf, removeIncludeKeys_eq, lookup_filter notInclKey hk]

theorem pathExists_removeIncludeKeys {k : Key} (hk : notInclKey k = true) (p : List Key) (es : Entries) :
    pathExists (removeIncludeKeys es) (k :: p) = pathExists es (k :: p) := by
  simp only [pathExists, removeIncludeKeys_eq, lookup_filter notInclKey hk]

theorem pathExists_eq_isSome (es : Entries) (p : List Key) : pathExists es p = (scopeOf es p).isSome := by
  cases h : scopeOf es p with
  | none =>
    refine Bool.eq_false_iff.mpr fun hp => ?_
    obtain ⟨sub, hsub⟩ := (C14.exists_iff_dict_path p es).mp hp
    rw [h] at hsub; cases hsub
  | some sub => exact (C14.exists_iff_dict_path p es).mpr ⟨sub, h⟩

/-- the scope step (`global_key_exists`, then `reduce_scope`, then whatever follows: `f`) by where the path leads -/
theorem scope_step_eq {sc : List Key} (hs : sc ≠ []) (s : SD) (f : SD → SD) (c : Counter) :
    (if pathExists s.data sc then ReadOut.ok (f (s.reduceScope sc)) c else .exit1) =
      match scopeOf s.data sc with
      | some sub => .ok (f (SD.clean { s with data := updateD [] sub })) c
      | none => .exit1 := by
  cases hsc : scopeOf s.data sc with
  | none => rw [pathExists_eq_isSome, hsc]; rfl
  | some sub => rw [pathExists_eq_isSome, hsc, C14.reduce_scope_exact hs hsc]; rfl

/-- **the scope step on the core dict, then include-key removal = include-key removal, then the scope step, then
    include-key removal again**, provided the first scope key survives the removal -/
theorem scopeOut_eq_scopeStep {o : ReadOpts} (hs : o.scope ≠ []) (hk : FirstKeyOK o = true) (ho : o.order = false)
    (r : SD × Counter) : scopeOut o r = scopeStep o.includes o.scope (.ok (post o r.1) r.2) := by
  obtain ⟨inc, ord, com, sc⟩ := o
  obtain ⟨sd, c⟩ := r
  simp only at ho hs
  subst ho
  cases inc with
  | true => simp [scopeOut, scopeStep, post, dropIncl, ordIf]
  | false =>
    cases sc with
    | nil => exact absurd rfl hs
    | cons k rest =>
      have hq : notInclKey k = true := by
        cases k with
        | int z => rfl
        | str s => simpa [FirstKeyOK, notInclKey] using hk
      simp only [scopeOut, scopeStep, post, dropIncl, ordIf, Bool.false_eq_true, if_false,
        pathExists_removeIncludeKeys hq]
      cases hsc : scopeOf sd.data (k :: rest) with
      | none => simp only [pathExists_eq_isSome, hsc, Option.isSome_none, Bool.false_eq_true, if_false]
      | some sub =>
        have hsc' : scopeOf (removeIncludeKeys sd.data) (k :: rest) = some sub := by
          rw [scopeOf_removeIncludeKeys hq]; exact hsc
        simp only [pathExists_eq_isSome, Option.isSome_some, if_true, SD.reduceScope, hsc, hsc']

/-! #### `order_keys` and the scope path -/

theorem nodup_scopeOf : ∀ (p : List Key) (es sub : Entries), NodupKeysV (.dict es) → scopeOf es p = some sub →
    NodupKeysV (.dict sub)
  | [], es, sub, hn, h => by
    simp only [scopeOf, Option.some.injEq] at h
    exact h ▸ hn
  | k :: p, es, sub, hn, h => by
    simp only [scopeOf] at h
    cases hl : lookup k es with
    | none => simp [hl] at h
    | some v =>
      cases v with
      | leaf x => simp [hl] at h
      | list xs => simp [hl] at h
      | dict d =>
        simp only [hl] at h
        exact nodup_scopeOf p d sub (nodupKeysEs_iff.mp hn.2 (k, .dict d) (lookup_some_mem hl)) h

/-- **`order_keys` commutes with following a scope path** (data level): the ordered dict has the same paths, and the
    sub-dict at a path is the ordered sub-dict -/
theorem scopeOf_orderD : ∀ (p : List Key) (es : Entries), NodupKeysV (.dict es) →
    scopeOf (orderD es) p = (scopeOf es p).map orderD
  | [], _, _ => rfl
  | k :: p, es, hn => by
    simp only [scopeOf]
    rw [C15.order_lookup es hn.1 k]
    cases hl : lookup k es with
    | none => rfl
    | some v =>
      cases v with
      | leaf x => rfl
      | list xs => rfl
      | dict d =>
        exact scopeOf_orderD p d (nodupKeysEs_iff.mp hn.2 (k, .dict d) (lookup_some_mem hl))

theorem pathExists_orderD (p : List Key) (es : Entries) (hn : NodupKeysV (.dict es)) :
    pathExists (orderD es) p = pathExists es p := by
  rw [pathExists_eq_isSome, pathExists_eq_isSome, scopeOf_orderD p es hn, Option.isSome_map]

theorem nodup_orderEs_mem : ∀ es : Entries, NodupKeysEs es → ∀ e ∈ orderEs es, NodupKeysV e.2 := by
  intro es h e he
  rw [orderEs_eq_map] at he
  obtain ⟨e', he', rfl⟩ := List.mem_map.mp he
  exact nodupV_orderV e'.2 (nodupKeysEs_iff.mp h e' he')

mutual
  theorem noPh_orderV : ∀ v : Val, C07.NoPhV v → C07.NoPhV (orderV v)
    | .leaf _, _ => by simp [orderV, C07.NoPhV]
    | .list _, _ => by simp [orderV, C07.NoPhV]
    | .dict es, h => by
      simp only [orderV, C07.NoPhV]
      exact C07.noPhEs_iff.mpr fun e he => noPh_orderEs_mem es h e ((sortBy_perm (orderEs es)).mem_iff.mp he)
  theorem noPh_orderEs_mem : ∀ es : Entries, C07.NoPhEs es → ∀ e ∈ orderEs es, C07.isPhKey e.1 = false ∧ C07.NoPhV e.2
    | [], _, e, he => by simp [orderEs] at he
    | (k, v) :: es, h, e, he => by
      simp only [orderEs] at he
      rcases List.mem_cons.mp he with rfl | hm
      · exact ⟨h.1, noPh_orderV v h.2.1⟩
      · exact noPh_orderEs_mem es h.2.2 e hm
end

/-- **`reduce_scope` then `order_keys` = `order_keys` then `reduce_scope`** when the sub-dict holds no comment / include
    placeholder keys (then `_clean` has nothing to do on either side).  Without that hypothesis: `reduceScope_order_comm_false`. -/
theorem reduceScope_order_comm {s : SD} {scope : List Key} {sub : Entries} (hs : scope ≠ []) (hn : NodupKeysV (.dict s.data))
    (hsub : scopeOf s.data scope = some sub) (hp : C07.NoPhEs sub) :
    (s.reduceScope scope).order = s.order.reduceScope scope ∧
    s.reduceScope scope = { s with data := sub } ∧
    s.order.reduceScope scope = { s.order with data := orderD sub } := by
  have hsn : NodupKeysV (.dict sub) := nodup_scopeOf scope s.data sub hn hsub
  have h1 : s.reduceScope scope = { s with data := sub } := by
    rw [C14.reduce_scope_exact_nodup hs hsub hsn.1]
    exact C07.clean_id { s with data := sub } hsn hp
  have hsub' : scopeOf s.order.data scope = some (orderD sub) := by
    show scopeOf (orderD s.data) scope = _
    rw [scopeOf_orderD scope s.data hn, hsub]; rfl
  have hsn' : NodupKeysV (.dict (orderD sub)) := nodupV_orderV (.dict sub) hsn
  have hp' : C07.NoPhEs (orderD sub) := noPh_orderV (.dict sub) hp
  have h2 : s.order.reduceScope scope = { s.order with data := orderD sub } := by
    rw [C14.reduce_scope_exact_nodup hs hsub' hsn'.1]
    exact C07.clean_id { s.order with data := orderD sub } hsn' hp'
  refine ⟨?_, h1, h2⟩
  rw [h1, h2]
  rfl

/-! #### `_validate_scope` -/

theorem splitComma_no_comma : ∀ {w : Str}, ',' ∉ w → splitComma w = [w]
  | [], _ => rfl
  | c :: r, h => by
    have hc : c ≠ ',' := fun e => h (e ▸ List.mem_cons_self)
    have ih := splitComma_no_comma (w := r) fun hm => h (List.mem_cons_of_mem _ hm)
    rw [splitComma]
    · simp [ih]
    · intro e; cases e; exact hc rfl

/-- the characters `_validate_scope` treats specially: blanks (and all white space), brackets, commas -/
def PlainWord (w : Str) : Prop := ∀ c ∈ w, c ≠ '[' ∧ c ≠ ']' ∧ c ≠ ',' ∧ isWs c = false

instance (w : Str) : Decidable (PlainWord w) := by unfold PlainWord; infer_instance

theorem stripScopeChars_bracketed {w : Str} (h : PlainWord w) : stripScopeChars ('[' :: (w ++ [']'])) = w := by
  have hp : ∀ c ∈ w, (c == ' ' || c == '[' || c == ']') = false := by
    intro c hc
    obtain ⟨h1, h2, _, h4⟩ := h c hc
    have h0 : c ≠ ' ' := fun e => by subst e; exact absurd h4 (by decide)
    simp [h0, h1, h2]
  unfold stripScopeChars
  simp only [List.dropWhile_cons, BEq.rfl, Bool.or_true, Bool.true_or, if_true]
  cases w with
  | nil => simp
  | cons c r =>
    have hc := hp c List.mem_cons_self
    have hr : ∀ x ∈ (c :: r).reverse, (x == ' ' || x == '[' || x == ']') = false := by
      intro x hx; exact hp x (List.mem_reverse.mp hx)
    rw [List.cons_append, List.dropWhile_cons, hc]
    simp only [Bool.false_eq_true, if_false]
    rw [← List.cons_append, List.reverse_append, List.reverse_singleton, List.singleton_append, List.dropWhile_cons]
    simp only [BEq.rfl, Bool.or_true, if_true]
    rw [dropWhile_eq_self_of_head fun x hx => hr x (List.mem_of_mem_head? hx), List.reverse_reverse]


/-- **C14, scope as a read option (exact factorisation)**: for a non-empty scope, the scoped read and the unscoped read
    run the very same `readCore` (same errors, same counter); on its result `sd₀` the unscoped read returns
    `post o sd₀` (ordering, include-key removal) and the scoped read returns `scopeOut`: `exit1` when the path does not
    exist in `sd₀`, else `post o (sd₀.reduceScope o.scope)`. -/
theorem C14_read_scope (ev : Str → EvalResult) (fs : FS) (o : ReadOpts) (c : Counter) (p : Comps) (hs : o.scope ≠ []) :
    readFile ev fs o c p = (readCore ev fs o c p).map (scopeOut o) ∧
    readFile ev fs { o with scope := [] } c p = (readCore ev fs o c p).map (fun r => ReadOut.ok (post o r.1) r.2) := by
  have he : o.scope.isEmpty = false := by
    cases h : o.scope with
    | nil => exact absurd h hs
    | cons k r => rfl
  constructor
  · rw [readFile_core]
    simp only [he, Bool.false_eq_true, if_false]
  · rw [readFile_core]
    rfl

/-- errors are the same: the scoped read fails exactly when the unscoped read fails, with the same error -/
theorem C14_read_scope_errors (ev : Str → EvalResult) (fs : FS) (o : ReadOpts) (c : Counter) (p : Comps) (hs : o.scope ≠ [])
    (e : ParseErr) : readFile ev fs o c p = .error e ↔ readFile ev fs { o with scope := [] } c p = .error e := by
  obtain ⟨h1, h2⟩ := C14_read_scope ev fs o c p hs
  rw [h1, h2]
  cases readCore ev fs o c p <;> simp [Except.map]

/-- **C14, the scoped read in terms of the unscoped read** (`order=False`): the scoped read is the unscoped read followed
    by the scope step on *its* result — `exit1` if the path does not exist there, else `reduce_scope` (and, for
    `includes=False`, include-key removal on the new top level).  Hypothesis `FirstKeyOK`: see `C14_read_scope_missing_statement_false`. -/
theorem C14_read_scope_unordered (ev : Str → EvalResult) (fs : FS) (o : ReadOpts) (c : Counter) (p : Comps)
    (hs : o.scope ≠ []) (hk : FirstKeyOK o = true) (ho : o.order = false) :
    readFile ev fs o c p = (readFile ev fs { o with scope := [] } c p).map (scopeStep o.includes o.scope) := by
  obtain ⟨h1, h2⟩ := C14_read_scope ev fs o c p hs
  rw [h1, h2]
  cases readCore ev fs o c p with
  | error e => rfl
  | ok r => simp only [Except.map]; rw [scopeOut_eq_scopeStep hs hk ho r]

theorem mapSD_id (x : Except ParseErr ReadOut) : x.map (C15.ReadOut.mapSD (ordIf false)) = x := by
  cases x with
  | error e => rfl
  | ok r => cases r <;> rfl

/-- **C14, the scoped read in terms of the unscoped read** (any options): unscoped unordered read, scope step, then
    `order_keys` if requested.  (Ordering is the last step: `C15.readFile_order_flag`.) -/
theorem C14_read_scope_of_unscoped (ev : Str → EvalResult) (fs : FS) (o : ReadOpts) (c : Counter) (p : Comps)
    (hs : o.scope ≠ []) (hk : FirstKeyOK o = true) :
    readFile ev fs o c p =
      ((readFile ev fs { o with scope := [], order := false } c p).map (scopeStep o.includes o.scope)).map
        (C15.ReadOut.mapSD (ordIf o.order)) := by
  obtain ⟨inc, ord, com, sc⟩ := o
  cases ord with
  | false =>
    rw [mapSD_id]
    exact C14_read_scope_unordered ev fs ⟨inc, false, com, sc⟩ c p hs hk rfl
  | true =>
    have h := C15.readFile_order_flag ev fs ⟨inc, false, com, sc⟩ c p
    have h' := C14_read_scope_unordered ev fs ⟨inc, false, com, sc⟩ c p hs hk rfl
    simp only at h h'
    rw [h, h']
    rfl

/-- what the scoped read returns when the unscoped, unordered read returned `u` and the scope leads to `sub` there -/
def scopedSD (o : ReadOpts) (u : SD) (sub : Entries) : SD :=
  ordIf o.order (dropIncl o.includes (SD.clean { u with data := updateD [] sub }))

/-- forward form: the unscoped read and the sub-dict at the path determine the scoped read -/
theorem read_scope_forward (ev : Str → EvalResult) (fs : FS) (o : ReadOpts) (c : Counter) (p : Comps)
    (hs : o.scope ≠ []) (hk : FirstKeyOK o = true) {u : SD} {c' : Counter} {sub : Entries}
    (hU : readFile ev fs { o with scope := [], order := false } c p = .ok (.ok u c'))
    (hsub : scopeOf u.data o.scope = some sub) :
    readFile ev fs o c p = .ok (.ok (scopedSD o u sub) c') := by
  rw [C14_read_scope_of_unscoped ev fs o c p hs hk, hU]
  simp only [Except.map, scopeStep, scope_step_eq hs, hsub, C15.ReadOut.mapSD, scopedSD]

/-- **C14, the data of a scoped read**: whenever a scoped read returns a dict `S`, the unscoped (unordered) read returns
    a dict `U` with the same counter, the scope path leads through dicts to a sub-dict `sub` of `U`'s data (for every key
    type: `scopeOf` compares keys with `=`), and `S` is `U` reduced to `sub`: the data rebuilt by `update` (`updateD []`),
    `_clean`, include-key removal when `includes=False`, `order_keys` when `order=True`. -/
theorem C14_read_scope_data (ev : Str → EvalResult) (fs : FS) (o : ReadOpts) (c : Counter) (p : Comps)
    (hs : o.scope ≠ []) (hk : FirstKeyOK o = true) {S : SD} {c' : Counter}
    (h : readFile ev fs o c p = .ok (.ok S c')) :
    ∃ u sub, readFile ev fs { o with scope := [], order := false } c p = .ok (.ok u c') ∧
      scopeOf u.data o.scope = some sub ∧ getPath (.dict u.data) o.scope = some (.dict sub) ∧
      S = scopedSD o u sub ∧ (u.reduceScope o.scope).data = (SD.clean { u with data := updateD [] sub }).data := by
  rw [C14_read_scope_of_unscoped ev fs o c p hs hk] at h
  cases hU : readFile ev fs { o with scope := [], order := false } c p with
  | error e => rw [hU] at h; cases h
  | ok r =>
    rw [hU] at h
    cases r with
    | exit1 => cases h
    | ok u cu =>
      simp only [Except.map, scopeStep, scope_step_eq hs] at h
      cases hsc : scopeOf u.data o.scope with
      | none => rw [hsc] at h; cases h
      | some sub =>
        rw [hsc] at h
        cases h
        exact ⟨u, sub, rfl, hsc, C14.scopeOf_getPath _ _ _ hsc, rfl, congrArg SD.data (C14.reduce_scope_exact hs hsc)⟩

/-- the same with respect to the dict before ordering and include-key removal: no hypothesis on the scope keys -/
theorem C14_read_scope_data_core (ev : Str → EvalResult) (fs : FS) (o : ReadOpts) (c : Counter) (p : Comps)
    (hs : o.scope ≠ []) {S : SD} {c' : Counter} (h : readFile ev fs o c p = .ok (.ok S c')) :
    ∃ sd₀ sub, readCore ev fs o c p = .ok (sd₀, c') ∧
      readFile ev fs { o with scope := [] } c p = .ok (.ok (post o sd₀) c') ∧
      scopeOf sd₀.data o.scope = some sub ∧ getPath (.dict sd₀.data) o.scope = some (.dict sub) ∧
      S = post o (SD.clean { sd₀ with data := updateD [] sub }) := by
  obtain ⟨h1, h2⟩ := C14_read_scope ev fs o c p hs
  rw [h1] at h
  rw [h2]
  cases hc : readCore ev fs o c p with
  | error e => rw [hc] at h; cases h
  | ok r =>
    obtain ⟨sd₀, c₀⟩ := r
    rw [hc] at h
    simp only [Except.map, scopeOut, scope_step_eq hs] at h
    cases hsc : scopeOf sd₀.data o.scope with
    | none => rw [hsc] at h; cases h
    | some sub =>
      rw [hsc] at h
      cases h
      exact ⟨sd₀, sub, rfl, rfl, hsc, C14.scopeOf_getPath _ _ _ hsc, rfl⟩

/-- **default options** (`includes=True`, `order=False`): the unscoped read determines the scoped read completely -/
theorem C14_read_scope_plain (ev : Str → EvalResult) (fs : FS) (o : ReadOpts) (c : Counter) (p : Comps)
    (hs : o.scope ≠ []) (hi : o.includes = true) (ho : o.order = false) {u : SD} {c' : Counter}
    (hU : readFile ev fs { o with scope := [] } c p = .ok (.ok u c')) :
    readFile ev fs o c p =
      match scopeOf u.data o.scope with
      | some sub => .ok (.ok (SD.clean { u with data := updateD [] sub }) c')
      | none => .ok .exit1 := by
  rw [C14_read_scope_unordered ev fs o c p hs (by simp [FirstKeyOK, hi]) ho, hU]
  simp only [Except.map, scopeStep, scope_step_eq hs]
  cases scopeOf u.data o.scope with
  | none => rfl
  | some sub => simp only [hi, dropIncl, if_true]

/-- … and when the sub-dict has unique keys and no comment / include placeholder keys, the scoped read returns
    **precisely the sub-dict**, side tables as in the unscoped read -/
theorem C14_read_scope_exact_subdict (ev : Str → EvalResult) (fs : FS) (o : ReadOpts) (c : Counter) (p : Comps)
    (hs : o.scope ≠ []) (hi : o.includes = true) (ho : o.order = false) {u : SD} {c' : Counter} {sub : Entries}
    (hU : readFile ev fs { o with scope := [] } c p = .ok (.ok u c'))
    (hsub : scopeOf u.data o.scope = some sub) (hn : NodupKeysV (.dict sub)) (hp : C07.NoPhEs sub) :
    readFile ev fs o c p = .ok (.ok { u with data := sub } c') := by
  rw [C14_read_scope_plain ev fs o c p hs hi ho hU, hsub]
  simp only [updateD_nil_left _ hn.1]
  rw [C07.clean_id { u with data := sub } hn hp]

/-- **`order=True`** (includes merged): the ordered scoped read is the ordered unscoped read reduced to the scope, and its
    data is the ordered sub-dict — on the domain of `reduceScope_order_comm` -/
theorem C14_read_scope_ordered (ev : Str → EvalResult) (fs : FS) (o : ReadOpts) (c : Counter) (p : Comps)
    (hs : o.scope ≠ []) (hi : o.includes = true) {u : SD} {c' : Counter} {sub : Entries}
    (hU : readFile ev fs { o with scope := [], order := false } c p = .ok (.ok u c'))
    (hn : NodupKeysV (.dict u.data)) (hsub : scopeOf u.data o.scope = some sub) (hp : C07.NoPhEs sub) :
    readFile ev fs { o with scope := [], order := true } c p = .ok (.ok u.order c') ∧
    readFile ev fs { o with order := true } c p = .ok (.ok (u.order.reduceScope o.scope) c') ∧
    u.order.reduceScope o.scope = { u.order with data := orderD sub } := by
  obtain ⟨inc, ord, com, sc⟩ := o
  simp only at hi hs hU hsub
  subst hi
  obtain ⟨hcomm, h1, h2⟩ := reduceScope_order_comm hs hn hsub hp
  refine ⟨?_, ?_, h2⟩
  · have h := C15.readFile_order_flag ev fs ⟨true, false, com, []⟩ c p
    simp only at h
    rw [h, hU]; rfl
  · have h := read_scope_forward ev fs ⟨true, true, com, sc⟩ c p hs rfl hU hsub
    rw [h, ← hcomm, C14.reduce_scope_exact hs hsub]
    simp only [scopedSD, ordIf, dropIncl, if_true]

/-- **C14, a scope that does not exist**: the scoped read ends in `sys.exit(1)`; `read` and `parse` report it and leave
    the world (every file, the counter) as it was: nothing is written -/
theorem C14_read_scope_missing (ev : Str → EvalResult) (w : World) (o : ReadOpts) (p : Comps)
    (hs : o.scope ≠ []) (hk : FirstKeyOK o = true) {u : SD} {c' : Counter}
    (hU : readFile ev w.fs { o with scope := [], order := false } w.c p = .ok (.ok u c'))
    (hm : pathExists u.data o.scope = false) :
    readFile ev w.fs o w.c p = .ok .exit1 ∧
    (apiStep ev w (.read p o)).1 = w ∧ (∀ mode output, (apiStep ev w (.parse p o mode output)).1 = w) ∧
    (∀ b, w.fs.get (resolveSpelled p) = some b →
      apiStep ev w (.read p o) = (w, .exit1) ∧ ∀ mode output, apiStep ev w (.parse p o mode output) = (w, .exit1)) := by
  have hr : readFile ev w.fs o w.c p = .ok .exit1 := by
    rw [C14_read_scope_of_unscoped ev w.fs o w.c p hs hk, hU]
    simp only [Except.map, scopeStep, hm, Bool.false_eq_true, if_false, C15.ReadOut.mapSD]
  have hread : ∀ b, w.fs.get (resolveSpelled p) = some b → apiStep ev w (.read p o) = (w, .exit1) := by
    intro b hg; rw [C13api.apiStep_read o hg, hr]
  have hparse : ∀ b, w.fs.get (resolveSpelled p) = some b → ∀ mode output, apiStep ev w (.parse p o mode output) = (w, .exit1) := by
    intro b hg mode output; rw [C13api.apiStep_parse o mode output hg, hr]
  refine ⟨hr, ?_, ?_, fun b hg => ⟨hread b hg, hparse b hg⟩⟩
  · apply C13api.step_fail_safe
    cases hg : w.fs.get (resolveSpelled p) with
    | none => simp [apiStep, hg, C13api.Completed]
    | some b => rw [hread b hg]; simp [C13api.Completed]
  · intro mode output
    apply C13api.step_fail_safe
    cases hg : w.fs.get (resolveSpelled p) with
    | none => simp [apiStep, hg, C13api.Completed]
    | some b => rw [hparse b hg]; simp [C13api.Completed]

/-- the same with respect to the dict before ordering and include-key removal (no hypothesis on the scope keys) -/
theorem C14_read_scope_missing_core (ev : Str → EvalResult) (fs : FS) (o : ReadOpts) (c : Counter) (p : Comps)
    (hs : o.scope ≠ []) {sd₀ : SD} {c' : Counter} (hc : readCore ev fs o c p = .ok (sd₀, c'))
    (hm : pathExists sd₀.data o.scope = false) : readFile ev fs o c p = .ok .exit1 := by
  rw [(C14_read_scope ev fs o c p hs).1, hc]
  simp only [Except.map, scopeOut, hm, Bool.false_eq_true, if_false]

/-- **C14 / C13, `parse` with a scope**: when the scope exists, `parse` writes exactly one file — in the folder of the
    source, named `targetName name "parsed" (str(key) for key in scope) output` — and returns the scoped dict with its
    string leaves re-typed (`normEs`: `DictWriter.write` re-types the dict it is given in place); if the
    serialiser gives up, nothing is written. -/
theorem C14_parse_scope_target (ev : Str → EvalResult) (w : World) (o : ReadOpts) (dir : Comps) (name : Str)
    (mode : Str) (output : Option Str) (hs : o.scope ≠ []) (hk : FirstKeyOK o = true) {b : FileBody}
    (hg : w.fs.get (resolveSpelled (dir ++ [name])) = some b) {u : SD} {c' : Counter} {sub : Entries}
    (hU : readFile ev w.fs { o with scope := [], order := false } w.c (dir ++ [name]) = .ok (.ok u c'))
    (hsub : scopeOf u.data o.scope = some sub) :
    parseTarget (dir ++ [name]) o.scope output =
      dir ++ [targetName name (some "parsed".toList) (o.scope.map keyText) output] ∧
    (∀ t c'', writeText ev w.fs (parseTarget (dir ++ [name]) o.scope output) mode o.order (.sd (scopedSD o u sub)) c' = .ok (t, c'') →
      apiStep ev w (.parse (dir ++ [name]) o mode output) =
        ({ fs := w.fs.set (resolveSpelled (parseTarget (dir ++ [name]) o.scope output)) (.native t), c := c'' },
         .data { scopedSD o u sub with data := normEs (scopedSD o u sub).data })) ∧
    (∀ e, writeText ev w.fs (parseTarget (dir ++ [name]) o.scope output) mode o.order (.sd (scopedSD o u sub)) c' = .error e →
      apiStep ev w (.parse (dir ++ [name]) o mode output) = (w, .gaveUp e)) ∧
    (∀ q, q ≠ resolveSpelled (parseTarget (dir ++ [name]) o.scope output) →
      (apiStep ev w (.parse (dir ++ [name]) o mode output)).1.fs.get q = w.fs.get q) := by
  have hr := read_scope_forward ev w.fs o w.c (dir ++ [name]) hs hk hU hsub
  refine ⟨C13api.parse_target_name dir name o.scope output, ?_, ?_, ?_⟩
  · intro t c'' hw
    rw [C13api.apiStep_parse o mode output hg, hr]
    simp only [hw]
  · intro e hw
    rw [C13api.apiStep_parse o mode output hg, hr]
    simp only [hw]
  · intro q hq
    apply C13api.step_frame
    simp only [ApiOp.target, ne_eq, Option.some.injEq]
    exact fun e => hq e.symm

/-! #### C17: word and list spellings of a scope -/

/-- **C17 / D25, general form**: for a word without blanks, brackets and commas, the word form of `--scope` keeps the
    text, the one-element list form types it with `parse_value` -/
theorem scope_word_vs_list {w : Str} (h : PlainWord w) :
    validateScope (some w) = some [.str w] ∧
    validateScope (some ("[".toList ++ w ++ "]".toList)) = some [parseValue w] := by
  have hws : ∀ c ∈ w, isWs c = false := fun c hc => (h c hc).2.2.2
  constructor
  · apply C17.scope_word
    intro r hr
    rw [dropWhile_eq_self_of_head fun c hc => hws c (List.mem_of_mem_head? hc)] at hr
    exact (h '[' (hr ▸ List.mem_cons_self)).1 rfl
  · have hcomma : ',' ∉ w := fun hm => (h ',' hm).2.2.1 rfl
    show validateScope (some ('[' :: (w ++ [']']))) = _
    have hd : ('[' :: (w ++ [']'])).dropWhile isWs = '[' :: (w ++ [']']) := by
      rw [List.dropWhile_cons, show isWs '[' = false by decide]; rfl
    simp only [validateScope, hd, stripScopeChars_bracketed h, splitComma_no_comma hcomma, List.map, strip_id _ hws]

/-- **C17**: a word that `parse_value` types as a string selects the same scope as a word and as a bracketed list -/
theorem C17_scope_word_list {w : Str} (h : PlainWord w) (hq : ∀ c ∈ w, isQuote c = false) (hp : ∃ s, parseValue w = .str s) :
    validateScope (some w) = some [.str w] ∧
    validateScope (some ("[".toList ++ w ++ "]".toList)) = some [.str w] := by
  obtain ⟨s, hs⟩ := hp
  have := C04.C04_idem hs hq
  subst this
  obtain ⟨h1, h2⟩ := scope_word_vs_list h
  exact ⟨h1, by rw [h2, hs]⟩

/-- **finding D25, for every such word**: a word that `parse_value` does *not* keep as the same text (numbers, `true`,
    `none`, …) selects a different scope in the two spellings: `--scope 1` is the key `'1'`, `--scope [1]` the key `1` -/
theorem scope_number_word_vs_list' {w : Str} (h : PlainWord w) (hp : parseValue w ≠ .str w) :
    validateScope (some w) ≠ validateScope (some ("[".toList ++ w ++ "]".toList)) := by
  obtain ⟨h1, h2⟩ := scope_word_vs_list h
  rw [h1, h2]
  intro e
  simp only [Option.some.injEq, List.cons.injEq, and_true] at e
  exact hp e.symm

/-! ### refutations of the literal statements (includes = False) -/

/-- the requested statement read literally, for all options: "the data returned by a scoped read is precisely the content
    of the sub-dict at that path in the unscoped read's data" -/
def ReadScopeDataStatement : Prop :=
  ∀ (fs : FS) (o : ReadOpts) (c : Counter) (p : Comps) (S U : Entries), o.scope ≠ [] →
    dataOf (readFile evalInt fs o c p) = some S →
    dataOf (readFile evalInt fs { o with scope := [] } c p) = some U →
    scopeOf U o.scope = some S

/-- "if the path does not exist in what the unscoped read returns, the scoped read stops" -/
def ReadScopeMissingStatement : Prop :=
  ∀ (fs : FS) (o : ReadOpts) (c : Counter) (p : Comps) (U : Entries), o.scope ≠ [] →
    dataOf (readFile evalInt fs { o with scope := [] } c p) = some U → pathExists U o.scope = false →
    dataOf (readFile evalInt fs o c p) = none

def cexSrc : Comps := ["w".toList, "case".toList]

/-- ```
    a
    {
        #include 'x'
        k 5;
    }
    myINCLUDE0
    {
        q 1;
    }
    ``` (the included file `x` need not exist: includes are not merged) -/
def cexFs : FS := [(cexSrc, .native "a\n{\n    #include 'x'\n    k 5;\n}\nmyINCLUDE0\n{\n    q 1;\n}\n".toList)]

def cexPh : Str := "INCLUDE000000".toList

/-- the file as it stands before the scope step (`includes=False`: the directive is an entry of `a`); the three reads
    below differ only in what follows -/
theorem cex_core : readCore evalInt cexFs { includes := false } none cexSrc =
    .ok ({ data := [(.str "a".toList, .dict [(.str cexPh, .leaf (.str cexPh)), (.str "k".toList, .leaf (.int 5))]),
                    (.str "myINCLUDE0".toList, .dict [(.str "q".toList, .leaf (.int 1))])],
           incl := [(0, { directive := "    #include 'x'".toList, file := "x".toList, path := "/w/x".toList })] },
         some 0) := by
  apply ok_of_toOption
  unfold cexFs cexPh
  literal_chars
  decide +kernel

theorem cex_unscoped : dataOf (readFile evalInt cexFs { includes := false } none cexSrc) =
    some [(.str "a".toList, .dict [(.str cexPh, .leaf (.str cexPh)), (.str "k".toList, .leaf (.int 5))])] := by
  rw [readFile_core, cex_core]
  decide +kernel

theorem cex_scoped_a : dataOf (readFile evalInt cexFs { includes := false, scope := [.str "a".toList] } none cexSrc) =
    some [(.str "k".toList, .leaf (.int 5))] := by
  rw [readFile_core, readCore_congr (o' := { includes := false }) _ _ _ _ (by rfl) (by rfl), cex_core]
  decide +kernel

theorem cex_scoped_incl : dataOf (readFile evalInt cexFs { includes := false, scope := [.str "myINCLUDE0".toList] } none cexSrc) =
    some [(.str "q".toList, .leaf (.int 1))] := by
  rw [readFile_core, readCore_congr (o' := { includes := false }) _ _ _ _ (by rfl) (by rfl), cex_core]
  decide +kernel

/-- **refutation 1** (`includes=False`, an `#include` directive inside the sub-dict): the scoped read drops the
    placeholder entry `INCLUDE000000` (it is at the top level after `reduce_scope`), the unscoped read keeps it in the
    nested dict (`_remove_include_keys` looks at the top level only) — even the key sets differ -/
theorem C14_read_scope_data_statement_false : ¬ ReadScopeDataStatement := by
  intro h
  have := h cexFs { includes := false, scope := [.str "a".toList] } none cexSrc _ _ (by decide) cex_scoped_a cex_unscoped
  revert this
  decide

/-- **refutation 2** (`includes=False`, a scope key that `INCLUDE[0-9;]+` matches): the unscoped read has deleted the
    whole entry `myINCLUDE0`, the scoped read finds it and returns its content -/
theorem C14_read_scope_missing_statement_false : ¬ ReadScopeMissingStatement := by
  intro h
  have := h cexFs { includes := false, scope := [.str "myINCLUDE0".toList] } none cexSrc _ (by decide) cex_unscoped (by decide)
  rw [cex_scoped_incl] at this
  cases this

/-- the hypothesis `FirstKeyOK` is what fails in refutation 2, and only `includes=False` is affected -/
example : FirstKeyOK { includes := false, scope := [.str "myINCLUDE0".toList] } = false ∧
    FirstKeyOK { includes := false, scope := [.str "a".toList] } = true ∧
    ∀ sc, FirstKeyOK { scope := sc } = true := ⟨by decide, by decide, fun _ => rfl⟩

/-- two block comments with the same text in the sub-dict, ids descending: `_clean` keeps the first one it meets -/
def cexSD : SD :=
  { data := [(.str "a".toList, .dict [(.str "BLOCKCOMMENT000002".toList, .leaf (.str "BLOCKCOMMENT000002".toList)),
                                      (.str "BLOCKCOMMENT000001".toList, .leaf (.str "BLOCKCOMMENT000001".toList))])],
    blockC := [(2, "/* x */".toList), (1, "/* x */".toList)] }

/-- **refutation 3**: on arbitrary SDicts `reduce_scope` and `order_keys` do not commute (`_clean` inside `reduce_scope`
    removes the *second* of two comments with equal text, and ordering changes which one is second).  No file that
    `readFile` reads as such an SDict is exhibited: a parsed level has been cleaned already. -/
theorem reduceScope_order_comm_false :
    ¬ ∀ (s : SD) (scope : List Key) (sub : Entries), scope ≠ [] → NodupKeysV (.dict s.data) → scopeOf s.data scope = some sub →
      (s.reduceScope scope).order = s.order.reduceScope scope := by
  intro h
  have hn : NodupKeysV (.dict cexSD.data) := by simp [cexSD, NodupKeysV, NodupKeysEs, keys]
  have := congrArg SD.data (h cexSD [.str "a".toList]
    [(.str "BLOCKCOMMENT000002".toList, .leaf (.str "BLOCKCOMMENT000002".toList)),
     (.str "BLOCKCOMMENT000001".toList, .leaf (.str "BLOCKCOMMENT000001".toList))] (by decide) hn (by decide +kernel))
  revert this
  decide +kernel

/-! ## non-vacuity -/

def exSrc : Comps := ["w".toList, "case".toList]

/-- nested dicts, an int key on the path, a list in the sub-dict -/
def exFs : FS := [(exSrc, .native "a { 1 { k 5; l (1 2); } b 3; }\nz 0;\n".toList)]

def exScope : List Key := [.str "a".toList, .int 1]

def exSub : Entries := [(.str "k".toList, .leaf (.int 5)), (.str "l".toList, .list [.leaf (.int 1), .leaf (.int 2)])]

def exData : Entries :=
  [(.str "a".toList, .dict [(.int 1, .dict exSub), (.str "b".toList, .leaf (.int 3))]), (.str "z".toList, .leaf (.int 0))]

/-- the file as it stands before the scope step; the reads below differ only in what follows -/
theorem ex_core : readCore evalInt exFs {} none exSrc = .ok ({ data := exData }, none) := by
  apply ok_of_toOption
  unfold exFs
  literal_chars
  decide +kernel

theorem ex_unscoped : dataOf (readFile evalInt exFs {} none exSrc) = some exData := by
  rw [readFile_core, ex_core]
  decide +kernel

/-- the scoped read, evaluated: precisely the sub-dict at `['a'][1]` -/
theorem ex_scoped : dataOf (readFile evalInt exFs { scope := exScope } none exSrc) = some exSub := by
  rw [readFile_core, readCore_congr (o' := {}) _ _ _ _ (by rfl) (by rfl), ex_core]
  decide +kernel

example : scopeOf exData exScope = some exSub ∧ pathExists exData exScope = true := by decide

/-- key text is data: the *string* `'1'` is not the int key `1`, the path does not exist, the read stops -/
example : dataOf (readFile evalInt exFs { scope := [.str "a".toList, .str "1".toList] } none exSrc) = none ∧
    pathExists exData [.str "a".toList, .str "1".toList] = false := by
  rw [readFile_core, readCore_congr (o' := {}) _ _ _ _ (by rfl) (by rfl), ex_core]
  decide +kernel

/-- `C14_read_scope_exact_subdict` instantiated on the file: all hypotheses hold -/
example : ∃ u c', readFile evalInt exFs {} none exSrc = .ok (.ok u c') ∧ u.data = exData ∧
    readFile evalInt exFs { scope := exScope } none exSrc = .ok (.ok { u with data := exSub } c') := by
  obtain ⟨u, c', h, hd⟩ := exists_of_dataOf ex_unscoped
  refine ⟨u, c', h, hd, ?_⟩
  exact C14_read_scope_exact_subdict evalInt exFs { scope := exScope } none exSrc (by decide) rfl rfl h
    (by rw [hd]; decide) (by simp [exSub, NodupKeysV, NodupKeysEs, NodupKeysXs, keys])
    (by simp [exSub, C07.NoPhEs, C07.NoPhV, C07.isPhKey]; decide)

/-- a JSON file whose keys contain quotes and brackets: the key text is compared, never interpreted -/
def exJSrc : Comps := ["w".toList, "c.json".toList]
def exJKey : Str := "q'[x]\"".toList
def exJFs : FS :=
  [(exJSrc, .json [(.str "a".toList, .dict [(.str exJKey, .dict [(.str "k".toList, .leaf (.int 5))]), (.str "q".toList, .dict [])])])]

example : dataOf (readFile evalInt exJFs { scope := [.str "a".toList, .str exJKey] } none exJSrc) =
    some [(.str "k".toList, .leaf (.int 5))] := by decide +kernel

/-- a prefix of the key text (`q`) is another key -/
example : dataOf (readFile evalInt exJFs { scope := [.str "a".toList, .str "q".toList] } none exJSrc) = some [] := by
  decide +kernel

/-- ordered scoped read: the ordered sub-dict -/
example : dataOf (readFile evalInt exFs { scope := [.str "a".toList], order := true } none exSrc) =
    some [(.int 1, .dict exSub), (.str "b".toList, .leaf (.int 3))] := by
  rw [readFile_core, readCore_congr (o' := {}) _ _ _ _ (by rfl) (by rfl), ex_core]
  decide +kernel

/-! #### the API: a missing scope writes nothing, an existing scope writes `parsed.case_a_1` -/

def exWorld : World := { fs := exFs }

def outTag : ApiOut → Nat
  | .data _ => 0 | .done => 1 | .exit1 => 2 | .notFound => 3 | .gaveUp _ => 4

example : outTag (apiStep evalInt exWorld (.parse exSrc { scope := [.str "a".toList, .int 2] } ['w'] none)).2 = 2 ∧
    C13api.paths (apiStep evalInt exWorld (.parse exSrc { scope := [.str "a".toList, .int 2] } ['w'] none)).1.fs = [exSrc] := by
  decide +kernel

def exTarget : Comps := ["w".toList, "parsed.case_a_1".toList]

example : parseTarget exSrc exScope none = exTarget := by decide +kernel

theorem ex_parse :
    outTag (apiStep evalInt exWorld (.parse exSrc { scope := exScope } ['w'] none)).2 = 0 ∧
    C13api.paths (apiStep evalInt exWorld (.parse exSrc { scope := exScope } ['w'] none)).1.fs = [exSrc, exTarget] := by
  decide +kernel

/-- `C14_read_scope_missing` instantiated: the scope `['a'][2]` does not exist, `read` and `parse` leave the world alone -/
example : apiStep evalInt exWorld (.read exSrc { scope := [.str "a".toList, .int 2] }) = (exWorld, .exit1) ∧
    ∀ mode output, apiStep evalInt exWorld (.parse exSrc { scope := [.str "a".toList, .int 2] } mode output) = (exWorld, .exit1) := by
  obtain ⟨u, c', h, hd⟩ := exists_of_dataOf ex_unscoped
  exact (C14_read_scope_missing evalInt exWorld { scope := [.str "a".toList, .int 2] } exSrc (by decide) rfl h
    (by rw [hd]; decide)).2.2.2 (.native _) rfl

/-- `C14_parse_scope_target` instantiated: the target of `parse(case, scope=['a', 1])` is `parsed.case_a_1` in the same
    folder, every other path is untouched, and what is returned is the dict reduced to the sub-dict -/
example : ∃ u c', u.data = exData ∧
    parseTarget (["w".toList] ++ ["case".toList]) exScope none = ["w".toList] ++ ["parsed.case_a_1".toList] ∧
    (scopedSD { scope := exScope } u exSub).data = exSub ∧
    (∀ t c'', writeText evalInt exWorld.fs exTarget ['w'] false (.sd (scopedSD { scope := exScope } u exSub)) c' = .ok (t, c'') →
      apiStep evalInt exWorld (.parse exSrc { scope := exScope } ['w'] none) =
        ({ fs := exWorld.fs.set (resolveSpelled exTarget) (.native t), c := c'' },
         .data { scopedSD { scope := exScope } u exSub with data := exSub })) := by
  obtain ⟨u, c', h, hd⟩ := exists_of_dataOf ex_unscoped
  have hsub : scopeOf u.data exScope = some exSub := by rw [hd]; decide
  obtain ⟨h1, h2, _, _⟩ := C14_parse_scope_target evalInt exWorld { scope := exScope } ["w".toList] "case".toList ['w'] none
    (by decide) rfl (b := .native _) rfl h hsub
  have htn : targetName "case".toList (some "parsed".toList) (exScope.map keyText) none = "parsed.case_a_1".toList := by
    decide +kernel
  have hdata : (scopedSD { scope := exScope } u exSub).data = exSub := by
    have hn : NodupKeysV (.dict exSub) := by simp [exSub, NodupKeysV, NodupKeysEs, NodupKeysXs, keys]
    have hp : C07.NoPhEs exSub := by simp [exSub, C07.NoPhEs, C07.NoPhV, C07.isPhKey]; decide
    simp only [scopedSD, ordIf, dropIncl, Bool.false_eq_true, if_false, if_true, updateD_nil_left _ hn.1]
    rw [C07.clean_id { u with data := exSub } hn hp]
  refine ⟨u, c', hd, by rw [h1, htn], hdata, ?_⟩
  · intro t c'' hw
    have hpt : parseTarget (["w".toList] ++ ["case".toList]) exScope none = exTarget := by rw [h1, htn]; rfl
    rw [hpt] at h2
    have h3 := h2 t c'' hw
    rw [hdata, show normEs exSub = exSub by decide +kernel] at h3
    exact h3

/-! #### C17 -/

example : PlainWord "abc".toList ∧ (∀ c ∈ "abc".toList, isQuote c = false) ∧ parseValue "abc".toList = .str "abc".toList := by
  decide

example : validateScope (some "abc".toList) = some [.str "abc".toList] ∧
    validateScope (some "[abc]".toList) = some [.str "abc".toList] :=
  C17_scope_word_list (by decide) (by decide) ⟨_, (by decide : parseValue "abc".toList = .str "abc".toList)⟩

example : validateScope (some "12".toList) ≠ validateScope (some "[12]".toList) :=
  scope_number_word_vs_list' (by decide) (by decide)

/-
#print axioms C14_read_scope
#print axioms C14_read_scope_errors
#print axioms C14_read_scope_unordered
#print axioms C14_read_scope_of_unscoped
#print axioms C14_read_scope_data
#print axioms C14_read_scope_data_core
#print axioms C14_read_scope_plain
#print axioms C14_read_scope_exact_subdict
#print axioms C14_read_scope_ordered
#print axioms reduceScope_order_comm
#print axioms C14_read_scope_missing
#print axioms C14_read_scope_missing_core
#print axioms C14_parse_scope_target
#print axioms C17_scope_word_list
#print axioms scope_word_vs_list
#print axioms scope_number_word_vs_list'
#print axioms C14_read_scope_data_statement_false
#print axioms C14_read_scope_missing_statement_false
#print axioms reduceScope_order_comm_false
-- all of them: [propext, Classical.choice, Quot.sound] or a subset
-/

end C14read
end DictIO
