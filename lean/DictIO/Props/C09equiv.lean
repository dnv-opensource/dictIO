/-
  C09 (equivalence with includes) -- a native and a JSON rendering of one include graph read to equal data.

  `C09_equiv_statement` of Props/C09.lean, for documents WITHOUT `$`-expressions, decided:

    * as it stands the statement is FALSE in the model (`Ex.C09_equiv_statement_false`): it has no hypothesis on the
      content trees, and `{"a": "1"}` -- one file, no include, no `$` -- is written `a 1;` by the native rendering and
      read back as the int 1, while the JSON reader keeps the string (`C09_string_leaves_stay`).  An artefact of the
      statement (the normalisation hypothesis of `C09_equiv_plain` is missing), not of the library.
    * with the hypotheses of `C09_equiv_plain` on every content tree it is TRUE for every include graph:
      `C09_equiv_includes` (general form, two counters, also `stripEs` at every level), `C09_equiv_statement_noexpr`
      (in the shape of the statement).

  Hypotheses (`DocWF`, `ContentWF`), and why:
    dom, norm, doc, cnt    the ordinary entries of every file are a normalised dict of the value domain with the side
                           conditions of C01 (`C09_equiv_plain` has the same four): the native text is read back by C01/C12;
                           `norm` is needed for truth (witness above); the value domain gives: no `$`, no include key among
                           the ordinary keys, no placeholder key, no self-reference placeholder
    names (`nameOK`)       include names: no quote (the JSON parser strips them), no line break and no `//` (the native
                           directive is one line, the line-comment stage runs first), relative, last `/`-segment a proper
                           file name -- so that `n.json` spells the JSON rendering of the file `n` spells (`spell_json`)
    dist                   pairwise different include names in one file: then `_clean` leaves both include tables alone
                           (native: `C12WI.denI_top`; JSON: `json_updates_incl`).  With equal names the native
                           table loses the duplicate and the JSON table does not (`incl_clean_merges` / the second
                           `update` of `parseJson`); on witnesses the data still agree, the proof does not cover it
    ninc                   at most `counterLimit + 1` includes per file (ids pairwise different)
    paths                  no file is the root directory `[]`; the root path has no `.` / `..` component
    Valid c                counter states that can occur
  Not needed: the `.json` / `.xml` hypotheses of the statement (a read that trips over them fails, and the theorem speaks
  about successful reads); acyclicity; existence of the include targets.

  Route: (a) per file (`native_file` via `C12_read_included` on the layout `native_layout`; `json_file`; together
  `C09_file_equiv`): both parsers return dicts whose data, stripped of placeholder entries, are the ordinary entries, and
  include tables with the file-name columns `n` / `n.json`.  (b) A rendering of the document is a `View` (where each
  file is written, how an include name is spelled, what stands in the file); `View.mergeRec`: on any view
  `_merge_includes_recursive` returns, up to placeholder entries, the data `mergeDoc` reads off the document -- by
  induction on the fuel and over the runs of the loop (`View.loop`, over `C06.Loop`); it needs of the parsed files only
  `C09.Good` (unique keys, no expressions, no self-reference placeholder, no placeholder below the top level); no
  associativity of the merge is used.  `rec_congr` is it for
  `viewN` and `viewJ`; the mixed renderings of Props/C09mixed.lean are further views.  (c)/(d) `View.read`,
  `C09_equiv_includes`.  Non-vacuity: `Ex.exDoc` (three files, a diamond, a missing target), both reads evaluated in
  the kernel.

  Layout: 0 vocabulary, 1 helper lemmas, 2 the loop and the two `update`s of the JSON parser, 3 `ContentWF` and the JSON
  parser on a content tree with its include names as they are (`json_fileRaw`), 4 the native rendering as a document of
  `C12top` (directives in front of plain entries), 5 layout, 6 native parser on a file, 7 paths, include names respelled
  (`Mixed.renameC`) and the JSON rendering of a file as the tree with every name respelled (`json_file`), 8 file systems,
  a rendering as a `View` of the document (`View.parse`) and (a), 9 (b), 10 the reader, 11 example, 12 the statement of
  C09.lean.
-/
import DictIO.Props.C09
import DictIO.Props.C06fold
import DictIO.Props.C12top
import DictIO.Props.C16fold
import DictIO.Lemmas.Literal

namespace DictIO.C09
open DictIO DictIO.C07 DictIO.C06 DictIO.C06fold

/-! ## 0. vocabulary -/

/-- the file name an include entry of a model document stands for -/
def inclName (e : Key × Val) : Str :=
  match e.2 with
  | .leaf (.str n) => n
  | _ => []

/-- the include file names of a content tree, in document order -/
def inclNames (es : Entries) : List Str := (es.filter isInclEntry).map inclName

/-- the ordinary entries of a content tree -/
def restOf (es : Entries) : Entries := es.filter fun e => !isInclEntry e

/-- the content of the JSON rendering of a file -/
def jsonContent (es : Entries) : Entries :=
  es.map fun e =>
    match e.1, e.2 with
    | .str k, .leaf (.str n) => if isIncludeKey k then (e.1, .leaf (.str (n ++ ".json".toList))) else e
    | _, _ => e

/-- the text of the native rendering of a file -/
def nativeText (es : Entries) : Str :=
  ((inclNames es).flatMap fun n => "#include '".toList ++ n ++ "'\n".toList) ++ fmtPlain .native (restOf es)

theorem renderJson_eq (doc : Doc) : renderJson doc = doc.map fun f => (jsonPathOf f.1, .json (jsonContent f.2)) := rfl

theorem isInclEntry_iff {e : Key × Val} : isInclEntry e = true ↔ ∃ k n, e = (.str k, .leaf (.str n)) ∧ isIncludeKey k = true := by
  obtain ⟨k, v⟩ := e
  cases k with
  | int z => simp [isInclEntry]
  | str s =>
    cases v with
    | leaf x => cases x <;> simp [isInclEntry]
    | dict d => simp [isInclEntry]
    | list l => simp [isInclEntry]

theorem renderNative_eq (doc : Doc) : renderNative doc = doc.map fun f => (f.1, .native (nativeText f.2)) := by
  unfold renderNative
  apply List.map_congr_left
  intro f _
  congr 2
  unfold nativeText inclNames
  congr 1
  generalize f.2 = es
  induction es with
  | nil => rfl
  | cons e es ih =>
    cases he : isInclEntry e with
    | false => simp only [List.filter_cons, he, Bool.false_eq_true, if_false]; exact ih
    | true =>
      obtain ⟨k, n, rfl, _⟩ := isInclEntry_iff.mp he
      simp only [List.filter_cons, he, if_true, List.flatMap_cons, List.map_cons, ih, inclName]


/-! ## 1. general helper lemmas -/

theorem valsNoPh_strip_eq : ∀ (es : Entries), ValsNoPh es → stripEs es = C01.dropPhEntries es
  | [], _ => by rw [stripEs_nil]; rfl
  | (k, v) :: es, h => by
    have ih := valsNoPh_strip_eq es fun e he => h e (List.mem_cons_of_mem _ he)
    cases hk : isPhKey k with
    | true => rw [stripEs_cons_ph hk, ih]; simp [C01.dropPhEntries, hk]
    | false =>
      rw [stripEs_cons hk, ih, stripV_noPh v (h (k, v) List.mem_cons_self)]
      simp [C01.dropPhEntries, hk]

theorem noDollarEs_iff : ∀ {es : Entries}, noDollarEs es = true ↔ ∀ e ∈ es, noDollarV e.2 = true
  | [] => by simp [noDollarEs]
  | (k, v) :: es => by simp [noDollarEs, noDollarEs_iff (es := es)]

mutual
  theorem phOKV_of_noPh : ∀ v : Val, NoPhV v → C12.Incl.PhOKV v
    | .leaf _, _ => by simp only [C12.Incl.PhOKV]
    | .list _, _ => by simp only [C12.Incl.PhOKV]
    | .dict es, h => by simp only [C12.Incl.PhOKV]; exact phOKEs_of_noPh es h
  theorem phOKEs_of_noPh : ∀ es : Entries, NoPhEs es → C12.Incl.PhOKEs es
    | [], _ => by simp only [C12.Incl.PhOKEs]
    | (k, v) :: es, h => by
      simp only [C12.Incl.PhOKEs]
      refine ⟨fun hs => ?_, phOKV_of_noPh v h.2.1, phOKEs_of_noPh es h.2.2⟩
      have h1 := h.1
      rw [C07.isPhKey_of_selI hs] at h1
      cases h1
end

theorem tbl_update_self {α} (t : Tbl α) (hn : (t.map (·.1)).Nodup) : Tbl.update t t = t := by
  unfold Tbl.update
  suffices H : ∀ (l : Tbl α), (∀ e ∈ l, e ∈ t) → l.foldl (fun acc e => Tbl.set e.1 e.2 acc) t = t from H t fun _ h => h
  intro l
  induction l with
  | nil => intro _; rfl
  | cons e l ih =>
    intro h
    rw [List.foldl_cons, tbl_set_get_self (tbl_get_of_mem_nodup hn (h e List.mem_cons_self))]
    exact ih fun e' he' => h e' (List.mem_cons_of_mem _ he')

/-! ## 2. the JSON parser on the rendering of a file -/

/-- the body of `_extract_includes` -/
def jstep (dir : Comps) (acc : Counter × Tbl InclEntry × Entries × Entries) (e : Key × Val) :
    Counter × Tbl InclEntry × Entries × Entries :=
  match e.1, e.2 with
  | .str k, .leaf x =>
    if isIncludeKey k then
      ((Counter.next Gen.counterLimit acc.1).2,
       acc.2.1.set (Counter.next Gen.counterLimit acc.1).1
         { directive := "#include '".toList ++ doubleBackslashes (removeQuotes (pyStrScalar x)) ++ ['\''],
           file := removeQuotes (pyStrScalar x), path := pathStr (spellJoin dir (removeQuotes (pyStrScalar x))) },
       setKey (.str (kwIncl ++ padSix (Counter.next Gen.counterLimit acc.1).1))
         (.leaf (.str (kwIncl ++ padSix (Counter.next Gen.counterLimit acc.1).1))) acc.2.2.1, acc.2.2.2)
    else (acc.1, acc.2.1, acc.2.2.1, acc.2.2.2 ++ [e])
  | _, _ => (acc.1, acc.2.1, acc.2.2.1, acc.2.2.2 ++ [e])

theorem foldl_fun_congr {α β} {f g : α → β → α} (h : ∀ a e, f a e = g a e) (l : List β) (init : α) :
    l.foldl f init = l.foldl g init := by
  rw [funext fun a => funext (h a)]

/-- an ordinary entry is no include for the JSON parser -/
def RestNotIncl (es : Entries) : Prop :=
  ∀ e ∈ es, isInclEntry e = false → match e.1, e.2 with | .str k, .leaf _ => isIncludeKey k = false | _, _ => True

/-- the table entry the JSON parser makes for the include of `n` in directory `dir` -/
def rawEntry (dir : Comps) (n : Str) : InclEntry :=
  { directive := "#include '".toList ++ doubleBackslashes n ++ ['\''], file := n, path := pathStr (spellJoin dir n) }

theorem jfoldRaw (dir : Comps) : ∀ (es : Entries) (c : Counter) (tbl : Tbl InclEntry) (phs rest : Entries),
    RestNotIncl es → (∀ n ∈ inclNames es, ∀ ch ∈ n, isQuote ch = false) →
    es.foldl (jstep dir) (c, tbl, phs, rest) =
      (C02.adv Gen.counterLimit (inclNames es).length c,
       C12.setAllI tbl (List.zip (alloc Gen.counterLimit (inclNames es).length c) ((inclNames es).map (rawEntry dir))),
       updateD phs ((alloc Gen.counterLimit (inclNames es).length c).map C12WI.inclE),
       rest ++ restOf es)
  | [], c, tbl, phs, rest, _, _ => by simp [inclNames, restOf, C02.adv, alloc, C12.setAllI, updateD]
  | e :: es, c, tbl, phs, rest, hr, hq => by
    have hr' : RestNotIncl es := fun e' he' => hr e' (List.mem_cons_of_mem _ he')
    cases he : isInclEntry e with
    | true =>
      obtain ⟨k, n, rfl, hk⟩ := isInclEntry_iff.mp he
      have hnames : inclNames ((.str k, .leaf (.str n)) :: es) = n :: inclNames es := by
        simp [inclNames, he, inclName]
      have hrest : restOf ((.str k, .leaf (.str n)) :: es) = restOf es := by
        simp [restOf, he]
      have hq' : ∀ n' ∈ inclNames es, ∀ ch ∈ n', isQuote ch = false := fun n' hn' => hq n' (by rw [hnames]; exact List.mem_cons_of_mem _ hn')
      have hqn : ∀ ch ∈ n, isQuote ch = false := hq n (by rw [hnames]; exact List.mem_cons_self)
      rw [List.foldl_cons]
      have hstep : jstep dir (c, tbl, phs, rest) (.str k, .leaf (.str n)) =
          ((Counter.next Gen.counterLimit c).2, tbl.set (Counter.next Gen.counterLimit c).1 (rawEntry dir n),
            setKey (C12WI.inclE (Counter.next Gen.counterLimit c).1).1 (C12WI.inclE (Counter.next Gen.counterLimit c).1).2 phs, rest) := by
        simp only [jstep, hk, if_true, pyStrScalar, C04.removeQuotes_of_qf hqn]
        rfl
      rw [hstep, jfoldRaw dir es _ _ _ _ hr' hq', hnames, hrest]
      simp only [List.length_cons, C02.adv, alloc, List.map_cons, List.zip_cons_cons, C12.setAllI, List.foldl_cons, updateD]
    | false =>
      have hnames : inclNames (e :: es) = inclNames es := by simp [inclNames, he]
      have hrest : restOf (e :: es) = e :: restOf es := by simp [restOf, he]
      have hq' : ∀ n' ∈ inclNames es, ∀ ch ∈ n', isQuote ch = false := fun n' hn' => hq n' (by rw [hnames]; exact hn')
      have hnot := hr e List.mem_cons_self he
      have hstep : jstep dir (c, tbl, phs, rest) e = (c, tbl, phs, rest ++ [e]) := by
        obtain ⟨k, v⟩ := e
        cases k with
        | int z => rfl
        | str s =>
          cases v with
          | leaf x => simp only at hnot; simp only [jstep, hnot]; rfl
          | dict d => rfl
          | list l => rfl
      rw [List.foldl_cons, hstep, jfoldRaw dir es _ _ _ _ hr' hq', hnames, hrest]
      simp

/-- what the proofs carry for every dict that takes part in the include merge: unique keys at every level, no
    expressions, no self-reference placeholder among the ordinary entries, no placeholder key below the top level -/
structure Good (x : SD) : Prop where
  nodup : NodupKeysV (.dict x.data)
  exprs : x.exprs = []
  safe : safeEs [] (S x) = true
  vals : ValsNoPh x.data

theorem tblIn_nil : TblIn [] ([] : Tbl ExprEntry) := fun _ h => by cases h

theorem Good.empty : Good ({} : SD) := ⟨nodupV_nil, rfl, rfl, fun _ h => by cases h⟩

/-- **`SDict.merge` on good dicts**: on the stripped data it is the plain first-wins merge -/
theorem Good.merge {t a : SD} (ht : Good t) (ha : Good a) :
    Good (t.merge (.sd a)) ∧ S (t.merge (.sd a)) = mergeD false [] (S t) (S a) := by
  have hs : NoSelf t.exprs t.data ∧ NoSelf t.exprs a.data := by
    rw [ht.exprs]; exact ⟨noSelf_of_safe tblIn_nil ht.safe, noSelf_of_safe tblIn_nil ha.safe⟩
  obtain ⟨h1, h2, h3⟩ := merge_strip t a ht.nodup ha.nodup.2 hs
  refine ⟨⟨h1, ?_, ?_, valsNoPh_merge t a ht.nodup ha.nodup.2 ht.vals ha.vals⟩, h2⟩
  · rw [h3, ht.exprs, ha.exprs]; rfl
  · show safeEs [] (stripEs _) = true
    rw [h2]; exact safeEs_mergeD ht.safe ha.safe

theorem noDollar_inclPh (i : Nat) : noDollarV (C12WI.inclE i).2 = true := by
  have : '$' ∉ inclPh i := fun hm => (Ph.plain .incl i _ hm).ne (by decide) rfl
  simpa [C12WI.inclE, noDollarV] using this

theorem keys_inclE_nodup {ids : List Nat} (hnd : ids.Nodup) : (keys (ids.map C12WI.inclE)).Nodup := by
  show ((ids.map C12WI.inclE).map (·.1)).Nodup
  rw [List.map_map]
  refine nodup_map_of_inj_on _ _ hnd fun a _ b _ h => ?_
  have : inclPh a = inclPh b := by simpa [C12WI.inclE] using h
  exact Ph.ph_inj (a := .incl) this

/-- the two `update` calls of `JsonParser.parse_string` when there are include placeholders for `ids` and a table `T`:
    both `_clean` runs find nothing to do (`C12WI.clean_noC`), so the result is the placeholder entries in front of the
    ordinary entries `R`, beside the table -/
theorem json_updates_incl (T : Tbl InclEntry) (ids : List Nat) (R : Entries)
    (hlt : ∀ i ∈ ids, i < 1000000) (hnd : ids.Nodup) (hTinj : C12.Incl.TblInj T) (hTn : (T.map (·.1)).Nodup)
    (hR : NoPhEs R) (hRn : NodupKeysV (.dict R)) :
    (({ data := [], incl := T } : SD).update (.plain (ids.map C12WI.inclE))).update (.sd { data := R, incl := T }) =
      { data := ids.map C12WI.inclE ++ R, incl := T } ∧ NodupKeysV (.dict (ids.map C12WI.inclE ++ R)) := by
  have hRiff := noPhEs_iff.mp hR
  have hPn := keys_inclE_nodup hnd
  have hPR : (keys (ids.map C12WI.inclE ++ R)).Nodup := by
    show ((ids.map C12WI.inclE ++ R).map (·.1)).Nodup
    rw [List.map_append]
    refine List.nodup_append.mpr ⟨hPn, hRn.1, fun a ha b hb e => ?_⟩
    obtain ⟨x, hx, rfl⟩ := List.mem_map.mp ha
    obtain ⟨i, hi, rfl⟩ := List.mem_map.mp hx
    obtain ⟨y, hy, rfl⟩ := List.mem_map.mp hb
    have h1 : isPhKey (C12WI.inclE i).1 = true := Ph.isPhKey_ph .incl (hlt i hi)
    rw [e, (hRiff y hy).1] at h1
    cases h1
  have ok : ∀ d : Entries, (∀ e ∈ d, e ∈ ids.map C12WI.inclE ∨ e ∈ R) → (keys d).Nodup →
      NodupKeysV (.dict d) ∧ ({ data := d, incl := T } : SD).clean = { data := d, incl := T } := by
    intro d hd hn
    have hnv : NodupKeysV (.dict d) := ⟨hn, nodupKeysEs_iff.mpr fun e he => by
      rcases hd e he with h | h
      · obtain ⟨i, _, rfl⟩ := List.mem_map.mp h; simp only [C12WI.inclE, NodupKeysV]
      · exact nodupKeysEs_iff.mp hRn.2 e h⟩
    refine ⟨hnv, C12WI.clean_noC _ rfl rfl hTinj hnv (C12.Incl.phOKEs_iff.mpr fun e he => ?_)⟩
    rcases hd e he with h | h
    · obtain ⟨i, hi, rfl⟩ := List.mem_map.mp h
      exact ⟨fun _ => ⟨i, hlt i hi, rfl⟩, by simp only [C12WI.inclE, C12.Incl.PhOKV]⟩
    · refine ⟨fun hsel => ?_, phOKV_of_noPh _ (hRiff e h).2⟩
      have := (hRiff e h).1
      rw [C07.isPhKey_of_selI hsel] at this
      cases this
  obtain ⟨_, c1⟩ := ok _ (fun e he => Or.inl he) hPn
  obtain ⟨n2, c2⟩ := ok _ (fun e he => List.mem_append.mp he) hPR
  refine ⟨?_, n2⟩
  rw [update_plain_eq]
  show (({ data := updateD [] (ids.map C12WI.inclE), incl := T } : SD).clean).update _ = _
  rw [updateD_nil_left _ hPn, c1, update_sd_eq]
  show ({ data := updateD (ids.map C12WI.inclE) R, incl := Tbl.update T T } : SD).clean = _
  rw [tbl_update_self T hTn, updateD_append R _ hPR, c2]

/-! ## 3. well-formed contents -/

/-- an include file name of a model document: no quote, no line break, no `//`, relative, and its last `/`-segment is
    a proper file name (not empty, not `.` or `..`) -/
def nameOK (n : Str) : Bool :=
  n.all (fun c => !isQuote c && !isLineBreak c) && !isInfix ['/', '/'] n && !(n.head? == some '/') &&
  (match (n.splitOn '/').getLast? with | some l => !l.isEmpty && !isDots l | none => false)

/-- the content tree of a file: its ordinary part is a normalised dict of the value domain (with the side conditions of
    C01), its include names are proper, pairwise different, and not more than the counter can number -/
structure ContentWF (es : Entries) : Prop where
  dom : DomC01 .native (restOf es) = true
  norm : normEs (restOf es) = restOf es
  doc : C01.DocKeysAbsent' (restOf es)
  cnt : C02.countQuotedEs (srcOfEs .native (restOf es)) ≤ Gen.counterLimit + 1
  ninc : (inclNames es).length ≤ Gen.counterLimit + 1
  names : ∀ n ∈ inclNames es, nameOK n = true
  dist : (inclNames es).Nodup

theorem nameOK_chars {n : Str} (h : nameOK n = true) : ∀ c ∈ n, isQuote c = false ∧ isLineBreak c = false := by
  simp only [nameOK, Bool.and_eq_true, List.all_eq_true, Bool.not_eq_true'] at h
  exact fun c hc => h.1.1.1 c hc

theorem ContentWF.restNotIncl {es : Entries} (hw : ContentWF es) : RestNotIncl es := by
  intro e he hne
  have hm : e ∈ restOf es := List.mem_filter.mpr ⟨he, by simp [hne]⟩
  have := dom_noIncludeKeys hw.dom e hm
  obtain ⟨k, v⟩ := e
  cases k with
  | int z => trivial
  | str s => cases v <;> first | trivial | exact this

theorem ContentWF.inv {es : Entries} (hw : ContentWF es) : NoPhEs (restOf es) ∧ NodupKeysV (.dict (restOf es)) := by
  have := C01.norm_invariants hw.dom
  rwa [hw.norm] at this

theorem ContentWF.safe {es : Entries} (hw : ContentWF es) : safeEs [] (restOf es) = true := by
  rw [safeEs_iff]
  intro e he
  have hs := C16.noSelf_dom hw.dom e he
  obtain ⟨k, v⟩ := e
  cases k with
  | int z => rfl
  | str ks =>
    cases v with
    | dict d => rfl
    | list l => rfl
    | leaf x =>
      cases x with
      | str vs =>
        rw [selfRef_str, C16.insertExpression_nil] at hs
        simp [safeEntry, hs]
      | _ => rfl

/-- a parse result whose data fall into the placeholder entries of some includes and the ordinary entries of the
    content tree is good, and its stripped data are the ordinary entries -/
theorem good_of_classes {es : Entries} (hw : ContentWF es) {X : SD} {ids : List Nat}
    (hC : C12WI.Classes false ids (restOf es) X.data) (hn : NodupKeysV (.dict X.data)) (he : X.exprs = []) :
    Good X ∧ S X = restOf es := by
  have hR := noPhEs_iff.mp hw.inv.1
  have hv : ValsNoPh X.data := hC.vals fun e he => (hR e he).2
  have hs : stripEs X.data = restOf es := (valsNoPh_strip_eq _ hv).trans (hC.dropPh fun e he => (hR e he).1)
  refine ⟨⟨hn, he, ?_, hv⟩, hs⟩
  show safeEs [] (stripEs _) = true
  rw [hs]; exact hw.safe

theorem zip_map_fst {α β} (l : List α) (m : List β) (h : l.length = m.length) : (List.zip l m).map (·.1) = l :=
  List.map_fst_zip (Nat.le_of_eq h)

theorem zip_map_snd {α β} (l : List α) (m : List β) (h : l.length = m.length) : (List.zip l m).map (·.2) = m :=
  List.map_snd_zip (Nat.le_of_eq h.symm)

/-- **the JSON parser on a well-formed content tree, include names as they are** -/
theorem json_fileRaw (dir : Comps) (c : Counter) (es : Entries) (hw : ContentWF es) (hc : C13.ValidCounter Gen.counterLimit c) :
    ∃ sd, parseJson dir c es = (sd, C02.adv Gen.counterLimit (inclNames es).length c) ∧ Good sd ∧
      S sd = restOf es ∧ sd.incl.map (·.2.file) = inclNames es := by
  have hq : ∀ n ∈ inclNames es, ∀ ch ∈ n, isQuote ch = false := fun n hn ch hch => (nameOK_chars (hw.names n hn) ch hch).1
  obtain ⟨hRp, hRn⟩ := hw.inv
  have hlen : (alloc Gen.counterLimit (inclNames es).length c).length = ((inclNames es).map (rawEntry dir)).length := by
    rw [alloc_length, List.length_map]
  have hidn : (alloc Gen.counterLimit (inclNames es).length c).Nodup := C13.alloc_nodup hw.ninc hc
  have hidlt : ∀ i ∈ alloc Gen.counterLimit (inclNames es).length c, i < 1000000 := fun i hi => by
    have := alloc_le _ _ _ i hi
    have e : Gen.counterLimit = 999999 := rfl
    omega
  have hfst := zip_map_fst _ _ hlen
  have hsnd := zip_map_snd _ _ hlen
  generalize hT : List.zip (alloc Gen.counterLimit (inclNames es).length c) ((inclNames es).map (rawEntry dir)) = T at hfst hsnd
  have hTn : (T.map (·.1)).Nodup := by rw [hfst]; exact hidn
  have hvals : ((inclNames es).map (rawEntry dir)).Nodup := by
    apply nodup_of_nodup_map (fun e : InclEntry => e.file)
    rw [List.map_map]
    exact nodup_map_of_inj_on _ _ hw.dist fun a _ b _ h => h
  have hTinj : C12.Incl.TblInj T := by rw [← hT]; exact C12.Incl.tblInj_zip _ _ hvals
  have hset : C12.setAllI [] T = T := by
    rw [C12.setAllI_nodup T [] (by simpa using hTn)]; rfl
  obtain ⟨hs, hn⟩ := json_updates_incl T _ (restOf es) hidlt hidn hTinj hTn hRp hRn
  have hC := C12WI.Classes.of_append (fun i hi => Nat.le_of_lt_succ (hidlt i hi)) fun e he => (noPhEs_iff.mp hRp e he).1
  have hdollar : noDollarEs ((alloc Gen.counterLimit (inclNames es).length c).map C12WI.inclE ++ restOf es) = true :=
    noDollarEs_iff.mpr fun e he => by
      rcases List.mem_append.mp he with h | h
      · obtain ⟨i, _, rfl⟩ := List.mem_map.mp h; exact noDollar_inclPh i
      · exact noDollarEs_iff.mp (dom_noDollar hw.dom) e h
  unfold parseJson
  rw [foldl_fun_congr (g := jstep dir) ?h, jfoldRaw dir es c [] [] [] hw.restNotIncl hq, hT, hset,
    updateD_nil_left _ (keys_inclE_nodup hidn)]
  case h =>
    intro acc e
    obtain ⟨c, tbl, phs, rest⟩ := acc
    obtain ⟨k, v⟩ := e
    cases k <;> cases v <;> rfl
  simp only [List.nil_append]
  rw [hs, jsonExprEs_id _ _ hdollar]
  obtain ⟨g, hS⟩ := good_of_classes hw (X := { data := _ ++ restOf es, incl := T }) hC hn rfl
  refine ⟨_, rfl, g, hS, ?_⟩
  show List.map (fun x : Nat × InclEntry => x.2.file) T = _
  have : List.map (fun x : Nat × InclEntry => x.2.file) T = (T.map (·.2)).map (fun e : InclEntry => e.file) := by
    rw [List.map_map]; rfl
  rw [this, hsnd, List.map_map]
  exact List.map_id' _

/-! ## 4. the native rendering of a file as a document with include directives -/

/-- the native rendering of a content tree as a document of `C12incl`: the directives, names in single quotes, in front
    of the ordinary entries -/
def itemsOf (es : Entries) : List IItem :=
  C12WI.dirs (fun _ => some '\'') (inclNames es) ++ C12WI.embEs (srcOfEs .native (restOf es))

/-- the token of a directive `#include 'n'` -/
def dirTok (n : Str) : CTok := .tok (.word (dirText (some '\'') n))

theorem dirTok_text (n : Str) : (dirTok n).text = dirText (some '\'') n := rfl

theorem itemsOf_facts (es : Entries) :
    plainIItems (itemsOf es) = srcOfEs .native (restOf es) ∧
    C12.inclsItems (itemsOf es) = (inclNames es).map (fun n => (some '\'', n)) ∧
    C12WI.topDoc (itemsOf es) = true ∧
    itoksItems (itemsOf es) = (inclNames es).map dirTok ++ (srcToksEs (srcOfEs .native (restOf es))).map .tok ∧
    ∀ d, (∀ n ∈ inclNames es, isInclName (some '\'') n = true) →
      ISrcWFItems d (itemsOf es) = SrcWFEs d (srcOfEs .native (restOf es)) :=
  C12WI.dirs_emb_facts _ _ _

/-! ## 5. the layout of the native rendering -/

section Layout
open DictIO.C12 DictIO.C12.Stages DictIO.C12.Incl DictIO.C12WI

/-- the line `renderNative` writes for the include of `n` -/
def lineOf (n : Str) : Str := "#include '".toList ++ n ++ "'\n".toList

theorem lineOf_eq (n : Str) : lineOf n = dirText (some '\'') n ++ ['\n'] := by
  have e1 : "#include '".toList = ['#', 'i', 'n', 'c', 'l', 'u', 'd', 'e', ' ', '\''] := by decide
  have e2 : "'\n".toList = ['\'', '\n'] := by decide
  have e3 : "#include ".toList = ['#', 'i', 'n', 'c', 'l', 'u', 'd', 'e', ' '] := by decide
  unfold lineOf dirText quoteName
  rw [e1, e2, e3]
  simp only [List.append_assoc, List.cons_append, List.nil_append]

theorem flatMap_nl (S : Str) : ∀ (ns : List Str),
    ns.flatMap (fun n => '\n' :: dirText (some '\'') n) ++ ('\n' :: S) = '\n' :: (ns.flatMap lineOf ++ S)
  | [] => by simp
  | n :: ns => by
    simp only [List.flatMap_cons, List.append_assoc, flatMap_nl S ns, List.cons_append, lineOf_eq, List.nil_append]

/-- **the layout of the native rendering**: the directive lines followed by the writer's text of the ordinary entries
    is an admissible layout (`GapsOKI`) of the directive tokens followed by the source tokens -/
theorem native_layout (names : List Str) (ts : List STok) (gaps : List Str) (tail : Str)
    (hts : ∀ t ∈ ts, C02.TokOK t) (hg : GapsOKS ts gaps = true) (ht : tail.all isWs = true) :
    ∃ G tail', spreadC (names.map dirTok ++ ts.map .tok) G tail' = names.flatMap lineOf ++ spreadS ts gaps tail ∧
      GapsOKI (names.map dirTok ++ ts.map .tok) G tail' = true ∧ tail'.all isWs = true := by
  cases names with
  | nil =>
    refine ⟨padG ts gaps, tail, ?_, ?_, ht⟩
    · simp only [List.map_nil, List.nil_append, List.flatMap_nil]; exact spreadC_padG ts gaps tail
    · have hc := gapsOKC_padG tail ht ts gaps hg
      simp only [List.map_nil, List.nil_append, GapsOKI, Bool.and_eq_true]
      exact ⟨hc, dirGaps_of_notDir true _ _ tail (fun t ht' => by
        obtain ⟨s, hs, rfl⟩ := List.mem_map.mp ht'
        exact aok_notDir (t := .tok s) (hts s hs)) hc⟩
  | cons n ns =>
    -- the first directive stands at the start of the text, each further one and the plain text behind a line feed
    obtain ⟨RG, T, hR, hsp⟩ := restOK_plain hts hg ht
    have hR' := restOK_dirs hR (ns.map fun m => dirText (some '\'') m)
    rw [List.map_map] at hR'
    refine ⟨[] :: ((ns.map fun m => dirText (some '\'') m).map (fun _ => ['\n']) ++ RG), T, ?_, gapsOKI_first hR' _,
      hR.2.2.1⟩
    have e := spread_dirs ((ts.map CTok.tok).map CTok.text) RG T (ns.map fun m => dirText (some '\'') m)
    rw [map_text_toks, hsp] at e
    simp only [List.map_cons, List.cons_append, List.flatMap_cons]
    rw [spreadC_cons, dirTok_text, lineOf_eq, List.nil_append]
    unfold spreadC
    rw [List.map_append, List.map_map, map_text_toks]
    have e2 : (ns.map ((CTok.text) ∘ dirTok)) = ns.map fun m => dirText (some '\'') m := rfl
    rw [e2, e, List.flatMap_map, flatMap_nl]
    simp

end Layout

/-! ## 6. the native parser on the rendering of a file -/

theorem nameOK_noSS {n : Str} (h : nameOK n = true) : isInfix ['/', '/'] n = false := by
  unfold nameOK at h
  rw [Bool.and_eq_true, Bool.and_eq_true, Bool.and_eq_true] at h
  simpa using h.1.1.2

theorem nameOK_inclName {n : Str} (h : nameOK n = true) : isInclName (some '\'') n = true := by
  have hc := nameOK_chars h
  have h2 := nameOK_noSS h
  have hq : isQuote '\'' = true := by decide
  have ha : n.all (fun c => !isLineBreak c) = true := by
    rw [List.all_eq_true]; intro c hc'; simp [(hc c hc').2]
  unfold isInclName
  rw [h2]
  simp only [hq, ha, Bool.not_false, Bool.and_self]

theorem dirText_inj {n m : Str} (h : dirText (some '\'') n = dirText (some '\'') m) : n = m := by
  unfold dirText quoteName at h
  have h1 : '\'' :: n ++ ['\''] = '\'' :: m ++ ['\''] := List.append_cancel_left (as := "#include ".toList) h
  have h2 : n ++ ['\''] = m ++ ['\''] := by
    have := List.tail_eq_of_cons_eq (by simpa using h1 : '\'' :: (n ++ ['\'']) = '\'' :: (m ++ ['\'']))
    exact this
  exact List.append_cancel_right h2

theorem denI_props (dir : Str) (c : Counter) (es : Entries) (hw : ContentWF es) (hc : C13.ValidCounter Gen.counterLimit c) :
    Good (denI dir c (itemsOf es)) ∧ S (denI dir c (itemsOf es)) = restOf es ∧
      (denI dir c (itemsOf es)).incl.map (·.2.file) = inclNames es := by
  obtain ⟨hwf, hden, _⟩ := C01.C01_writer hw.dom
  rw [hw.norm] at hden
  obtain ⟨f1, f2, f3, _, f5⟩ := itemsOf_facts es
  have T := C12WI.denI_top dir ((f5 1 fun n hn => nameOK_inclName (hw.names n hn)).trans hwf) f3 hc
    (by rw [f2, List.length_map]; exact hw.ninc)
    (by rw [f2, List.map_map]; exact nodup_map_of_inj_on _ _ hw.dist fun a _ b _ h => dirText_inj h)
  -- `denI` ends in `_clean`: from here on only the record `T` speaks of it
  generalize denI dir c (itemsOf es) = X at T ⊢
  have hC := T.classes
  rw [f1, hden] at hC
  obtain ⟨g, hs⟩ := good_of_classes hw hC T.nodup T.exprs
  refine ⟨g, hs, ?_⟩
  rw [T.tblFiles, C12WI.namesOf, f2, List.map_map]; exact List.map_id' _

theorem nativeText_eq (es : Entries) : nativeText es = (inclNames es).flatMap lineOf ++ fmtPlain .native (restOf es) := rfl

/-- the text of the native rendering from the evaluated parts of a content tree (`fmtEntries` is left to its equations:
    the kernel does not evaluate it) -/
theorem nativeText_eval (es : Entries) {names : List Str} {rest : Entries} (h1 : inclNames es = names)
    (h2 : restOf es = rest) (h3 : hoistPlaceholders rest = rest) :
    nativeText es = names.flatMap lineOf ++ removeTrailingSpaces (fmtEntries .native 0 rest) := by
  rw [nativeText_eq, h1, h2]
  show _ ++ removeTrailingSpaces (fmtEntries .native 0 (hoistPlaceholders _)) = _
  rw [h3]

/-- **the native parser on the rendering of a file.**  The data are the ordinary entries of the content tree behind
    the include placeholder entries; the include table lists the names in document order -/
theorem native_file (dir : Str) (c : Counter) (es : Entries) (hw : ContentWF es) (hc : C13.ValidCounter Gen.counterLimit c) :
    ∃ sd c', parseNative true dir c (nativeText es) = .ok (sd, c') ∧ C13.ValidCounter Gen.counterLimit c' ∧ Good sd ∧
      S sd = restOf es ∧ sd.incl.map (·.2.file) = inclNames es := by
  obtain ⟨hwf, _, gaps, tail, etext, hg, ht⟩ := C01.C01_writer hw.dom
  obtain ⟨G, tail', hl, hok, ht'⟩ := native_layout (inclNames es) _ gaps tail (C02.srcToks_ok 1 _ hwf) hg ht
  obtain ⟨hplain, _, _, htoks, f5⟩ := itemsOf_facts es
  have hwfI : ISrcWFItems 1 (itemsOf es) = true := (f5 1 fun n hn => nameOK_inclName (hw.names n hn)).trans hwf
  have hread := C12.C12_read_included (items := itemsOf es) (gaps := G) (tail := tail') dir c hwfI
    (by rw [htoks]; exact hok) (fun _ => ht') hc (by rw [hplain]; exact hw.cnt) (by rw [hplain]; exact docKeys_src hw.doc)
  rw [htoks, hl, ← etext, ← nativeText_eq] at hread
  obtain ⟨p1, p2, p3⟩ := denI_props dir c es hw hc
  exact ⟨_, _, hread, parseNative_valid hread hc, p1, p2, p3⟩

/-! ## 7. paths: the JSON rendering of an include name points at the JSON rendering of the included file -/

theorem splitOnP_append_noSep {α} (p : α → Bool) (t : List α) (ht : ∀ x ∈ t, p x = false) : ∀ (s : List α),
    ∃ I L, List.splitOnP p s = I ++ [L] ∧ List.splitOnP p (s ++ t) = I ++ [L ++ t]
  | [] => ⟨[], [], by simp [List.splitOnP_nil], by simpa using List.splitOnP_eq_singleton ht⟩
  | x :: s => by
    obtain ⟨I, L, h1, h2⟩ := splitOnP_append_noSep p t ht s
    rw [List.cons_append, List.splitOnP_cons_eq_if_modifyHead, List.splitOnP_cons_eq_if_modifyHead, h1, h2]
    cases hx : p x with
    | true => exact ⟨[] :: I, L, by simp, by simp⟩
    | false =>
      cases I with
      | nil => exact ⟨[], x :: L, by simp, by simp⟩
      | cons i I => exact ⟨(x :: i) :: I, L, by simp, by simp⟩

theorem isDots_json (l : Str) : isDots (l ++ ".json".toList) = false := by
  have hlen : (l ++ ".json".toList).length ≥ 5 := by simp
  cases h : isDots (l ++ ".json".toList) with
  | false => rfl
  | true =>
    simp only [isDots, Bool.or_eq_true, beq_iff_eq] at h
    rcases h with h | h <;> rw [h] at hlen <;> simp at hlen

/-- the components a proper include name contributes, for the name and for its JSON rendering -/
theorem name_comps {n : Str} (h : nameOK n = true) :
    n.head? ≠ some '/' ∧ (n ++ ".json".toList).head? ≠ some '/' ∧
    ∃ init last, (splitSlash n).filter (fun c => c != ['.']) = init ++ [last] ∧
      (splitSlash (n ++ ".json".toList)).filter (fun c => c != ['.']) = init ++ [last ++ ".json".toList] ∧
      isDots last = false := by
  have hj : ∀ x ∈ ".json".toList, (x == '/') = false := by decide
  obtain ⟨I, L, h1, h2⟩ := splitOnP_append_noSep (fun x => x == '/') ".json".toList hj n
  unfold nameOK at h
  rw [Bool.and_eq_true, Bool.and_eq_true, Bool.and_eq_true] at h
  obtain ⟨⟨⟨_, _⟩, hrel⟩, hlast⟩ := h
  have hsplit : n.splitOn '/' = I ++ [L] := h1
  rw [hsplit, List.getLast?_concat] at hlast
  simp only [Bool.and_eq_true, Bool.not_eq_true'] at hlast
  obtain ⟨hLne, hLd⟩ := hlast
  have hrel' : n.head? ≠ some '/' := by simpa using hrel
  have hnne : n ≠ [] := by
    intro e
    rw [e] at h1
    simp only [List.splitOnP_nil] at h1
    cases I with
    | nil => simp only [List.nil_append, List.cons.injEq, and_true] at h1; rw [← h1] at hLne; simp at hLne
    | cons i I => cases I <;> simp at h1
  refine ⟨hrel', ?_, (I.filter fun c => !c.isEmpty).filter (fun c => c != ['.']), L, ?_, ?_, hLd⟩
  · cases n with
    | nil => exact absurd rfl hnne
    | cons a r => simpa using hrel'
  · have hL1 : (L != ['.']) = true := by
      simp only [isDots, Bool.or_eq_false_iff, beq_eq_false_iff_ne] at hLd
      simpa using hLd.1
    unfold splitSlash
    rw [hsplit]
    simp [List.filter_append, hLne, hL1]
  · have hJ := isDots_json L
    have hJ1 : (L ++ ".json".toList != ['.']) = true := by
      simp only [isDots, Bool.or_eq_false_iff, beq_eq_false_iff_ne] at hJ
      simpa using hJ.1
    have hJne : (L ++ ".json".toList).isEmpty = false := by simp
    have hsplitJ : (n ++ ".json".toList).splitOn '/' = I ++ [L ++ ".json".toList] := h2
    unfold splitSlash
    rw [hsplitJ]
    simp only [List.filter_append, List.filter_cons, List.filter_nil, hJne, hJ1, Bool.not_false, if_true]

theorem jsonPathOf_snoc (a : Comps) (l : Str) : jsonPathOf (a ++ [l]) = a ++ [l ++ ".json".toList] := by
  simp [jsonPathOf]

theorem joinNorm_snoc (a l : Comps) (c : Str) (h : isDots c = false) : joinNorm a (l ++ [c]) = joinNorm a l ++ [c] := by
  rw [C18.joinNorm_append, C18.joinNorm_plain [c] _ (by simpa using h)]

/-- **the include target of the JSON rendering.**  For a proper include name `n` and any directory: the path spelled for
    `n.json` is the JSON path of the path spelled for `n`, both have the same directory part, and the same holds after
    resolution; the resolved target is not the root -/
theorem spell_json (dir : Comps) {n : Str} (h : nameOK n = true) :
    (spellJoin dir (n ++ ".json".toList)).dropLast = (spellJoin dir n).dropLast ∧
    resolveSpelled (spellJoin dir (n ++ ".json".toList)) = jsonPathOf (resolveSpelled (spellJoin dir n)) ∧
    resolveSpelled (spellJoin dir n) ≠ [] := by
  obtain ⟨h1, h2, init, last, e1, e2, hd⟩ := name_comps h
  rw [spellJoin_rel dir _ h1, spellJoin_rel dir _ h2, e1, e2, ← List.append_assoc, ← List.append_assoc]
  refine ⟨by rw [List.dropLast_concat, List.dropLast_concat], ?_, ?_⟩
  · unfold resolveSpelled
    rw [joinNorm_snoc _ _ _ hd, joinNorm_snoc _ _ _ (isDots_json last), jsonPathOf_snoc]
  · unfold resolveSpelled
    rw [joinNorm_snoc _ _ _ hd]
    simp

theorem jsonPathOf_inj {a b : Comps} (ha : a ≠ []) (hb : b ≠ []) (h : jsonPathOf a = jsonPathOf b) : a = b := by
  obtain ⟨la, hla⟩ : ∃ l, a.getLast? = some l := by
    cases hl : a.getLast? with
    | none => exact absurd (List.getLast?_eq_none_iff.mp hl) ha
    | some l => exact ⟨l, rfl⟩
  obtain ⟨lb, hlb⟩ : ∃ l, b.getLast? = some l := by
    cases hl : b.getLast? with
    | none => exact absurd (List.getLast?_eq_none_iff.mp hl) hb
    | some l => exact ⟨l, rfl⟩
  have ea := C12.Incl.dropLast_snoc a la hla
  have eb := C12.Incl.dropLast_snoc b lb hlb
  rw [ea, eb, jsonPathOf_snoc, jsonPathOf_snoc] at h
  have hlen : [la ++ ".json".toList].length = [lb ++ ".json".toList].length := rfl
  obtain ⟨h1, h2⟩ := List.append_inj' h hlen
  have h3 : la ++ ".json".toList = lb ++ ".json".toList := List.head_eq_of_cons_eq h2
  have : la = lb := List.append_cancel_right h3
  rw [ea, eb, h1, this]

theorem jsonPathOf_beq {a b : Comps} (ha : a ≠ []) (hb : b ≠ []) : (jsonPathOf a == jsonPathOf b) = (a == b) := by
  by_cases h : a = b
  · subst h; simp
  · have : jsonPathOf a ≠ jsonPathOf b := fun e => h (jsonPathOf_inj ha hb e)
    rw [beq_eq_false_iff_ne.mpr h, beq_eq_false_iff_ne.mpr this]

theorem nameOK_json {n : Str} (h : nameOK n = true) : nameOK (n ++ ".json".toList) = true := by
  have hc := nameOK_chars h
  have hss := nameOK_noSS h
  obtain ⟨_, hhead, _⟩ := name_comps h
  have hj : ∀ x ∈ ".json".toList, (x == '/') = false := by decide
  obtain ⟨I, L, h1, h2⟩ := splitOnP_append_noSep (fun x => x == '/') ".json".toList hj n
  have hsplit : n.splitOn '/' = I ++ [L] := h1
  have hsplitJ : (n ++ ".json".toList).splitOn '/' = I ++ [L ++ ".json".toList] := h2
  have hlast : (match (n.splitOn '/').getLast? with | some l => !l.isEmpty && !isDots l | none => false) = true := by
    unfold nameOK at h
    rw [Bool.and_eq_true] at h
    exact h.2
  unfold nameOK
  rw [hsplitJ, List.getLast?_concat]
  have e1 : (n ++ ".json".toList).all (fun c => !isQuote c && !isLineBreak c) = true := by
    rw [List.all_eq_true]
    intro c hm
    rcases List.mem_append.mp hm with hm | hm
    · simp [(hc c hm).1, (hc c hm).2]
    · have : ∀ c ∈ ".json".toList, (!isQuote c && !isLineBreak c) = true := by decide
      exact this c hm
  have e2 : isInfix ['/', '/'] (n ++ ".json".toList) = false :=
    C02.Main.infix2_append hss (by decide) (fun _ hb => by revert hb; decide)
  have e3 : ((n ++ ".json".toList).head? == some '/') = false := by simpa using hhead
  have e4 : (L ++ ".json".toList).isEmpty = false := by simp
  rw [e1, e2, e3]
  simp only [e4, isDots_json, Bool.not_false, Bool.and_self]

/-! #### include names respelled: `n.json` where the target is a JSON-rendered file (used for the JSON rendering here,
     with every name respelled, and for the mixed renderings of Props/C09mixed.lean) -/

namespace Mixed

/-- the resolved target of the include name `n` written in a file of directory `d` -/
def targetOf (d : Comps) (n : Str) : Comps := resolveSpelled (spellJoin d n)

/-- an include name, spelled to match the rendering of its target -/
def rn (s : Comps → Bool) (d : Comps) (n : Str) : Str := if s (targetOf d n) then n ++ ".json".toList else n

/-- a content tree with its include names spelled for the rendering -/
def renameC (s : Comps → Bool) (d : Comps) (es : Entries) : Entries :=
  es.map fun e => if isInclEntry e then (e.1, .leaf (.str (rn s d (inclName e)))) else e

theorem renameC_names (s : Comps → Bool) (d : Comps) : ∀ es : Entries,
    inclNames (renameC s d es) = (inclNames es).map (rn s d) ∧ restOf (renameC s d es) = restOf es
  | [] => ⟨rfl, rfl⟩
  | e :: es => by
    obtain ⟨i1, i2⟩ := renameC_names s d es
    unfold renameC at i1 i2 ⊢
    cases he : isInclEntry e with
    | true =>
      obtain ⟨k, n, rfl, hk⟩ := isInclEntry_iff.mp he
      have he' : isInclEntry ((Key.str k, Val.leaf (Scalar.str (rn s d n))) : Key × Val) = true :=
        isInclEntry_iff.mpr ⟨k, _, rfl, hk⟩
      simp only [List.map_cons, he, if_true, inclNames, restOf, List.filter_cons, inclName, he', Bool.not_true,
        Bool.false_eq_true, if_false] at i1 i2 ⊢
      exact ⟨by rw [i1], i2⟩
    | false =>
      simp only [List.map_cons, he, Bool.false_eq_true, if_false, inclNames, restOf, List.filter_cons, Bool.not_false,
        if_true] at i1 i2 ⊢
      exact ⟨i1, by rw [i2]⟩

theorem rn_ok (s : Comps → Bool) (d : Comps) {n : Str} (h : nameOK n = true) : nameOK (rn s d n) = true := by
  unfold rn
  split
  · exact nameOK_json h
  · exact h

/-- respelling the include names keeps a content tree well formed, as long as different names stay different -/
theorem renameC_wf (s : Comps → Bool) (d : Comps) {es : Entries} (hw : ContentWF es)
    (hinj : ∀ a ∈ inclNames es, ∀ b ∈ inclNames es, rn s d a = rn s d b → a = b) : ContentWF (renameC s d es) := by
  obtain ⟨e1, e2⟩ := renameC_names s d es
  refine ⟨by rw [e2]; exact hw.dom, by rw [e2]; exact hw.norm, by rw [e2]; exact hw.doc, by rw [e2]; exact hw.cnt,
    by rw [e1, List.length_map]; exact hw.ninc, ?_, ?_⟩
  · intro n hn
    rw [e1] at hn
    obtain ⟨m, hm, rfl⟩ := List.mem_map.mp hn
    exact rn_ok s d (hw.names m hm)
  · rw [e1]
    exact nodup_map_of_inj_on _ _ hw.dist hinj

theorem joinNorm_result_noDots : ∀ (l a : Comps), (∀ c ∈ a, isDots c = false) → ∀ c ∈ joinNorm a l, isDots c = false
  | [], a, h => by simpa [joinNorm_nil] using h
  | x :: l, a, h => by
    rw [joinNorm_cons]
    apply joinNorm_result_noDots l
    split
    · exact fun c hc => h c (C12.Incl.mem_of_dropLast hc)
    · split
      · exact h
      · rename_i h2 h1
        intro c hc
        rcases List.mem_append.mp hc with hc | hc
        · exact h c hc
        · simp only [List.mem_singleton] at hc
          subst hc
          simp only [isDots, Bool.or_eq_false_iff]
          exact ⟨by simpa using h1, by simpa using h2⟩

theorem joinNorm_idem (l : Comps) : joinNorm [] (joinNorm [] l) = joinNorm [] l := by
  have := C18.joinNorm_plain (joinNorm [] l) [] (joinNorm_result_noDots l [] (fun _ h => by cases h))
  simpa using this

/-- the includes of an included file are anchored at its directory: as spelled, or resolved — the targets are the same -/
theorem target_dir (dir : Comps) {n : Str} (hn : nameOK n = true) {m : Str} (hm : nameOK m = true) :
    targetOf (spellJoin dir n).dropLast m = targetOf (targetOf dir n).dropLast m := by
  obtain ⟨h1, _, init, last, e1, _, hd⟩ := name_comps hn
  obtain ⟨k1, _⟩ := name_comps hm
  unfold targetOf
  rw [spellJoin_rel dir n h1, e1, ← List.append_assoc, List.dropLast_concat]
  rw [show resolveSpelled (dir ++ init ++ [last]) = joinNorm [] (dir ++ init) ++ [last] from joinNorm_snoc _ _ _ hd,
    List.dropLast_concat, spellJoin_rel _ m k1, spellJoin_rel _ m k1]
  unfold resolveSpelled
  generalize dir ++ init = D
  generalize List.filter (fun c => c != ['.']) (splitSlash m) = cs
  rw [C18.joinNorm_append [] D, C18.joinNorm_append [] (joinNorm [] D), joinNorm_idem]

end Mixed

/-- the JSON rendering respells every include name -/
theorem jsonContent_eq (d : Comps) (es : Entries) : jsonContent es = Mixed.renameC (fun _ => true) d es := by
  unfold jsonContent Mixed.renameC
  apply List.map_congr_left
  intro e _
  obtain ⟨k, v⟩ := e
  cases k with
  | int z => rfl
  | str s =>
    cases v with
    | dict es => rfl
    | list xs => rfl
    | leaf x =>
      cases x with
      | str n =>
        show (if isIncludeKey s then _ else _) = if isIncludeKey s then _ else _
        cases isIncludeKey s <;> rfl
      | _ => rfl

theorem jsonContent_wf {es : Entries} (hw : ContentWF es) : ContentWF (jsonContent es) ∧
    inclNames (jsonContent es) = (inclNames es).map (· ++ ".json".toList) ∧ restOf (jsonContent es) = restOf es := by
  have hrn : Mixed.rn (fun _ => true) [] = (· ++ ".json".toList) := funext fun n => if_pos rfl
  rw [jsonContent_eq [], ← hrn]
  exact ⟨Mixed.renameC_wf _ _ hw fun a _ b _ h => List.append_cancel_right (hrn ▸ h), Mixed.renameC_names _ _ es⟩

/-- **the JSON parser on the rendering of a file.**  The data are the ordinary entries of the content tree behind the
    include placeholder entries; the include table lists the rendered names in document order -/
theorem json_file (dir : Comps) (c : Counter) (es : Entries) (hw : ContentWF es) (hc : C13.ValidCounter Gen.counterLimit c) :
    ∃ sd, parseJson dir c (jsonContent es) = (sd, C02.adv Gen.counterLimit (inclNames es).length c) ∧ Good sd ∧
      S sd = restOf es ∧ sd.incl.map (·.2.file) = (inclNames es).map (· ++ ".json".toList) := by
  obtain ⟨hw', e1, e2⟩ := jsonContent_wf hw
  obtain ⟨sd, h1, h2, h3, h4⟩ := json_fileRaw dir c _ hw' hc
  rw [e1, List.length_map] at h1
  rw [e2] at h3
  rw [e1] at h4
  exact ⟨sd, h1, h2, h3, h4⟩

/-! ## 8. the renderings of a document -/

/-- a well-formed model document: every content tree is well formed, no file is the root directory -/
structure DocWF (doc : Doc) : Prop where
  content : ∀ f ∈ doc, ContentWF f.2
  paths : ∀ f ∈ doc, f.1 ≠ []

abbrev filesOf (x : SD) : List Str := x.incl.map fun e => e.2.file

abbrev fsN (doc : Doc) : FS := renderNative doc
abbrev fsJ (doc : Doc) : FS := renderJson doc

abbrev Valid (c : Counter) : Prop := C13.ValidCounter Gen.counterLimit c

/-- One rendering of a document, as far as the reader looks at it: the file system `fs`, the path `path t` the file `t`
    is written to, the spelling `name d n` of the include name `n` in a file of directory `d`, the body `body f` of a
    file; `Adm` are the paths on which the rendering is faithful. -/
structure View (doc : Doc) (Adm : Comps → Prop) (fs : FS) (path : Comps → Comps) (name : Comps → Str → Str)
    (body : Comps × Entries → FileBody) : Prop where
  spell : ∀ (d : Comps) {n : Str}, nameOK n = true → resolveSpelled (spellJoin d (name d n)) = path (Mixed.targetOf d n) ∧
    (spellJoin d (name d n)).dropLast = (spellJoin d n).dropLast
  name_target : ∀ {d d' : Comps} {n : Str}, Mixed.targetOf d n = Mixed.targetOf d' n → name d n = name d' n
  files : fs = doc.map fun f => (path f.1, body f)
  doc_adm : ∀ f ∈ doc, Adm f.1
  path_beq : ∀ {a t : Comps}, Adm a → Adm t → (path a == path t) = (a == t)
  body_spec : ∀ f ∈ doc, ∃ es, ContentWF es ∧ (body f = .native (nativeText es) ∨ body f = .json es) ∧
    restOf es = restOf f.2 ∧ inclNames es = (inclNames f.2).map (name f.1.dropLast)

section View
variable {doc : Doc} {Adm : Comps → Prop} {fs : FS} {path : Comps → Comps} {name : Comps → Str → Str}
  {body : Comps × Entries → FileBody} (hV : View doc Adm fs path name body)
include hV

theorem View.get {t : Comps} (ht : Adm t) : fs.get (path t) = (doc.find? fun f => f.1 == t).map body := by
  rw [hV.files]
  unfold FS.get
  suffices H : ∀ l : Doc, (∀ g ∈ l, Adm g.1) →
      (List.find? (fun e => e.1 == path t) (l.map fun f => (path f.1, body f))).map (·.2) =
        (l.find? fun f => f.1 == t).map body from H doc hV.doc_adm
  intro l
  induction l with
  | nil => intro _; rfl
  | cons f l ih =>
    intro hl
    simp only [List.map_cons, List.find?_cons]
    rw [hV.path_beq (hl f List.mem_cons_self) ht]
    cases hfp : f.1 == t with
    | true => rfl
    | false => exact ih fun g hg => hl g (List.mem_cons_of_mem _ hg)

theorem View.contains {t : Comps} (ht : Adm t) : ∀ (anc : List Comps), (∀ a ∈ anc, Adm a) →
    (anc.map path).contains (path t) = anc.contains t
  | [], _ => rfl
  | a :: anc, h => by
    simp only [List.map_cons, List.contains_cons]
    rw [View.contains ht anc fun x hx => h x (List.mem_cons_of_mem _ hx), hV.path_beq ht (h a List.mem_cons_self)]

theorem View.parse {c : Counter} {sp t : Comps} {x : SD} {c1 : Counter} (hc : Valid c) (ht : Adm t)
    (hres : resolveSpelled sp = path t) (h : parseFile fs true c sp = .ok (x, c1)) :
    ∃ f, (doc.find? fun g => g.1 == t) = some f ∧ Good x ∧ S x = restOf f.2 ∧
      filesOf x = (inclNames f.2).map (name f.1.dropLast) := by
  unfold parseFile at h
  rw [hres, hV.get ht] at h
  cases hx : isXmlPath sp with
  | true => rw [hx] at h; simp at h
  | false =>
    rw [hx] at h
    simp only [Bool.false_eq_true, if_false] at h
    cases hf : doc.find? (fun g => g.1 == t) with
    | none => rw [hf] at h; simp at h
    | some f =>
      rw [hf] at h
      simp only [Option.map_some] at h
      obtain ⟨es, hw, hb, e2, e1⟩ := hV.body_spec f (List.mem_of_find?_eq_some hf)
      rcases hb with hb | hb <;> rw [hb] at h
      · cases hj : isJsonPath sp with
        | true => rw [hj] at h; simp at h
        | false =>
          rw [hj] at h
          simp only [Bool.false_eq_true, if_false] at h
          obtain ⟨sd, c', hp, -, hg, hS, hi⟩ := native_file (pathStr sp.dropLast) c es hw hc
          rw [hp] at h
          simp only [Except.ok.injEq, Prod.mk.injEq] at h
          obtain ⟨rfl, rfl⟩ := h
          refine ⟨f, rfl, ⟨hg.nodup, hg.exprs, hg.safe, hg.vals⟩, by rw [← e2]; exact hS, ?_⟩
          show List.map (fun e : Nat × InclEntry => e.2.file) (List.map _ sd.incl) = _
          rw [List.map_map, ← e1]
          exact hi
      · cases hj : isJsonPath sp with
        | false => rw [hj] at h; simp at h
        | true =>
          rw [hj] at h
          simp only [if_true, Except.ok.injEq] at h
          obtain ⟨sd, hpj, hg, hS, hi⟩ := json_fileRaw sp.dropLast c es hw hc
          rw [hpj] at h
          simp only [Prod.mk.injEq] at h
          obtain ⟨rfl, rfl⟩ := h
          exact ⟨f, rfl, hg, by rw [← e2]; exact hS, by rw [← e1]; exact hi⟩

end View

/-- the native rendering: every file where it is, the include names as they are -/
theorem viewN {doc : Doc} (hd : DocWF doc) :
    View doc (· ≠ []) (fsN doc) id (fun _ n => n) fun f => .native (nativeText f.2) where
  spell := fun _ _ _ => ⟨rfl, rfl⟩
  name_target := fun _ => rfl
  files := renderNative_eq doc
  doc_adm := hd.paths
  path_beq := fun _ _ => rfl
  body_spec := fun f hf => ⟨f.2, hd.content f hf, Or.inl rfl, rfl, (List.map_id' _).symm⟩

/-- the JSON rendering: `.json` on every path and on every include name -/
theorem viewJ {doc : Doc} (hd : DocWF doc) :
    View doc (· ≠ []) (fsJ doc) jsonPathOf (fun _ n => n ++ ".json".toList) fun f => .json (jsonContent f.2) where
  spell := fun d _ h => ⟨(spell_json d h).2.1, (spell_json d h).1⟩
  name_target := fun _ => rfl
  files := renderJson_eq doc
  doc_adm := hd.paths
  path_beq := jsonPathOf_beq
  body_spec := fun f hf => ⟨_, (jsonContent_wf (hd.content f hf)).1, Or.inr rfl, (jsonContent_wf (hd.content f hf)).2.2,
    (jsonContent_wf (hd.content f hf)).2.1⟩

/-- **(a) the per-file lemma.**  A file of a well-formed document, parsed from its native rendering and from its JSON
    rendering (from any two counter states, under any spelling of its path): both parsers succeed on it or fail on its
    path only; when they succeed, the two results have the same data up to the include placeholder entries — the
    ordinary entries of the content tree — and include tables that list the same names (`n` / `n.json`), in order -/
theorem C09_file_equiv {doc : Doc} (hd : DocWF doc) {c c' : Counter} {sp spJ : Comps} {x y : SD} {c1 c1' : Counter}
    (hc : Valid c) (hc' : Valid c') (hne : resolveSpelled sp ≠ []) (hres : resolveSpelled spJ = jsonPathOf (resolveSpelled sp))
    (h : parseFile (fsN doc) true c sp = .ok (x, c1)) (h' : parseFile (fsJ doc) true c' spJ = .ok (y, c1')) :
    stripEs x.data = stripEs y.data ∧ filesOf y = (filesOf x).map (· ++ ".json".toList) ∧
      C01.dropPhEntries x.data = C01.dropPhEntries y.data := by
  obtain ⟨f, hf, hg, hs, hi⟩ := (viewN hd).parse hc hne rfl h
  obtain ⟨f', hf', hg', hs', hi'⟩ := (viewJ hd).parse hc' hne hres h'
  rw [hf] at hf'
  cases hf'
  have e : stripEs x.data = stripEs y.data := hs.trans hs'.symm
  refine ⟨e, by rw [hi', hi, List.map_id'], ?_⟩
  rw [← valsNoPh_strip_eq _ hg.vals, ← valsNoPh_strip_eq _ hg'.vals, e]

theorem resolve_jsonPathOf {root : Comps} (hroot : ∀ comp ∈ root, isDots comp = false) :
    resolveSpelled root = root ∧ resolveSpelled (jsonPathOf root) = jsonPathOf root := by
  refine ⟨by simpa [resolveSpelled] using C18.joinNorm_plain root [] hroot, ?_⟩
  have : ∀ comp ∈ jsonPathOf root, isDots comp = false := by
    intro comp hc
    unfold jsonPathOf at hc
    rcases List.mem_append.mp hc with h | h
    · exact hroot comp (C12.Incl.mem_of_dropLast h)
    · simp only [List.mem_singleton] at h; rw [h]; exact isDots_json _
  simpa [resolveSpelled] using C18.joinNorm_plain (jsonPathOf root) [] this

theorem dropLast_jsonPathOf (p : Comps) : (jsonPathOf p).dropLast = p.dropLast := by
  unfold jsonPathOf; rw [List.dropLast_concat]

/-- the reader above `parse_file`, for the default options -/
theorem readFile_default (ev : Str → EvalResult) (fs : FS) (c : Counter) (p : Comps) (sd : SD) (c2 : Counter)
    (h : readFile ev fs {} c p = .ok (.ok sd c2)) :
    ∃ x c1 m, parseFile fs true c p = .ok (x, c1) ∧
      mergeIncludesRec fs true (fs.length + 1) [] x p.dropLast c1 = .ok (m, c2) ∧
      evalExpressions ev (m.merge (.sd m)) = .ok sd := by
  obtain ⟨r, hr, ho⟩ := readFile_ok h
  obtain ⟨r1, r2, h1, h2, h3, e⟩ := readFront_ok hr
  obtain ⟨rfl, rfl⟩ := ReadOut.ok.inj (ho : ReadOut.ok sd c2 = .ok r.1 r.2)
  obtain ⟨m, hm, h2⟩ := Except.bind_eq_ok (h2 : mergeIncludes fs true r1.1 p.dropLast r1.2 = .ok r2)
  cases h2
  exact ⟨r1.1, r1.2, m.1, h1, e ▸ hm, h3⟩

/-! ## 9. the include merge on a rendering of a document computes, up to placeholder entries, what the document says:
       it depends on the parsed files only through their stripped data and the file-name column of their include tables -/

section Views
open Mixed (targetOf target_dir)

/-- one round of the include loop, read off the document: `T` the stripped data merged so far, `n` the include name -/
def stepDoc (doc : Doc) (recur : List Comps → Entries → List Str → Comps → Entries) (anc : List Comps) (dir : Comps)
    (T : Entries) (n : Str) : Entries :=
  if anc.contains (targetOf dir n) then T
  else match doc.find? fun f => f.1 == targetOf dir n with
    | none => T
    | some f =>
      if (inclNames f.2).isEmpty then mergeD false [] T (restOf f.2)
      else
        let r := recur (anc ++ [targetOf dir n]) (restOf f.2) (inclNames f.2) (spellJoin dir n).dropLast
        mergeD false [] (mergeD false [] T r) r

/-- the stripped data `_merge_includes_recursive` returns for a file with the stripped data `P` and the include names
    `names`, read in the directory `dir` -/
def mergeDoc (doc : Doc) : Nat → List Comps → Entries → List Str → Comps → Entries
  | 0, _, P, _, _ => P
  | fuel + 1, anc, P, names, dir => mergeD false [] P (names.foldl (stepDoc doc (mergeDoc doc fuel) anc dir) [])

def RecV (doc : Doc) (Adm : Comps → Prop) (fs : FS) (path : Comps → Comps) (name : Comps → Str → Str) (fuel : Nat) : Prop :=
  ∀ (anc : List Comps) (x : SD) (dir : Comps) (c : Counter) (r : SD) (c1 : Counter) (names : List Str),
    (∀ a ∈ anc, Adm a) → Good x → (∀ n ∈ names, nameOK n = true) → (∀ n ∈ names, Adm (targetOf dir n)) →
    filesOf x = names.map (name dir) → Valid c →
    mergeIncludesRec fs true fuel (anc.map path) x dir c = .ok (r, c1) →
    Good r ∧ S r = mergeDoc doc fuel anc (S x) names dir

variable {doc : Doc} {Adm : Comps → Prop} {fs : FS} {path : Comps → Comps} {name : Comps → Str → Str}
  {body : Comps × Entries → FileBody} (hV : View doc Adm fs path name body) (hd : DocWF doc)
  (htg : ∀ f ∈ doc, ∀ m ∈ inclNames f.2, Adm (targetOf f.1.dropLast m))
include hV hd htg

theorem View.loop (fuel : Nat) (hrec : RecV doc Adm fs path name fuel) (anc : List Comps) (dir : Comps)
    (hanc : ∀ a ∈ anc, Adm a) {l : List (Nat × InclEntry)} {acc acc' : SD × Counter}
    (h : Loop fs true (fun a x d c n => mergeIncludesRec fs true fuel a x d c = .ok n) (anc.map path) dir l acc acc') :
    ∀ (names : List Str), names.map (name dir) = (l.map fun e => e.2.file) →
    (∀ n ∈ names, nameOK n = true ∧ Adm (targetOf dir n)) → Good acc.1 → Valid acc.2 →
    Good acc'.1 ∧ S acc'.1 = names.foldl (stepDoc doc (mergeDoc doc fuel) anc dir) (S acc.1) := by
  have head : ∀ {e : Nat × InclEntry} {n : Str}, name dir n = e.2.file → nameOK n = true → Adm (targetOf dir n) →
      resolveSpelled (spellJoin dir e.2.file) = path (targetOf dir n) ∧
      (spellJoin dir e.2.file).dropLast = (spellJoin dir n).dropLast ∧
      (anc.map path).contains (resolveSpelled (spellJoin dir e.2.file)) = anc.contains (targetOf dir n) ∧
      fs.get (resolveSpelled (spellJoin dir e.2.file)) = (doc.find? fun f => f.1 == targetOf dir n).map body := by
    intro e n he hn cn
    obtain ⟨hres, hdl⟩ := hV.spell dir hn
    rw [he] at hres hdl
    exact ⟨hres, hdl, by rw [hres]; exact hV.contains cn anc hanc, by rw [hres]; exact hV.get cn⟩
  have live : ∀ {e : Nat × InclEntry} {n : Str} {b : FileBody} {c c1 : Counter} {x : SD}, name dir n = e.2.file → nameOK n = true →
      Adm (targetOf dir n) → fs.get (resolveSpelled (spellJoin dir e.2.file)) = some b → Valid c →
      parseFile fs true c (spellJoin dir e.2.file) = .ok (x, c1) →
      ∃ f, (doc.find? fun g => g.1 == targetOf dir n) = some f ∧ f ∈ doc ∧ Good x ∧ S x = restOf f.2 ∧
        filesOf x = (inclNames f.2).map (name (spellJoin dir n).dropLast) ∧
        x.incl.isEmpty = (inclNames f.2).isEmpty ∧
        ∀ m ∈ inclNames f.2, targetOf (spellJoin dir n).dropLast m = targetOf f.1.dropLast m := by
    intro e n b c c1 x he hn cn h2 hc hp
    obtain ⟨hres, _, _, _⟩ := head he hn cn
    obtain ⟨f, hf, gx, sx, ix⟩ := hV.parse hc cn hres hp
    have hfm : f ∈ doc := List.mem_of_find?_eq_some hf
    have hf1 : f.1 = targetOf dir n := by simpa using List.find?_some hf
    have htd : ∀ m ∈ inclNames f.2, targetOf (spellJoin dir n).dropLast m = targetOf f.1.dropLast m := fun m hm => by
      rw [hf1]; exact target_dir dir hn ((hd.content f hfm).names m hm)
    rw [List.map_congr_left fun m hm => hV.name_target (htd m hm).symm] at ix
    refine ⟨f, hf, hfm, gx, sx, ix, ?_, htd⟩
    have e1 := congrArg List.length ix
    simp only [filesOf, List.length_map] at e1
    rw [Bool.eq_iff_iff, List.isEmpty_iff_length_eq_zero, List.isEmpty_iff_length_eq_zero, e1]
  induction h with
  | nil acc =>
    intro names hl _ hg hc
    obtain rfl := List.map_eq_nil_iff.mp hl
    exact ⟨hg, rfl⟩
  | @cut e l acc acc' hcut _ ih =>
    intro names hl hn hg hc
    obtain ⟨n, names, rfl, he, hl⟩ := List.map_eq_cons_iff.mp hl
    obtain ⟨⟨hn0, cn0⟩, hn⟩ := List.forall_mem_cons.mp hn
    obtain ⟨_, _, hcont, hget⟩ := head he hn0 cn0
    have e : stepDoc doc (mergeDoc doc fuel) anc dir (S acc.1) n = S acc.1 := by
      unfold stepDoc
      rw [hcont, hget] at hcut
      rcases hcut with h1 | h1
      · rw [h1]; rfl
      · cases hf : doc.find? (fun g => g.1 == targetOf dir n) with
        | none => split <;> rfl
        | some f => rw [hf] at h1; cases h1
    rw [List.foldl_cons, e]
    exact ih names hl hn hg hc
  | @leaf e l acc acc' b x c1 h1 h2 hp hi _ ih =>
    intro names hl hn hg hc
    obtain ⟨n, names, rfl, he, hl⟩ := List.map_eq_cons_iff.mp hl
    obtain ⟨⟨hn0, cn0⟩, hn⟩ := List.forall_mem_cons.mp hn
    obtain ⟨_, _, hcont, _⟩ := head he hn0 cn0
    obtain ⟨f, hf, hfm, gx, sx, ix, hemp, htd⟩ := live he hn0 cn0 h2 hc hp
    have vx := parseFile_valid hp hc
    obtain ⟨m1, m2⟩ := Good.merge hg gx
    have e : stepDoc doc (mergeDoc doc fuel) anc dir (S acc.1) n = S (acc.1.merge (.sd x)) := by
      unfold stepDoc
      rw [← hcont, h1, hf]
      simp only [Bool.false_eq_true, if_false]
      rw [← hemp, hi, m2, sx, if_pos rfl]
    rw [List.foldl_cons, e]
    exact ih names hl hn m1 vx
  | @node e l acc acc' b x c1 nn h1 h2 hp hi hm _ ih =>
    intro names hl hn hg hc
    obtain ⟨n, names, rfl, he, hl⟩ := List.map_eq_cons_iff.mp hl
    obtain ⟨⟨hn0, cn0⟩, hn⟩ := List.forall_mem_cons.mp hn
    obtain ⟨hres, hdl, hcont, _⟩ := head he hn0 cn0
    obtain ⟨f, hf, hfm, gx, sx, ix, hemp, htd⟩ := live he hn0 cn0 h2 hc hp
    have vx := parseFile_valid hp hc
    rw [hres, hdl, ← List.map_singleton (f := path), ← List.map_append] at hm
    have hanc' : ∀ a ∈ anc ++ [targetOf dir n], Adm a := by
      intro a ha
      rcases List.mem_append.mp ha with ha | ha
      · exact hanc a ha
      · rw [List.mem_singleton.mp ha]; exact cn0
    obtain ⟨r1, r2⟩ := hrec _ x _ c1 nn.1 nn.2 (inclNames f.2) hanc' gx (hd.content f hfm).names
      (fun m hm0 => by rw [htd m hm0]; exact htg f hfm m hm0) ix vx hm
    obtain ⟨a1, a2⟩ := Good.merge hg r1
    obtain ⟨b1, b2⟩ := Good.merge a1 r1
    have e : stepDoc doc (mergeDoc doc fuel) anc dir (S acc.1) n = S ((acc.1.merge (.sd nn.1)).merge (.sd nn.1)) := by
      unfold stepDoc
      rw [← hcont, h1, hf]
      simp only [Bool.false_eq_true, if_false]
      rw [← hemp, hi, b2, a2, r2, sx]
      simp only [Bool.false_eq_true, if_false]
    rw [List.foldl_cons, e]
    exact ih names hl hn b1 (mergeIncludesRec_valid _ _ _ _ _ _ _ nn hm vx)

/-- **(b) `_merge_includes_recursive` on a rendering of a document** computes `mergeDoc`; by induction on the fuel -/
theorem View.mergeRec : ∀ fuel, RecV doc Adm fs path name fuel
  | 0 => by
    intro anc x dir c r c1 names _ gx _ _ _ hc h
    obtain ⟨rfl, rfl⟩ := Prod.mk.inj (Except.ok.inj h)
    exact ⟨gx, rfl⟩
  | fuel + 1 => by
    intro anc x dir c r c1 names hanc gx hnames hcn hfx hc h
    obtain ⟨t, hl, hr⟩ := rec_succ_iff.mp h
    obtain ⟨rfl, rfl⟩ := Prod.mk.inj hr
    obtain ⟨o1, o2⟩ := View.loop hV hd htg fuel (View.mergeRec fuel) anc dir hanc hl names hfx.symm (fun n h => ⟨hnames n h, hcn n h⟩) Good.empty hc
    obtain ⟨m1, m2⟩ := Good.merge gx o1
    exact ⟨m1, by rw [m2, o2]; rfl⟩

/-- **the whole reader on a rendering of a document**: the file `root`, read from its rendering `r`, gives the data of
    `mergeDoc` up to the comment / include placeholder entries, as ordered dicts at every level -/
theorem View.read (ev : Str → EvalResult) {root r : Comps} {c : Counter} (hr : Adm root)
    (hres : resolveSpelled r = path root ∧ r.dropLast = root.dropLast) (hc : Valid c) {sd : SD} {c2 : Counter}
    (h : readFile ev fs {} c r = .ok (.ok sd c2)) :
    ∃ f, (doc.find? fun g => g.1 == root) = some f ∧ C01.dropPhEntries sd.data = stripEs sd.data ∧
      stripEs sd.data = (fun m => mergeD false [] m m) (mergeDoc doc (doc.length + 1) [] (restOf f.2) (inclNames f.2) root.dropLast) := by
  obtain ⟨x, c1, m, hp, hm, he⟩ := readFile_default ev _ c _ sd c2 h
  obtain ⟨f, hf, gx, sx, ix⟩ := hV.parse hc hr hres.1 hp
  have vx := parseFile_valid hp hc
  have hfm : f ∈ doc := List.mem_of_find?_eq_some hf
  have hf1 : f.1 = root := by
    have := List.find?_some hf
    simpa using this
  rw [congrArg List.length hV.files, List.length_map, hres.2, ← hf1] at hm
  obtain ⟨o1, o2⟩ := View.mergeRec hV hd htg _ [] x _ c1 m c2 (inclNames f.2) (fun _ h => by cases h) gx
    (hd.content f hfm).names (htg f hfm) ix vx hm
  obtain ⟨a1, a2⟩ := Good.merge o1 o1
  rw [evalExpressions_noexpr ev _ a1.exprs] at he
  obtain rfl := Except.ok.inj he
  refine ⟨f, hf, (valsNoPh_strip_eq _ a1.vals).symm, ?_⟩
  show S _ = _
  rw [a2, o2, sx, hf1]

end Views

structure Out (r r' : SD) (c1 c1' : Counter) : Prop where
  good : Good r
  good' : Good r'
  eq : S r = S r'
  valid : Valid c1
  valid' : Valid c1'

def RecCongr (doc : Doc) (fuel : Nat) : Prop :=
  ∀ (anc : List Comps) (x y : SD) (dir : Comps) (c c' : Counter) (r r' : SD) (c1 c1' : Counter),
    (∀ a ∈ anc, a ≠ []) → Good x → Good y → S x = S y → filesOf y = (filesOf x).map (· ++ ".json".toList) →
    (∀ n ∈ filesOf x, nameOK n = true) → Valid c → Valid c' →
    mergeIncludesRec (fsN doc) true fuel anc x dir c = .ok (r, c1) →
    mergeIncludesRec (fsJ doc) true fuel (anc.map jsonPathOf) y dir c' = .ok (r', c1') →
    Out r r' c1 c1'

theorem targets_ne {doc : Doc} (hd : DocWF doc) : ∀ f ∈ doc, ∀ m ∈ inclNames f.2, Mixed.targetOf f.1.dropLast m ≠ [] :=
  fun f hf m hm => (spell_json _ ((hd.content f hf).names m hm)).2.2

theorem rec_congr {doc : Doc} (hd : DocWF doc) : ∀ fuel, RecCongr doc fuel := by
  intro fuel anc x y dir c c' r r' c1 c1' hanc gx gy hs hfiles hnames hc hc' h h'
  have hcn : ∀ n ∈ filesOf x, Mixed.targetOf dir n ≠ [] := fun n hn => (spell_json dir (hnames n hn)).2.2
  rw [← List.map_id anc] at h
  obtain ⟨g1, s1⟩ := (viewN hd).mergeRec hd (targets_ne hd) fuel anc x dir c r c1 _ hanc gx hnames hcn (List.map_id' _).symm hc h
  obtain ⟨g2, s2⟩ := (viewJ hd).mergeRec hd (targets_ne hd) fuel anc y dir c' r' c1' _ hanc gy hnames hcn hfiles hc' h'
  exact ⟨g1, g2, by rw [s1, s2, hs], mergeIncludesRec_valid _ _ _ _ _ _ _ _ h hc,
    mergeIncludesRec_valid _ _ _ _ _ _ _ _ h' hc'⟩

/-! ## 10. the whole reader -/

/-- **C09, equivalence for include graphs without expressions.**  A well-formed model document (content trees whose
    ordinary part lies in the value domain — hence without `$` —, proper and pairwise different include names per file,
    any include graph: missing targets, diamonds and cycles included), rendered once in native syntax and once in JSON
    syntax, reads through `DictReader.read` to equal data up to the comment / include placeholder entries, as ordered
    dicts at every level, whatever the two counter states. -/
theorem C09_equiv_includes (ev : Str → EvalResult) (doc : Doc) (root : Comps) (c c' : Counter)
    (hd : DocWF doc) (hr : root ≠ []) (hroot : ∀ comp ∈ root, isDots comp = false) (hc : Valid c) (hc' : Valid c') :
    ∀ sdN cN sdJ cJ,
      readFile ev (renderNative doc) {} c root = .ok (.ok sdN cN) →
      readFile ev (renderJson doc) {} c' (jsonPathOf root) = .ok (.ok sdJ cJ) →
      C01.dropPhEntries sdN.data = C01.dropPhEntries sdJ.data ∧ stripEs sdN.data = stripEs sdJ.data := by
  intro sdN cN sdJ cJ h h'
  obtain ⟨r1, r2⟩ := resolve_jsonPathOf hroot
  obtain ⟨f, hf, d1, s1⟩ := (viewN hd).read hd (targets_ne hd) ev hr ⟨r1, rfl⟩ hc h
  obtain ⟨f', hf', d2, s2⟩ := (viewJ hd).read hd (targets_ne hd) ev hr ⟨r2, dropLast_jsonPathOf root⟩ hc' h'
  rw [hf] at hf'
  cases hf'
  exact ⟨by rw [d1, d2, s1, s2], by rw [s1, s2]⟩

/-! ## 11. non-vacuity: a three-file document (`main` includes `a` and `sub/b`; `sub/b` includes `../a`) -/

namespace Ex

def sk (s : String) : Key := .str s.toList
def sv (s : String) : Val := .leaf (.str s.toList)

def exRoot : Comps := ["w".toList, "main".toList]

def mainC : Entries :=
  [(sk "#include", sv "a"), (sk "x", .leaf (.int 1)), (sk "#include 2", sv "sub/b"), (sk "d", .dict [(sk "p", sv "main")])]

def aC : Entries := [(sk "y", .leaf (.int 2)), (sk "d", .dict [(sk "q", sv "from a")]), (sk "x", .leaf (.int 9))]

def bC : Entries :=
  [(sk "#include", sv "../a"), (sk "z", sv "hello world"), (sk "d", .dict [(sk "r", .leaf (.float "1.5".toList))]),
   (sk "#include 2", sv "nothere")]

/-- `/w/main`, `/w/a`, `/w/sub/b` -/
def exDoc : Doc :=
  [(["w".toList, "main".toList], mainC), (["w".toList, "a".toList], aC), (["w".toList, "sub".toList, "b".toList], bC)]

/-! the native texts, line by line (`fmtEntries` is unfolded with its equations: the kernel does not evaluate it) -/

theorem mainC_text : nativeText mainC = C01.unlines
    ["#include 'a'", "#include 'sub/b'", "x                             1;", "d", "{", "    p                         main;", "}"] := by
  have e1 : inclNames mainC = ["a".toList, "sub/b".toList] := by decide +kernel
  have e2 : restOf mainC = [(sk "x", .leaf (.int 1)), (sk "d", .dict [(sk "p", sv "main")])] := by decide +kernel
  rw [nativeText_eval _ e1 e2 (by decide +kernel)]
  simp only [C01.unlines, List.flatMap_cons, List.flatMap_nil]
  unfold lineOf
  literal_chars
  simp only [sk, sv, fmtEntries, formatKey, keyStr, formatScalar]
  decide +kernel

theorem aC_text : nativeText aC = C01.unlines
    ["y                             2;", "d", "{", "    q                         'from a';", "}",
     "x                             9;"] := by
  have e1 : inclNames aC = [] := by decide +kernel
  have e2 : restOf aC = aC := by decide +kernel
  rw [nativeText_eval _ e1 e2 (by decide +kernel)]
  simp only [C01.unlines, List.flatMap_cons, List.flatMap_nil]
  literal_chars
  simp only [aC, sk, sv, fmtEntries, formatKey, keyStr, formatScalar]
  decide +kernel

theorem bC_text : nativeText bC = C01.unlines
    ["#include '../a'", "#include 'nothere'", "z                             'hello world';", "d", "{",
     "    r                         1.5;", "}"] := by
  have e1 : inclNames bC = ["../a".toList, "nothere".toList] := by decide +kernel
  have e2 : restOf bC = [(sk "z", sv "hello world"), (sk "d", .dict [(sk "r", .leaf (.float "1.5".toList))])] := by
    decide +kernel
  rw [nativeText_eval _ e1 e2 (by decide +kernel)]
  simp only [C01.unlines, List.flatMap_cons, List.flatMap_nil]
  unfold lineOf
  literal_chars
  simp only [sk, sv, fmtEntries, formatKey, keyStr, formatScalar]
  decide +kernel

/-- the native rendering of the example, as texts -/
def exFsN : FS :=
  [(["w".toList, "main".toList], .native (C01.unlines
      ["#include 'a'", "#include 'sub/b'", "x                             1;", "d", "{", "    p                         main;", "}"])),
   (["w".toList, "a".toList], .native (C01.unlines
      ["y                             2;", "d", "{", "    q                         'from a';", "}",
       "x                             9;"])),
   (["w".toList, "sub".toList, "b".toList], .native (C01.unlines
      ["#include '../a'", "#include 'nothere'", "z                             'hello world';", "d", "{",
       "    r                         1.5;", "}"]))]

theorem exDoc_native_fs : renderNative exDoc = exFsN := by
  rw [renderNative_eq]
  simp only [exDoc, List.map_cons, List.map_nil, mainC_text, aC_text, bC_text]
  rfl

def dataOf : Except ParseErr ReadOut → Option Entries
  | .ok (.ok sd _) => some sd.data
  | _ => none

theorem exDoc_wf : DocWF exDoc := by
  refine ⟨fun f hf => ?_, fun f hf => ?_⟩
  · simp only [exDoc, List.mem_cons, List.not_mem_nil, or_false] at hf
    rcases hf with rfl | rfl | rfl <;>
      exact ⟨by decide +kernel, by decide +kernel, by decide +kernel, by decide +kernel, by decide +kernel,
        by decide +kernel, by decide +kernel⟩
  · simp only [exDoc, List.mem_cons, List.not_mem_nil, or_false] at hf
    rcases hf with rfl | rfl | rfl <;> simp

/-- what both reads return, up to the placeholder entries: the including file wins (`x = 1`), dicts are merged level by
    level, `a` arrives once although it is included twice (directly and through `sub/b`) -/
def exExpected : Entries :=
  [(sk "x", .leaf (.int 1)), (sk "d", .dict [(sk "p", sv "main"), (sk "q", sv "from a"), (sk "r", .leaf (.float "1.5".toList))]),
   (sk "y", .leaf (.int 2)), (sk "z", sv "hello world")]

/-- what a read returns in full: the include placeholder entries `INCLUDE00000i`, `INCLUDE00000j` of `sub/b` stand where
    its directives stood -/
def exData (i j : String) : Entries :=
  [(sk "INCLUDE000000", sv "INCLUDE000000"), (sk "INCLUDE000001", sv "INCLUDE000001"), (sk "x", .leaf (.int 1)),
   (sk "d", .dict [(sk "p", sv "main"), (sk "q", sv "from a"), (sk "r", .leaf (.float "1.5".toList))]),
   (sk "y", .leaf (.int 2)), (sk i, sv i), (sk j, sv j), (sk "z", sv "hello world")]

set_option synthInstance.maxSize 1000 in
theorem exDoc_native_data :
    dataOf (readFile evalInt exFsN {} none exRoot) = some (exData "INCLUDE000003" "INCLUDE000004") := by
  unfold exFsN exRoot exData
  simp only [C01.unlines, List.flatMap_cons, List.flatMap_nil, sk, sv]
  literal_chars
  decide +kernel

set_option synthInstance.maxSize 1000 in
theorem exDoc_json_data : dataOf (readFile evalInt (renderJson exDoc) {} none (jsonPathOf exRoot)) =
    some (exData "INCLUDE000002" "INCLUDE000003") := by
  decide +kernel

theorem exDoc_native : (dataOf (readFile evalInt (renderNative exDoc) {} none exRoot)).map C01.dropPhEntries = some exExpected := by
  rw [exDoc_native_fs, exDoc_native_data]
  decide +kernel

theorem exDoc_json :
    (dataOf (readFile evalInt (renderJson exDoc) {} none (jsonPathOf exRoot))).map C01.dropPhEntries = some exExpected := by
  rw [exDoc_json_data]
  decide +kernel

/-- the native read carries placeholder entries (so the comparison up to them is not empty talk) -/
theorem exDoc_native_keys : (dataOf (readFile evalInt (renderNative exDoc) {} none exRoot)).map keys =
    some [sk "INCLUDE000000", sk "INCLUDE000001", sk "x", sk "d", sk "y", sk "INCLUDE000003", sk "INCLUDE000004", sk "z"] := by
  rw [exDoc_native_fs, exDoc_native_data]
  rfl

theorem exDoc_json_keys : (dataOf (readFile evalInt (renderJson exDoc) {} none (jsonPathOf exRoot))).map keys =
    some [sk "INCLUDE000000", sk "INCLUDE000001", sk "x", sk "d", sk "y", sk "INCLUDE000002", sk "INCLUDE000003", sk "z"] := by
  rw [exDoc_json_data]
  rfl

/-- the theorem on the example: its hypotheses hold, both reads succeed, and its conclusion is the equality that the two
    evaluations above show -/
theorem exDoc_equiv : ∃ sdN cN sdJ cJ,
    readFile evalInt (renderNative exDoc) {} none exRoot = .ok (.ok sdN cN) ∧
    readFile evalInt (renderJson exDoc) {} none (jsonPathOf exRoot) = .ok (.ok sdJ cJ) ∧
    C01.dropPhEntries sdN.data = C01.dropPhEntries sdJ.data ∧ C01.dropPhEntries sdN.data = exExpected := by
  have h1 := exDoc_native
  have h2 := exDoc_json
  cases hN : readFile evalInt (renderNative exDoc) {} none exRoot with
  | error z => rw [hN] at h1; cases h1
  | ok rN =>
    cases rN with
    | exit1 => rw [hN] at h1; cases h1
    | ok sdN cN =>
      cases hJ : readFile evalInt (renderJson exDoc) {} none (jsonPathOf exRoot) with
      | error z => rw [hJ] at h2; cases h2
      | ok rJ =>
        cases rJ with
        | exit1 => rw [hJ] at h2; cases h2
        | ok sdJ cJ =>
          refine ⟨sdN, cN, sdJ, cJ, rfl, rfl, ?_, ?_⟩
          · exact (C09_equiv_includes evalInt exDoc exRoot none none exDoc_wf (by decide) (by decide) (Or.inl rfl) (Or.inl rfl)
              sdN cN sdJ cJ hN hJ).1
          · rw [hN] at h1
            simpa [dataOf] using h1

end Ex

/-! ## 12. the statement of Props/C09.lean: false as it stands (string leaves that spell a number), true with the
       hypotheses on the content trees -/

theorem noDots_of_resolved {p : Comps} (h : resolveSpelled p = p) : ∀ c ∈ p, isDots c = false := by
  rw [← h]; exact Mixed.joinNorm_result_noDots p [] fun _ hc => nomatch hc

/-- **`C09_equiv_statement` restricted to documents without expressions**: the statement of Props/C09.lean with the
    hypotheses on the content trees (`ContentWF`), on the file paths (`≠ []`) and on the counter added; the hypotheses of
    the statement on `.json` / `.xml` paths are not needed (a read that trips over them fails) -/
theorem C09_equiv_statement_noexpr (ev : Str → EvalResult) (doc : Doc) (root : Comps) (c : Counter) :
    root ∈ doc.map (·.1) →
    (∀ f ∈ doc, isJsonPath f.1 = false ∧ isXmlPath f.1 = false ∧ resolveSpelled f.1 = f.1) →
    (∀ f ∈ doc, ContentWF f.2) → (∀ f ∈ doc, f.1 ≠ []) → Valid c →
    ∀ sdN cN sdJ cJ,
      readFile ev (renderNative doc) {} c root = .ok (.ok sdN cN) →
      readFile ev (renderJson doc) {} c (jsonPathOf root) = .ok (.ok sdJ cJ) →
      C01.dropPhEntries sdN.data = C01.dropPhEntries sdJ.data := by
  intro hroot hpaths hcont hne hc sdN cN sdJ cJ h h'
  obtain ⟨f, hf, rfl⟩ := List.mem_map.mp hroot
  exact (C09_equiv_includes ev doc f.1 c c ⟨hcont, hne⟩ (hne f hf) (noDots_of_resolved (hpaths f hf).2.2) hc hc
    sdN cN sdJ cJ h h').1

namespace Ex

/-- one file, one entry: the string `"1"` -/
def normDoc : Doc := [(["w".toList, "main".toList], [(sk "a", sv "1")])]

theorem normDoc_native_fs : renderNative normDoc = [(["w".toList, "main".toList], .native (C01.unlines ["a                             1;"]))] := by
  have e : nativeText [(sk "a", sv "1")] = C01.unlines ["a                             1;"] := by
    have e1 : inclNames [(sk "a", sv "1")] = [] := by decide +kernel
    have e2 : restOf [(sk "a", sv "1")] = [(sk "a", sv "1")] := by decide +kernel
    rw [nativeText_eval _ e1 e2 (by decide +kernel)]
    simp only [C01.unlines, List.flatMap_cons, List.flatMap_nil]
    literal_chars
    simp only [sk, sv, fmtEntries, formatKey, formatScalar]
    decide +kernel
  rw [renderNative_eq]
  simp only [normDoc, List.map_cons, List.map_nil, e]

set_option synthInstance.maxSize 1000 in
/-- the native reader re-types the leaf (the text is `a 1;`), the JSON reader keeps the string (`C09_string_leaves_stay`) -/
theorem normDoc_reads :
    dataOf (readFile evalInt (renderNative normDoc) {} none exRoot) = some [(sk "a", .leaf (.int 1))] ∧
    dataOf (readFile evalInt (renderJson normDoc) {} none (jsonPathOf exRoot)) = some [(sk "a", sv "1")] := by
  rw [normDoc_native_fs]
  constructor <;> decide +kernel

/-- **`C09_equiv_statement` is false in the model as it stands**: it has no hypothesis on the content trees, and a string
    leaf that spells a number (`{"a": "1"}`, a dict of the value domain, without includes and without `$`) is written
    bare by the native rendering and read back typed, while the JSON reader keeps the string.  The normalisation
    hypothesis `normEs e = e` of `C09_equiv_plain` (here: `ContentWF.norm`) is what is missing. -/
theorem C09_equiv_statement_false : ¬ C09_equiv_statement := by
  intro hst
  obtain ⟨h1, h2⟩ := normDoc_reads
  cases hN : readFile evalInt (renderNative normDoc) {} none exRoot with
  | error z => rw [hN] at h1; cases h1
  | ok rN =>
    cases rN with
    | exit1 => rw [hN] at h1; cases h1
    | ok sdN cN =>
      cases hJ : readFile evalInt (renderJson normDoc) {} none (jsonPathOf exRoot) with
      | error z => rw [hJ] at h2; cases h2
      | ok rJ =>
        cases rJ with
        | exit1 => rw [hJ] at h2; cases h2
        | ok sdJ cJ =>
          have := hst evalInt normDoc exRoot none (by decide) (by decide) sdN cN sdJ cJ hN hJ
          rw [hN] at h1
          rw [hJ] at h2
          simp only [dataOf, Option.some.injEq] at h1 h2
          rw [h1, h2] at this
          revert this
          decide

/-- the example dict is in the value domain: the normalisation is the only hypothesis of `ContentWF` it violates -/
theorem normDoc_dom : DomC01 .native (restOf [(sk "a", sv "1")]) = true ∧
    normEs (restOf [(sk "a", sv "1")]) ≠ restOf [(sk "a", sv "1")] := by
  constructor <;> decide +kernel

end Ex
end DictIO.C09
