/-
  C05 -- nested placements of the declarations, and indexed references.

  `C05acyclic.lean` proves the completeness of `_eval_expressions` for FLAT acyclic reference graphs (all declarations at
  the top level of one dict, `C05_complete_acyclic'`).  This file adds the distribution of the declarations over nested
  dicts (any depth, any order) and the indexed references `$l[i]`, `$l[i][j]`.

  Headline theorems
   * `variables_nested`                 the variable table `SDict.variables` of EVERY dictionary (nested dicts, lists with and
                                        without dicts): `getVar n (varsEs exprs es []) = lastDecl exprs n (declsEs es)` -- the
                                        last assignment to `n` in the order `declsEs` (content of a nested dict first, then
                                        its key; document order otherwise) wins.  `variables_nested_once`/`_scalar`: a name
                                        declared exactly once holds that value.  (`declsEs`, `lastDecl` and the lemma
                                        `getVar_assignAll` behind it stand in C05eval.lean: the flat table is read off them.)
   * `C05_placement_independent_vars`   two dictionaries of any shape that declare `n` exactly once with the same value have
                                        the same variable `n`: depth and position do not matter.
   * `C05_placement_independent`        `Placed s` (a tree of nested dicts whose leaf declarations `flatSD s` are in the domain
                                        of `C05_complete_acyclic'`) and `evalExpressions ev s = .ok s'`: no expression pending,
                                        the shape `skel` of the tree unchanged, and every declaration holds the value the FLAT
                                        specification `topoVal ev (flatSD s)` gives it.
     `C05_placement_independent_graph`  the same seen from a flat graph `g`: for EVERY `Placement g s` (leaves of `s` = a
                                        permutation of the declarations of `g`, at any depth) the values are `topoVal ev g`,
                                        those of `C05_complete_acyclic'` for `g`.   `C05_placed_eq_flat`: tree and flat
                                        dictionary evaluated side by side agree at every such name.
   * `C05_order_independent`            order of declaration: `C05_complete_acyclic'` already covers it -- `AcyclicFlat'` is closed
                                        under permutations (`acyclicFlat'_perm`), `topoVal` does not depend on the order
                                        (`topoVal_perm`).
   * `resolveRef_indexed`, `C05_indexed`, `C05_indexed2`   `$l[i][j]…` resolves to `indexVal v [i, j, …]`;
     `C05_indexed_out_of_range`, `C05_indexed_scalar`      out of range / index into a scalar: the value stays what it was
                                        (the exception of `eval("value[i]")` is suppressed); `findRefs_indexed`,
                                        `C05_indexed_pass`: the text is one plain reference and the pass puts the element in
                                        place; `C05_indexed_end_to_end`, `C05_indexed_unsupported`: from the file text.
  How the placement theorem is proved: the run on the tree is simulated on the flat image `flatSt c = ⟨flatEs c.data, c.exprs⟩`.
   (V) `getVar_tree`: off the sub-dict keys the variable table of a tree is that of its leaf list;
   (R) `resolveRef_avoid`/`resolve_eq`: `resolveRef` on two tables that agree off a set of names that is never looked up
       gives the same answers with the same fuel -- the names looked up are references (declared names, `pend_ref_key`) and
       pending texts, which are no words unless they are a single reference (`closure_ok`; here the no-bracket hypothesis
       is used);
   (P) `fold_sim`: one step of a pass decides what to do from the tables alone (`passStep_eq` of C05eval) and then
       applies it to the data (`applyOut_sim`); on a tree the substitution functions are `mapLeaves (updV …)`
       (`substLeafEs_tree`, `substValEs_tree`), which commutes with `flatEs` (`mapLeaves_spec`);
   (L) `resolvedN`, `settledN`, `nestedView`: the loop argument of the flat proof (`LoopView`, `loop_inv` of C05acyclic) runs
       over the tree with the invariant `NInv` = `Inv` of the flat image + `Side` (tree, shape, no bracket).  The fuel of
       `resolveRef` is the length of the tree's table (longer than the flat one), so the two runs are NOT in lockstep; only
       the invariant is shared.

  Assumed (`Placed`, all decidable; `exN_placed` shows them satisfiable): the data is a tree of dicts and scalars; the
  flat image satisfies `AcyclicFlat'`; the keys of the nested dicts are words or integers (`sub_words`) and no declared
  names (`sub_fresh`; hence not referenced, references name declared names); no `[` in expression texts and scalars
  (`expr_nlb`, `vals_nlb`) and in the evaluator's results (`EvNlb`; `evNlb_evalInt`).  Each is needed:
   `C05_refuted_subdict_referenced`, `C05_placement_false_without_fresh`, `C05_placement_false_without_nobracket`.
  NOT covered: success of `evalExpressions` on the tree is a hypothesis, as in `C05_complete_acyclic'` (it can fail where the
  code has a bound: `C05_placement_depth_bound`, a placeholder more than 10 keys deep); declarations inside lists of dicts
  (`listContainsDict`; `variables_nested` covers their variables, the placement theorem does not); included files (the
  merge is C12's); indexed references inside the acyclic graph theorem (`AcyclicFlat.refs_ok` excludes them).
-/
import DictIO.Props.C05acyclic
import DictIO.Lemmas.Induct

namespace DictIO.C05nested
open DictIO DictIO.C05

/-! ### trees of nested dicts -/

mutual
  /-- dicts and scalars only -/
  def treeV : Val → Bool
    | .leaf _ => true
    | .dict d => treeEs d
    | .list _ => false
  def treeEs : Entries → Bool
    | [] => true
    | (_, v) :: es => treeV v && treeEs es
end

mutual
  def flatV (k : Key) : Val → Entries
    | .dict d => flatEs d
    | v => [(k, v)]
  /-- the leaf declarations of a tree, in document order -/
  def flatEs : Entries → Entries
    | [] => []
    | (k, v) :: es => flatV k v ++ flatEs es
end

mutual
  def dictKeysV (k : Key) : Val → List Key
    | .dict d => k :: dictKeys d
    | _ => []
  /-- the keys of the nested dicts, at every depth -/
  def dictKeys : Entries → List Key
    | [] => []
    | (k, v) :: es => dictKeysV k v ++ dictKeys es
end

mutual
  def mapLeavesV (f : Val → Val) : Val → Val
    | .dict d => .dict (mapLeaves f d)
    | v => f v
  /-- apply `f` to every leaf value of a tree -/
  def mapLeaves (f : Val → Val) : Entries → Entries
    | [] => []
    | (k, v) :: es => (k, mapLeavesV f v) :: mapLeaves f es
end

/-- the shape of a tree: keys and nesting, every leaf value forgotten -/
def skel (es : Entries) : Entries := mapLeaves (fun _ => .leaf .none) es

mutual
  def depthV : Val → Nat
    | .dict d => depthEs d + 1
    | _ => 0
  /-- nesting depth of the leaves: 1 for a flat dictionary -/
  def depthEs : Entries → Nat
    | [] => 1
    | (_, v) :: es => max (depthV v) (depthEs es)
end

theorem flatEs_nil : flatEs [] = [] := by simp [flatEs]
theorem flatEs_dict (k : Key) (d es : Entries) : flatEs ((k, .dict d) :: es) = flatEs d ++ flatEs es := by
  simp [flatEs, flatV]
theorem flatEs_leaf_cons (k : Key) (x : Scalar) (es : Entries) : flatEs ((k, .leaf x) :: es) = (k, .leaf x) :: flatEs es := by
  simp [flatEs, flatV]
theorem flatEs_list_cons (k : Key) (l : List Val) (es : Entries) : flatEs ((k, .list l) :: es) = (k, .list l) :: flatEs es := by
  simp [flatEs, flatV]
theorem dictKeys_nil : dictKeys [] = [] := by simp [dictKeys]
theorem dictKeys_dict (k : Key) (d es : Entries) : dictKeys ((k, .dict d) :: es) = k :: (dictKeys d ++ dictKeys es) := by
  simp [dictKeys, dictKeysV]
theorem dictKeys_leaf_cons (k : Key) (x : Scalar) (es : Entries) : dictKeys ((k, .leaf x) :: es) = dictKeys es := by
  simp [dictKeys, dictKeysV]
theorem mapLeaves_nil (f : Val → Val) : mapLeaves f [] = [] := by simp [mapLeaves]
theorem mapLeaves_dict (f : Val → Val) (k : Key) (d es : Entries) :
    mapLeaves f ((k, .dict d) :: es) = (k, .dict (mapLeaves f d)) :: mapLeaves f es := by
  simp [mapLeaves, mapLeavesV]
theorem mapLeaves_leaf_cons (f : Val → Val) (k : Key) (x : Scalar) (es : Entries) :
    mapLeaves f ((k, .leaf x) :: es) = (k, f (.leaf x)) :: mapLeaves f es := by
  simp [mapLeaves, mapLeavesV]

theorem flatEs_leaf : ∀ (T : Entries), treeEs T = true → ∀ d ∈ flatEs T, d.2.isLeaf = true := by
  intro T
  induction T using Entries.ind with
  | nil => intro _ d hd; simp [flatEs_nil] at hd
  | leaf k x es ih =>
    intro h d hd
    simp only [treeEs, treeV, Bool.true_and] at h
    simp only [flatEs_leaf_cons, List.mem_cons] at hd
    rcases hd with rfl | hd
    · rfl
    · exact ih h d hd
  | list k l es => intro h; simp [treeEs, treeV] at h
  | dict k dd es ih1 ih2 =>
    intro h d hd
    simp only [treeEs, treeV, Bool.and_eq_true] at h
    simp only [flatEs_dict, List.mem_append] at hd
    rcases hd with hd | hd
    · exact ih1 h.1 d hd
    · exact ih2 h.2 d hd

/-- the assignments to a name that is no sub-dict key are the leaf declarations of that name -/
theorem filter_decls_flat (n : Str) : ∀ (T : Entries), treeEs T = true → Key.str n ∉ dictKeys T →
    (declsEs T).filter (fun d => d.1 == Key.str n) = (flatEs T).filter (fun d => d.1 == Key.str n) := by
  intro T
  induction T using Entries.ind with
  | nil => intro _ _; simp [declsEs, flatEs_nil]
  | leaf k x es ih =>
    intro h hk
    simp only [treeEs, treeV, Bool.true_and] at h
    simp only [dictKeys_leaf_cons] at hk
    simp only [declsEs, flatEs_leaf_cons, List.filter_cons, ih h hk]
  | list k l es => intro h; simp [treeEs, treeV] at h
  | dict k dd es ih1 ih2 =>
    intro h hk
    simp only [treeEs, treeV, Bool.and_eq_true] at h
    simp only [dictKeys_dict, List.mem_cons, List.mem_append, not_or] at hk
    have hkn : (k == Key.str n) = false := by
      have : ¬ k = Key.str n := fun e => hk.1 e.symm
      simpa using this
    simp only [declsEs, flatEs_dict, List.filter_append, List.filter_cons, hkn, ih1 h.1 hk.2.1, ih2 h.2 hk.2.2]
    simp

/-- **the variable table of a tree, off the sub-dict keys, is the variable table of its leaf declarations** -/
theorem getVar_tree (exprs : Tbl ExprEntry) (n : Str) (T : Entries) (h : treeEs T = true) (hk : Key.str n ∉ dictKeys T) :
    getVar n (varsEs exprs T []) = getVar n (varsEs exprs (flatEs T) []) := by
  rw [varsEs_eq, varsEs_eq, getVar_assignAll, getVar_assignAll, lastDecl_filter, filter_decls_flat n T h hk,
    declsEs_leaves _ (flatEs_leaf T h), ← lastDecl_filter]


/-! ### the substitution functions on a tree -/

theorem substValV_leaf' (ph : Str) (v : Val) (y : Scalar) (d : Nat) (z : Val) (h : substValV ph v d (.leaf y) = .ok z) :
    z = updV ph v (.leaf y) := by
  cases y with
  | str s =>
    simp only [substValV] at h
    simp only [updV]
    split at h
    · rename_i hi
      split at h
      · cases h
      · cases h; rw [if_pos hi]
    · rename_i hi
      cases h; rw [if_neg hi]
  | int _ => simp only [substValV] at h; cases h; rfl
  | float _ => simp only [substValV] at h; cases h; rfl
  | bool _ => simp only [substValV] at h; cases h; rfl
  | none => simp only [substValV] at h; cases h; rfl

/-- on a tree, a successful `substValEs` (at any depth) is `updV` applied to every leaf -/
theorem substValEs_tree (ph : Str) (v : Val) : ∀ (T : Entries) (d : Nat) (T' : Entries), treeEs T = true →
    substValEs ph v d T = .ok T' → T' = mapLeaves (updV ph v) T := by
  intro T
  induction T using Entries.ind with
  | nil => intro d T' _ h; simp only [substValEs] at h; cases h; rw [mapLeaves_nil]
  | leaf k y es ih =>
    intro d T' ht h
    simp only [treeEs, treeV, Bool.true_and] at ht
    rw [substValEs] at h
    obtain ⟨z, h1, h⟩ := Except.bind_eq_ok h
    obtain ⟨es', h2, h⟩ := Except.bind_eq_ok h
    cases h
    rw [substValV_leaf' ph v y d z h1, ih d es' ht h2, mapLeaves_leaf_cons]
  | list k l es => intro _ _ ht; simp [treeEs, treeV] at ht
  | dict k dd es ih1 ih2 =>
    intro d T' ht h
    simp only [treeEs, treeV, Bool.and_eq_true] at ht
    rw [substValEs, substValV] at h
    obtain ⟨z, h1, h⟩ := Except.bind_eq_ok h
    obtain ⟨es', h2, h⟩ := Except.bind_eq_ok h
    cases h
    cases h3 : substValEs ph v (d + 1) dd with
    | error e => rw [h3] at h1; cases h1
    | ok dd' =>
      rw [h3] at h1; cases h1
      rw [ih1 (d + 1) dd' ht.1 h3, ih2 d es' ht.2 h2, mapLeaves_dict]

theorem substLeafEs_tree (ph : Str) (x : Scalar) (T : Entries) (d : Nat) (T' : Entries) (ht : treeEs T = true)
    (h : substLeafEs ph x d T = .ok T') : T' = mapLeaves (updV ph (.leaf x)) T :=
  substValEs_tree ph (.leaf x) T d T' ht (substLeafEs_eq ph x d T ▸ h)

/-- `mapLeaves` with a function that sends scalars to scalars: the leaf list is mapped, the shape stays -/
theorem mapLeaves_spec (f : Val → Val) (hf : ∀ y, (f (.leaf y)).isLeaf = true) : ∀ (T : Entries), treeEs T = true →
    flatEs (mapLeaves f T) = (flatEs T).map (fun d => (d.1, f d.2)) ∧ treeEs (mapLeaves f T) = true ∧
    skel (mapLeaves f T) = skel T ∧ dictKeys (mapLeaves f T) = dictKeys T := by
  intro T
  induction T using Entries.ind with
  | nil => intro _; simp [mapLeaves_nil, flatEs_nil, treeEs, skel, dictKeys_nil]
  | leaf k y es ih =>
    intro ht
    simp only [treeEs, treeV, Bool.true_and] at ht
    obtain ⟨i1, i2, i3, i4⟩ := ih ht
    have hy := hf y
    cases hz : f (.leaf y) with
    | leaf z =>
      simp only [skel] at i3 ⊢
      simp only [mapLeaves_leaf_cons, hz, flatEs_leaf_cons, i1, List.map_cons, treeEs, treeV, i2, Bool.and_self, i3,
        dictKeys_leaf_cons, i4, and_self]
    | dict _ => rw [hz] at hy; cases hy
    | list _ => rw [hz] at hy; cases hy
  | list k l es => intro ht; simp [treeEs, treeV] at ht
  | dict k dd es ih1 ih2 =>
    intro ht
    simp only [treeEs, treeV, Bool.and_eq_true] at ht
    obtain ⟨i1, i2, i3, i4⟩ := ih2 ht.2
    obtain ⟨j1, j2, j3, j4⟩ := ih1 ht.1
    simp only [skel] at i3 j3 ⊢
    simp only [mapLeaves_dict, flatEs_dict, i1, j1, List.map_append, treeEs, treeV, i2, j2, Bool.and_self, i3, j3,
      dictKeys_dict, i4, j4, and_self]

theorem updV_isLeaf (ph : Str) {v : Val} (hv : v.isLeaf = true) (y : Scalar) : (updV ph v (.leaf y)).isLeaf = true :=
  updV_leaf ph rfl hv

/-! ### `resolveRef` on two tables that agree off a set of names that is never looked up -/

theorem resolveRef_avoid (vN vF : List (Str × Val)) (K : Str → Prop)
    (hagree : ∀ n, ¬ K n → getVar n vN = getVar n vF)
    (hsound : ∀ f vis x v, resolveRef vF f vis x = .val v → dfree v = true)
    (hclosed : ∀ n s, ¬ K n → getVar n vF = some (.leaf (.str s)) → s.contains '$' = true → ¬ K (refName s)) :
    ∀ f, (∀ vis x, ¬ K (refName x) → resolveRef vN f vis x = resolveRef vF f vis x) ∧
         (∀ vis v last, (∀ s, v = .leaf (.str s) → s.contains '$' = true → ¬ K (refName s)) →
            resolveRef.follow vN f vis v last = resolveRef.follow vF f vis v last)
  | 0 => by
    refine ⟨fun vis x _ => ?_, fun vis v last _ => ?_⟩
    · rw [resolveRef.eq_1, resolveRef.eq_1]
    · rw [follow_zero, follow_zero]
  | f + 1 => by
    obtain ⟨P, Q⟩ := resolveRef_avoid vN vF K hagree hsound hclosed f
    refine ⟨fun vis x hx => ?_, fun vis v last hv => ?_⟩
    · rw [resolveRef_succ, resolveRef_succ, hagree _ hx]
      cases hg : getVar (refName x) vF with
      | none => rfl
      | some v0 =>
        have : resolveRef.follow vN f (vis ++ [refName x]) v0 (refName x)
            = resolveRef.follow vF f (vis ++ [refName x]) v0 (refName x) := by
          apply Q
          intro s hs hc
          subst hs
          exact hclosed _ _ hx hg hc
        simp only [this]
    · rw [follow_succ, follow_succ]
      cases v with
      | leaf y =>
        cases y with
        | str s =>
          simp only
          by_cases hc : s.contains '$' = true
          · simp only [hc, if_true]
            rw [P vis s (hv s rfl hc)]
            cases hr : resolveRef vF f vis s with
            | none => rfl
            | unsupported => rfl
            | val v' =>
              simp only
              apply Q
              intro s' hs' hc'
              subst hs'
              have := hsound _ _ _ _ hr
              simp only [dfree, pyStrScalar, noD, hc', Bool.not_true] at this
              cases this
          · rw [if_neg hc, if_neg hc]
        | int _ => rfl
        | float _ => rfl
        | bool _ => rfl
        | none => rfl
      | dict _ => rfl
      | list _ => rfl


/-- whatever `resolveRef` answers on a table of scalars is a value of the table -/
theorem resolveRef_val_pred (vars : List (Str × Val)) (Pr : Val → Prop)
    (hleaf : ∀ n v0, getVar n vars = some v0 → v0.isLeaf = true ∧ Pr v0) (f : Nat) (vis : List Str) (x : Str) (v : Val)
    (h : resolveRef vars f vis x = .val v) : v.isLeaf = true ∧ Pr v := by
  refine (resolveRef_val_induct vars (fun _ v => v.isLeaf = true ∧ Pr v)
    (fun v0 v => v0.isLeaf = true ∧ Pr v0 → v.isLeaf = true ∧ Pr v) (fun _ _ h => h) (fun _ _ _ _ hP hQ _ => hQ hP)
    ?_ f).1 vis x v h
  intro _ _ x idx v0 v1 v _ _ hg hQ ht
  obtain ⟨hl1, hp1⟩ := hQ (hleaf _ _ hg)
  cases v1 with
  | leaf a => rw [(resolveRef_tail ht).1]; exact ⟨rfl, hp1⟩
  | dict _ => cases hl1
  | list _ => cases hl1

/-! ### texts without an index bracket -/

/-- the text of a scalar carries no `[` -/
def valNlb : Val → Bool
  | .leaf x => !(pyStrScalar x).contains '['
  | _ => true

theorem valNlb_str {t : Str} : valNlb (.leaf (.str t)) = true ↔ '[' ∉ t := by
  simp [valNlb, pyStrScalar]

theorem valNlb_pyStr {v : Val} {t : Str} (h : valNlb v = true) (ht : pyStrVal v = some t) : '[' ∉ t := by
  cases v with
  | leaf x =>
    simp only [pyStrVal, Option.some.injEq] at ht
    subst ht
    simpa [valNlb] using h
  | dict _ => cases ht
  | list _ => cases ht

theorem substRefFuel_nlb (r t : Str) (ht : '[' ∉ t) : ∀ (f : Nat) (x : Str), '[' ∉ x → '[' ∉ substRefFuel r t f x
  | 0, x, hx => by simpa [substRefFuel] using hx
  | f + 1, [], _ => by simp [substRefFuel]
  | f + 1, c :: x, hx => by
    rw [substRefFuel_cons]
    by_cases hb : (r.isPrefixOf (c :: x) && !r.isEmpty && boundaryOk ((c :: x).drop r.length)) = true
    · rw [if_pos hb]
      intro hm
      rcases List.mem_append.mp hm with hm | hm
      · exact ht hm
      · exact substRefFuel_nlb r t ht f _ (fun h => hx (List.mem_of_mem_drop h)) hm
    · rw [if_neg hb]
      intro hm
      rcases List.mem_cons.mp hm with hm | hm
      · exact hx (by rw [hm]; exact List.mem_cons_self)
      · exact substRefFuel_nlb r t ht f x (fun h => hx (List.mem_cons_of_mem _ h)) hm

theorem substAll_nlb (ρ : Str → Option Str) (hρ : ∀ r t, ρ r = some t → '[' ∉ t) :
    ∀ (rs : List Str) (x : Str), '[' ∉ x → '[' ∉ substAll ρ rs x
  | [], x, hx => hx
  | r :: rs, x, hx => by
    simp only [substAll, List.foldl_cons]
    apply substAll_nlb ρ hρ rs
    cases h : ρ r with
    | none => exact hx
    | some t => exact substRefFuel_nlb r t (hρ r t h) _ x hx

theorem updV_nlb (ph : Str) {v' v : Val} (h' : valNlb v' = true) (h : valNlb v = true) : valNlb (updV ph v' v) = true := by
  cases v with
  | leaf y =>
    cases y with
    | str t => simp only [updV]; split <;> assumption
    | int _ => exact h
    | float _ => exact h
    | bool _ => exact h
    | none => exact h
  | dict _ => rfl
  | list _ => rfl

/-! ### the nested state and its flat image -/

/-- the flat dictionary of the leaf declarations of `s` (side tables unchanged) -/
def flatSD (s : SD) : SD := { s with data := flatEs s.data }

def flatSt (c : ExprSt) : ExprSt := ⟨flatEs c.data, c.exprs⟩

/-- the evaluator's scalar results carry no `[` -/
def EvNlb (ev : Str → EvalResult) : Prop := ∀ t x, ev t = .value (.leaf x) → valNlb (.leaf x) = true

/-- what the nested state keeps besides the invariant of its flat image: it is a tree of the original shape, and no
    pending text and no scalar carries a `[` -/
structure Side (T0 : Entries) (c : ExprSt) : Prop where
  tree : treeEs c.data = true
  skel_eq : skel c.data = skel T0
  dkeys : dictKeys c.data = dictKeys T0
  expr_nlb : ∀ e ∈ c.exprs, '[' ∉ e.2.expression
  vals_nlb : ∀ d ∈ flatEs c.data, valNlb d.2 = true

def RNlb (R : List (Str × Val)) : Prop :=
  ∀ r p, R.find? (fun p => p.1 == r) = some p → p.2.isLeaf = true ∧ valNlb p.2 = true

theorem map_nlb (ph : Str) (v : Val) (hv : valNlb v = true) (F : Entries) (hF : ∀ d ∈ F, valNlb d.2 = true) :
    ∀ d ∈ F.map (fun d => (d.1, updV ph v d.2)), valNlb d.2 = true := by
  intro d hd
  obtain ⟨d0, h0, rfl⟩ := List.mem_map.mp hd
  exact updV_nlb ph hv (hF d0 h0)

theorem RNlb.hasStr {R : List (Str × Val)} (hR : RNlb R) : HasStr R := by
  intro r p hp
  have := (hR r p hp).1
  cases hv : p.2 with
  | leaf x => exact ⟨_, rfl⟩
  | dict _ => rw [hv] at this; cases this
  | list _ => rw [hv] at this; cases this

theorem RNlb.rho {R : List (Str × Val)} (hR : RNlb R) : ∀ r t, rhoOf R r = some t → '[' ∉ t := by
  intro r t h
  simp only [rhoOf] at h
  split at h
  · rename_i r' v hf; exact valNlb_pyStr (hR r _ hf).2 h
  · cases h

def nlbOut : Verdict → Prop
  | .del v => v.isLeaf = true ∧ valNlb v = true
  | .set T' => '[' ∉ T'

theorem outcome_nlb {ev : Str → EvalResult} {R : List (Str × Val)} {T : Str} {o : Verdict} (E : EvNlb ev) (hR : RNlb R)
    (hT : '[' ∉ T) (h : Outcome ev R T o) : nlbOut o := by
  have hx : '[' ∉ substAll (rhoOf R) (findRefs T) T := substAll_nlb _ hR.rho _ _ hT
  cases h with
  | plain hp =>
    obtain ⟨r, p, _, _, hf, rfl⟩ := plainOf_eq_some hp
    exact hR r p hf
  | left _ _ => exact hx
  | syn _ _ _ => exact hx
  | name _ _ _ => exact ⟨rfl, valNlb_str.mpr hx⟩
  | val _ _ hev => exact ⟨rfl, E _ _ hev⟩

theorem applyOut_sim {T0 : Entries} {e : Nat × ExprEntry} {c c' : ExprSt} {o : Verdict} (S : Side T0 c) (ho : nlbOut o)
    (h : applyOut e c o = .ok c') : applyOut e (flatSt c) o = .ok (flatSt c') ∧ Side T0 c' := by
  cases o with
  | set T' =>
    cases h
    refine ⟨rfl, S.tree, S.skel_eq, S.dkeys, fun a ha => ?_, S.vals_nlb⟩
    rcases tbl_mem_set ha with rfl | ha
    · exact ho
    · exact S.expr_nlb a ha
  | del v =>
    simp only [applyOut] at h ⊢
    cases hs : substValEs e.2.name v 1 c.data with
    | error x => rw [hs] at h; cases h
    | ok d =>
      rw [hs] at h
      cases h
      obtain ⟨m1, m2, m3, m4⟩ := mapLeaves_spec (updV e.2.name v) (updV_isLeaf e.2.name ho.1) c.data S.tree
      cases substValEs_tree e.2.name v c.data 1 d S.tree hs
      simp only [flatSt, substValEs_flat e.2.name v _ (flatEs_leaf c.data S.tree), m1]
      exact ⟨rfl, m2, m3.trans S.skel_eq, m4.trans S.dkeys,
        fun a ha => S.expr_nlb a ((tbl_del_sublist _ _).subset ha), by rw [m1]; exact map_nlb _ v ho.2 _ S.vals_nlb⟩

theorem fold_sim (ev : Str → EvalResult) (R : List (Str × Val)) (T0 : Entries) (E : EvNlb ev) (hR : RNlb R) :
    ∀ (L : List (Nat × ExprEntry)) (c c' : ExprSt), Side T0 c → (∀ e ∈ L, '[' ∉ e.2.expression) →
      L.foldlM (passStep ev R) c = .ok c' →
      L.foldlM (passStep ev R) (flatSt c) = .ok (flatSt c') ∧ Side T0 c'
  | [], c, c', S, _, h => by
    simp only [List.foldlM_nil, pure, Except.pure, Except.ok.injEq] at h
    subst h
    exact ⟨rfl, S⟩
  | e :: L, c, c', S, hL, h => by
    obtain ⟨c1, hs, h⟩ := foldlM_cons_ok h
    rw [passStep_eq ev hR.hasStr] at hs
    cases ho : outOf ev R e.2.expression with
    | none => rw [ho] at hs; cases hs
    | some o =>
      rw [ho] at hs
      obtain ⟨a1, S1⟩ := applyOut_sim S (outcome_nlb E hR (hL e List.mem_cons_self) (outOf_some ho)) hs
      rw [List.foldlM_cons, passStep_eq ev hR.hasStr, ho]
      simp only [a1]
      exact fold_sim ev R T0 E hR L c1 c' S1 (fun e' he' => hL e' (List.mem_cons_of_mem _ he')) h

/-! ### placements -/

/-- **the domain**: `s` is a tree of nested dicts whose leaf declarations, read as one flat dictionary, are in the
    domain of `C05_complete_acyclic'`; the keys of the nested dicts are words (or integers) and are no declared names;
    no expression text and no scalar carries an index bracket `[` -/
structure Placed (s : SD) : Prop where
  tree : treeEs s.data = true
  sub_words : ∀ k ∈ dictKeys s.data, keyWord k = true
  sub_fresh : ∀ k ∈ dictKeys s.data, k ∉ keys (flatEs s.data)
  flat_ok : AcyclicFlat' (flatSD s)
  expr_nlb : ∀ e ∈ s.exprs, '[' ∉ e.2.expression
  vals_nlb : ∀ d ∈ flatEs s.data, valNlb d.2 = true

/-- the invariant of the loop on the nested state: the invariant of the flat proof for its flat image, and `Side` -/
structure NInv (ev : Str → EvalResult) (s : SD) (c : ExprSt) : Prop where
  inv : Inv ev (flatSD s) (flatSt c)
  side : Side s.data c

section nested
variable {ev : Str → EvalResult} {s : SD} (P : Placed s) {c : ExprSt} (N : NInv ev s c)
include P N

/-- the references of the pending entries name declared (leaf) names -/
theorem pend_ref_key {r : Str} (hr : r ∈ pendRefs c.exprs) :
    ∃ w, r = '$' :: w ∧ w.all isWordChar = true ∧ Key.str w ∈ keys (flatEs s.data) := by
  have A := P.flat_ok
  obtain ⟨e, he, hre⟩ := mem_pendRefs.mp hr
  obtain ⟨e0, he0, _, _, σ, hσ, hT⟩ := N.inv.ex e he
  obtain ⟨_, hfr, hisref⟩ := st_refs A he0 hσ
  have hr0' : r ∈ findRefs e0.2.expression := by
    rw [hT, hfr] at hre; exact (List.mem_filter.mp hre).1
  obtain ⟨w, rfl, _, hww⟩ := hisref r hr0'
  refine ⟨w, rfl, hww, ?_⟩
  have := (A.base.refs_ok e0 he0 _ hr0').2
  rw [refName_ref hww] at this
  apply Classical.byContradiction
  intro hnot
  have hn : lookup (Key.str w) (flatSD s).data = none := lookup_eq_none_iff.mpr hnot
  rw [hn] at this
  cases this

omit N in
theorem key_not_sub {w : Str} (h : Key.str w ∈ keys (flatEs s.data)) : Key.str w ∉ dictKeys s.data :=
  fun hk => P.sub_fresh _ hk h

theorem varsF_ok : VarsOK (varsEs c.exprs (flatEs c.data) []) (Good ev (flatSD s)) (ordS (flatSt c)) (pendS (flatSt c)) :=
  N.inv.varsOK P.flat_ok

/-- a pending text that is looked up as a name is no sub-dict key -/
theorem closure_ok (n t : Str) (hg : getVar n (varsEs c.exprs (flatEs c.data) []) = some (.leaf (.str t)))
    (hc : t.contains '$' = true) : Key.str (refName t) ∉ dictKeys s.data := by
  have hV := varsF_ok P N
  rcases hV.v1 n _ hg with ho | ⟨g, hp, hv0⟩
  · have := (okVal_str (hV.ord_ok _ _ ho)).2
    simp only [List.contains_eq_mem, decide_eq_true_eq] at hc
    exact absurd hc this
  · have ht : t = g.render := by cases hv0; rfl
    obtain ⟨hgwf, e, he, _, hre⟩ := hp
    have hnl : '[' ∉ t := by rw [ht, hre]; exact N.side.expr_nlb e he
    intro hK
    have hword : (refName t).all isWordChar = true := P.sub_words _ hK
    have hrn : refName t = afterD t := by
      rw [refName_eq]
      apply takeWhile_ne_of_not_mem
      intro hm
      apply hnl
      unfold afterD at hm
      split at hm
      · exact List.mem_cons_of_mem _ hm
      · exact hm
    rw [hrn] at hword hK
    have hd : '$' ∈ t := by simpa using hc
    cases t with
    | nil => cases hd
    | cons ch rest =>
      by_cases hch : ch = '$'
      · subst hch
        have hrest : afterD ('$' :: rest) = rest := rfl
        rw [hrest] at hword hK
        have hgs := segs_of_ref g hgwf rest hword ht.symm
        have hfr : findRefs e.2.expression = ['$' :: rest] := by
          rw [← hre, findRefs_render g hgwf, hgs]; rfl
        have hpr : ('$' :: rest) ∈ pendRefs c.exprs := mem_pendRefs.mpr ⟨e, he, by rw [hfr]; exact List.mem_cons_self⟩
        obtain ⟨w, hw, _, hkey⟩ := pend_ref_key P N hpr
        cases hw
        exact key_not_sub P hkey hK
      · rw [afterD_of_head hch] at hword
        exact allWord_noD hword hd

omit P in
theorem agree_ok (n : Str) (hn : Key.str n ∉ dictKeys s.data) :
    getVar n (varsEs c.exprs c.data []) = getVar n (varsEs c.exprs (flatEs c.data) []) :=
  getVar_tree c.exprs n c.data N.side.tree (by rw [N.side.dkeys]; exact hn)

/-- **`resolveRef` on the tree is `resolveRef` on the leaf list**, with the same fuel -/
theorem resolve_eq (x : Str) (hx : Key.str (refName x) ∉ dictKeys s.data) (f : Nat) :
    resolveRef (varsEs c.exprs c.data []) f [] x = resolveRef (varsEs c.exprs (flatEs c.data) []) f [] x := by
  have hV := varsF_ok P N
  exact ((resolveRef_avoid (varsEs c.exprs c.data []) (varsEs c.exprs (flatEs c.data) [])
    (fun n => Key.str n ∈ dictKeys s.data) (agree_ok N)
    (fun f vis x v h => (resolveRef_sound hV f vis x v h).1)
    (fun n t _ hg hc => closure_ok P N n t hg hc)) f).1 [] x hx

theorem varsF_vals (n : Str) (v0 : Val) (hg : getVar n (varsEs c.exprs (flatEs c.data) []) = some v0) :
    v0.isLeaf = true ∧ valNlb v0 = true := by
  have hV := varsF_ok P N
  rcases hV.v1 n _ hg with ho | ⟨g, hp, hv0⟩
  · obtain ⟨x, rfl, _⟩ := okVal_leaf (hV.ord_ok _ _ ho)
    exact ⟨rfl, N.side.vals_nlb _ (lookup_some_mem ho.1)⟩
  · obtain ⟨_, e, he, _, hre⟩ := hp
    subst hv0
    exact ⟨rfl, valNlb_str.mpr (by rw [hre]; exact N.side.expr_nlb e he)⟩

/-- what `resolveAll` returns on the tree -/
theorem resolvedN {R : List (Str × Val)} {nr : Nat} (h : resolveAll c.exprs c.data = .ok (R, nr)) :
    RSound ev (flatSD s) R ∧ RNlb R := by
  have hV := varsF_ok P N
  have key : ∀ r p, R.find? (fun p => p.1 == r) = some p →
      p.1 = r ∧ usable p.2 = true ∧
      resolveRef (varsEs c.exprs (flatEs c.data) []) ((varsEs c.exprs c.data []).length + 1) [] r = .val p.2 := by
    intro r p hp
    obtain ⟨hm, h1, hu, hres⟩ := resolveAll_find h hp
    obtain ⟨w, rfl, hww, hkey⟩ := pend_ref_key P N hm
    rw [resolve_eq P N _ (by rw [refName_ref hww]; exact key_not_sub P hkey)] at hres
    exact ⟨h1, hu, hres⟩
  refine ⟨fun r p hp => ?_, fun r p hp => ?_⟩
  · obtain ⟨h1, hu, hres⟩ := key r p hp
    obtain ⟨hd, hsound⟩ := resolveRef_sound hV _ _ _ _ hres
    exact ⟨h1, okVal_of_dfree hd hu, hsound⟩
  · obtain ⟨_, _, hres⟩ := key r p hp
    exact resolveRef_val_pred _ (fun v => valNlb v = true) (varsF_vals P N) _ _ _ _ hres

theorem settledN {w : Str} {tw : Val} (ho : ordS (flatSt c) w tw) : isRes (varsEs c.exprs c.data []) ('$' :: w) = true := by
  have hV := varsF_ok P N
  have hgv := hV.v2 _ _ ho
  have hw := hV.word _ _ hgv
  have hkey : Key.str w ∈ keys (flatEs s.data) := by
    have : Key.str w ∈ keys (flatSt c).data := List.mem_map.mpr ⟨_, lookup_some_mem ho.1, rfl⟩
    rw [N.inv.keys_eq] at this
    exact this
  have hnk := key_not_sub P hkey
  have hgvN : getVar w (varsEs c.exprs c.data []) = some tw := by rw [agree_ok N w hnk]; exact hgv
  have hpos := varsEs_length_pos c.exprs w c.data tw hgvN
  obtain ⟨f, hf⟩ : ∃ f, (varsEs c.exprs c.data []).length + 1 = f + 2 := ⟨(varsEs c.exprs c.data []).length - 1, by omega⟩
  have h1 := resolve_eq P N ('$' :: w) (by rw [refName_ref hw]; exact hnk) (f + 2)
  rw [resolveRef_settled hV w tw ho f] at h1
  simp only [isRes, rvOf, hf, h1]
  exact okVal_usable ho.2

end nested


/-- the run on a tree, seen through its leaf list -/
theorem nestedView {ev : Str → EvalResult} {s : SD} (P : Placed s) (E : EvOK ev) (EL : EvNlb ev) :
    LoopView ev (flatSD s) (NInv ev s) flatSt where
  exprs := fun _ => rfl
  inv := fun N => N.inv
  sound := fun N h => (resolvedN P N h).1
  settled := fun N ho => settledN P N ho
  pass := by
    intro c c1 R nr N hres hp
    obtain ⟨hRs, hRn⟩ := resolvedN P N hres
    rw [evalPass_eq] at hp
    obtain ⟨hflat, S1⟩ := fold_sim ev R s.data EL hRn c.exprs c c1 N.side N.side.expr_nlb hp
    exact ⟨⟨(evalPass_inv P.flat_ok E hRs N.inv hflat).1, S1⟩, hflat⟩

/-- the final write-back of the pending texts, on the tree and on its leaf list -/
theorem final_sim : ∀ (L : List (Nat × ExprEntry)) (T T' : Entries), treeEs T = true →
    L.foldlM (fun d e => substLeafEs e.2.name (.str e.2.expression) 1 d) T = .ok T' →
    L.foldlM (fun d e => substLeafEs e.2.name (.str e.2.expression) 1 d) (flatEs T) = .ok (flatEs T') ∧
      treeEs T' = true ∧ skel T' = skel T
  | [], T, T', ht, h => by
    simp only [List.foldlM_nil, pure, Except.pure, Except.ok.injEq] at h
    subst h
    exact ⟨rfl, ht, rfl⟩
  | e :: L, T, T', ht, h => by
    obtain ⟨T1, hs, h⟩ := foldlM_cons_ok h
    have hd := substLeafEs_tree _ _ T 1 T1 ht hs
    obtain ⟨m1, m2, m3, _⟩ := mapLeaves_spec (updV e.2.name (.leaf (.str e.2.expression))) (updV_isLeaf _ rfl) T ht
    subst hd
    obtain ⟨i1, i2, i3⟩ := final_sim L _ T' m2 h
    refine ⟨?_, i2, i3.trans m3⟩
    rw [List.foldlM_cons, substLeafEs_flat _ _ _ (flatEs_leaf T ht), ← i1, m1]
    rfl

/-! ### indexed references -/

/-- the text `[i][j]…` of an index path -/
def idxText : List Nat → Str
  | [] => []
  | i :: r => '[' :: (natDigits i ++ ']' :: idxText r)

theorem natDigits_chars (i : Nat) : ∀ c ∈ natDigits i, c ≠ ']' ∧ c ≠ '\n' ∧ c ≠ '[' ∧ isWordChar c = true :=
  natDigits_forall (by decide +kernel) i

theorem parseIndexingFuel_idxText : ∀ (path : List Nat) (f : Nat), (idxText path).length + 1 ≤ f →
    parseIndexingFuel f (idxText path) = some (path.map Int.ofNat)
  | [], f, hf => by
    obtain ⟨f', rfl⟩ : ∃ f', f = f' + 1 := ⟨f - 1, by simp [idxText] at hf; omega⟩
    simp [idxText, parseIndexingFuel]
  | i :: r, f, hf => by
    obtain ⟨f', rfl⟩ : ∃ f', f = f' + 1 := ⟨f - 1, by omega⟩
    have hch := natDigits_chars i
    obtain ⟨h1, h2⟩ := takeWhile_stop (· != ']') (natDigits i) (']' :: idxText r)
      (fun x hx => by simpa using (hch x hx).1) (by simp [headFails])
    have hlit : isIntLit (natDigits i) = true := C04.isIntLit_iff.mpr (C04.intRepr_isIntLit (Int.ofNat i))
    have hval : intOfLit (natDigits i) = Int.ofNat i := C04.intOfLit_intRepr (Int.ofNat i)
    have hnl : (natDigits i).contains '\n' = false := by
      cases hc : (natDigits i).contains '\n' with
      | false => rfl
      | true =>
        have : '\n' ∈ natDigits i := by simpa using hc
        exact absurd rfl (hch _ this).2.1
    have ih := parseIndexingFuel_idxText r f' (by simp only [idxText, List.length_cons, List.length_append] at hf; omega)
    simp only [idxText, parseIndexingFuel, h1, h2, hlit, hnl, ih, hval]
    simp

theorem parseIndexing_idxText (path : List Nat) : parseIndexing (idxText path) = some (path.map Int.ofNat) :=
  parseIndexingFuel_idxText path _ (Nat.le_refl _)

theorem idxText_shape : ∀ (path : List Nat), path ≠ [] →
    (idxText path).length ≥ 3 ∧ (idxText path).getLast? = some ']' ∧ (idxText path).head? = some '['
  | [], h => absurd rfl h
  | [i], _ => by
    have : 1 ≤ (natDigits i).length := List.length_pos_iff.mpr (natDigits_ne_nil i)
    refine ⟨by simp only [idxText, List.length_cons, List.length_append, List.length_nil]; omega, ?_, rfl⟩
    exact getLast?_append_cons ']' [] ('[' :: natDigits i)
  | i :: j :: r, _ => by
    obtain ⟨h1, h2, _⟩ := idxText_shape (j :: r) (by simp)
    rw [idxText]
    refine ⟨by simp only [List.length_cons, List.length_append]; omega, ?_, rfl⟩
    cases hx : idxText (j :: r) with
    | nil => rw [hx] at h1; simp at h1
    | cons y l =>
      rw [hx] at h2
      have := getLast?_append_cons y l ('[' :: (natDigits i ++ [']']))
      simp only [List.cons_append, List.append_assoc, List.nil_append] at this
      rw [this, h2]

theorem follow_plain (vars : List (Str × Val)) (f : Nat) (vis : List Str) (v : Val) (last : Str)
    (hv : anyStrLeafV (·.contains '$') v = false) : (resolveRef.follow vars (f + 1) vis v last).1 = .val v := by
  rw [follow_succ]
  cases v with
  | leaf y =>
    cases y with
    | str t =>
      have : ¬ (t.contains '$' = true) := by simpa [anyStrLeafV] using hv
      simp only
      rw [if_neg this]
    | int _ => rfl
    | float _ => rfl
    | bool _ => rfl
    | none => rfl
  | dict d => simp only [hv]; rfl
  | list xs => simp only [hv]; rfl

/-- the shape of an indexed reference: name and index text -/
theorem indexed_parts (l : Str) (path : List Nat) (hl : l.all isWordChar = true) (hp : path ≠ []) :
    refName ('$' :: (l ++ idxText path)) = l ∧ idxOf ('$' :: (l ++ idxText path)) = some (idxText path) := by
  obtain ⟨h1, h2, h3⟩ := idxText_shape path hp
  have hnl : ∀ x ∈ l, (x != '[') = true := by
    intro x hx
    have : x ≠ '[' := fun e => allWord_noLb hl (e ▸ hx)
    simpa using this
  have hhead : headFails (· != '[') (idxText path) = true := by
    cases hx : idxText path with
    | nil => rfl
    | cons c r => rw [hx] at h3; cases h3; simp [headFails]
  obtain ⟨t1, t2⟩ := takeWhile_stop (· != '[') l (idxText path) hnl hhead
  refine ⟨?_, ?_⟩
  · rw [refName_eq]; exact t1
  · simp only [idxOf, afterD, t2, h2]
    have : decide (List.length (idxText path) ≥ 3) = true := by simpa using h1
    simp [this]

/-- **`C05_indexed`** (at `_resolve_reference`): the reference `$l[i][j]…` to a variable `l` whose value carries no `$`
    resolves to the addressed element `indexVal v [i, j, …]` when the index path is in range, and -- the exception of
    `eval("value[i]…")` being suppressed -- to the whole value when it is not -/
theorem resolveRef_indexed (vars : List (Str × Val)) (l : Str) (v : Val) (path : List Nat) (f : Nat)
    (hl : l.all isWordChar = true) (hg : getVar l vars = some v)
    (hv : anyStrLeafV (·.contains '$') v = false) (hp : path ≠ []) :
    resolveRef vars (f + 2) [] ('$' :: (l ++ idxText path)) =
      .val (match indexVal v (path.map Int.ofNat) with | some x => x | none => v) := by
  obtain ⟨hn, hi⟩ := indexed_parts l path hl hp
  obtain ⟨h1, _, _⟩ := idxText_shape path hp
  have hne : (idxText path).isEmpty = false := by
    cases hx : idxText path with
    | nil => rw [hx] at h1; simp at h1
    | cons _ _ => rfl
  rw [resolveRef_succ, hi, hn]
  simp only [List.contains_nil, Bool.false_eq_true, if_false, hg, follow_plain vars f _ v l hv, hne,
    parseIndexing_idxText]
  cases indexVal v (path.map Int.ofNat) <;> rfl

theorem indexVal_nil (v : Val) : indexVal v [] = some v := by
  cases v <;> simp [indexVal]

theorem indexVal_cons_in (xs : List Val) (i : Nat) (r : List Int) (x : Val) (h : xs[i]? = some x) :
    indexVal (.list xs) (Int.ofNat i :: r) = indexVal x r := by
  have hlt : i < xs.length := by
    apply Classical.byContradiction
    intro hn
    rw [List.getElem?_eq_none (by omega)] at h
    cases h
  have hp : pyIndex xs.length (Int.ofNat i) = some i := by
    simp only [pyIndex, Int.ofNat_eq_natCast, Int.natCast_nonneg, if_true, Int.toNat_natCast, hlt]
  rw [indexVal, hp]
  simp only [h]

theorem indexVal_cons_out (xs : List Val) (i : Nat) (r : List Int) (h : xs.length ≤ i) :
    indexVal (.list xs) (Int.ofNat i :: r) = none := by
  have hp : pyIndex xs.length (Int.ofNat i) = none := by
    have : ¬ i < xs.length := by omega
    simp only [pyIndex, Int.ofNat_eq_natCast, Int.natCast_nonneg, if_true, Int.toNat_natCast, this, if_false]
  rw [indexVal, hp]

theorem idxText_chars : ∀ (path : List Nat), ∀ c ∈ idxText path, isRefChar c = true ∧ isWs c = false
  | [], c, hc => by simp [idxText] at hc
  | i :: r, c, hc => by
    simp only [idxText, List.mem_cons, List.mem_append] at hc
    rcases hc with rfl | hc | rfl | hc
    · exact ⟨by simp [isRefChar], by decide⟩
    · have := (natDigits_chars i c hc).2.2.2
      exact ⟨isRefChar_of_word this, word_not_ws c this⟩
    · exact ⟨by simp [isRefChar], by decide⟩
    · exact idxText_chars r c hc

/-- the text `$l[i][j]…` is one reference, and nothing else -/
theorem findRefs_indexed (c : Char) (l : Str) (path : List Nat) (hc : isWordChar c = true) (hl : l.all isWordChar = true) :
    findRefs ('$' :: c :: (l ++ idxText path)) = ['$' :: c :: (l ++ idxText path)] ∧
    strip ('$' :: c :: (l ++ idxText path)) = '$' :: c :: (l ++ idxText path) := by
  have hall : ∀ x ∈ l ++ idxText path, isRefChar x = true ∧ isWs x = false := by
    intro x hx
    rcases List.mem_append.mp hx with hx | hx
    · have := List.all_eq_true.mp hl x hx
      exact ⟨isRefChar_of_word this, word_not_ws x this⟩
    · exact idxText_chars path x hx
  constructor
  · obtain ⟨t1, t2⟩ := takeWhile_stop isRefChar (l ++ idxText path) [] (fun x hx => (hall x hx).1) rfl
    simp only [List.append_nil] at t1 t2
    have hf : findRef ('$' :: c :: (l ++ idxText path)) = some ([], '$' :: c :: (l ++ idxText path), []) := by
      rw [findRef]
      simp only [hc, if_true, t1, t2]
    simp only [findRefs, List.length_cons, findRefsFuel, hf]
    cases (l ++ idxText path).length + 1 <;> simp [findRef]
  · apply strip_id
    intro x hx
    rcases List.mem_cons.mp hx with rfl | hx
    · exact isWs_dollar
    · rcases List.mem_cons.mp hx with rfl | hx
      · exact word_not_ws _ hc
      · exact (hall x hx).2


/-! ## property theorems -/


/-- **`variables_nested`** the variable table `evalExpressions` uses, for every dictionary (nested dicts, lists with and
    without dicts, at any depth): the name `n` holds what the *last* assignment to `n` in the order `declsEs` stored
    (`assigned`: the value itself; for a string the pending expression text in place of its placeholder; nothing for an
    integer key or a string that refers to its own key).  In particular a later declaration wins over an earlier one,
    a deeper one over an earlier shallower one, and the key of a dict over every declaration inside that dict. -/
theorem variables_nested (exprs : Tbl ExprEntry) (es : Entries) (n : Str) :
    getVar n (varsEs exprs es []) = lastDecl exprs n (declsEs es) := by
  rw [varsEs_eq, getVar_assignAll]
  cases lastDecl exprs n (declsEs es) <;> rfl

/-- `n` is declared exactly once in the tree, with the value `v` (at any depth, as a leaf, a list or a dict) -/
def DeclaredOnce (n : Str) (v : Val) (es : Entries) : Prop :=
  (declsEs es).filter (fun d => d.1 == Key.str n) = [(Key.str n, v)]

instance (n : Str) (v : Val) (es : Entries) : Decidable (DeclaredOnce n v es) := by
  unfold DeclaredOnce; infer_instance

/-- a name declared exactly once holds the value of that declaration, wherever it stands -/
theorem variables_nested_once (exprs : Tbl ExprEntry) (es : Entries) (n : Str) (v : Val) (h : DeclaredOnce n v es) :
    getVar n (varsEs exprs es []) = (assigned exprs (.str n) v).map (·.2) := by
  rw [variables_nested, lastDecl_filter, h]
  simp only [lastDecl]
  cases ha : assigned exprs (.str n) v with
  | none => rfl
  | some p =>
    have := assigned_key ha
    simp only [Key.str.injEq] at this
    simp [this]

/-- **`C05_placement_independent_vars`** two dictionaries of any shape in which `n` is declared exactly once, with the
    same value: the variable tables agree at `n` -- the depth and the position of the declaration do not matter -/
theorem C05_placement_independent_vars (exprs : Tbl ExprEntry) (es1 es2 : Entries) (n : Str) (v : Val)
    (h1 : DeclaredOnce n v es1) (h2 : DeclaredOnce n v es2) :
    getVar n (varsEs exprs es1 []) = getVar n (varsEs exprs es2 []) := by
  rw [variables_nested_once exprs es1 n v h1, variables_nested_once exprs es2 n v h2]

/-- an ordinary scalar (no `$`, no placeholder word) declared once under a name that is no comment placeholder is the
    value of the variable -/
theorem variables_nested_scalar (exprs : Tbl ExprEntry) (es : Entries) (n : Str) (v : Val) (h : DeclaredOnce n v es)
    (hv : okVal v = true) (hn : isPhKey n = false) : getVar n (varsEs exprs es []) = some v := by
  rw [variables_nested_once exprs es n v h]
  obtain ⟨x, rfl, _⟩ := okVal_leaf hv
  rw [assigned_leaf, if_pos (skipVar_ok exprs hv hn), varVal_ok exprs hv]
  rfl

/-- **`C05_placement_independent`**  Let `s` be any tree of nested dicts (`Placed s`): its leaf declarations, read as one
    flat dictionary `flatSD s`, form an acyclic reference graph in the domain of `C05_complete_acyclic'`; the sub-dict
    keys are words and no declared names; no `[` in texts and scalars.  If `evalExpressions` succeeds on the tree then
    no expression is left pending, the tree has its shape (keys and nesting) unchanged, and every declaration, wherever
    it was placed, holds the value the *flat* topological specification gives it -- the same value as in
    `C05_complete_acyclic'` for the flat dictionary. -/
theorem C05_placement_independent (ev : Str → EvalResult) (s s' : SD) (E : EvOK ev) (EL : EvNlb ev) (P : Placed s)
    (h : evalExpressions ev s = .ok s') :
    s'.exprs = [] ∧ skel s'.data = skel s.data ∧ keys (flatEs s'.data) = keys (flatEs s.data) ∧
    ∀ name v, topoVal ev (flatSD s) ((flatEs s.data).length + 1) name = some v →
      lookup (.str name) (flatEs s'.data) = some v := by
  obtain ⟨R, nr, st, d, hres, hloop, hfin, rfl⟩ := evalExpressions_ok h
  have A := P.flat_ok
  obtain ⟨rank, hrank⟩ := A.base.acyclic
  have N0 : NInv ev s ⟨s.data, s.exprs⟩ := ⟨Inv.init A, ⟨P.tree, rfl, rfl, P.expr_nlb, P.vals_nlb⟩⟩
  obtain ⟨N, hno⟩ := loop_inv A (nestedView P E EL) E rank hrank _ _ st R nr N0 hres hloop
  obtain ⟨f1, _, f3⟩ := final_sim st.exprs st.data d N.side.tree hfin
  exact ⟨rfl, f3.trans N.side.skel_eq, N.inv.final A (hno (Or.inr (by simp only; omega))) f1⟩


/-! ### permutations of the declarations: the domain of `C05_complete_acyclic'` is closed under them -/

theorem exprOf_congr {g g' : SD} (he : g'.exprs = g.exprs) (v : Val) : exprOf g' v = exprOf g v := by
  cases v with
  | leaf x => cases x <;> simp [exprOf, he]
  | dict _ => rfl
  | list _ => rfl

theorem acyclicFlat'_perm {g g' : SD} (hd : g'.data.Perm g.data) (he : g'.exprs = g.exprs) (A : AcyclicFlat' g) :
    AcyclicFlat' g' := by
  have hm : ∀ d, d ∈ g'.data ↔ d ∈ g.data := fun d => hd.mem_iff
  have hl := lookup_perm hd.symm A.base.keys_nodup
  refine ⟨⟨?_, ?_, ?_, ?_, ?_, ?_, ?_, ?_⟩, ?_, ?_, ?_, ?_, ?_⟩
  · exact (hd.map (·.1)).nodup_iff.mpr A.base.keys_nodup
  · exact fun d hd' => A.base.flat d ((hm d).mp hd')
  · rw [he]; exact A.base.ids_nodup
  · rw [he]; exact A.base.names
  · rw [he]; intro e hee
    rw [(hd.filter _).length_eq]
    exact A.base.placed e hee
  · intro d hd' hx
    rw [exprOf_congr he] at hx
    exact A.base.plain_usable d ((hm d).mp hd') hx
  · rw [he]; intro e hee r hr
    rw [hl]
    exact A.base.refs_ok e hee r hr
  · obtain ⟨rank, hr⟩ := A.base.acyclic
    refine ⟨rank, ?_⟩
    simp only [rankOk, List.all_eq_true] at hr ⊢
    intro d hd'
    have := hr d ((hm d).mp hd')
    rw [exprOf_congr he]
    exact this
  · rw [he]; exact A.ids_small
  · exact fun d hd' => A.keys_words d ((hm d).mp hd')
  · exact fun d hd' => A.no_ph_keys d ((hm d).mp hd')
  · intro d hd'
    have := A.vals_text d ((hm d).mp hd')
    simp only [valText] at this ⊢
    rw [exprOf_congr he]
    exact this
  · rw [he]; exact A.expr_wf

/-- the topological specification does not depend on the order of the declarations -/
theorem topoVal_perm (ev : Str → EvalResult) {g g' : SD} (hn : (keys g.data).Nodup) (hd : g'.data.Perm g.data)
    (he : g'.exprs = g.exprs) : ∀ (fuel : Nat) (name : Str), topoVal ev g' fuel name = topoVal ev g fuel name
  | 0, _ => rfl
  | fuel + 1, name => by
    have ih : topoVal ev g' fuel = topoVal ev g fuel := funext (topoVal_perm ev hn hd he fuel)
    rw [topoVal_succ, topoVal_succ, lookup_perm hd.symm hn, ih]
    cases lookup (Key.str name) g.data with
    | none => rfl
    | some v => simp only [exprOf_congr he]

/-- **order of declaration**: `C05_complete_acyclic'` already covers every permutation -- its domain `AcyclicFlat'` is
    closed under permuting the declarations (`acyclicFlat'_perm`) and its specification `topoVal` does not depend on
    the order (`topoVal_perm`); so a flat dictionary and any reordering of it give every name the same value -/
theorem C05_order_independent (ev : Str → EvalResult) (g g' r r' : SD) (E : EvOK ev) (A : AcyclicFlat' g)
    (hd : g'.data.Perm g.data) (he : g'.exprs = g.exprs)
    (h : evalExpressions ev g = .ok r) (h' : evalExpressions ev g' = .ok r') :
    ∀ name v, topoVal ev g (g.data.length + 1) name = some v →
      lookup (.str name) r.data = some v ∧ lookup (.str name) r'.data = some v := by
  intro name v hv
  refine ⟨(C05_complete_acyclic' ev g r E A h).2.2 name v hv, ?_⟩
  apply (C05_complete_acyclic' ev g' r' E (acyclicFlat'_perm hd he A) h').2.2 name v
  rw [hd.length_eq, topoVal_perm ev A.base.keys_nodup hd he]
  exact hv

/-- no index bracket in the expression texts and in the scalars of a flat graph -/
structure NoBracket (g : SD) : Prop where
  expr_nlb : ∀ e ∈ g.exprs, '[' ∉ e.2.expression
  vals_nlb : ∀ d ∈ g.data, valNlb d.2 = true

/-- **a placement of the flat graph `g`**: `s` is a tree of nested dicts whose leaves are the declarations of `g`, each
    once, in any order and at any depth; the keys of the nested dicts are words (or integers) and none of them is a
    name of `g` (so none is referenced); the expression table is that of `g` -/
structure Placement (g s : SD) : Prop where
  tree : treeEs s.data = true
  sub_words : ∀ k ∈ dictKeys s.data, keyWord k = true
  sub_fresh : ∀ k ∈ dictKeys s.data, k ∉ keys g.data
  leaves : (flatEs s.data).Perm g.data
  exprs_eq : s.exprs = g.exprs

theorem Placement.placed {g s : SD} (A : AcyclicFlat' g) (B : NoBracket g) (Pl : Placement g s) : Placed s where
  tree := Pl.tree
  sub_words := Pl.sub_words
  sub_fresh := fun k hk hm => Pl.sub_fresh k hk ((Pl.leaves.map (·.1)).mem_iff.mp hm)
  flat_ok := acyclicFlat'_perm (g' := flatSD s) Pl.leaves Pl.exprs_eq A
  expr_nlb := by rw [Pl.exprs_eq]; exact B.expr_nlb
  vals_nlb := fun d hd => B.vals_nlb d (Pl.leaves.mem_iff.mp hd)

/-- **`C05_placement_independent`, in terms of the flat graph**: for every flat acyclic graph `g` in the domain of
    `C05_complete_acyclic'` (without index brackets) and EVERY placement `s` of its declarations into a tree of nested
    dicts -- any permutation, any depth, any distribution -- a successful `evalExpressions` on `s` leaves no expression
    pending, keeps the shape of the tree, and gives every declaration the value `topoVal ev g` of the flat
    specification: the value `C05_complete_acyclic'` gives it in the flat dictionary `g`. -/
theorem C05_placement_independent_graph (ev : Str → EvalResult) (g s s' : SD) (E : EvOK ev) (EL : EvNlb ev)
    (A : AcyclicFlat' g) (B : NoBracket g) (Pl : Placement g s) (h : evalExpressions ev s = .ok s') :
    s'.exprs = [] ∧ skel s'.data = skel s.data ∧
    ∀ name v, topoVal ev g (g.data.length + 1) name = some v → lookup (.str name) (flatEs s'.data) = some v := by
  obtain ⟨h1, h2, _, h4⟩ := C05_placement_independent ev s s' E EL (Pl.placed A B) h
  refine ⟨h1, h2, fun name v hv => h4 name v ?_⟩
  have := topoVal_perm ev (g' := flatSD s) A.base.keys_nodup Pl.leaves Pl.exprs_eq (g.data.length + 1) name
  rw [Pl.leaves.length_eq, this]
  exact hv

/-- the tree and the flat dictionary of its leaves, both evaluated: every name to which the specification gives a
    value holds the same value in both results -/
theorem C05_placed_eq_flat (ev : Str → EvalResult) (s s' sF : SD) (E : EvOK ev) (EL : EvNlb ev) (P : Placed s)
    (h : evalExpressions ev s = .ok s') (hF : evalExpressions ev (flatSD s) = .ok sF) :
    ∀ name v, topoVal ev (flatSD s) ((flatEs s.data).length + 1) name = some v →
      lookup (.str name) (flatEs s'.data) = some v ∧ lookup (.str name) sF.data = some v :=
  fun name v hv => ⟨(C05_placement_independent ev s s' E EL P h).2.2.2 name v hv,
    (C05_complete_acyclic' ev (flatSD s) sF E P.flat_ok hF).2.2 name v hv⟩

theorem evNlb_evalInt : EvNlb evalInt := by
  intro t x h
  rcases evalInt_cases t with ⟨z, hz⟩ | hu
  · rw [hz] at h
    cases h
    simp only [valNlb, pyStrScalar, Bool.not_eq_true', List.contains_eq_mem, decide_eq_false_iff_not]
    exact fun h => intRepr_forall (P := (· ≠ '[')) (by decide) (by decide) z _ h rfl
  · rw [hu] at h; cases h


/-! ### indexed references: in range, out of range -/

/-- **`C05_indexed`** `$l[i]` for a list variable `l = xs` without `$` in it, `i` in range: the element `xs[i]` -/
theorem C05_indexed (vars : List (Str × Val)) (l : Str) (xs : List Val) (i : Nat) (x : Val) (f : Nat)
    (hl : l.all isWordChar = true) (hg : getVar l vars = some (.list xs))
    (hv : anyStrLeafXs (·.contains '$') xs = false) (hx : xs[i]? = some x) :
    resolveRef vars (f + 2) [] ('$' :: (l ++ idxText [i])) = .val x := by
  rw [resolveRef_indexed vars l (.list xs) [i] f hl hg (by simpa [anyStrLeafV] using hv) (by simp)]
  have h1 : indexVal (.list xs) ([i].map Int.ofNat) = some x := by
    rw [List.map_cons, List.map_nil, indexVal_cons_in xs i [] x hx, indexVal_nil]
  rw [h1]

/-- `$l[i][j]`: the element of the element -/
theorem C05_indexed2 (vars : List (Str × Val)) (l : Str) (xs ys : List Val) (i j : Nat) (y : Val) (f : Nat)
    (hl : l.all isWordChar = true) (hg : getVar l vars = some (.list xs))
    (hv : anyStrLeafXs (·.contains '$') xs = false) (hx : xs[i]? = some (.list ys)) (hy : ys[j]? = some y) :
    resolveRef vars (f + 2) [] ('$' :: (l ++ idxText [i, j])) = .val y := by
  rw [resolveRef_indexed vars l (.list xs) [i, j] f hl hg (by simpa [anyStrLeafV] using hv) (by simp)]
  have h1 : indexVal (.list xs) ([i, j].map Int.ofNat) = some y := by
    rw [List.map_cons, List.map_cons, List.map_nil, indexVal_cons_in xs i _ _ hx, indexVal_cons_in ys j [] y hy,
      indexVal_nil]
  rw [h1]

/-- **out of range** (`IndexError` inside the suppressed `eval`): the reference resolves to the whole list, whatever
    further indices follow -/
theorem C05_indexed_out_of_range (vars : List (Str × Val)) (l : Str) (xs : List Val) (i : Nat) (r : List Nat) (f : Nat)
    (hl : l.all isWordChar = true) (hg : getVar l vars = some (.list xs))
    (hv : anyStrLeafXs (·.contains '$') xs = false) (hx : xs.length ≤ i) :
    resolveRef vars (f + 2) [] ('$' :: (l ++ idxText (i :: r))) = .val (.list xs) := by
  rw [resolveRef_indexed vars l (.list xs) (i :: r) f hl hg (by simpa [anyStrLeafV] using hv) (by simp)]
  simp only [List.map_cons, indexVal_cons_out xs i _ hx]

/-- an index into a scalar (`TypeError`, suppressed): the scalar itself -/
theorem C05_indexed_scalar (vars : List (Str × Val)) (l : Str) (a : Scalar) (i : Nat) (r : List Nat) (f : Nat)
    (hl : l.all isWordChar = true) (hg : getVar l vars = some (.leaf a))
    (hv : anyStrLeafV (·.contains '$') (.leaf a) = false) :
    resolveRef vars (f + 2) [] ('$' :: (l ++ idxText (i :: r))) = .val (.leaf a) := by
  rw [resolveRef_indexed vars l (.leaf a) (i :: r) f hl hg hv (by simp)]
  simp [indexVal]

/-- the pass: an entry whose text is the indexed reference `$l[i]…`, resolved to `x`, takes `x` as it is -/
theorem C05_indexed_pass (ev : Str → EvalResult) (R : List (Str × Val)) (data : Entries) (i0 : Nat) (ph : Str)
    (c : Char) (l : Str) (path : List Nat) (x : Val) (hc : isWordChar c = true) (hl : l.all isWordChar = true)
    (hf : (R.find? fun p => p.1 == '$' :: c :: (l ++ idxText path)).map (·.2) = some x) :
    evalPass ev R ⟨data, [(i0, ⟨'$' :: c :: (l ++ idxText path), ph⟩)]⟩ = (substValEs ph x 1 data).map (fun d => ⟨d, []⟩) :=
  C05_plain_ref_takes_value ev R data i0 _ ph x (findRefs_indexed c l path hc hl).1 (findRefs_indexed c l path hc hl).2 hf

/-! ## non-vacuity, instances, refutations -/

/-- `b $x; c "$x + $b"; a { q { x 3; } } d "$c * 2";` as the native parser hands it over: `x` is declared two dicts deep,
    after its uses -/
def exN : SD :=
  { data := [(.str "b".toList, vP 2), (.str "c".toList, vP 0),
             (.str "a".toList, .dict [(.str "q".toList, .dict [(.str "x".toList, vI 3)])]), (.str "d".toList, vP 1)],
    exprs := [(0, ⟨"$x + $b".toList, phOf 0⟩), (1, ⟨"$c * 2".toList, phOf 1⟩), (2, ⟨"$x".toList, phOf 2⟩)] }

def parsedOf (text : String) : Option (Entries × Tbl ExprEntry) :=
  match parseNative true [] none text.toList with
  | .ok (sd, _) => some (sd.data, sd.exprs)
  | .error _ => none

theorem parsedOf_ofList (text : Str) : parsedOf (String.ofList text) =
    match parseNative true [] none text with
    | .ok (sd, _) => some (sd.data, sd.exprs)
    | .error _ => none := by
  unfold parsedOf; rw [String.toList_ofList]

theorem exN_is_parsed : parsedOf "b $x; c \"$x + $b\"; a { q { x 3; } } d \"$c * 2\";" = some (exN.data, exN.exprs) := by
  rw [parsedOf_ofList]
  decide +kernel

/-- the flat graph of the same declarations, in another order: `x 3; b $x; c "$x + $b"; d "$c * 2";` -/
def exG : SD :=
  { data := [(.str "x".toList, vI 3), (.str "b".toList, vP 2), (.str "c".toList, vP 0), (.str "d".toList, vP 1)],
    exprs := exN.exprs }

theorem exG_acyclicFlat' : AcyclicFlat' exG :=
  AcyclicFlat'.of_check (rank := rankOf ["x", "b", "c", "d"]) (by decide +kernel)

theorem exG_noBracket : NoBracket exG := ⟨by decide +kernel, by decide +kernel⟩

theorem exN_placement : Placement exG exN where
  tree := by decide +kernel
  sub_words := by decide +kernel
  sub_fresh := by decide +kernel
  leaves := by
    show List.Perm [(Key.str "b".toList, vP 2), (.str "c".toList, vP 0), (.str "x".toList, vI 3), (.str "d".toList, vP 1)]
      [(.str "x".toList, vI 3), (.str "b".toList, vP 2), (.str "c".toList, vP 0), (.str "d".toList, vP 1)]
    exact ((List.Perm.swap _ _ _).cons _).trans (List.Perm.swap _ _ _)
  exprs_eq := rfl

/-- the hypotheses of `C05_placement_independent` are satisfiable -/
theorem exN_placed : Placed exN := exN_placement.placed exG_acyclicFlat' exG_noBracket

/-- the model on the nested example: `b = 3`, `c = 6`, `d = 12`, the tree unchanged -/
theorem exN_eval : dataOf (evalExpressions evalInt exN)
    = some [(.str "b".toList, vI 3), (.str "c".toList, vI 6),
            (.str "a".toList, .dict [(.str "q".toList, .dict [(.str "x".toList, vI 3)])]), (.str "d".toList, vI 12)] := by
  decide +kernel

/-- the flat specification on the flat graph -/
theorem exG_topo : (["x", "b", "c", "d"].map fun n => topoVal evalInt exG 5 n.toList)
    = [some (vI 3), some (vI 3), some (vI 6), some (vI 12)] := by
  decide +kernel

/-- the theorem instantiated: whatever `evalExpressions` answers on the nested example, `d` holds 12 -/
example (s' : SD) (h : evalExpressions evalInt exN = .ok s') : lookup (.str "d".toList) (flatEs s'.data) = some (vI 12) :=
  (C05_placement_independent_graph evalInt exG exN s' evOK_evalInt evNlb_evalInt exG_acyclicFlat' exG_noBracket
    exN_placement h).2.2 _ _ (List.cons.inj (List.cons.inj (List.cons.inj (List.cons.inj exG_topo).2).2).2).1

/-- `variables_nested_scalar` instantiated: `x`, declared two dicts deep, is the variable `x = 3` -/
example : getVar "x".toList (varsEs exN.exprs exN.data []) = some (vI 3) :=
  variables_nested_scalar _ _ _ _ (by decide +kernel) (by decide +kernel) (by decide +kernel)

/-- `C05_placement_independent_vars` instantiated: the table of the tree and of the flat graph agree at `x` -/
example : getVar "x".toList (varsEs exN.exprs exN.data []) = getVar "x".toList (varsEs exG.exprs exG.data []) :=
  C05_placement_independent_vars _ _ _ "x".toList (vI 3) (by decide +kernel) (by decide +kernel)

/-- end to end, from the file text: the same values wherever `x` is declared -/
theorem C05_nested_end_to_end :
    readOne "a { x 3; } b $x; c \"$x + $b\";"
      = some [(.str "a".toList, .dict [(.str "x".toList, vI 3)]), (.str "b".toList, vI 3), (.str "c".toList, vI 6)] ∧
    readOne "b $x; c \"$x + $b\"; a { q { x 3; } }"
      = some [(.str "b".toList, vI 3), (.str "c".toList, vI 6),
              (.str "a".toList, .dict [(.str "q".toList, .dict [(.str "x".toList, vI 3)])])] ∧
    readOne "x 3; b $x; c \"$x + $b\";"
      = some [(.str "x".toList, vI 3), (.str "b".toList, vI 3), (.str "c".toList, vI 6)] := by
  rw [readOne_ofList, readOne_ofList, readOne_ofList]
  decide +kernel

/-- which declaration wins when a name is declared twice (`variables_nested`: the last assignment in `declsEs` order):
    the later one; the deeper later one; and the key of a dict over a declaration inside it -/
theorem C05_declared_twice :
    readOne "x 1; sub { x 2; } b $x;"
      = some [(.str "x".toList, vI 1), (.str "sub".toList, .dict [(.str "x".toList, vI 2)]), (.str "b".toList, vI 2)] ∧
    readOne "sub { x 2; } x 1; b $x;"
      = some [(.str "sub".toList, .dict [(.str "x".toList, vI 2)]), (.str "x".toList, vI 1), (.str "b".toList, vI 1)] ∧
    readOne "x { x 3; } b $x;"
      = some [(.str "x".toList, .dict [(.str "x".toList, vI 3)]), (.str "b".toList, .dict [(.str "x".toList, vI 3)])] := by
  rw [readOne_ofList, readOne_ofList, readOne_ofList]
  decide +kernel


/-! ### indexed references: instances -/

/-- the text of an index path, on an example -/
example : '$' :: ("l".toList ++ idxText [1, 0]) = "$l[1][0]".toList := by decide +kernel

/-- `C05_indexed2` instantiated on the table of `l ((1 2) (3 4));` -/
example : resolveRef [("l".toList, .list [.list [vI 1, vI 2], .list [vI 3, vI 4]])] 2 [] "$l[1][0]".toList = .val (vI 3) := by
  rw [show "$l[1][0]".toList = '$' :: ("l".toList ++ idxText [1, 0]) by decide +kernel]
  exact C05_indexed2 [("l".toList, .list [.list [vI 1, vI 2], .list [vI 3, vI 4]])] "l".toList
    [.list [vI 1, vI 2], .list [vI 3, vI 4]] [vI 3, vI 4] 1 0 (vI 3) 0 (by decide +kernel) (by decide +kernel)
    (by decide +kernel) rfl rfl

def isUnsupportedRead : Except ParseErr ReadOut → Bool
  | .error .unsupported => true
  | _ => false

def isTooDeepRead : Except ParseErr ReadOut → Bool
  | .error .tooDeep => true
  | _ => false

def readRaw (text : String) : Except ParseErr ReadOut := readFile evalInt (oneFile text) {} none ["d".toList, "f".toList]

theorem readRaw_ofList (text : Str) : readRaw (String.ofList text) =
    readFile evalInt [(["d".toList, "f".toList], .native text)] {} none ["d".toList, "f".toList] := by
  unfold readRaw oneFile; simp only [String.toList_ofList]

/-- indexed references through the whole reader, from the file text: an element, an element of an element, elements
    inside an expression; an index out of range leaves the whole list -/
theorem C05_indexed_end_to_end :
    readOne "l (1 2 3); b $l[1]; c \"$l[0] + $l[2]\";"
      = some [(.str "l".toList, .list [vI 1, vI 2, vI 3]), (.str "b".toList, vI 2), (.str "c".toList, vI 4)] ∧
    readOne "l ((1 2) (3 4)); b $l[1][0];"
      = some [(.str "l".toList, .list [.list [vI 1, vI 2], .list [vI 3, vI 4]]), (.str "b".toList, vI 3)] ∧
    readOne "sub { l (1 2 3); } b $l[2];"
      = some [(.str "sub".toList, .dict [(.str "l".toList, .list [vI 1, vI 2, vI 3])]), (.str "b".toList, vI 3)] ∧
    readOne "l (1 2 3); c $l[5];"
      = some [(.str "l".toList, .list [vI 1, vI 2, vI 3]), (.str "c".toList, .list [vI 1, vI 2, vI 3])] := by
  rw [readOne_ofList, readOne_ofList, readOne_ofList, readOne_ofList]
  decide +kernel

/-- outside the model (`unsupported`): a negative index (the reference pattern `\$\w[\w\[\]]*` stops at `-`, the index
    text is the lone `[`), and an out-of-range index inside an expression (`str(list)` would be substituted) -/
theorem C05_indexed_unsupported :
    isUnsupportedRead (readRaw "l (1 2 3); d $l[-1];") = true ∧
    isUnsupportedRead (readRaw "l (1 2 3); d \"$l[7] + 1\";") = true := by
  rw [readRaw_ofList, readRaw_ofList]
  decide +kernel

/-! ### refutations: what the hypotheses of `Placed` exclude -/

/-- **a sub-dict key that is referenced** (`sub_fresh` violated, the name is declared nowhere else).
    File text `x { a 1; } b $x;`: the flat reading has no variable `x` (the reference would stay text), the tree makes
    the sub-dict itself the value of `b`. -/
theorem C05_refuted_subdict_referenced :
    readOne "x { a 1; } b $x;"
      = some [(.str "x".toList, .dict [(.str "a".toList, vI 1)]), (.str "b".toList, .dict [(.str "a".toList, vI 1)])] ∧
    readOne "a 1; b $x;" = some [(.str "a".toList, vI 1), (.str "b".toList, .leaf (.str "$x".toList))] := by
  rw [readOne_ofList, readOne_ofList]
  decide +kernel

/-- `x { x 3; } b $x;` as the native parser hands it over -/
def exClash : SD :=
  { data := [(.str "x".toList, .dict [(.str "x".toList, vI 3)]), (.str "b".toList, vP 0)],
    exprs := [(0, ⟨"$x".toList, phOf 0⟩)] }

theorem exClash_is_parsed : parsedOf "x { x 3; } b $x;" = some (exClash.data, exClash.exprs) := by
  rw [parsedOf_ofList]
  decide +kernel

/-- every hypothesis of `Placed` but `sub_fresh` -/
structure PlacedButFresh (s : SD) : Prop where
  tree : treeEs s.data = true
  sub_words : ∀ k ∈ dictKeys s.data, keyWord k = true
  flat_ok : AcyclicFlat' (flatSD s)
  expr_nlb : ∀ e ∈ s.exprs, '[' ∉ e.2.expression
  vals_nlb : ∀ d ∈ flatEs s.data, valNlb d.2 = true

theorem exClash_placedButFresh : PlacedButFresh exClash where
  tree := by decide +kernel
  sub_words := by decide +kernel
  flat_ok := AcyclicFlat'.of_check (rank := rankOf ["x", "b"]) (by decide +kernel)
  expr_nlb := by decide +kernel
  vals_nlb := by decide +kernel

/-- **without `sub_fresh` the statement is false**: in `x { x 3; } b $x;` the name `x` is declared once as a leaf and is
    also the key of the dict around it; the flat specification gives `b` the value 3, the model gives it the dict
    `{x: 3}` (the key of a dict is assigned after its content, `variables_nested`) -/
theorem C05_placement_false_without_fresh :
    ¬ (∀ (s s' : SD), PlacedButFresh s → evalExpressions evalInt s = .ok s' →
        ∀ name v, topoVal evalInt (flatSD s) ((flatEs s.data).length + 1) name = some v →
          lookup (.str name) (flatEs s'.data) = some v) := by
  intro H
  have hd : dataOf (evalExpressions evalInt exClash)
      = some [(.str "x".toList, .dict [(.str "x".toList, vI 3)]), (.str "b".toList, .dict [(.str "x".toList, vI 3)])] := by
    decide +kernel
  cases he : evalExpressions evalInt exClash with
  | error e => rw [he] at hd; cases hd
  | ok s' =>
    rw [he] at hd
    simp only [dataOf, Option.some.injEq] at hd
    have := H exClash s' exClash_placedButFresh he "b".toList (vI 3) (by decide +kernel)
    rw [hd] at this
    revert this
    decide +kernel

/-- an evaluator without results: a text is a `NameError` (it stays text) unless it carries a placeholder word -/
def evText (t : Str) : EvalResult := if isInfix kwExpr t then .syntaxError else .nameError

theorem evOK_evText : EvOK evText where
  value_ok := by intro t x h; simp only [evText] at h; split at h <;> cases h
  name_ok := by
    intro t h
    simp only [evText] at h
    split at h
    · cases h
    · rename_i hi; simpa using hi

theorem evNlb_evText : EvNlb evText := by
  intro t x h; simp only [evText] at h; split at h <;> cases h

/-- `x { a 1; } c "x[0] + $a + y[1]"; d $c;` as the native parser hands it over -/
def exBr : SD :=
  { data := [(.str "x".toList, .dict [(.str "a".toList, vI 1)]), (.str "c".toList, vP 0), (.str "d".toList, vP 1)],
    exprs := [(0, ⟨"x[0] + $a + y[1]".toList, phOf 0⟩), (1, ⟨"$c".toList, phOf 1⟩)] }

theorem exBr_is_parsed : parsedOf "x { a 1; } c \"x[0] + $a + y[1]\"; d $c;" = some (exBr.data, exBr.exprs) := by
  rw [parsedOf_ofList]
  decide +kernel

def isUnsupported' : Except ParseErr SD → Bool
  | .error .unsupported => true
  | _ => false

/-- **without the no-bracket hypothesis** (`expr_nlb` violated, everything else holds): the pending text
    `x[0] + $a + y[1]`, followed from `$c`, is read as the name `x` with the index text `[0] + $a + y[1]`.  Flat, there
    is no variable `x` and the reference waits (the evaluation succeeds: `d` becomes the text); in the tree `x` is the
    sub-dict, the index text is no index path and the model gives up (`unsupported`).
    (The library suppresses the `SyntaxError` of `eval("value[0] + $a + y[1]")` and makes the dict `{a: 1}` the value
    of `d`.) -/
theorem C05_placement_false_without_nobracket :
    treeEs exBr.data = true ∧ (∀ k ∈ dictKeys exBr.data, keyWord k = true) ∧
    (∀ k ∈ dictKeys exBr.data, k ∉ keys (flatEs exBr.data)) ∧ AcyclicFlat' (flatSD exBr) ∧
    (∀ d ∈ flatEs exBr.data, valNlb d.2 = true) ∧
    dataOf (evalExpressions evText (flatSD exBr))
      = some [(.str "a".toList, vI 1), (.str "c".toList, .leaf (.str "x[0] + 1 + y[1]".toList)),
              (.str "d".toList, .leaf (.str "x[0] + 1 + y[1]".toList))] ∧
    isUnsupported' (evalExpressions evText exBr) = true := by
  refine ⟨by decide +kernel, by decide +kernel, by decide +kernel,
    AcyclicFlat'.of_check (rank := rankOf ["a", "c", "d"]) (by decide +kernel), by decide +kernel, ?_, ?_⟩
  all_goals
    unfold exBr
    literal_chars
    decide +kernel

/-- **the depth bound of the code** (`set_global_key`, at most 10 keys on a path): a reference declared ten dicts deep is
    evaluated, eleven dicts deep reading fails (`tooDeep`); a plain value may stand at any depth -/
theorem C05_placement_depth_bound :
    readOne "s { a { b { c { d { e { f { g { h { k $x; } } } } } } } } } x 1;" ≠ none ∧
    isTooDeepRead (readRaw "s { a { b { c { d { e { f { g { h { i { k $x; } } } } } } } } } } x 1;") = true ∧
    readOne "s { a { b { c { d { e { f { g { h { i { k 2; } } } } } } } } } } x $k;" ≠ none := by
  rw [readOne_ofList, readRaw_ofList, readOne_ofList]
  decide +kernel

/- checked: every line below prints `[propext, Classical.choice, Quot.sound]`
#print axioms variables_nested
#print axioms variables_nested_once
#print axioms variables_nested_scalar
#print axioms C05_placement_independent_vars
#print axioms C05_placement_independent
#print axioms C05_placement_independent_graph
#print axioms C05_placed_eq_flat
#print axioms C05_order_independent
#print axioms resolveRef_indexed
#print axioms C05_indexed
#print axioms C05_indexed2
#print axioms C05_indexed_out_of_range
#print axioms C05_indexed_scalar
#print axioms C05_indexed_pass
#print axioms C05_indexed_end_to_end
#print axioms C05_indexed_unsupported
#print axioms exN_placed
#print axioms C05_nested_end_to_end
#print axioms C05_declared_twice
#print axioms C05_refuted_subdict_referenced
#print axioms C05_placement_false_without_fresh
#print axioms C05_placement_false_without_nobracket
#print axioms C05_placement_depth_bound
-/

end DictIO.C05nested
