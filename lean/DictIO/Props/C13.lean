/-
  C13 -- reads write nothing, writes touch only their target, failures destroy nothing.
  Model: the effect lists of `Model/Writer.lean` (the order of the steps of `DictWriter.write`: optional read of the
  target, serialise, create parent directories, open the target) and `targetName` (`create_target_file_name`,
  theorems in `Props/C13name.lean`).  The OS semantics of `open`/`mkdir` are outside the model; the effect lists are
  tied to the code by the audit-hook correspondence of harness/props/c13.py.
-/
import DictIO.Model.Writer
import DictIO.Lemmas.Literal

namespace DictIO.C13
open DictIO

def Effect.isRead : Effect → Bool | .read _ => true | _ => false
def Effect.isWrite : Effect → Bool | .write _ => true | _ => false
def Effect.isMkdirs : Effect → Bool | .mkdirs _ => true | _ => false

/-- reading only reads -/
theorem C13_read_pure (files : List Comps) : ∀ e ∈ readEffects files, Effect.isRead e = true := by
  intro e he
  obtain ⟨p, _, rfl⟩ := List.mem_map.mp he
  rfl

/-- a successful write opens exactly one file for writing: the target; the only directories it creates are the
    target's parents; the only file it reads is the target itself (append mode) -/
theorem C13_write_one (t : Comps) (ex : Bool) (mode : Str) :
    (writeEffects t ex mode true).filter Effect.isWrite = [.write t] ∧
    (writeEffects t ex mode true).filter Effect.isMkdirs = [.mkdirs t.dropLast] ∧
    ∀ e ∈ writeEffects t ex mode true, Effect.isRead e = true → e = .read t := by
  unfold writeEffects
  by_cases h : (mode == ['a'] && ex) = true
  · simp [h, List.filter, Effect.isWrite, Effect.isMkdirs, Effect.isRead]
  · simp [h, List.filter, Effect.isWrite, Effect.isMkdirs, Effect.isRead]

/-- if serialisation fails nothing is created, opened for writing or truncated: the existing target stays intact -/
theorem C13_fail_safe (t : Comps) (ex : Bool) (mode : Str) :
    ∀ e ∈ writeEffects t ex mode false, Effect.isWrite e = false ∧ Effect.isMkdirs e = false := by
  unfold writeEffects
  by_cases h : (mode == ['a'] && ex) = true <;> simp [h, Effect.isWrite, Effect.isMkdirs]

/-- serialisation comes before any change to the file system: every effect before the first write/mkdir is a read -/
theorem C13_serialise_first (t : Comps) (ex : Bool) (mode : Str) (ok : Bool) :
    ∃ reads rest, writeEffects t ex mode ok = reads ++ rest ∧ (∀ e ∈ reads, Effect.isRead e = true) ∧
      (rest = [] ∨ rest = [.mkdirs t.dropLast, .write t]) := by
  unfold writeEffects
  refine ⟨_, _, rfl, ?_, ?_⟩
  · intro e he
    by_cases h : (mode == ['a'] && ex) = true <;> simp [h] at he
    subst he; rfl
  · cases ok <;> simp

/-- an unrecognised mode never reads the target (it behaves as overwrite) -/
theorem C13_junk_mode_no_read (t : Comps) (ex ok : Bool) (mode : Str) (h : mode ≠ ['a']) :
    ∀ e ∈ writeEffects t ex mode ok, Effect.isRead e = false := by
  unfold writeEffects
  have : (mode == ['a']) = false := by simpa using h
  cases ok <;> simp [this, Effect.isRead]

/-- `DictParser.parse` writes exactly one file: the derived target in the source's directory; source and included files
    are only read -/
theorem C13_parse_one (src : Comps) (inc : List Comps) (name : Str) (ex : Bool) (mode : Str) :
    (parseEffects src inc name ex mode true).filter Effect.isWrite = [.write (src.dropLast ++ [name])] := by
  unfold parseEffects readEffects
  rw [List.filter_append]
  have h1 : (List.map Effect.read (src :: inc)).filter Effect.isWrite = [] := by
    apply List.filter_eq_nil_iff.mpr
    intro e he
    obtain ⟨p, _, rfl⟩ := List.mem_map.mp he
    simp [Effect.isWrite]
  rw [h1, (C13_write_one _ ex mode).1]
  rfl

/-- the derived name lives in the source's directory and carries the prefix (see `targetName_prefix`, `targetName_idem_*`,
    `targetName_ext` in C13name.lean for the name itself) -/
theorem C13_target_dir (src : Comps) (inc : List Comps) (name : Str) (ex : Bool) (mode : Str) :
    ∀ e ∈ parseEffects src inc name ex mode true, Effect.isWrite e = true → e = .write (src.dropLast ++ [name]) := by
  intro e he hw
  have : e ∈ (parseEffects src inc name ex mode true).filter Effect.isWrite := List.mem_filter.mpr ⟨he, hw⟩
  rw [C13_parse_one] at this
  simpa using this

/-! #### non-vacuity -/
example : writeEffects ["d".toList, "t".toList] true "a".toList true =
    [.read ["d".toList, "t".toList], .mkdirs ["d".toList], .write ["d".toList, "t".toList]] := by
  literal_chars
  decide +kernel
example : writeEffects ["d".toList, "t".toList] true "a".toList false = [.read ["d".toList, "t".toList]] := by
  literal_chars
  decide +kernel
example : writeEffects ["d".toList, "t".toList] true "x".toList true = [.mkdirs ["d".toList], .write ["d".toList, "t".toList]] := by
  literal_chars
  decide +kernel

end DictIO.C13
