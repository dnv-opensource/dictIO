/-
  C10 -- OpenFOAM output keeps content, drops private keys, carries the Foam header.

    (a) `NoUnderscoreV/Es/Xs`, `C10_underscore` (+V, Xs)     after `remove_underscore_keys_recursive` no dict at any depth,
                                                             also inside lists, has a key written with a leading `_`
    (b) `C10_drop_only_underscore`, `C10_drop_list`          exactly the `_` entries go; the others stay, in order,
        `C10_drop_id` (+V, Xs), `C10_drop_idem` (+V)         values processed recursively; identity without `_` keys; idempotent
    (c) `C10_no_single_quote`, `C10_no_single_quote_scalar`  the Foam formatter never adds a `'`: per string, per scalar,
        `NoAposV/Es/Xs`, `C10_no_single_quote_text`          and for the whole text of a dict (any indentation level)
    (d) `foamHeader_foamFile/_openfoam/_cpp`,                the header contains `FoamFile`, `OpenFOAM`, ` C++ `
        `makeDefault_foam_nil/_of_not_cpp/_of_cpp/_cases`    `make_default_block_comment` (Foam), all cases
        `C10_banner_raw`, `C10_banner_first_comment`         no comment: header ++ text; first comment without ` C++ `: header ++ comment
        `C10_banner`                                         `fmtSD .foam s = some t` (no block comments) ⇒ `removeTrailingSpaces foamHeader <+: t`
    (e) `C10_input_unchanged`, `C10_fmtPlain_drop`           the text is a function of the private-key-free copy
    (f) `C10_roundtrip_string`, `C10_roundtrip_string_dropped`   Foam writer → native reader gives `normEs es` on `DomC01 .foam`
    (g) `exDict…`                                            `{'a': [{'_z': 1, 'y': "it's"}], '_b': 1, 'k': 'x y'}`

  Added hypotheses.  (c) float leaves: `'\'' ∉ lexeme` (part of `NoAposScalar`).  (d) `C10_banner`: `s.blockC = []`;
  `C10_banner_first_comment`: the placeholder entry of the comment occurs in the text (flag of `substPh`, which does not
  depend on the replacement: `substPh_flag`).  (f) exactly those of `C01.C01_roundtrip_string`, plus `NoUnderscoreEs es`
  (`C10_roundtrip_string_dropped` replaces it by stating the result for the private-key-free copy).

  Technical note: the kernel evaluates `String.toList` on a long literal very slowly (superlinear); `foamHeader_eq` spells the
  header's characters out once (the literal is expanded by `literal_chars`, the two lists are compared by the kernel)
  and `foamHeader` is made locally irreducible, so that no tactic unfolds it by accident.
-/
import DictIO.Props.C01
import DictIO.Lemmas.SubstPh

namespace DictIO.C10
open DictIO

/-! ## (a) no key starting with `_` survives, at any depth, also inside lists -/

mutual
  /-- every key `k` of every dict reached through dicts and lists is written without a leading `_` -/
  def NoUnderscoreV : Val → Prop
    | .leaf _ => True
    | .dict es => NoUnderscoreEs es
    | .list xs => NoUnderscoreXs xs
  def NoUnderscoreEs : Entries → Prop
    | [] => True
    | (k, v) :: es => (formatKey .foam k).head? ≠ some '_' ∧ NoUnderscoreV v ∧ NoUnderscoreEs es
  def NoUnderscoreXs : List Val → Prop
    | [] => True
    | v :: xs => NoUnderscoreV v ∧ NoUnderscoreXs xs
end

mutual
  theorem C10_underscoreV : ∀ v : Val, NoUnderscoreV (dropUnderscoreV .foam v)
    | .leaf _ => by simp [dropUnderscoreV, NoUnderscoreV]
    | .dict es => by simp only [dropUnderscoreV, NoUnderscoreV]; exact C10_underscore es
    | .list xs => by simp only [dropUnderscoreV, NoUnderscoreV]; exact C10_underscoreXs xs
  /-- after `remove_underscore_keys_recursive` no dict at any depth has a key written with a leading `_` -/
  theorem C10_underscore : ∀ es : Entries, NoUnderscoreEs (dropUnderscoreEs .foam es)
    | [] => by simp [dropUnderscoreEs, NoUnderscoreEs]
    | (k, v) :: es => by
      simp only [dropUnderscoreEs]
      split
      · exact C10_underscore es
      · next h =>
        refine ⟨?_, C10_underscoreV v, C10_underscore es⟩
        intro h'; exact h (by simp [h'])
  theorem C10_underscoreXs : ∀ xs : List Val, NoUnderscoreXs (dropUnderscoreXs .foam xs)
    | [] => by simp [dropUnderscoreXs, NoUnderscoreXs]
    | v :: xs => by
      simp only [dropUnderscoreXs, NoUnderscoreXs]
      exact ⟨C10_underscoreV v, C10_underscoreXs xs⟩
end

/-! ## (b) only underscore keys are dropped -/

/-- the entry survives: its key is not written with a leading `_` -/
def keep (e : Key × Val) : Bool := !((formatKey .foam e.1).head? == some '_')

/-- entries whose key does not start with `_` are kept, in order, their values processed recursively -/
theorem C10_drop_only_underscore : ∀ es : Entries,
    dropUnderscoreEs .foam es = (es.filter keep).map (fun e => (e.1, dropUnderscoreV .foam e.2)) := fun es => by
  rw [dropUnderscoreEs_eq_selMap, selMap, ← List.filterMap_eq_map', List.filterMap_filter]; rfl

theorem keys_drop_sub {fl : Flavor} {k : Key} {es : Entries} (h : k ∈ keys (dropUnderscoreEs fl es)) : k ∈ keys es := by
  rw [dropUnderscoreEs_eq_selMap, keys_selMap] at h; exact (List.mem_filter.mp h).1

/-- lists keep all their items, in order -/
theorem C10_drop_list (xs : List Val) : dropUnderscoreXs .foam xs = xs.map (dropUnderscoreV .foam) := by
  induction xs with
  | nil => rfl
  | cons v xs ih => simp [dropUnderscoreXs, ih]

mutual
  theorem C10_drop_idV : ∀ v : Val, NoUnderscoreV v → dropUnderscoreV .foam v = v
    | .leaf _, _ => rfl
    | .dict es, h => by simp only [dropUnderscoreV]; rw [C10_drop_id es h]
    | .list xs, h => by simp only [dropUnderscoreV]; rw [C10_drop_idXs xs h]
  /-- nothing to drop: the dict is returned as it is -/
  theorem C10_drop_id : ∀ es : Entries, NoUnderscoreEs es → dropUnderscoreEs .foam es = es
    | [], _ => rfl
    | (k, v) :: es, h => by
      obtain ⟨hk, hv, hes⟩ := h
      have : ((formatKey .foam k).head? == some '_') = false := by simpa using hk
      simp only [dropUnderscoreEs, this, Bool.false_eq_true, if_false]
      rw [C10_drop_idV v hv, C10_drop_id es hes]
  theorem C10_drop_idXs : ∀ xs : List Val, NoUnderscoreXs xs → dropUnderscoreXs .foam xs = xs
    | [], _ => rfl
    | v :: xs, h => by
      simp only [dropUnderscoreXs]
      rw [C10_drop_idV v h.1, C10_drop_idXs xs h.2]
end

/-- dropping twice = dropping once -/
theorem C10_drop_idem (es : Entries) :
    dropUnderscoreEs .foam (dropUnderscoreEs .foam es) = dropUnderscoreEs .foam es :=
  C10_drop_id _ (C10_underscore es)

theorem C10_drop_idemV (v : Val) : dropUnderscoreV .foam (dropUnderscoreV .foam v) = dropUnderscoreV .foam v :=
  C10_drop_idV _ (C10_underscoreV v)

/-! ## (c) the Foam formatter never adds a single quote -/

theorem formatString_foam_three (s : Str) :
    formatString .foam s = s ∨ formatString .foam s = dq s ∨ formatString .foam s = dq (escapeDq s) := by
  rcases C04.formatString_cases .foam s with ⟨_, _, h⟩ | ⟨_, _, h⟩ | ⟨_, _, h⟩ | ⟨_, _, _, h⟩ | ⟨_, _, _, _, h⟩ | ⟨_, h⟩
  · exact Or.inl h
  · exact Or.inr (Or.inl h)
  · exact Or.inr (Or.inl h)
  · have h : formatString .foam s = if s.contains '"' then dq (escapeDq s) else dq s := h
    rw [h]
    split
    · exact Or.inr (Or.inr rfl)
    · exact Or.inr (Or.inl rfl)
  · exact Or.inr (Or.inl h)
  · exact Or.inl h

theorem apos_escapeDq : ∀ s : Str, '\'' ∉ s → '\'' ∉ escapeDq s
  | [], _ => by simp [escapeDq]
  | c :: r, h => by
    have hc : '\'' ≠ c := fun e => h (by rw [e]; exact List.mem_cons_self)
    have hr : '\'' ∉ r := fun e => h (by simp [e])
    have ih := apos_escapeDq r hr
    by_cases hq : c = '"'
    · subst hq; simp [escapeDq, ih]
    · rw [escapeDq]
      · simp [hc, ih]
      · exact hq

theorem apos_dq {s : Str} (h : '\'' ∉ s) : '\'' ∉ dq s := by
  simp [dq, h]

/-- `format_string` (Foam) adds no single quote -/
theorem C10_no_single_quote {s : Str} (h : '\'' ∉ s) : '\'' ∉ formatString .foam s := by
  rcases formatString_foam_three s with e | e | e <;> rw [e]
  · exact h
  · exact apos_dq h
  · exact apos_dq (apos_escapeDq s h)

theorem apos_intRepr : ∀ z : Int, '\'' ∉ intRepr z := fun z h =>
  intRepr_forall (P := (· ≠ '\'')) (by decide) (by decide) z _ h rfl

/-- the string content of a scalar (float: its lexeme) has no single quote -/
def NoAposScalar : Scalar → Prop
  | .str s => '\'' ∉ s
  | .float l => '\'' ∉ l
  | _ => True

def NoAposKey : Key → Prop
  | .str s => '\'' ∉ s
  | .int _ => True

/-- `format_value` (Foam) adds no single quote -/
theorem C10_no_single_quote_scalar : ∀ {x : Scalar}, NoAposScalar x → '\'' ∉ formatScalar .foam x
  | .str _, h => C10_no_single_quote h
  | .float l, h => h
  | .int z, _ => apos_intRepr z
  | .bool true, _ => by decide
  | .bool false, _ => by decide
  | .none, _ => by decide

theorem apos_formatKey : ∀ {k : Key}, NoAposKey k → '\'' ∉ formatKey .foam k
  | .str _, h => C10_no_single_quote h
  | .int z, _ => apos_intRepr z

theorem apos_keyStr : ∀ {k : Key}, NoAposKey k → '\'' ∉ keyStr k
  | .str _, h => h
  | .int z, _ => apos_intRepr z

mutual
  /-- no string leaf, no float lexeme and no key contains `'` -/
  def NoAposV : Val → Prop
    | .leaf x => NoAposScalar x
    | .dict es => NoAposEs es
    | .list xs => NoAposXs xs
  def NoAposEs : Entries → Prop
    | [] => True
    | (k, v) :: es => NoAposKey k ∧ NoAposV v ∧ NoAposEs es
  def NoAposXs : List Val → Prop
    | [] => True
    | v :: xs => NoAposV v ∧ NoAposXs xs
end

theorem apos_spaces (n : Nat) : '\'' ∉ spaces n := by
  simp [spaces]

theorem apos_fline {level : Nat} {x : Str} (nl : Bool) (h : '\'' ∉ x) : '\'' ∉ fline level x nl := by
  cases nl <;> simp [fline, apos_spaces, h]

/-- a list, given its items -/
theorem apos_list {level : Nat} {inList : Bool} {xs : List Val}
    (h : '\'' ∉ fmtItems .foam level xs.length 0 true xs) : '\'' ∉ fmtList .foam level inList xs := by
  unfold fmtList
  have h2 : '\'' ∉ fline level ['('] := apos_fline true (by decide)
  have h3 : '\'' ∉ fline level (if inList then [')'] else [')', ';']) :=
    apos_fline true (by cases inList <;> decide)
  simp [h, h2, h3]

/-- the Foam text of the entries of a dict, and of the items of a list, without `'` in keys and string content
    contains no `'` -/
theorem apos_text :
    (∀ es : Entries, NoAposEs es → ∀ level, '\'' ∉ fmtEntries .foam level es) ∧
    (∀ xs : List Val, NoAposXs xs → ∀ level n idx first, '\'' ∉ fmtItems .foam level n idx first xs) := by
  refine Val.indEsXs ?_ ?_ ?_ ?_ ?_ ?_ ?_ ?_
  · intro _ level; simp [fmtEntries]
  · intro k x rest ih h level
    unfold fmtEntries
    have hx : '\'' ∉ formatScalar .foam x := C10_no_single_quote_scalar h.2.1
    have hk : '\'' ∉ formatKey .foam k := apos_formatKey h.1
    have h3 := apos_fline (level := level) (x := formatKey .foam k ++
      spaces (max 8 (30 - (formatKey .foam k).length - 4 * level)) ++ formatScalar .foam x ++ [';']) true
      (by simp [hx, hk, apos_spaces])
    simp only [List.append_assoc] at h3
    simp [ih h.2.2 level, h3]
  · intro k d rest ihd ih h level
    unfold fmtEntries
    have h3 : '\'' ∉ fline level (keyStr k) := apos_fline true (apos_keyStr h.1)
    have h4 : '\'' ∉ fline level ['{'] := apos_fline true (by decide)
    have h5 : '\'' ∉ fline level ['}'] := apos_fline true (by decide)
    simp [ihd h.2.1 (level + 1), ih h.2.2 level, h3, h4, h5]
  · intro k xs rest ihx ih h level
    unfold fmtEntries
    have h1 := apos_list (inList := false) (ihx h.2.1 level xs.length 0 true)
    have h3 : '\'' ∉ fline level (keyStr k) := apos_fline true (apos_keyStr h.1)
    simp [h1, ih h.2.2 level, h3]
  · intro _ level n idx first; simp [fmtItems]
  · intro x rest ih h level n idx first
    unfold fmtItems
    have hx : '\'' ∉ formatScalar .foam x := C10_no_single_quote_scalar h.1
    simp only []
    split
    · have := apos_fline (level := if first = true then level + 1 else 1) true hx
      simp [ih h.2 level n (idx + 1) true, this]
    · have := apos_fline (level := if first = true then level + 1 else 1)
        (x := formatScalar .foam x ++ spaces (14 - (formatScalar .foam x).length)) false (by simp [hx, apos_spaces])
      simp [ih h.2 level n (idx + 1) false, this]
  · intro es rest ihd ih h level n idx first
    unfold fmtItems
    have h3 : '\'' ∉ fline (level + 1) [] := apos_fline true (by decide)
    have h4 : '\'' ∉ fline (level + 1) ['{'] := apos_fline true (by decide)
    have h5 : '\'' ∉ fline (level + 1) ['}'] := apos_fline true (by decide)
    simp [ihd h.1 (level + 2), ih h.2 level n (idx + 1) true, h3, h4, h5]
  · intro ys rest ihy ih h level n idx first
    unfold fmtItems
    have h1 := apos_list (inList := true) (ihy h.1 (level + 1) ys.length 0 true)
    simp [h1, ih h.2 level n (idx + 1) first]

theorem apos_fmtList : ∀ (level : Nat) (inList : Bool) (xs : List Val), NoAposXs xs →
    '\'' ∉ fmtList .foam level inList xs :=
  fun level _ xs h => apos_list (apos_text.2 xs h level xs.length 0 true)

/-- the Foam text of a dict without `'` in keys and string content contains no `'` -/
theorem C10_no_single_quote_text : ∀ (level : Nat) (es : Entries), NoAposEs es →
    '\'' ∉ fmtEntries .foam level es :=
  fun level es h => apos_text.1 es h level


/-! ## (d) the OpenFOAM banner -/

/-- the characters of `Gen.foamHeader`, spelled out (the kernel evaluates `String.toList` on a long literal very
    slowly; see `foamHeader_eq`) -/
def foamHeaderChars : List Char :=
  ['/', '*', '-', '-', '-', '-', '-', '-', '-', '-', '-', '-', '-', '-', '-', '-', '-', '-', '-', '-', '-', '-', '-', '-', '-', '-', '-', '-', '-', '-', '-', '-', '-', '-', '*', '-', ' ', 'C', '+', '+', ' ', '-', '*', '-', '-', '-', '-', '-', '-', '-', '-', '-', '-', '-', '-', '-', '-', '-', '-', '-', '-', '-', '-', '-', '-', '-', '-', '-', '-', '-', '-', '-', '-', '-', '-', '-', '-', '*', '\\', '\n',
  '|', ' ', '=', '=', '=', '=', '=', '=', '=', '=', '=', ' ', ' ', ' ', ' ', ' ', ' ', ' ', ' ', ' ', ' ', ' ', ' ', ' ', ' ', ' ', ' ', ' ', '|', ' ', ' ', ' ', ' ', ' ', ' ', ' ', ' ', ' ', ' ', ' ', ' ', ' ', ' ', ' ', ' ', ' ', ' ', ' ', ' ', ' ', ' ', ' ', ' ', ' ', ' ', ' ', ' ', ' ', ' ', ' ', ' ', ' ', ' ', ' ', ' ', ' ', ' ', ' ', ' ', ' ', ' ', ' ', ' ', ' ', ' ', ' ', ' ', ' ', '|', '\n',
  '|', ' ', '\\', '\\', ' ', ' ', ' ', ' ', ' ', ' ', '/', ' ', ' ', 'F', ' ', 'i', 'e', 'l', 'd', ' ', ' ', ' ', ' ', ' ', ' ', ' ', ' ', ' ', '|', ' ', 'O', 'p', 'e', 'n', 'F', 'O', 'A', 'M', ':', ' ', 'T', 'h', 'e', ' ', 'O', 'p', 'e', 'n', ' ', 'S', 'o', 'u', 'r', 'c', 'e', ' ', 'C', 'F', 'D', ' ', 'T', 'o', 'o', 'l', 'b', 'o', 'x', ' ', ' ', ' ', ' ', ' ', ' ', ' ', ' ', ' ', ' ', ' ', '|', '\n',
  '|', ' ', ' ', '\\', '\\', ' ', ' ', ' ', ' ', '/', ' ', ' ', ' ', 'O', ' ', 'p', 'e', 'r', 'a', 't', 'i', 'o', 'n', ' ', ' ', ' ', ' ', ' ', '|', ' ', 'V', 'e', 'r', 's', 'i', 'o', 'n', ':', ' ', ' ', 'd', 'e', 'v', ' ', ' ', ' ', ' ', ' ', ' ', ' ', ' ', ' ', ' ', ' ', ' ', ' ', ' ', ' ', ' ', ' ', ' ', ' ', ' ', ' ', ' ', ' ', ' ', ' ', ' ', ' ', ' ', ' ', ' ', ' ', ' ', ' ', ' ', ' ', '|', '\n',
  '|', ' ', ' ', ' ', '\\', '\\', ' ', ' ', '/', ' ', ' ', ' ', ' ', 'A', ' ', 'n', 'd', ' ', ' ', ' ', ' ', ' ', ' ', ' ', ' ', ' ', ' ', ' ', '|', ' ', 'W', 'e', 'b', ':', ' ', ' ', ' ', ' ', ' ', ' ', 'w', 'w', 'w', '.', 'O', 'p', 'e', 'n', 'F', 'O', 'A', 'M', '.', 'c', 'o', 'm', ' ', ' ', ' ', ' ', ' ', ' ', ' ', ' ', ' ', ' ', ' ', ' ', ' ', ' ', ' ', ' ', ' ', ' ', ' ', ' ', ' ', ' ', '|', '\n',
  '|', ' ', ' ', ' ', ' ', '\\', '\\', '/', ' ', ' ', ' ', ' ', ' ', 'M', ' ', 'a', 'n', 'i', 'p', 'u', 'l', 'a', 't', 'i', 'o', 'n', ' ', ' ', '|', ' ', ' ', ' ', ' ', ' ', ' ', ' ', ' ', ' ', ' ', ' ', ' ', ' ', ' ', ' ', ' ', ' ', ' ', ' ', ' ', ' ', ' ', ' ', ' ', ' ', ' ', ' ', ' ', ' ', ' ', ' ', ' ', ' ', ' ', ' ', ' ', ' ', ' ', ' ', ' ', ' ', ' ', ' ', ' ', ' ', ' ', ' ', ' ', ' ', '|', '\n',
  '\\', '*', '-', '-', '-', '-', '-', '-', '-', '-', '-', '-', '-', '-', '-', '-', '-', '-', '-', '-', '-', '-', '-', '-', '-', '-', '-', '-', '-', '-', '-', '-', '-', '-', '-', '-', '-', '-', '-', '-', '-', '-', '-', '-', '-', '-', '-', '-', '-', '-', '-', '-', '-', '-', '-', '-', '-', '-', '-', '-', '-', '-', '-', '-', '-', '-', '-', '-', '-', '-', '-', '-', '-', '-', '-', '-', '-', '*', '/', '\n',
  'F', 'o', 'a', 'm', 'F', 'i', 'l', 'e', '\n',
  '{', '\n',
  ' ', ' ', ' ', ' ', 'v', 'e', 'r', 's', 'i', 'o', 'n', ' ', ' ', ' ', ' ', ' ', ' ', ' ', ' ', ' ', ' ', ' ', ' ', ' ', ' ', ' ', ' ', ' ', ' ', ' ', '2', '.', '0', ';', '\n',
  ' ', ' ', ' ', ' ', 'f', 'o', 'r', 'm', 'a', 't', ' ', ' ', ' ', ' ', ' ', ' ', ' ', ' ', ' ', ' ', ' ', ' ', ' ', ' ', ' ', ' ', ' ', ' ', ' ', ' ', 'a', 's', 'c', 'i', 'i', ';', '\n',
  ' ', ' ', ' ', ' ', 'c', 'l', 'a', 's', 's', ' ', ' ', ' ', ' ', ' ', ' ', ' ', ' ', ' ', ' ', ' ', ' ', ' ', ' ', ' ', ' ', ' ', ' ', ' ', ' ', ' ', 'd', 'i', 'c', 't', 'i', 'o', 'n', 'a', 'r', 'y', ';', '\n',
  ' ', ' ', ' ', ' ', 'o', 'b', 'j', 'e', 'c', 't', ' ', ' ', ' ', ' ', ' ', ' ', ' ', ' ', ' ', ' ', ' ', ' ', ' ', ' ', ' ', ' ', ' ', ' ', ' ', ' ', 'f', 'o', 'a', 'm', 'D', 'i', 'c', 't', ';', '\n',
  '}', '\n',
  '/', '/', ' ', '*', ' ', '*', ' ', '*', ' ', '*', ' ', '*', ' ', '*', ' ', '*', ' ', '*', ' ', '*', ' ', '*', ' ', '*', ' ', '*', ' ', '*', ' ', '*', ' ', '*', ' ', '*', ' ', '*', ' ', '*', ' ', '*', ' ', '*', ' ', '*', ' ', '*', ' ', '*', ' ', '*', ' ', '*', ' ', '*', ' ', '*', ' ', '*', ' ', '*', ' ', '*', ' ', '*', ' ', '*', ' ', '*', ' ', '*', ' ', '*', ' ', '*', ' ', '*', ' ', '/', '/', '\n']

theorem foamHeader_eq : foamHeader = foamHeaderChars := by
  unfold foamHeader Gen.foamHeader
  literal_chars
  decide +kernel

attribute [local irreducible] foamHeader

/-- the header contains the `FoamFile` block … -/
theorem foamHeader_foamFile : isInfix "FoamFile".toList foamHeader = true := by rw [foamHeader_eq]; decide +kernel
/-- … names OpenFOAM … -/
theorem foamHeader_openfoam : isInfix "OpenFOAM".toList foamHeader = true := by rw [foamHeader_eq]; decide +kernel
/-- … and carries the ` C++ ` marker -/
theorem foamHeader_cpp : containsCpp foamHeader = true := by rw [foamHeader_eq]; decide +kernel

/-- no comment at all: the default block comment is the Foam header -/
theorem makeDefault_foam_nil : makeDefaultBlockComment .foam [] = foamHeader := by
  unfold makeDefaultBlockComment
  simp only [containsCpp, Bool.false_eq_true, if_false, List.append_nil, ite_self]

/-- a first comment without ` C++ ` marker gets the Foam header in front -/
theorem makeDefault_foam_of_not_cpp {bc : Str} (h : containsCpp bc = false) :
    makeDefaultBlockComment .foam bc = foamHeader ++ bc := by
  unfold makeDefaultBlockComment
  simp only [h, Bool.false_eq_true, if_false, isInfix_append_right bc foamHeader_openfoam, if_true]

/-- a first comment with ` C++ ` marker that names OpenFOAM is kept; one that does not is *replaced* by the header -/
theorem makeDefault_foam_of_cpp {bc : Str} (h : containsCpp bc = true) :
    makeDefaultBlockComment .foam bc = if isInfix "OpenFOAM".toList bc then bc else foamHeader := by
  unfold makeDefaultBlockComment
  simp only [h, if_true]

/-- whatever the first comment is, what is inserted for it contains the FoamFile block … unless it is an own
    ` C++ ` header that names OpenFOAM -/
theorem makeDefault_foam_cases (bc : Str) :
    makeDefaultBlockComment .foam bc = foamHeader ++ bc ∨ makeDefaultBlockComment .foam bc = foamHeader ∨
      (makeDefaultBlockComment .foam bc = bc ∧ containsCpp bc = true ∧ isInfix "OpenFOAM".toList bc = true) := by
  cases h : containsCpp bc
  · exact Or.inl (makeDefault_foam_of_not_cpp h)
  · rw [makeDefault_foam_of_cpp h]
    cases h2 : isInfix "OpenFOAM".toList bc <;> simp

/-- no block comment in the table: the text is preceded by exactly the Foam header -/
theorem C10_banner_raw (txt : Str) : insertBlockComments .foam [] txt = foamHeader ++ txt := by
  rw [C01.insertBlockComments_nil, makeDefault_foam_nil]

theorem matchPhEntry_lt {ph s rest : Str} (h : matchPhEntry ph s = some rest) : rest.length < s.length :=
  DictIO.matchPhEntry_lt h

/-- the first comment has no ` C++ ` marker and its placeholder entry stands in the text: what is put there
    starts with the Foam header -/
theorem C10_banner_first_comment (i : Nat) (bc txt : Str) (hfound : (substPh kwBlock i [] txt).2 = true)
    (hcpp : containsCpp bc = false) :
    insertBlockComments .foam [(i, bc)] txt = (substPh kwBlock i (foamHeader ++ bc) txt).1 := by
  have h := makeDefault_foam_of_not_cpp hcpp
  rw [insertBlock_single .foam i bc txt hfound, h]
  rw [h]
  intro e
  have := congrArg List.length e
  have hl : 0 < foamHeader.length := by rw [foamHeader_eq]; decide +kernel
  simp only [List.length_append, List.length_nil] at this
  omega

/-! ### the header survives include / line-comment insertion and trailing-space removal -/

/-- one step of `insert_includes` -/
def inclStep (acc : Option Str) (e : Nat × InclEntry) : Option Str :=
  match acc with
  | none => none
  | some s => match includeLineFl .foam e.2.file with
    | some line => some (substPh kwIncl e.1 line s).1
    | none => none

theorem insertIncludes_eq (tbl : Tbl InclEntry) (s : Str) :
    insertIncludes .foam tbl s = tbl.foldl inclStep (some s) := by
  unfold insertIncludes; rfl

theorem inclStep_none : ∀ tbl : Tbl InclEntry, tbl.foldl inclStep none = none
  | [] => rfl
  | _ :: tbl => by simp only [List.foldl_cons, inclStep]; exact inclStep_none tbl

theorem insertIncludes_skip (h : Str) (hI : 'I' ∉ h) : ∀ (tbl : Tbl InclEntry) (s t : Str),
    insertIncludes .foam tbl (h ++ s) = some t → ∃ r, t = h ++ r
  | [], s, t, e => by
    simp only [insertIncludes_eq, List.foldl_nil, Option.some.injEq] at e
    exact ⟨s, e.symm⟩
  | e :: tbl, s, t, ht => by
    simp only [insertIncludes_eq, List.foldl_cons, inclStep] at ht
    cases hl : includeLineFl .foam e.2.file with
    | none => rw [hl] at ht; simp only [] at ht; rw [inclStep_none] at ht; cases ht
    | some line =>
      rw [hl] at ht
      simp only [] at ht
      rw [substPh_skip (kw := kwIncl) e.1 line (c := 'I') (kw' := "NCLUDE".toList) (by decide) h s hI] at ht
      rw [← insertIncludes_eq] at ht
      exact insertIncludes_skip h hI tbl _ t ht

theorem insertLineComments_skip (h : Str) (hL : 'L' ∉ h) : ∀ (tbl : Tbl Str) (s : Str),
    ∃ r, insertLineComments tbl (h ++ s) = h ++ r := by
  intro tbl
  induction tbl with
  | nil => intro s; exact ⟨s, rfl⟩
  | cons e tbl ih =>
    intro s
    simp only [insertLineComments, List.foldl_cons]
    rw [substPh_skip (kw := kwLine) e.1 e.2 (c := 'L') (kw' := "INECOMMENT".toList) (by decide) h s hL]
    exact ih _

theorem removeTrailingSpaces_line (a r : Str) (ha : ∀ c ∈ a, c ≠ '\r') :
    removeTrailingSpaces (a ++ '\n' :: r) = removeTrailingSpaces (a ++ ['\n']) ++ removeTrailingSpaces r := by
  have h1 : ∀ c ∈ a ++ ['\n'], c ≠ '\r' := by
    intro c hc
    rcases List.mem_append.mp hc with h | h
    · exact ha c h
    · simp at h; subst h; decide
  have e : a ++ '\n' :: r = (a ++ ['\n']) ++ r := by simp
  have e2 : a ++ ['\n'] = (a ++ ['\n']) ++ [] := by simp
  rw [C01.removeTrailingSpaces_eq, C01.removeTrailingSpaces_eq, C01.removeTrailingSpaces_eq, e,
    C01.universalNl_solid _ _ h1]
  conv => rhs; rw [e2, C01.universalNl_solid _ _ h1]
  simp only [universalNl, List.append_nil, List.append_assoc, List.singleton_append]
  exact (C01.rts_append_end (Or.inr rfl) _ a).1

theorem foamHeader_chars : 'I' ∉ foamHeader ∧ 'L' ∉ foamHeader ∧ (∀ c ∈ foamHeader.dropLast, c ≠ '\r') ∧
    foamHeader = foamHeader.dropLast ++ ['\n'] := by rw [foamHeader_eq]; decide +kernel

/-- **C10_banner**: an `SDict` without block comments written in Foam flavour begins with the OpenFOAM banner
    (which contains the `FoamFile` block: `foamHeader_foamFile`), trailing spaces removed -/
theorem C10_banner (s : SD) (hb : s.blockC = []) (t : Str) (h : fmtSD .foam s = some t) :
    removeTrailingSpaces foamHeader <+: t := by
  obtain ⟨hI, hL, hr, hlast⟩ := foamHeader_chars
  simp only [fmtSD, hb, C10_banner_raw] at h
  split at h
  · cases h
  · next t1 h1 =>
    obtain ⟨r1, rfl⟩ := insertIncludes_skip foamHeader hI _ _ _ h1
    obtain ⟨r2, e2⟩ := insertLineComments_skip foamHeader hL s.lineC r1
    simp only [Option.some.injEq] at h
    rw [e2] at h
    subst h
    refine ⟨removeTrailingSpaces r2, ?_⟩
    conv => rhs; rw [hlast, List.append_assoc, List.singleton_append, removeTrailingSpaces_line _ _ hr, ← hlast]

/-! ## (e) the input is not changed

  In the functional model this is immediate: `fmtPlain .foam es` (and `fmtSD .foam s`) are *functions* of their
  argument; the private keys are dropped in a local copy (`dropUnderscoreEs .foam es`), `es` itself is never
  rebound.  What the model can say is that the text depends on `es` only through that copy: -/

theorem C10_input_unchanged (es : Entries) :
    fmtPlain .foam es = removeTrailingSpaces (fmtEntries .foam 0 (hoistPlaceholders (dropUnderscoreEs .foam es))) := rfl

/-- … hence a dict and its private-key-free copy are written alike -/
theorem C10_fmtPlain_drop (es : Entries) : fmtPlain .foam (dropUnderscoreEs .foam es) = fmtPlain .foam es := by
  simp only [fmtPlain, C10_drop_idem]

/-! ## (f) Foam string round trip

  The structural facts of `C01fmt` (`C01.Fl`) hold for every flavour; what is particular to Foam is how scalars are
  written on `DomC01 .foam` (strings without `"`: `escapeDq` never acts, every quoted string is `dq s`). -/

namespace Foam
open DictIO.C01

/-- on strings without `$` and `"` the Foam writer writes bare or in double quotes, nothing else -/
theorem formatString_foam_cases {s : Str} (hd : s.contains '$' = false) (hq : s.contains '"' = false) :
    (formatString .foam s = s ∧ s ≠ [] ∧ s.all (fun c => !isQuote c && !isComplexChar c) = true ∧
      startsInclude s = false) ∨
    formatString .foam s = dq s := by
  rcases C04.formatString_cases .foam s with ⟨hd', _⟩ | ⟨hd', _⟩ | ⟨_, _, h⟩ | ⟨_, _, _, h⟩ | ⟨_, _, _, _, h⟩ | ⟨hb, h⟩
  · rw [hd] at hd'; cases hd'
  · rw [hd] at hd'; cases hd'
  · exact Or.inr h
  · rw [h, hq]; exact Or.inr rfl
  · exact Or.inr h
  · exact Or.inl ⟨h, hb.1, hb.2.2⟩

theorem isDomStr_foam {s : Str} (h : isDomStr .foam s = true) : isDomStr .native s = true ∧ s.contains '"' = false := by
  simp only [isDomStr, Bool.and_eq_true, Bool.not_eq_true'] at h ⊢
  obtain ⟨⟨a, c⟩, d⟩ := h
  exact ⟨⟨⟨a, trivial⟩, d⟩, c⟩

/-- leaves: the written literal means the normalised scalar -/
theorem den_writtenLit_f {x : Scalar} (h : isDomScalar .foam x = true) : (writtenLit .foam x).den = normScalar x := by
  cases x with
  | int z => exact C04.C04_format_parse_int .foam z
  | float l => exact C04.C04_format_parse_float .foam (pyFloatRepr_bridge h)
  | bool b => exact C04.C04_format_parse_bool (Or.inr rfl) b
  | none => exact C04.C04_format_parse_none (Or.inr rfl)
  | str s =>
    obtain ⟨hn, hq⟩ := isDomStr_foam h
    rcases formatString_foam_cases (domStr_no_dollar hn) hq with ⟨hf, _, hall, _⟩ | hf
    · rw [writtenLit_bare hf]; exact den_bare hall
    · rw [writtenLit_quoted hf (C04.dq_ne s)]; rfl

/-- on the domain the written literal is an admissible source literal -/
theorem written_ok_f {x : Scalar} (h : isDomScalar .foam x = true) : (writtenLit .foam x).ok = true := by
  cases x with
  | str s =>
    obtain ⟨hn, hdq⟩ := isDomStr_foam h
    rcases formatString_foam_cases (domStr_no_dollar hn) hdq with ⟨hf, hne, hall, hinc⟩ | hf
    · rw [writtenLit_bare hf]
      exact domStr_bare_ok hn hne hall hinc
    · rw [writtenLit_quoted hf (C04.dq_ne s)]
      exact domStr_quoted hn (by decide) hdq
  | _ => exact written_ok_nonstr (fun _ e => by cases e) h

/-! #### the Foam instances of the flavour-independent facts -/

theorem den_srcOfV_f : ∀ (d : Nat) (v : Val), domV .foam d v = true → denSrcV (srcOfV .foam v) = normV v :=
  Fl.den_srcOfV den_writtenLit_f

theorem den_srcOfEs_f : ∀ (d : Nat) (es acc : Entries), domEs .foam d es = true → (keys es).Nodup →
    (∀ k ∈ keys es, k ∉ keys acc) → denSrcEs (srcOfEs .foam es) acc = acc ++ normEs es :=
  Fl.den_srcOfEs den_writtenLit_f

theorem den_srcOfXs_f : ∀ (d : Nat) (xs : List Val), domXs .foam d xs = true → denSrcXs (srcOfXs .foam xs) = normXs xs :=
  Fl.den_srcOfXs den_writtenLit_f

theorem entries_lastDelim_f : ∀ (es : Entries), lastDelim true (srcToksEs (srcOfEs .foam es)) = true :=
  fun _ => lastDelim_entries _

theorem lays_items_f : ∀ (d level n idx : Nat) (first : Bool) (xs : List Val), domXs .foam d xs = true →
    Lays false (srcToksXs (srcOfXs .foam xs)) (fmtItems .foam level n idx first xs) :=
  fun d level n idx first xs h => Fl.lays.2 xs d level n idx first h

/-- (1) the writer's top-level reordering does nothing on the domain -/
theorem hoist_id_f {es : Entries} (h : DomC01 .foam es = true) : hoistPlaceholders es = es := Fl.hoist_id h

theorem srcOfV_wf_f : ∀ (d : Nat) (v : Val), domV .foam d v = true → SrcWFV d (srcOfV .foam v) = true :=
  Fl.srcOfV_wf written_ok_f

/-- (2c) the written document is a well-formed source document -/
theorem srcOf_wf_f : ∀ (d : Nat) (es : Entries), domEs .foam d es = true → SrcWFEs d (srcOfEs .foam es) = true :=
  Fl.srcOf_wf written_ok_f

theorem srcOfXs_wf_f : ∀ (d : Nat) (xs : List Val), domXs .foam d xs = true → SrcWFXs d (srcOfXs .foam xs) = true :=
  Fl.srcOfXs_wf written_ok_f

theorem den_written_f {es : Entries} (h : DomC01 .foam es = true) : denSrcEs (srcOfEs .foam es) [] = normEs es :=
  Fl.den_written den_writtenLit_f h

/-- the Foam writer's text for a dict of the domain without private keys is an admissible layout of the tokens of
    the written document -/
theorem fmtPlain_is_layout_f {es : Entries} (h : DomC01 .foam es = true) (hu : NoUnderscoreEs es) :
    ∃ gaps tail, fmtPlain .foam es = spreadS (srcToksEs (srcOfEs .foam es)) gaps tail ∧
      GapsOKS (srcToksEs (srcOfEs .foam es)) gaps = true ∧ tail.all isWs = true := by
  rw [C10_input_unchanged, C10_drop_id es hu]
  exact (Fl.writer written_ok_f den_writtenLit_f h).2.2

end Foam

/-- **C10 (strings, Foam).**  For a dict of the value domain (`DomC01 .foam`: in particular no string leaf contains
    `"`) without private keys, the text the Foam writer produces (`fmtPlain`: no header) is read back by the native
    reader — with `comments` on or off — as the dict with the documented element-type normalisation, all side
    tables empty.  Hypotheses as in `C01.C01_roundtrip_string`. -/
theorem C10_roundtrip_string {es : Entries} {c : Counter} (comments : Bool) (dir : Str) :
    DomC01 .foam es = true → NoUnderscoreEs es → C01.DocKeysAbsent' es →
    C02.countQuotedEs (srcOfEs .foam es) ≤ Gen.counterLimit + 1 → C13.ValidCounter Gen.counterLimit c →
    ∃ c', parseNative comments dir c (fmtPlain .foam es) = .ok ({ data := normEs es }, c') := by
  intro h hu hd hn hc
  rw [C10_input_unchanged, C10_drop_id es hu]
  exact C01.Fl.roundtrip Foam.written_ok_f Foam.den_writtenLit_f comments dir h hd hn hc

/-- with private keys in the dict, what comes back is the normalised dict *without* them -/
theorem C10_roundtrip_string_dropped {es : Entries} {c : Counter} (comments : Bool) (dir : Str)
    (h : DomC01 .foam (dropUnderscoreEs .foam es) = true) (hd : C01.DocKeysAbsent' (dropUnderscoreEs .foam es))
    (hn : C02.countQuotedEs (srcOfEs .foam (dropUnderscoreEs .foam es)) ≤ Gen.counterLimit + 1)
    (hc : C13.ValidCounter Gen.counterLimit c) :
    ∃ c', parseNative comments dir c (fmtPlain .foam es) =
      .ok ({ data := normEs (dropUnderscoreEs .foam es) }, c') := by
  rw [← C10_fmtPlain_drop]
  exact C10_roundtrip_string comments dir h (C10_underscore es) hd hn hc

/-! ## (g) non-vacuity: `{'a': [{'_z': 1, 'y': "it's"}], '_b': 1, 'k': 'x y'}` -/

def exDict : Entries :=
  [(.str "a".toList, .list [.dict [(.str "_z".toList, .leaf (.int 1)), (.str "y".toList, .leaf (.str "it's".toList))]]),
   (.str "_b".toList, .leaf (.int 1)),
   (.str "k".toList, .leaf (.str "x y".toList))]

def exDropped : Entries :=
  [(.str "a".toList, .list [.dict [(.str "y".toList, .leaf (.str "it's".toList))]]),
   (.str "k".toList, .leaf (.str "x y".toList))]

/-- (a), (b): `_b` on top and `_z` inside the list are dropped, everything else is kept in order -/
theorem exDict_dropped : dropUnderscoreEs .foam exDict = exDropped := by decide +kernel

theorem exDict_has_underscore : ¬ NoUnderscoreEs exDict := by
  simp only [exDict, NoUnderscoreEs, NoUnderscoreV, NoUnderscoreXs]
  intro h
  exact absurd h.2.2.1 (by decide +kernel)

theorem exDropped_noUnderscore : NoUnderscoreEs exDropped := by
  simp only [exDropped, NoUnderscoreEs, NoUnderscoreV, NoUnderscoreXs, and_true]
  decide +kernel

example : dropUnderscoreEs .foam exDropped = exDropped := C10_drop_id _ exDropped_noUnderscore

example : exDict.filter keep = [exDict[0], exDict[2]] := by decide +kernel

/-- (c): a string with `'` keeps it (it is not *added*); the Foam text of `'x y'` uses `"`, where the native one uses `'` -/
example : formatString .foam "it's".toList = "\"it's\"".toList := by decide +kernel
example : formatString .foam "x y".toList = "\"x y\"".toList ∧ formatString .native "x y".toList = "'x y'".toList := by
  decide +kernel

def exNoApos : Entries :=
  [(.str "a".toList, .list [.dict [(.str "y".toList, .leaf (.str "say \"hi\"".toList))]]),
   (.str "k".toList, .leaf (.str "x y".toList)), (.int (-3), .leaf (.float "1.5".toList))]

theorem exNoApos_ok : NoAposEs exNoApos := by
  simp only [exNoApos, NoAposEs, NoAposV, NoAposXs, NoAposKey, NoAposScalar, and_true, true_and]
  decide +kernel

example : '\'' ∉ fmtEntries .foam 0 exNoApos := C10_no_single_quote_text 0 _ exNoApos_ok

/-- the hypothesis is not vacuous the other way either: `exDropped` has a `'` in a leaf, and it is written -/
example : ¬ NoAposEs exDropped := by
  simp only [exDropped, NoAposEs, NoAposV, NoAposXs, NoAposKey, NoAposScalar, and_true]
  decide +kernel

/-- (d): the example written as an `SDict` starts with the banner -/
example : ∃ t, fmtSD .foam { data := exDict } = some t ∧ removeTrailingSpaces foamHeader <+: t := by
  refine ⟨_, rfl, C10_banner { data := exDict } rfl _ rfl⟩

example (txt : Str) : insertBlockComments .foam [] txt = foamHeader ++ txt := C10_banner_raw txt

/-! (f): the example (private keys and all) is written as the text of `exDict_text` — double quotes where the native
    writer uses single ones — and read back as the dict without its private keys (`exDict_roundtrip`) -/

theorem exDropped_dom : DomC01 .foam exDropped = true := by decide +kernel

/-- the raw text (before trailing-space removal: the line in front of `{` consists of blanks) -/
theorem exDropped_raw : fmtEntries .foam 0 exDropped = C01.unlines
    ["a",
     "(",
     "    ",
     "    {",
     "        y                     \"it's\";",
     "    }",
     ");",
     "k                             \"x y\";"] := by
  simp only [C01.unlines, List.flatMap_cons, List.flatMap_nil]
  literal_chars
  simp only [exDropped, fmtEntries, fmtList, fmtItems, formatKey, keyStr, formatScalar]
  decide +kernel

theorem exDict_text : fmtPlain .foam exDict = C01.unlines
    ["a",
     "(",
     "",
     "    {",
     "        y                     \"it's\";",
     "    }",
     ");",
     "k                             \"x y\";"] := by
  rw [← C10_fmtPlain_drop, exDict_dropped, C10_input_unchanged, C10_drop_id _ exDropped_noUnderscore,
    Foam.hoist_id_f exDropped_dom, exDropped_raw]
  simp only [C01.unlines, List.flatMap_cons, List.flatMap_nil]
  literal_chars
  decide +kernel

theorem exDict_roundtrip (comments : Bool) (dir : Str) :
    ∃ c', parseNative comments dir none (fmtPlain .foam exDict) = .ok ({ data := exDropped }, c') := by
  have h := C10_roundtrip_string_dropped (es := exDict) (c := none) comments dir
    (by rw [exDict_dropped]; exact exDropped_dom) (by rw [exDict_dropped]; decide)
    (by rw [exDict_dropped]; decide +kernel) (Or.inl rfl)
  rw [exDict_dropped] at h
  rw [show normEs exDropped = exDropped by decide +kernel] at h
  exact h

end DictIO.C10
