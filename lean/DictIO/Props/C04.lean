/-
  C04 -- Scalar typing: `Parser.parse_value` (the regex cascade int / float / bool / None / str),
  `remove_quotes_from_string`, and the Native / Foam `Formatter.format_value`, `format_string`.
  Model: `parseValue`, `parseScalar`, `removeQuotes`, `formatScalar`, `formatString` (Model/Scalar.lean).
  The grammars of the table, the recogniser correctness theorems `isIntLit_iff`, `isFloatExpLit_iff` of (1) and what
  the cascade and `formatString` do row by row are in `Lemmas/Scalar.lean` (other properties use them); here: the table
  itself, the rest of (1), the property theorems (2)-(8), then non-vacuity examples (9).

  The vocabulary is the *documented* element-type table, written as grammars / inductive predicates, independently of
  the recognisers of the model (`isIntLit`, `isFloatLit`, `isFloatExpLit`, `boolNoneWord`).
-/
import DictIO.Model.Scalar
import DictIO.Lemmas.Scalar
import DictIO.Lemmas.Digits
import DictIO.Lemmas.Chars
import DictIO.Lemmas.Literal

namespace DictIO.C04
open DictIO

/-! #### specification vocabulary: the table, and `repr(float)` -/

/-- the documented element-type table, in cascade order; each row is guarded by the negation of the rows above it
    (the six word rows are mutually exclusive by themselves: `isWord_unique`) -/
inductive Classifies : Str → Scalar → Prop
  | empty {s : Str} : removeQuotes s = [] → Classifies s (.str [])
  | special {s : Str} : removeQuotes s ≠ [] → IsSpecial s → Classifies s (.str s)
  | int {s : Str} (sign ds tail : Str) : NotTrivial s →
      s = sign ++ ds ++ tail → IsSign sign → ds ≠ [] → Digits ds → IsTail tail →
      Classifies s (.int (applySign sign (digitsVal ds)))
  | float {s : Str} : NotTrivial s → ¬ IsIntLit s → IsFloatLit s → Classifies s (.float s)
  | wTrue {s : Str} : NotNumeric s → IsWord "true" s ∨ IsWord "on" s → Classifies s (.bool true)
  | wFalse {s : Str} : NotNumeric s → IsWord "false" s ∨ IsWord "off" s → Classifies s (.bool false)
  | wNone {s : Str} : NotNumeric s → IsWord "none" s ∨ IsWord "null" s → Classifies s .none
  | other {s : Str} : NotNumeric s → ¬ IsAnyWord s → Classifies s (.str (removeQuotes s))

/-- `0`..`9` -/
def IsAsciiDigit (c : Char) : Prop := c ∈ ['0', '1', '2', '3', '4', '5', '6', '7', '8', '9']

instance (c : Char) : Decidable (IsAsciiDigit c) := by unfold IsAsciiDigit; infer_instance

/-- `[0-9]*` -/
def AsciiDigits (ds : Str) : Prop := ∀ c ∈ ds, IsAsciiDigit c

instance (ds : Str) : Decidable (AsciiDigits ds) := by unfold AsciiDigits; infer_instance

/-- exponent of `repr(float)`: `e`, a sign, at least two digits -/
inductive IsPyExp : Str → Prop
  | mk (sg : Char) (ds : Str) : sg = '+' ∨ sg = '-' → 2 ≤ ds.length → AsciiDigits ds → IsPyExp ('e' :: sg :: ds)

/-- `repr(x)` for a finite float `x`: `-?\d+(\.\d+(e[+-]\d\d+)?|e[+-]\d\d+)` over ASCII digits -/
inductive IsPyFloatRepr : Str → Prop
  | frac (neg ds fs : Str) : neg = [] ∨ neg = ['-'] → ds ≠ [] → AsciiDigits ds → fs ≠ [] → AsciiDigits fs →
      IsPyFloatRepr (neg ++ ds ++ ('.' :: fs))
  | fracExp (neg ds fs e : Str) : neg = [] ∨ neg = ['-'] → ds ≠ [] → AsciiDigits ds → fs ≠ [] → AsciiDigits fs →
      IsPyExp e → IsPyFloatRepr (neg ++ ds ++ ('.' :: fs) ++ e)
  | exp (neg ds e : Str) : neg = [] ∨ neg = ['-'] → ds ≠ [] → AsciiDigits ds → IsPyExp e →
      IsPyFloatRepr (neg ++ ds ++ e)

/-! #### (1) recogniser correctness: the hand-written recognisers accept exactly the documented grammars
     (required theorems `isIntLit_iff` (in `Lemmas/Scalar.lean`), `isFloat_iff`; `spanDigits_spec`, `spanDigits_unique`) -/

theorem isDigit_underscore : isDigit '_' = false := by decide

/-- the statement of the task, in its literal form -/
theorem spanDigits_spec {s d r : Str} (h : spanDigits s = (d, r)) :
    s = d ++ r ∧ (∀ c ∈ d, isDigit c = true) ∧ (r = [] ∨ ∃ c r', r = c :: r' ∧ isDigit c = false) := by
  obtain ⟨h1, h2, h3⟩ := spanDigits_split h
  refine ⟨h1, h2, ?_⟩
  cases r with
  | nil => exact Or.inl rfl
  | cons c r' => exact Or.inr ⟨c, r', rfl, h3⟩

theorem spanDigits_unique {s d r : Str} (h1 : s = d ++ r) (h2 : ∀ c ∈ d, isDigit c = true)
    (h3 : r = [] ∨ ∃ c r', r = c :: r' ∧ isDigit c = false) : spanDigits s = (d, r) := by
  subst h1
  apply spanDigits_append h2
  rcases h3 with rfl | ⟨c, r', rfl, hc⟩
  · trivial
  · exact hc

theorem isFloat_iff {s : Str} : (isFloatLit s || isFloatExpLit s) = true ↔ IsFloatLit s := by
  rw [← isFloatExpLit_iff, Bool.or_eq_true]
  exact ⟨fun h => h.elim isFloatLit_imp_exp id, Or.inr⟩

/-- the first float regex (no exponent) is subsumed by the second -/
theorem isFloatLit_iff {s : Str} : isFloatLit s = true ↔
    ∃ sign m tail, s = sign ++ m ++ tail ∧ IsSign sign ∧ IsMantissa m ∧ IsTail tail :=
  mantissa_then_iff (fun _ => atDollar_iff) fun _ h => ⟨h.ndh, h.ndot⟩

theorem QF.append {a b : Str} (ha : QF a) (hb : QF b) : QF (a ++ b) := fun c hc =>
  (List.mem_append.mp hc).elim (ha c) (hb c)

theorem isQuote_of_isDigit {c : Char} (h : isDigit c = true) : isQuote c = false := by
  cases hq : isQuote c with
  | false => rfl
  | true =>
    simp only [isQuote, Bool.or_eq_true, beq_iff_eq] at hq
    rcases hq with rfl | rfl
    · rw [isDigit_sq] at h; cases h
    · rw [isDigit_dq] at h; cases h

theorem Digits.qf {ds : Str} (h : Digits ds) : QF ds := fun c hc => isQuote_of_isDigit (h c hc)
theorem IsSign.qf {s : Str} (h : IsSign s) : QF s := by
  rcases h with rfl | rfl | rfl <;> decide
theorem IsTail.qf {s : Str} (h : IsTail s) : QF s := by
  rcases h with rfl | rfl <;> decide
theorem IsMantissa.qf {m : Str} (h : IsMantissa m) : QF m := by
  cases h with
  | int _ hne hd => exact hd.qf
  | intFrac ds fs hne hd hf => exact hd.qf.append (QF.cons (by decide) hf.qf)
  | frac fs hne hf => exact QF.cons (by decide) hf.qf
theorem IsExponent.qf {e : Str} (h : IsExponent e) : QF e := by
  cases h with
  | none => exact QF.nil
  | exp c sign ds hc hs hne hd =>
    exact QF.cons (by rcases hc with rfl | rfl <;> decide) (hs.qf.append hd.qf)

theorem IsFloatLit.qf {s : Str} (h : IsFloatLit s) : QF s := by
  obtain ⟨sign, m, e, tail, rfl, hs, hm, he, ht⟩ := h
  exact ((hs.qf.append hm.qf).append he.qf).append ht.qf

/-- every int literal is also a float literal (which is why the int row has to come first) -/
theorem IsIntLit.isFloatLit {s : Str} (h : IsIntLit s) : IsFloatLit s := by
  obtain ⟨sign, ds, tail, rfl, hs, hne, hd, ht⟩ := h
  exact ⟨sign, ds, [], tail, by simp, hs, .int ds hne hd, .none, ht⟩

theorem IsIntLit.qf {s : Str} (h : IsIntLit s) : QF s := h.isFloatLit.qf

/-- the decomposition of an int literal is unique, so its value is well defined -/
theorem intLit_value_unique {sign ds tail sign' ds' tail' : Str}
    (h : sign ++ ds ++ tail = sign' ++ ds' ++ tail')
    (hs : IsSign sign) (hne : ds ≠ []) (hd : Digits ds) (ht : IsTail tail)
    (hs' : IsSign sign') (hne' : ds' ≠ []) (hd' : Digits ds') (ht' : IsTail tail') :
    applySign sign (digitsVal ds) = applySign sign' (digitsVal ds') := by
  rw [← intOfLit_eq hs hne hd ht, ← intOfLit_eq hs' hne' hd' ht', h]

theorem asciiDigit_isDigit : ∀ k, k < 10 → isDigit (Char.ofNat (48 + k)) = true := by decide
theorem IsAsciiDigit.isDigit : ∀ c, IsAsciiDigit c → isDigit c = true := by
  unfold IsAsciiDigit; decide

theorem AsciiDigits.digits {ds : Str} (h : AsciiDigits ds) : Digits ds := fun c hc => (h c hc).isDigit


theorem natDigits_ascii (n : Nat) : AsciiDigits (natDigits n) := natDigits_digit n

theorem intRepr_isIntLit (z : Int) : IsIntLit (intRepr z) := by
  cases z with
  | ofNat n =>
    exact ⟨[], natDigits n, [], by simp [intRepr], Or.inl rfl, natDigits_ne_nil n, (natDigits_ascii n).digits, Or.inl rfl⟩
  | negSucc n =>
    exact ⟨['-'], natDigits (n + 1), [], by simp [intRepr], Or.inr (Or.inr rfl), natDigits_ne_nil _,
      (natDigits_ascii _).digits, Or.inl rfl⟩

theorem intOfLit_intRepr (z : Int) : intOfLit (intRepr z) = z := by
  cases z with
  | ofNat n =>
    have := intOfLit_eq (sign := []) (tail := []) (Or.inl rfl) (natDigits_ne_nil n) (natDigits_ascii n).digits (Or.inl rfl)
    simp only [List.nil_append, List.append_nil] at this
    simp only [intRepr, this, applySign, digitsVal_natDigits]
    simp
  | negSucc n =>
    have := intOfLit_eq (sign := ['-']) (tail := []) (Or.inr (Or.inr rfl)) (natDigits_ne_nil (n + 1))
      (natDigits_ascii _).digits (Or.inl rfl)
    simp only [List.append_nil, List.singleton_append] at this
    simp only [intRepr, this, applySign, digitsVal_natDigits]
    simp [Int.negSucc_eq]

theorem isSign_of_neg {neg : Str} (h : neg = [] ∨ neg = ['-']) : IsSign neg :=
  h.elim Or.inl fun h => Or.inr (Or.inr h)

theorem IsPyExp.isExponent {e : Str} (h : IsPyExp e) : IsExponent e := by
  cases h with
  | mk sg ds hsg hlen hd =>
    have hne : ds ≠ [] := by rintro rfl; simp at hlen
    have : IsSign [sg] := by rcases hsg with rfl | rfl; exact Or.inr (Or.inl rfl); exact Or.inr (Or.inr rfl)
    exact IsExponent.exp 'e' [sg] ds (Or.inl rfl) this hne hd.digits

theorem IsPyExp.head {e : Str} (h : IsPyExp e) : ∃ r, e = 'e' :: r := by
  cases h with
  | mk sg ds _ _ _ => exact ⟨_, rfl⟩

theorem not_intLit_of {sign ds rest : Str} (hs : IsSign sign) (hne : ds ≠ []) (hd : Digits ds) (hr : NDH rest)
    (ht : ¬ IsTail rest) : ¬ IsIntLit (sign ++ ds ++ rest) := by
  rw [← isIntLit_iff]
  unfold isIntLit
  rw [List.append_assoc, dropSign_append hs (hd.nsh hne _), spanDigits_append hd hr]
  have : atDollar rest = false := by
    cases h : atDollar rest with
    | false => rfl
    | true => exact absurd (atDollar_iff.mp h) ht
  simp [this]

theorem IsPyFloatRepr.isFloatLit {l : Str} (h : IsPyFloatRepr l) : IsFloatLit l := by
  cases h with
  | frac neg ds fs hn hne hd hfne hf =>
    exact ⟨neg, ds ++ '.' :: fs, [], [], by simp, isSign_of_neg hn, .intFrac ds fs hne hd.digits hf.digits, .none, Or.inl rfl⟩
  | fracExp neg ds fs e hn hne hd hfne hf he =>
    exact ⟨neg, ds ++ '.' :: fs, e, [], by simp, isSign_of_neg hn, .intFrac ds fs hne hd.digits hf.digits,
      he.isExponent, Or.inl rfl⟩
  | exp neg ds e hn hne hd he =>
    exact ⟨neg, ds, e, [], by simp, isSign_of_neg hn, .int ds hne hd.digits, he.isExponent, Or.inl rfl⟩

theorem IsPyFloatRepr.not_intLit {l : Str} (h : IsPyFloatRepr l) : ¬ IsIntLit l := by
  cases h with
  | frac neg ds fs hn hne hd hfne hf =>
    exact not_intLit_of (isSign_of_neg hn) hne hd.digits isDigit_dot (by simp [IsTail])
  | fracExp neg ds fs e hn hne hd hfne hf he =>
    rw [List.append_assoc]
    exact not_intLit_of (isSign_of_neg hn) hne hd.digits isDigit_dot (by simp [IsTail])
  | exp neg ds e hn hne hd he =>
    obtain ⟨r, rfl⟩ := he.head
    exact not_intLit_of (isSign_of_neg hn) hne hd.digits isDigit_e (by simp [IsTail])

/-- the table is sound for the cascade: whatever the table says is what the cascade computes -/
theorem classifies_eq {s : Str} {v : Scalar} (h : Classifies s v) : v = parseValue s := by
  cases h with
  | empty h0 => rw [parseValue_empty h0]
  | special h0 h1 => rw [parseValue_special h0 h1]
  | int sign ds tail h0 hsplit hs hne hd ht =>
    rw [parseValue_int h0 ⟨sign, ds, tail, hsplit, hs, hne, hd, ht⟩, hsplit, intOfLit_eq hs hne hd ht]
  | float h0 hi hf => rw [parseValue_float h0 hi hf]
  | wTrue h0 hw => rw [parseValue_word h0, boolNoneWord_true hw]
  | wFalse h0 hw => rw [parseValue_word h0, boolNoneWord_false hw]
  | wNone h0 hw => rw [parseValue_word h0, boolNoneWord_none hw]
  | other h0 hw => rw [parseValue_word h0, boolNoneWord_other hw]

/-- (2) the cascade *is* the documented table, for every string -/
theorem C04_total_table (s : Str) : Classifies s (parseValue s) := by
  -- some row of the table applies; by `classifies_eq` its value is what the cascade computes
  have h : ∃ v, Classifies s v := by
    by_cases h0 : removeQuotes s = []
    · exact ⟨_, .empty h0⟩
    by_cases h1 : IsSpecial s
    · exact ⟨_, .special h0 h1⟩
    have hT : NotTrivial s := ⟨h0, h1⟩
    by_cases h2 : IsIntLit s
    · obtain ⟨sign, ds, tail, hsplit, hs, hne, hd, ht⟩ := h2
      exact ⟨_, .int sign ds tail hT hsplit hs hne hd ht⟩
    by_cases h3 : IsFloatLit s
    · exact ⟨_, .float hT h2 h3⟩
    have hN : NotNumeric s := ⟨hT, h2, h3⟩
    by_cases w1 : IsWord "true" s ∨ IsWord "on" s
    · exact ⟨_, .wTrue hN w1⟩
    by_cases w2 : IsWord "false" s ∨ IsWord "off" s
    · exact ⟨_, .wFalse hN w2⟩
    by_cases w3 : IsWord "none" s ∨ IsWord "null" s
    · exact ⟨_, .wNone hN w3⟩
    refine ⟨_, .other hN ?_⟩
    rintro (h | h | h | h | h | h)
    · exact w1 (.inl h)
    · exact w1 (.inr h)
    · exact w2 (.inl h)
    · exact w2 (.inr h)
    · exact w3 (.inl h)
    · exact w3 (.inr h)
  obtain ⟨v, hv⟩ := h
  exact classifies_eq hv ▸ hv

/-- (2) the table is deterministic -/
theorem classifies_functional {s : Str} {a b : Scalar} (ha : Classifies s a) (hb : Classifies s b) : a = b :=
  (classifies_eq ha).trans (classifies_eq hb).symm

/-- the table and the cascade are the same relation -/
theorem classifies_iff {s : Str} {v : Scalar} : Classifies s v ↔ parseValue s = v :=
  ⟨fun h => (classifies_eq h).symm, fun h => h ▸ C04_total_table s⟩

/-- remark: row 2 of the table (`-`, `_`, `.` kept as they are) is redundant -- these three strings are no number and
    no word and carry no quotes, so the last row would return them unchanged as well -/
theorem C04_special_redundant {s : Str} (h : IsSpecial s) :
    ¬ IsIntLit s ∧ ¬ IsFloatLit s ∧ ¬ IsAnyWord s ∧ removeQuotes s = s := by
  rw [← isIntLit_iff, ← isFloatExpLit_iff]
  rcases h with rfl | rfl | rfl <;> refine ⟨by decide +kernel, by decide +kernel, ?_, by decide +kernel⟩ <;>
    (unfold IsAnyWord; decide +kernel)

/-! #### (3) only strings of the right grammar reach `int()` / `float()` -/

theorem C04_int_sound {s : Str} {z : Int} (h : parseValue s = .int z) : IsIntLit s ∧ z = intOfLit s := by
  cases classifies_iff.mpr h with
  | int sign ds tail h0 hsplit hs hne hd ht =>
    exact ⟨⟨sign, ds, tail, hsplit, hs, hne, hd, ht⟩, by rw [hsplit, intOfLit_eq hs hne hd ht]⟩

/-- the value, spelled out: sign and positional value of the (unique) digit run -/
theorem C04_int_value {s : Str} {z : Int} (h : parseValue s = .int z) :
    ∃ sign ds tail, s = sign ++ ds ++ tail ∧ IsSign sign ∧ ds ≠ [] ∧ Digits ds ∧ IsTail tail ∧
      z = applySign sign (digitsVal ds) := by
  obtain ⟨⟨sign, ds, tail, hsplit, hs, hne, hd, ht⟩, hz⟩ := C04_int_sound h
  exact ⟨sign, ds, tail, hsplit, hs, hne, hd, ht, by rw [hz, hsplit, intOfLit_eq hs hne hd ht]⟩

theorem C04_float_sound {s l : Str} (h : parseValue s = .float l) : l = s ∧ IsFloatLit s := by
  cases classifies_iff.mpr h with
  | float h0 hi hf => exact ⟨rfl, hf⟩

/-- … and never an int literal (those are typed `int`) -/
theorem C04_float_not_int {s l : Str} (h : parseValue s = .float l) : ¬ IsIntLit s := by
  cases classifies_iff.mpr h with
  | float h0 hi hf => exact hi

/-- conversely every int literal is typed int, every other float literal float (numeric literals are never special
    or quoted) -/
theorem IsFloatLit.notTrivial {s : Str} (h : IsFloatLit s) : NotTrivial s := by
  refine ⟨?_, ?_⟩
  · rw [removeQuotes_of_qf h.qf]
    obtain ⟨sign, m, e, tail, rfl, _, hm, _, _⟩ := h
    have : m ≠ [] := by
      cases hm with
      | int _ hne _ => exact hne
      | intFrac ds fs hne _ _ => simp
      | frac fs _ _ => simp
    simp [this]
  · have := isFloatExpLit_iff.mpr h
    rintro (rfl | rfl | rfl) <;> revert this <;> decide +kernel

theorem IsIntLit.notTrivial {s : Str} (h : IsIntLit s) : NotTrivial s := h.isFloatLit.notTrivial

theorem C04_int_complete {s : Str} (h : IsIntLit s) : parseValue s = .int (intOfLit s) :=
  parseValue_int h.notTrivial h

theorem C04_float_complete {s : Str} (h : IsFloatLit s) (hi : ¬ IsIntLit s) : parseValue s = .float s :=
  parseValue_float h.notTrivial hi h

/-! #### (4) the bool / None words -/

theorem C04_bool_true_sound {s : Str} (h : parseValue s = .bool true) : IsWord "true" s ∨ IsWord "on" s := by
  cases classifies_iff.mpr h with
  | wTrue h0 hw => exact hw

theorem C04_bool_false_sound {s : Str} (h : parseValue s = .bool false) : IsWord "false" s ∨ IsWord "off" s := by
  cases classifies_iff.mpr h with
  | wFalse h0 hw => exact hw

theorem C04_none_sound {s : Str} (h : parseValue s = .none) : IsWord "none" s ∨ IsWord "null" s := by
  cases classifies_iff.mpr h with
  | wNone h0 hw => exact hw

theorem C04_bool_none_sound {s : Str} :
    (∀ b, parseValue s = .bool b →
      if b then IsWord "true" s ∨ IsWord "on" s else IsWord "false" s ∨ IsWord "off" s) ∧
    (parseValue s = .none → IsWord "none" s ∨ IsWord "null" s) := by
  refine ⟨fun b h => ?_, C04_none_sound⟩
  cases b
  · exact C04_bool_false_sound h
  · exact C04_bool_true_sound h

/-- … and, as for the numbers, the words are never numeric, special or empty (so the rows above do not shadow them) -/
theorem C04_word_not_numeric {s : Str} (h : parseValue s = .bool true ∨ parseValue s = .bool false ∨ parseValue s = .none) :
    NotNumeric s := by
  have hc := C04_total_table s
  rcases h with h | h | h <;> rw [h] at hc <;> cases hc <;> assumption

/-! #### (5) idempotence -/

/-- general form: a string that `remove_quotes_from_string` leaves alone and that is typed `str` comes back unchanged -/
theorem C04_idem' {s t : Str} (h : parseValue s = .str t) (hq : removeQuotes s = s) : t = s := by
  cases classifies_iff.mpr h with
  | empty h0 => rw [← hq, h0]
  | special h0 h1 => rfl
  | other h0 hw => exact hq

theorem C04_idem {s t : Str} (h : parseValue s = .str t) (hq : ∀ c ∈ s, isQuote c = false) : t = s :=
  C04_idem' h (removeQuotes_of_qf hq)

theorem parseScalar_idem' {v : Scalar} (hq : ∀ s, v = .str s → removeQuotes s = s) :
    parseScalar (parseScalar v) = parseScalar v := by
  cases v with
  | str s =>
    simp only [parseScalar]
    cases hp : parseValue s with
    | str t =>
      have := C04_idem' hp (hq s rfl)
      subst this
      simp only [hp]
    | _ => rfl
  | _ => rfl

theorem parseScalar_idem {v : Scalar} (hq : ∀ s, v = .str s → ∀ c ∈ s, isQuote c = false) :
    parseScalar (parseScalar v) = parseScalar v :=
  parseScalar_idem' fun s hs => removeQuotes_of_qf (hq s hs)

/-- without the hypothesis, idempotence is false: `'"1"'` is typed `str` and becomes `'1'`, which is typed `int` -/
theorem parseScalar_idem_cex : ¬ ∀ v : Scalar, parseScalar (parseScalar v) = parseScalar v := by
  intro h
  have := h (.str ['"', '1', '"'])
  revert this
  decide +kernel

theorem C04_idem_cex : ¬ ∀ s t : Str, parseValue s = .str t → t = s := by
  intro h
  have := h ['"', '1', '"'] ['1'] (by decide +kernel)
  revert this
  decide +kernel

/-! #### (6) what the formatter writes, the reader types back -/

theorem C04_format_parse_bool {fl : Flavor} (hfl : fl = .native ∨ fl = .foam) (b : Bool) :
    parseValue (formatScalar fl (.bool b)) = .bool b := by
  rcases hfl with rfl | rfl <;> cases b <;> decide +kernel

theorem C04_format_parse_none {fl : Flavor} (hfl : fl = .native ∨ fl = .foam) :
    parseValue (formatScalar fl .none) = .none := by
  rcases hfl with rfl | rfl <;> decide +kernel

/-- (holds for every flavour: ints are written by `str(z)` everywhere) -/
theorem C04_format_parse_int (fl : Flavor) (z : Int) : parseValue (formatScalar fl (.int z)) = .int z := by
  show parseValue (intRepr z) = .int z
  rw [C04_int_complete (intRepr_isIntLit z), intOfLit_intRepr]

theorem C04_format_parse_float (fl : Flavor) {l : Str} (h : IsPyFloatRepr l) :
    parseValue (formatScalar fl (.float l)) = .float l :=
  C04_float_complete h.isFloatLit h.not_intLit

/-- more generally any float literal that is not an int literal survives (e.g. a lexeme that was read, not computed) -/
theorem C04_format_parse_float' (fl : Flavor) {l : Str} (h : IsFloatLit l) (hi : ¬ IsIntLit l) :
    parseValue (formatScalar fl (.float l)) = .float l :=
  C04_float_complete h hi

/-- known finding: the non-finite floats are written as `inf`, `-inf`, `nan` and come back as strings -/
theorem C04_format_parse_nonfinite :
    parseValue "inf".toList = .str "inf".toList ∧ parseValue "-inf".toList = .str "-inf".toList ∧
    parseValue "nan".toList = .str "nan".toList := by decide +kernel

/-- (6) collected -/
theorem C04_format_parse {fl : Flavor} (hfl : fl = .native ∨ fl = .foam) :
    (∀ b, parseValue (formatScalar fl (.bool b)) = .bool b) ∧
    parseValue (formatScalar fl .none) = .none ∧
    (∀ z, parseValue (formatScalar fl (.int z)) = .int z) ∧
    (∀ l, IsPyFloatRepr l → parseValue (formatScalar fl (.float l)) = .float l) :=
  ⟨C04_format_parse_bool hfl, C04_format_parse_none hfl, C04_format_parse_int fl, fun _ h => C04_format_parse_float fl h⟩

/-! #### (7) `str.lower()` versus ASCII lower-casing -/

/-- no non-ASCII character lower-cases into a letter of the six words (t r u e f a l s o n) -/
theorem C04_lower_safe : ∀ e ∈ Gen.lowersIntoAscii, ∀ x ∈ e.2, x ∉ [116, 114, 117, 101, 102, 97, 108, 115, 111, 110] := by
  decide

/-! #### (8) when the writer quotes -/

theorem formatString_bare_iff {fl : Flavor} (hfl : fl = .native ∨ fl = .foam) (s : Str) :
    formatString fl s = s ↔
      (s ≠ [] ∧ s.contains '$' = false ∧ s.all (fun c => !isQuote c && !isComplexChar c) = true ∧ startsInclude s = false) ∨
      (s.contains '$' = true ∧ isReferenceString s = true) := by
  constructor
  · intro e
    rcases formatString_cases fl s with ⟨hd, hr, _⟩ | ⟨_, _, h⟩ | ⟨_, _, h⟩ | ⟨_, _, _, h⟩ | ⟨_, _, _, _, h⟩ | ⟨hb, _⟩
    · exact Or.inr ⟨hd, hr⟩
    · rcases hfl with rfl | rfl <;> exact absurd (h.symm.trans e) (dq_ne s)
    · rcases hfl with rfl | rfl
      · exact absurd (h.symm.trans e) (sq_ne s)
      · exact absurd (h.symm.trans e) (dq_ne s)
    · rw [h] at e
      rcases hfl with rfl | rfl <;> (dsimp only at e; split at e)
      · exact absurd e (sq_ne s)
      · exact absurd e (dq_ne s)
      · exact absurd e (dq_escape_ne s)
      · exact absurd e (dq_ne s)
    · rcases hfl with rfl | rfl
      · exact absurd (h.symm.trans e) (sq_ne s)
      · exact absurd (h.symm.trans e) (dq_ne s)
    · exact Or.inl hb
  · rintro (h | ⟨hd, hr⟩)
    · exact formatString_of_bare h
    · exact formatString_of_ref hd hr

/-- Native flavour, no `$`: the three ways a string is written, and exactly when -/
theorem formatString_native_cases {s : Str} (hd : s.contains '$' = false) :
    (formatString .native s = s ∧
        s ≠ [] ∧ s.all (fun c => !isQuote c && !isComplexChar c) = true ∧ startsInclude s = false) ∨
    (formatString .native s = sq s ∧
        (s = [] ∨ s.contains '"' = true ∨ ((s.any isComplexChar = true ∨ startsInclude s = true) ∧ s.any isQuote = false))) ∨
    (formatString .native s = dq s ∧
        s.contains '\'' = true ∧ s.contains '"' = false) := by
  rcases formatString_cases .native s with ⟨hd', _⟩ | ⟨hd', _⟩ | ⟨_, hn, h⟩ | ⟨_, _, hq, h⟩ | ⟨_, _, hq, hc, h⟩ | ⟨hb, h⟩
  · rw [hd] at hd'; cases hd'
  · rw [hd] at hd'; cases hd'
  · exact Or.inr (Or.inl ⟨h, Or.inl hn⟩)
  · rw [h]
    cases hdq : s.contains '"' with
    | true => exact Or.inr (Or.inl ⟨rfl, Or.inr (Or.inl rfl)⟩)
    | false =>
      rw [any_isQuote, hdq, Bool.or_false] at hq
      exact Or.inr (Or.inr ⟨rfl, hq, rfl⟩)
  · exact Or.inr (Or.inl ⟨h, Or.inr (Or.inr ⟨hc, hq⟩)⟩)
  · exact Or.inl ⟨h, hb.1, hb.2.2⟩

/-- the three outcomes are distinct strings, so the three conditions of `formatString_native_cases` exclude each other -/
theorem formatString_native_outcomes_distinct (s : Str) : s ≠ sq s ∧ s ≠ dq s ∧ sq s ≠ dq s :=
  ⟨fun h => sq_ne s h.symm, fun h => dq_ne s h.symm, sq_ne_dq s⟩

/-- every character the tokenizer splits on forces quoting -/
theorem delims_are_complex : ∀ c ∈ Gen.delimiters, isComplexChar c = true := by decide +kernel

theorem brackets_are_complex :
    (∀ p ∈ Gen.brackets, isComplexChar p.1 = true ∧ isComplexChar p.2 = true) ∧
    (∀ c ∈ Gen.openingBrackets, isComplexChar c = true) ∧
    (∀ c ∈ Gen.closingBrackets, isComplexChar c = true) := by decide +kernel

/-- hence a string containing a delimiter or a bracket is never written bare (Native / Foam), unless it is a `$` reference -/
theorem formatString_quotes_delims {fl : Flavor} (hfl : fl = .native ∨ fl = .foam) {s : Str} {c : Char} (hc : c ∈ s)
    (hcc : isComplexChar c = true) (hd : s.contains '$' = false) : formatString fl s ≠ s := by
  intro h
  rcases (formatString_bare_iff hfl s).mp h with ⟨_, _, hall, _⟩ | ⟨hd', _⟩
  · have := List.all_eq_true.mp hall c hc
    simp [hcc] at this
  · rw [hd] at hd'; cases hd'

/-! #### (9) non-vacuity -/

section Examples

/-- one instance for each row of the table -/
example : parseValue "''".toList = .str [] := by decide +kernel
example : parseValue "-".toList = .str "-".toList := by decide +kernel
example : parseValue "-12".toList = .int (-12) := by decide +kernel
example : parseValue "+7\n".toList = .int 7 := by literal_chars; decide +kernel
example : parseValue "١٢".toList = .int 12 := by decide +kernel
example : parseValue "1.e-03".toList = .float "1.e-03".toList := by literal_chars; decide +kernel
example : parseValue ".5E3".toList = .float ".5E3".toList := by literal_chars; decide +kernel
example : parseValue " TrUe ".toList = .bool true := by literal_chars; decide +kernel
example : parseValue "ON".toList = .bool true := by decide +kernel
example : parseValue "False".toList = .bool false := by literal_chars; decide +kernel
example : parseValue "off".toList = .bool false := by decide +kernel
example : parseValue "None".toList = .none := by literal_chars; decide +kernel
example : parseValue "NULL".toList = .none := by literal_chars; decide +kernel
example : parseValue "2024-01".toList = .str "2024-01".toList := by literal_chars; decide +kernel
example : parseValue "'a b'".toList = .str "a b".toList := by literal_chars; decide +kernel
example : parseValue "1e".toList = .str "1e".toList := by decide +kernel

/-- the declarative side is inhabited too (not via the recognisers) -/
example : IsIntLit "+7\n".toList := by
  rw [String.toList_ofList]
  exact ⟨['+'], ['7'], ['\n'], rfl, Or.inr (Or.inl rfl), by decide, by decide, Or.inr rfl⟩

example : IsFloatLit "-1.e-03".toList := by
  rw [String.toList_ofList]
  exact ⟨['-'], ['1', '.'], ['e', '-', '0', '3'], [], rfl, Or.inr (Or.inr rfl),
    .intFrac ['1'] [] (by decide) (by decide) (by decide),
    .exp 'e' ['-'] ['0', '3'] (Or.inl rfl) (Or.inr (Or.inr rfl)) (by decide) (by decide), Or.inl rfl⟩

example : Classifies " TrUe ".toList (.bool true) := by
  literal_chars
  exact classifies_iff.mpr (by decide +kernel)

example : Classifies "١٢".toList (.int 12) := by
  literal_chars
  exact .int [] ['١', '٢'] [] (by decide +kernel) rfl (Or.inl rfl) (by decide) (by decide) (Or.inl rfl)

/-- instances of the `repr(float)` grammar, and of (6c) -/
theorem repr_max : IsPyFloatRepr "1.7976931348623157e+308".toList := by
  rw [String.toList_ofList]
  exact .fracExp [] ['1'] ['7', '9', '7', '6', '9', '3', '1', '3', '4', '8', '6', '2', '3', '1', '5', '7'] ['e', '+', '3', '0', '8']
    (Or.inl rfl) (by decide) (by decide) (by decide) (by decide) (.mk '+' ['3', '0', '8'] (Or.inl rfl) (by decide) (by decide))

example : IsPyFloatRepr "-0.0".toList := by
  rw [String.toList_ofList]
  exact .frac ['-'] ['0'] ['0'] (Or.inr rfl) (by decide) (by decide) (by decide) (by decide)

example : IsPyFloatRepr "1e-05".toList := by
  rw [String.toList_ofList]
  exact .exp [] ['1'] ['e', '-', '0', '5'] (Or.inl rfl) (by decide) (by decide) (.mk '-' ['0', '5'] (Or.inr rfl) (by decide) (by decide))

example : parseValue (formatScalar .native (.float "1.7976931348623157e+308".toList)) = .float "1.7976931348623157e+308".toList :=
  C04_format_parse_float .native repr_max

/-- (6b) instantiated -/
example : parseValue (formatScalar .foam (.int (-120))) = .int (-120) := C04_format_parse_int .foam (-120)

example : natDigits 120 = "120".toList := by simp [natDigits]

/-- (5) instantiated -/
example : parseScalar (parseScalar (.str "2024-01".toList)) = parseScalar (.str "2024-01".toList) :=
  parseScalar_idem fun s hs => by cases hs; decide

/-- (8) instantiated: the three Native spellings, a reference, a `$` that is no reference -/
example : formatString .native "abc".toList = "abc".toList := by decide +kernel
example : formatString .native "a b".toList = "'a b'".toList := by literal_chars; decide +kernel
example : formatString .native "a;b".toList = "'a;b'".toList := by literal_chars; decide +kernel
example : formatString .native "it's".toList = "\"it's\"".toList := by literal_chars; decide +kernel
example : formatString .native "say \"x\"".toList = "'say \"x\"'".toList := by literal_chars; decide +kernel
example : formatString .native [] = "''".toList := by decide +kernel
example : formatString .foam "say \"x\"".toList = "\"say \\\"x\\\"\"".toList := by literal_chars; decide +kernel
example : formatString .native "$ref[0]".toList = "$ref[0]".toList := by literal_chars; decide +kernel
example : formatString .native "$a b".toList = "\"$a b\"".toList := by literal_chars; decide +kernel

end Examples

end DictIO.C04

