/-
  C06 -- the regular expressions of the library functions this property's model was written against, pinned against the
  table regenerated from the sources on every run (Generated/Regex.lean, harness/extract_regex.py).  After a changed
  pattern the row stated below is no longer in the table and the membership proof fails: the hand-written recogniser
  of the model is then no longer justified, and the check searches for a failing input.
  Generated by tools/mkrepins.py (never run by a check).
-/
import DictIO.Lemmas.Regex

namespace DictIO.C06.Re
open DictIO.Gen

theorem re_dict__value_contains_circular_reference :
    regexesOf "dict.py" "_value_contains_circular_reference" = ["fullmatch:(BLOCKCOMMENT|INCLUDE|LINECOMMENT)\\d{6}", "search:\\${re.escape(key)}(?!\\w)"] :=
  regexesOf_of_mem (by simp only [regexTable, List.mem_cons, true_or, or_true])

theorem re_dict__insert_expression :
    regexesOf "dict.py" "_insert_expression" = ["search:EXPRESSION\\d{6}", "search:\\d{6}"] :=
  regexesOf_of_mem (by simp only [regexTable, List.mem_cons, true_or, or_true])

theorem re_parser_NativeParser__extract_includes :
    regexesOf "parser.py" "NativeParser._extract_includes" = ["search:^\\s*#\\s*include", "sub:(^\\s*#\\s*include\\s*|\\s*$)"] :=
  regexesOf_of_mem (by simp only [regexTable, List.mem_cons, true_or, or_true])

theorem re_parser_JsonParser__extract_includes :
    regexesOf "parser.py" "JsonParser._extract_includes" = ["search:^\\s*#\\s*include"] :=
  regexesOf_of_mem (by simp only [regexTable, List.mem_cons, true_or, or_true])

theorem re_dict_SDict__clean_data :
    regexesOf "dict.py" "SDict._clean_data" = ["search:BLOCKCOMMENT\\d{6}", "search:INCLUDE\\d{6}", "search:LINECOMMENT\\d{6}", "findall:\\d{6}", "findall:\\d{6}", "findall:\\d{6}"] :=
  regexesOf_of_mem (by simp only [regexTable, List.mem_cons, true_or, or_true])

theorem re_dict_reader_DictReader__remove_include_keys :
    regexesOf "dict_reader.py" "DictReader._remove_include_keys" = ["search:remove=[INCLUDE[0-9;]+]"] :=
  regexesOf_of_mem (by simp only [regexTable, List.mem_cons, true_or, or_true])

end DictIO.C06.Re
