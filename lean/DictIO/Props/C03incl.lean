/-
  C03 -- the read → write → read fixed point for sources WITH `#include` directives (flat include graph), on the API
  state machine (`apiStep`, `apiRun`: `DictParser.parse`, `DictReader.read`).

  Setting (`Setup fs src c items gaps tail incs`): the text of the source file `src` is an admissible layout (`GapsOKI`) of a
  document `items` with top-level `#include` directives and plain entries (`C12WI.HWI`: the domain of `C12_read_included` /
  `C12_write_included`; no comments, no `$`); every file a directive names exists in the folder of the source and holds an
  admissible layout of a plain comment-free well-formed document (`IncAt`, hypotheses of `C02_layout_tolerant`) whose meaning
  lies in the value domain of C01 — so the included files include nothing (flat graph); `parsed.<name>` is a native-format
  path and none of the included files; the directives name pairwise distinct files (`namesnd`).

  What is proved (headline theorems):

    `C03_included_parse_reread_partial`
        `apiStep … (.parse src {} ['w'] none)` completes, returns the first read `sd₁`, and changes exactly one file:
        `parsed.<name>` next to the source, which now holds `parsedText items incs` = default header, the `#include`
        directives AGAIN (names spelled by `format_value`), and the MERGED entries `mergedData items incs`
        (= `mergeD true [] own temp`: the including file wins, earlier includes win over later ones).
        `apiStep … (.read (parseTarget src [] none) {})` then completes and returns `sd₂`: it merges the includes a SECOND
        time into the already merged entries, which changes nothing (`C07.merge_idem_top`);
        `dropPhEntries sd₂.data = dropPhEntries sd₁.data` (= `mergedData`), and both include tables name the same files.
        (`sd₂` has one more placeholder entry than `sd₁`: the header block comment; the include ids differ.)
    `C03_included_cycles_partial`
        for every `n`, the history `cycleOps src n` of `n + 1 ≥ 1` cycles (`parse src`, then `n` times
        `parse parsed.<name>`, which targets `parsed.<name>` again: `Setup.tgtFix`) completes, every cycle returns the
        entries of the first read (`Agrees`: entries without placeholder entries, files of the include table), a final
        `read parsed.<name>` returns them too, and the file system is the one after cycle 1.
    `C03_included_bytes`, `C03_included_bytes_cycles`, `C03_included_bytes_on_Setup`
        the text written in cycle 2 (and in every later cycle) equals the text written in cycle 1.
    `C03_included_bytes_statement_false`
        REFUTATION of the bytes claim on the domain without `namesnd` (`SetupW` = `HWI` as it stands): the source
        `#include 'x'` / `#include "x"` / `a p;` with `x` = `a q; b r;`.  The two directive texts differ, so the first read
        keeps two include entries and cycle 1 writes `#include x` twice (both spellings are written bare); on reading
        that file `_clean` finds two include entries with the same table value and deletes one, so cycle 2 writes the
        directive once: the bytes stabilise after TWO cycles, not one.  Exact condition for one cycle: the file names of the
        directives, as spelled, are pairwise distinct (`Setup.namesnd`).  The entries returned agree on the witness
        (`dup_data`).
    `C03_included_bytes_statement`, `C03_included_data_statement : Prop`
        the claims on the whole domain `SetupW`; the first is false, the second is proved under `namesnd` only (hence the
        suffix `_partial`), not refuted and not proved in general.

  Route: a shape predicate `RdOK s hdr ids names D` for what the reader returns (no expressions / line comments; the header
  block comment or none; the include placeholder entries of `ids`, the table naming `names`; the other entries `D` in the
  value domain — only the CLASSES of the top-level keys are fixed, not their places); `_clean` (`RdOK.clean`, `clean_top`),
  `merge` with a plain dict (`RdOK.merge`, via `C07.filter_mergeD_keep/drop`), the self-merge, `_retype_values` (`RdOK.normData`),
  the writer (`RdOK.write`, via `C12WI.write_incl_top` and `C12.insertBlock_hdr`) and `_merge_includes` on plain included
  files (`readFile_rd`, via `C06.C06_flat`) all keep it; the first parse has it (`rd_first`, from `C12WI.denI_top`), the
  parse of the written file has it with header (`rd_second`, the header case of `C12WI.litI_top`; `parse_written`, from
  `C12_read_included` on `C12WI.writtenI names D`).  The value domain and the re-typing fixed points are closed under `merge`
  (`domC01_mergeD`, `C16.norm_mergeD`, `docKeys_mergeD`; the first and the last through `mergeD_forall`).

  Assumed beyond the setting: `nqW` (the merged dict has at most `counterLimit + 1` quoted strings; decidable on the inputs).
  Not covered: comments in the including file, nested directives, `$`-expressions, included files with comments or
  includes of their own (transitive includes), JSON / XML / Foam targets, modes other than `'w'`, `order`, `scope`.
-/
import DictIO.Props.C12wincl
import DictIO.Props.C16sd
import DictIO.Lemmas.DecEq

namespace DictIO.C03incl
open DictIO DictIO.C12 DictIO.C12.Incl DictIO.C12WI

/-! ### the value domain is closed under `merge` -/

theorem dom_mergeD (fl : Flavor) (ex : Tbl ExprEntry) (top : Bool) (t o : Entries) (d : Nat)
    (ht : domEs fl d t = true) (ho : domEs fl d o = true) : domEs fl d (mergeD top ex t o) = true :=
  mergeD_forall ex (P := fun d es => domEs fl d es = true) (Q := fun d e => (isDomKey e.1 && domV fl d e.2) = true)
    (fun _ _ => by rw [C01.domEs_eq_all, List.all_eq_true])
    (fun d k td od h1 h2 ih => by
      simp only [domV, Bool.and_eq_true, decide_eq_true_eq] at h1 h2 ⊢
      exact ⟨h1.1, ih (d + 1) h1.2.1 h2.2.1, nodup_keys_mergeD false ex od td h1.2.2⟩)
    top t o d ht ho

theorem domC01_mergeD (ex : Tbl ExprEntry) (top : Bool) {t o : Entries} (ht : DomC01 .native t = true)
    (ho : DomC01 .native o = true) : DomC01 .native (mergeD top ex t o) = true := by
  simp only [DomC01, Bool.and_eq_true, decide_eq_true_eq] at ht ho ⊢
  exact ⟨dom_mergeD .native ex top t o 1 ht.1 ho.1, nodup_keys_mergeD top ex o t ht.2⟩

theorem docKeys_mergeD (ex : Tbl ExprEntry) (top : Bool) {t o : Entries} (ht : C01.DocKeysAbsent' t)
    (ho : C01.DocKeysAbsent' o) : C01.DocKeysAbsent' (mergeD top ex t o) :=
  mergeD_forall (ι := Unit) ex (P := fun _ => C01.DocKeysAbsent')
    (Q := fun _ e => e.1 ≠ .str "_variables".toList ∧ e.1 ≠ .str "_includes".toList)
    (fun _ _ => Iff.rfl) (fun _ _ _ _ h _ _ => h) top t o () ht ho

/-! ### `_clean` on an SDict whose placeholder entries stand at the top level only -/

/-- **`_clean` changes nothing** when there is no line comment, at most one block-comment key, the include keys are the
    reader's own words with distinct table values, and the nested dicts hold no placeholder key -/
theorem clean_top (s : SD) (hl : s.lineC = []) (hB : ((keys s.data).filter C06.selB).length ≤ 1)
    (ht : TblInj s.incl) (hn : (keys s.data).Nodup) (hI : ∀ k ∈ keys s.data, SelIOK k)
    (hsub : ∀ k sub, (k, Val.dict sub) ∈ s.data → C07.NoPhEs sub ∧ NodupKeysV (.dict sub)) : s.clean = s := by
  refine C07.clean_of_top s ?_ hn hsub
  rw [cleanLevel_eq, cleanStep_le1 C06.selB s.data s.blockC hB, cleanStep_inclKeys s.data s.incl ht hn hI, hl,
    cleanStep_nil C06.selL s.data hn]
  cases s; simp only at hl; subst hl; rfl

/-! ### the shape of what the reader returns for a file with top-level directives -/

/-- **shape of a read result**: no expressions, no line comments; block comments: none, or (`hdr`) the header comment
    under id 0 with its placeholder entry; the include placeholder entries of the ids `ids`, the table naming the files
    `names` (pairwise distinct) under these ids; the remaining entries are `D`, a dict of the value domain that the
    writer's re-typing leaves alone.  (Only the classes are fixed, not the places of the placeholder entries.) -/
structure RdOK (s : SD) (hdr : Bool) (ids : List Nat) (names : List Str) (D : Entries) : Prop where
  exprs : s.exprs = []
  lineC : s.lineC = []
  blockC : s.blockC = if hdr then [(0, hdrComment)] else []
  fB : s.data.filter (fun e => pB e.1) = if hdr then [hdrEntry] else []
  fI : s.data.filter (fun e => !pB e.1 && pI e.1) = ids.map inclE
  fR : s.data.filter (fun e => !pB e.1 && !pI e.1) = D
  nodup : (keys s.data).Nodup
  idsle : ∀ i ∈ ids, i ≤ 999999
  idsnd : ids.Nodup
  tblIds : s.incl.map (·.1) = ids
  tblFiles : s.incl.map (·.2.file) = names
  namesnd : names.Nodup
  dom : DomC01 .native D = true
  norm : normEs D = D

namespace RdOK
variable {s : SD} {hdr : Bool} {ids : List Nat} {names : List Str} {D : Entries}

theorem classes (h : RdOK s hdr ids names D) : Classes hdr ids D s.data := ⟨h.fB, h.fI, h.fR, h.idsle⟩

theorem entry_cases (h : RdOK s hdr ids names D) : ∀ e ∈ s.data,
    (hdr = true ∧ e = hdrEntry) ∨ (∃ i ∈ ids, e = inclE i) ∨ e ∈ D := h.classes.entry_cases

theorem dfacts (h : RdOK s hdr ids names D) : C07.NoPhEs D ∧ NodupKeysV (.dict D) := by
  have := C01.norm_invariants h.dom
  rwa [h.norm] at this

theorem inj (h : RdOK s hdr ids names D) : TblInj s.incl := by
  rw [List.zip_of_prod (xs := s.incl) rfl rfl]
  refine tblInj_zip _ _ (nodup_of_nodup_map (fun e : InclEntry => e.file) ?_)
  rw [List.map_map]
  exact h.tblFiles ▸ h.namesnd

theorem clean (h : RdOK s hdr ids names D) : s.clean = s := by
  refine clean_top s h.lineC ?_ h.inj h.nodup ?_ ?_
  · have : (keys s.data).filter C06.selB = keys (s.data.filter fun e => pB e.1) := by
      rw [show keys s.data = s.data.map (·.1) from rfl, List.filter_map]
      exact congrArg (List.map (fun e : Key × Val => e.1)) (List.filter_congr fun (e : Key × Val) _ => selB_eq e.1)
    rw [this, h.fB]
    cases hdr <;> simp
  · intro k hk hs
    obtain ⟨e, he, rfl⟩ := List.mem_map.mp hk
    rw [selI_eq] at hs
    have : e ∈ s.data.filter (fun e => !pB e.1 && pI e.1) := List.mem_filter.mpr ⟨he, hs⟩
    rw [h.fI] at this
    obtain ⟨i, hi, rfl⟩ := List.mem_map.mp this
    exact ⟨i, by have := h.idsle i hi; omega, rfl⟩
  · intro k sub hm
    rcases h.entry_cases _ hm with ⟨_, e⟩ | ⟨i, _, e⟩ | hD
    · cases e
    · cases e
    · exact ⟨(C07.noPhEs_iff.mp h.dfacts.1 _ hD).2, nodupKeysEs_iff.mp h.dfacts.2.2 _ hD⟩

theorem nodupV (h : RdOK s hdr ids names D) : NodupKeysV (.dict s.data) := by
  refine ⟨h.nodup, nodupKeysEs_iff.mpr fun e he => ?_⟩
  rcases h.entry_cases e he with ⟨_, rfl⟩ | ⟨i, _, rfl⟩ | hD
  · simp [hdrEntry, NodupKeysV]
  · simp [inclE, NodupKeysV]
  · exact nodupKeysEs_iff.mp h.dfacts.2.2 _ hD

theorem dropPh (h : RdOK s hdr ids names D) : C01.dropPhEntries s.data = D :=
  h.classes.dropPh fun e he => C12.dom_noPh_keys h.dom e.1 (List.mem_map_of_mem he)

/-- `self.merge(temp)` for a `temp` of the value domain without tables: the data are merged, nothing else changes,
    and the shape stays -/
theorem merge (h : RdOK s hdr ids names D) {TD : Entries} (hd : DomC01 .native TD = true) (hnm : normEs TD = TD) :
    s.merge (.sd { data := TD }) = { s with data := mergeD true [] s.data TD } ∧
    RdOK { s with data := mergeD true [] s.data TD } hdr ids names (mergeD true [] D TD) := by
  have hk : ∀ e ∈ TD, pB e.1 = false ∧ pI e.1 = false := fun e he =>
    ph_split (C12.dom_noPh_keys hd e.1 (List.mem_map_of_mem he))
  have h' : RdOK { s with data := mergeD true [] s.data TD } hdr ids names (mergeD true [] D TD) :=
    { h with
      fB := by
        show (mergeD true [] s.data TD).filter _ = _
        rw [C07.filter_mergeD_drop pB true [] TD s.data (fun e he => (hk e he).1)]; exact h.fB
      fI := by
        show (mergeD true [] s.data TD).filter _ = _
        rw [C07.filter_mergeD_drop (fun k => !pB k && pI k) true [] TD s.data (fun e he => by simp [(hk e he).1, (hk e he).2])]
        exact h.fI
      fR := by
        show (mergeD true [] s.data TD).filter _ = _
        rw [C07.filter_mergeD_keep (fun k => !pB k && !pI k) true [] TD s.data (fun e he => by simp [(hk e he).1, (hk e he).2]),
          h.fR]
      nodup := nodup_keys_mergeD true [] TD s.data h.nodup
      dom := domC01_mergeD [] true h.dom hd
      norm := C16.norm_mergeD [] true D TD h.norm hnm }
  refine ⟨?_, h'⟩
  have e : s.merge (.sd { data := TD }) = ({ s with data := mergeD true [] s.data TD } : SD).clean := by
    have hx := h.exprs
    cases s; simp only at hx; subst hx; rfl
  rw [e]
  exact h'.clean

theorem merge_self (h : RdOK s hdr ids names D) : s.merge (.sd s) = s := C01.merge_self_clean s h.clean h.nodupV

end RdOK

/-! ### the writer on such an SDict -/

/-- file names the writer theorem of `C12wincl` covers: no `$`, not the word `INCLUDE`, no line feed, no carriage return -/
def NamesOK (names : List Str) : Prop :=
  ∀ n ∈ names, n.contains '$' = false ∧ NoI n ∧ ∀ c ∈ n, c ≠ '\n' ∧ c ≠ '\r'

theorem iphLines_noB : ∀ (ids : List Nat), 'B' ∉ (ids.map fun i => iphLine i pad0).flatMap (· ++ ['\n'])
  | [] => by simp
  | i :: ids => by
    have ih := iphLines_noB ids
    have h1 : 'B' ∉ inclPh i := Ph.sep_notin (a := .block) (b := .incl) (by decide) i
    have h2 : 'B' ∉ pad0 := by decide
    simp only [List.map_cons, List.flatMap_cons, iphLine, List.mem_append, not_or, List.mem_cons]
    exact ⟨⟨⟨⟨⟨h1, h2⟩, h1⟩, by decide⟩, by simp⟩, ih⟩

theorem noHdrPh_incl {ids : List Nat} {D : Entries} (hle : ∀ i ∈ ids, i ≤ 999999) (hd : DomC01 .native D = true) :
    isInfix hdrPh (fmtEntries .native 0 (ids.map inclE ++ D)) = false := by
  obtain ⟨x, _, hx, _⟩ := hdrPh_shape
  rw [fmt_incl_top ids D hle, hx, isInfix_skip 'B' x _ _ (iphLines_noB ids), ← hx]
  exact dom_noHdrPh hd

namespace RdOK
variable {s : SD} {hdr : Bool} {ids : List Nat} {names : List Str} {D : Entries}

theorem hoist (h : RdOK s hdr ids names D) :
    hoistPlaceholders s.data = (if hdr then [hdrEntry] else []) ++ ids.map inclE ++ D := by
  rw [hoist_classes, h.fB, h.fI, h.fR]

/-- without header: the hypotheses of the writer theorem of `C12wincl` -/
theorem wiok (h : RdOK s false ids names D) (hn : NamesOK names) : WIOK s ids names D :=
  WIOK.of_classes h.lineC h.blockC h.classes h.dom h.idsnd h.tblIds h.tblFiles hn

/-- the same SDict without the header comment and its placeholder entry -/
def strip (s : SD) : SD := { s with blockC := [], data := s.data.filter fun e => !pB e.1 }

theorem strip_ok (h : RdOK s hdr ids names D) : RdOK (strip s) false ids names D :=
  { h with
    blockC := rfl
    fB := by
      show (s.data.filter _).filter _ = _
      rw [List.filter_filter]; simp
    fI := by
      show (s.data.filter _).filter _ = _
      rw [List.filter_filter, ← h.fI]
      exact List.filter_congr fun e _ => by cases pB e.1 <;> simp
    fR := by
      show (s.data.filter _).filter _ = _
      rw [List.filter_filter, ← h.fR]
      exact List.filter_congr fun e _ => by cases pB e.1 <;> simp
    nodup := (List.filter_sublist.map _).nodup h.nodup }

/-- the header comment in the table and its placeholder entry are written as the default header -/
theorem fmt_strip (h : RdOK s hdr ids names D) : fmtSD .native s = fmtSD .native (strip s) := by
  cases hdr with
  | false =>
    have e : strip s = s := by
      have hb := h.blockC
      have hf : s.data.filter (fun e => !pB e.1) = s.data := by
        refine List.filter_eq_self.mpr fun e he => ?_
        cases hp : pB e.1 with
        | false => rfl
        | true =>
          have : e ∈ s.data.filter (fun e => pB e.1) := List.mem_filter.mpr ⟨he, hp⟩
          rw [h.fB] at this; simp at this
      cases s; simp only [strip] at hb hf ⊢; simp only [hf]; simp at hb; rw [hb]
    rw [e]
  | true =>
    have h1 := h.hoist
    have h2 := h.strip_ok.hoist
    simp only [if_true, if_false, Bool.false_eq_true, List.nil_append, List.cons_append] at h1 h2
    have hb : s.blockC = [(0, hdrComment)] := h.blockC
    simp only [fmtSD, h1, h2, hb]
    rw [insertBlock_hdr _ (noHdrPh_incl h.idsle h.dom)]
    show _ = match insertIncludes .native s.incl (insertBlockComments .native [] _) with | none => none | some t => _
    rw [insertBlock_nil]
    rfl

/-- **the text written for such an SDict**: the default header, one directive line per file name, the text of `D` -/
theorem write (h : RdOK s hdr ids names D) (hn : NamesOK names) :
    fmtSD .native s =
      some (nativeHeader ++ ((names.map dirLine).flatMap (· ++ ['\n']) ++ fmtPlain .native D)) := by
  rw [h.fmt_strip]
  exact write_incl_top (h.strip_ok.wiok hn)

end RdOK

/-! ### the included files: plain comment-free documents -/

/-- an included file: a comment-free document in some admissible layout -/
structure IncDoc where
  es : SrcEntries
  gaps : List Str
  tail : Str

def IncDoc.text (d : IncDoc) : Str := spreadS (srcToksEs d.es) d.gaps d.tail
def IncDoc.data (d : IncDoc) : Entries := denSrcEs d.es []

/-- the hypotheses of `C02_layout_tolerant` on an included document; its meaning lies in the value domain of C01 -/
structure IncDocOK (d : IncDoc) : Prop where
  wf : SrcWFEs 1 d.es = true
  gaps : GapsOKS (srcToksEs d.es) d.gaps = true
  tail : d.tail.all isWs = true
  nq : C02.countQuotedEs d.es ≤ Gen.counterLimit + 1
  docKeys : C02.DocKeysAbsent d.es
  dom : DomC01 .native d.data = true

/-- the file named `name` in a directive of a file in directory `dir` (as spelled) exists and holds the document `d` -/
structure IncAt (fs : FS) (dir : Comps) (name : Str) (d : IncDoc) : Prop where
  notXml : isXmlPath (spellJoin dir name) = false
  notJson : isJsonPath (spellJoin dir name) = false
  get : fs.get (resolveSpelled (spellJoin dir name)) = some (.native d.text)
  ok : IncDocOK d

theorem parseFile_inc {fs : FS} {dir : Comps} {name : Str} {d : IncDoc} (h : IncAt fs dir name d) {c : Counter}
    (hc : C13.ValidCounter Gen.counterLimit c) :
    ∃ c', C13.ValidCounter Gen.counterLimit c' ∧
      parseFile fs true c (spellJoin dir name) = .ok ({ data := d.data }, c') := by
  obtain ⟨c', hv, hp⟩ := C03.read_layout true (pathStr (spellJoin dir name).dropLast) h.ok.wf h.ok.gaps h.ok.tail hc
    h.ok.nq h.ok.docKeys
  refine ⟨c', hv, ?_⟩
  have hp' : parseNative true (pathStr (spellJoin dir name).dropLast) c d.text = .ok ({ data := denSrcEs d.es [] }, c') := hp
  simp only [parseFile, h.notXml, h.get, h.notJson, hp']
  rfl

/-- the included files parsed one after the other (`incs`: file name and document, in the order of the table) -/
theorem parseIncls_ok {fs : FS} {dir : Comps} : ∀ (l : Tbl InclEntry) (incs : List (Str × IncDoc)) (c : Counter),
    l.map (·.2.file) = incs.map (·.1) → (∀ q ∈ incs, IncAt fs dir q.1 q.2) → C13.ValidCounter Gen.counterLimit c →
    ∃ c', C13.ValidCounter Gen.counterLimit c' ∧
      C06.parseIncls fs true dir l c = .ok (incs.map (fun q => ({ data := q.2.data } : SD)), c')
  | [], [], c, _, _, hc => ⟨c, hc, rfl⟩
  | [], _ :: _, _, h, _, _ => by simp at h
  | _ :: _, [], _, h, _, _ => by simp at h
  | e :: l, q :: incs, c, h, hall, hc => by
    simp only [List.map_cons, List.cons.injEq] at h
    obtain ⟨c1, hv1, h1⟩ := parseFile_inc (h.1 ▸ hall q List.mem_cons_self) hc
    obtain ⟨c2, hv2, h2⟩ := parseIncls_ok l incs c1 h.2 (fun q' hq' => hall q' (List.mem_cons_of_mem _ hq')) hv1
    refine ⟨c2, hv2, ?_⟩
    simp only [C06.parseIncls, h1, h2, List.map_cons]

/-- `temp`: the data of the included files merged in order -/
def mergeDatas (ds : List Entries) (t : Entries) : Entries := ds.foldl (fun t d => mergeD true [] t d) t

theorem merge_plain {t d : Entries} (ht : DomC01 .native t = true) (hnt : normEs t = t) (hd : DomC01 .native d = true)
    (hnd : normEs d = d) :
    ({ data := t } : SD).merge (.sd { data := d }) = { data := mergeD true [] t d } := by
  have hdom := domC01_mergeD [] true ht hd
  have hinv := C01.norm_invariants hdom
  rw [C16.norm_mergeD [] true t d hnt hnd] at hinv
  rw [C07.merge_eq _ _ hinv.2 hinv.1]
  rfl

theorem mergeAll_datas : ∀ (ds : List Entries) (t : Entries), (∀ d ∈ ds, DomC01 .native d = true ∧ normEs d = d) →
    DomC01 .native t = true → normEs t = t →
    C06.mergeAll (ds.map fun d => ({ data := d } : SD)) { data := t } = { data := mergeDatas ds t } ∧
      DomC01 .native (mergeDatas ds t) = true ∧ normEs (mergeDatas ds t) = mergeDatas ds t
  | [], t, _, ht, hn => ⟨rfl, ht, hn⟩
  | d :: ds, t, h, ht, hn => by
    obtain ⟨hd, hnd⟩ := h d List.mem_cons_self
    have ih := mergeAll_datas ds (mergeD true [] t d) (fun d' hd' => h d' (List.mem_cons_of_mem _ hd'))
      (domC01_mergeD [] true ht hd) (C16.norm_mergeD [] true t d hn hnd)
    simp only [C06.mergeAll, List.map_cons, List.foldl_cons, merge_plain ht hn hd hnd, mergeDatas] at ih ⊢
    exact ih

/-- what the included files contribute -/
def tempOf (incs : List (Str × IncDoc)) : Entries := mergeDatas (incs.map fun q => q.2.data) []

theorem temp_ok {fs : FS} {dir : Comps} {incs : List (Str × IncDoc)} (hall : ∀ q ∈ incs, IncAt fs dir q.1 q.2) :
    C06.mergeAll (incs.map fun q => ({ data := q.2.data } : SD)) {} = { data := tempOf incs } ∧
      DomC01 .native (tempOf incs) = true ∧ normEs (tempOf incs) = tempOf incs := by
  have := mergeAll_datas (incs.map fun q => q.2.data) [] (by
    intro d hd
    obtain ⟨q, hq, rfl⟩ := List.mem_map.mp hd
    exact ⟨(hall q hq).ok.dom, C03.norm_den (hall q hq).ok.wf⟩) (by decide) rfl
  rw [List.map_map] at this
  exact this

/-! ### `DictReader.read` on a file whose parse has the shape `RdOK` and whose includes are plain files -/

theorem readFile_rd (ev : Str → EvalResult) {fs : FS} {p : Comps} {c c1 : Counter} {s : SD} {hdr : Bool} {ids : List Nat}
    {names : List Str} {D : Entries} (h : RdOK s hdr ids names D) (hpf : parseFile fs true c p = .ok (s, c1))
    (hc1 : C13.ValidCounter Gen.counterLimit c1) {incs : List (Str × IncDoc)} (hnames : names = incs.map (·.1))
    (hall : ∀ q ∈ incs, IncAt fs p.dropLast q.1 q.2) :
    ∃ c2, C13.ValidCounter Gen.counterLimit c2 ∧
      readFile ev fs {} c p = .ok (.ok { s with data := mergeD true [] s.data (tempOf incs) } c2) ∧
      RdOK { s with data := mergeD true [] s.data (tempOf incs) } hdr ids names (mergeD true [] D (tempOf incs)) := by
  obtain ⟨c2, hv2, hpi⟩ := parseIncls_ok (fs := fs) (dir := p.dropLast) s.incl incs c1 (h.tblFiles.trans hnames) hall hc1
  obtain ⟨htemp, hdomT, hnormT⟩ := temp_ok hall
  obtain ⟨hm, h'⟩ := h.merge hdomT hnormT
  have hlive : C06.Live fs [] p.dropLast s.incl := by
    intro e he
    have hmem : e.2.file ∈ incs.map (·.1) := by
      rw [← hnames, ← h.tblFiles]; exact List.mem_map_of_mem (f := (·.2.file)) he
    obtain ⟨q, hq, hqe⟩ := List.mem_map.mp hmem
    refine ⟨rfl, ?_⟩
    rw [← hqe, (hall q hq).get]; rfl
  have hrec := C06.C06_flat fs true fs.length [] s p.dropLast c1 hlive hpi (by
    intro i hi
    obtain ⟨q, _, rfl⟩ := List.mem_map.mp hi
    rfl)
  rw [htemp, hm] at hrec
  refine ⟨c2, hv2, ?_, h'⟩
  have hmi : mergeIncludes fs true s p.dropLast c1 = .ok ({ s with data := mergeD true [] s.data (tempOf incs) }, c2) := by
    simp only [mergeIncludes, hrec, bind, Except.bind, pure, Except.pure, h'.merge_self]
  have hev := evalExpressions_noexpr ev { s with data := mergeD true [] s.data (tempOf incs) } h'.exprs
  exact readFile_default hpf hmi hev

/-! ### the shape of the first parse: a document with top-level directives (domain of `C12_read_included`, `HWI`) -/

/-- **the first parse has the shape `RdOK`** (no header): what `C12_read_included` returns for a document of `HWI` whose
    directives name pairwise distinct files -/
theorem rd_first (dir : Str) {c : Counter} {items : List IItem} (H : HWI c items) (hnd : (namesOf items).Nodup) :
    RdOK (denI dir c items) false (alloc Gen.counterLimit (inclsItems items).length c) (namesOf items)
      (denSrcEs (plainIItems items) []) :=
  have T := denI_top dir H.wf H.top H.hc H.nIncl H.dist
  { exprs := T.exprs, lineC := T.lineC, blockC := T.blockC, fB := T.classes.fB, fI := T.classes.fI, fR := T.classes.fR,
    nodup := T.nodup.1, idsle := T.classes.idsle, idsnd := T.idsnd, tblIds := T.tblIds, tblFiles := T.tblFiles,
    namesnd := hnd, dom := H.dom, norm := C03.norm_den T.plainWF }

/-- `parse_file` rewrites the `path` entries of the include table; the shape does not depend on them -/
theorem RdOK.pathmap {s : SD} {hdr : Bool} {ids : List Nat} {names : List Str} {D : Entries} (h : RdOK s hdr ids names D)
    (f : InclEntry → Str) :
    RdOK { s with incl := s.incl.map fun e => (e.1, { e.2 with path := f e.2 }) } hdr ids names D :=
  { h with
    tblIds := by
      show (s.incl.map _).map _ = _
      rw [List.map_map]; exact h.tblIds
    tblFiles := by
      show (s.incl.map _).map _ = _
      rw [List.map_map]; exact h.tblFiles }

/-! ### the shape of the second parse: the written document `writtenI names D` (header, directives, entries) -/

theorem plainV_emb : ∀ (v : Src), C12WI.plainV (embV v) = true := C12WI.plainV_emb

/-- **the second parse has the shape `RdOK`** (with header): what `C12_read_included` returns for the written document -/
theorem rd_second (dir : Str) {c : Counter} {names : List Str} {D : Entries} (hc : C13.ValidCounter Gen.counterLimit c)
    (hlen : names.length ≤ Gen.counterLimit + 1) (hnd : names.Nodup) (hdom : DomC01 .native D = true)
    (hnorm : normEs D = D) (hnm : ∀ n ∈ names, isInclName (qOf n) n = true) :
    RdOK (denI dir c (writtenI names D)) true (alloc Gen.counterLimit names.length c) names D := by
  obtain ⟨hwf, hden, _⟩ := C01.C01_writer hdom
  obtain ⟨f1, f2, f3, _, f5⟩ := dirs_emb_facts qOf names (srcOfEs .native D)
  have L := litI_top true dir (c := c) ((f5 1 hnm).trans hwf) f3 hc (by rw [f2, List.length_map]; exact hlen)
  rw [f2, f1, List.length_map, hden, hnorm] at L
  obtain ⟨e1, e2, e3, _, e4, e5, e6, cl, _⟩ := L
  have hL0 : RdOK (litI dir c (writtenI names D)) true (alloc Gen.counterLimit names.length c) names D :=
    { exprs := e1, lineC := e2, blockC := e3, fB := cl.fB, fI := cl.fI, fR := cl.fR, nodup := e6.1, idsle := cl.idsle,
      idsnd := C13.alloc_nodup hlen hc, tblIds := e4
      tblFiles := by
        refine e5.trans ?_
        show (inclsItems _).map (·.2) = names
        rw [f2, List.map_map]; exact List.map_id' _
      namesnd := hnd, dom := hdom, norm := hnorm }
  rw [denI_lit, hL0.clean]
  exact hL0

/-! ### the writer's re-typing leaves such an SDict alone -/

theorem RdOK.normData {s : SD} {hdr : Bool} {ids : List Nat} {names : List Str} {D : Entries}
    (h : RdOK s hdr ids names D) : normEs s.data = s.data := by
  refine C03.normEs_fix_iff.mpr fun e he => ?_
  rcases h.entry_cases e he with ⟨_, rfl⟩ | ⟨i, _, rfl⟩ | hD
  · show Val.leaf (normScalar (.str hdrPh)) = _
    have : normScalar (.str hdrPh) = .str hdrPh := by decide +kernel
    rw [this]; rfl
  · show Val.leaf (normScalar (.str (inclPh i))) = _
    simp only [normScalar, show parseValue (inclPh i) = .str (inclPh i) from parseValue_ph (by simp [phKeywords]) i]; rfl
  · exact C03.normEs_fix_iff.mp h.norm e hD

/-! ### writing and re-reading, on files -/

/-- the text written for an SDict of shape `RdOK … names D` -/
def textOf (names : List Str) (D : Entries) : Str :=
  nativeHeader ++ ((names.map dirLine).flatMap (· ++ ['\n']) ++ fmtPlain .native D)

/-- `DictWriter.write(sd, target, mode='w')`, native target, for an SDict the re-typing leaves alone -/
theorem writeText_fmt (ev : Str → EvalResult) (fs : FS) {t : Comps} {s : SD} {text : Str}
    (hf : fmtSD .native s = some text) (hnorm : normEs s.data = s.data) (ht : flavorOfPath t = some .native) (c : Counter) :
    writeText ev fs t ['w'] false (.sd s) c = .ok (text, c) := by
  have hre : C16sd.retypeSD s = s := by unfold C16sd.retypeSD; rw [hnorm]
  rw [C16sd.C16_overwrite_sd ev fs t .native ['w'] false s c ht (Or.inl (by decide))]
  simp only [Bool.false_eq_true, if_false, hre, hf]

/-- … for an SDict of shape `RdOK` -/
theorem writeText_rd (ev : Str → EvalResult) (fs : FS) {t : Comps} {s : SD} {hdr : Bool} {ids : List Nat} {names : List Str}
    {D : Entries} (h : RdOK s hdr ids names D) (hn : NamesOK names) (ht : flavorOfPath t = some .native) (c : Counter) :
    writeText ev fs t ['w'] false (.sd s) c = .ok (textOf names D, c) :=
  writeText_fmt ev fs (h.write hn) h.normData ht c

/-- names the reader reads back from the written directive -/
def NamesRd (names : List Str) : Prop := ∀ n ∈ names, isInfix ['/', '/'] n = false ∧ ∀ c ∈ n, isLineBreak c = false

/-- **`parse_file` on the written file**: the document `writtenI names D`, of shape `RdOK` with header -/
theorem parse_written {fs : FS} {p : Comps} {s : SD} {hdr : Bool} {ids : List Nat} {names : List Str} {D : Entries}
    (h : RdOK s hdr ids names D) (hn : NamesOK names) (hr : NamesRd names)
    (hget : fs.get (resolveSpelled p) = some (.native (textOf names D)))
    (hx : isXmlPath p = false) (hj : isJsonPath p = false)
    (hq : C02.countQuotedEs (srcOfEs .native D) ≤ Gen.counterLimit + 1) (hk : C02.DocKeysAbsent (srcOfEs .native D))
    (hlen : names.length ≤ Gen.counterLimit + 1) {c : Counter} (hc : C13.ValidCounter Gen.counterLimit c) :
    ∃ s2 c1, C13.ValidCounter Gen.counterLimit c1 ∧ parseFile fs true c p = .ok (s2, c1) ∧
      RdOK s2 true (alloc Gen.counterLimit names.length c) names D := by
  obtain ⟨gaps, tail, hw, hg, ht⟩ := write_incl_layout (h.strip_ok.wiok hn)
  rw [← h.fmt_strip, h.write hn] at hw
  have htext : textOf names D = spreadC (itoksItems (writtenI names D)) ([] :: gaps) tail := Option.some.inj hw
  have hnm : ∀ n ∈ names, isInclName (qOf n) n = true := fun n hm => inclName_qOf (hr n hm).1 (hr n hm).2
  have hread := C12_read_included (pathStr p.dropLast) c (wf_writtenI h.dom hnm) hg (fun _ => ht) hc (by rw [plain_writtenI]; exact hq)
    (by rw [plain_writtenI]; exact hk)
  have e : spreadC (itoksItems (writtenI names D)) (['\n'] :: gaps) tail =
      '\n' :: spreadC (itoksItems (writtenI names D)) ([] :: gaps) tail := by
    rw [itoks_writtenI]
    simp [spreadC, spread]
  rw [e, C12W.parseNative_nl, ← htext] at hread
  have hv := parseNative_valid hread hc
  refine ⟨_, _, hv, ?_, (rd_second (pathStr p.dropLast) hc hlen h.namesnd h.dom h.norm hnm).pathmap
    (fun e => pathStr (spellJoin p.dropLast e.file))⟩
  simp only [parseFile, hx, hget, hj, hread]
  rfl

theorem set_set (fs : FS) (p : Comps) (b : FileBody) : (fs.set p b).set p b = fs.set p b := by
  have hf : ∀ e : Comps × FileBody, (if ((if e.1 == p then (p, b) else e).1 == p) = true then (p, b)
      else (if e.1 == p then (p, b) else e)) = (if e.1 == p then (p, b) else e) := by
    intro e
    by_cases he : (e.1 == p) = true
    · simp [he]
    · simp [he]
  cases ha : fs.any (fun e => e.1 == p) with
  | true =>
    have h1 : fs.set p b = fs.map (fun e => if e.1 == p then (p, b) else e) := by simp [FS.set, ha]
    have h2 : (fs.map (fun e => if e.1 == p then (p, b) else e)).any (fun e => e.1 == p) = true := by
      rw [List.any_eq_true] at ha ⊢
      obtain ⟨e, he, hk⟩ := ha
      exact ⟨(p, b), List.mem_map.mpr ⟨e, he, by simp [hk]⟩, by simp⟩
    rw [h1]
    simp only [FS.set, h2, if_true, List.map_map]
    exact List.map_congr_left fun e _ => hf e
  | false =>
    have h1 : fs.set p b = fs ++ [(p, b)] := by simp [FS.set, ha]
    have h2 : (fs ++ [(p, b)]).any (fun e => e.1 == p) = true := by simp
    rw [h1]
    simp only [FS.set, h2, if_true, List.map_append, List.map_cons, List.map_nil, beq_self_eq_true]
    congr 1
    have : ∀ e ∈ fs, (e.1 == p) = false := by
      intro e he
      have := List.any_eq_false.mp ha e he
      simpa using this
    calc fs.map (fun e => if e.1 == p then (p, b) else e) = fs.map id :=
          List.map_congr_left fun e he => by simp [this e he]
      _ = fs := List.map_id _

/-! ## the setting (`SetupW`, `Setup`) and the cycles -/

/-- the entries of the including file itself -/
def ownData (items : List IItem) : Entries := denSrcEs (plainIItems items) []

/-- **the data of every read** (placeholder entries dropped): the file's own entries merged (`SDict.merge`: the receiver
    wins) with the included files merged in the order of the directives -/
def mergedData (items : List IItem) (incs : List (Str × IncDoc)) : Entries :=
  mergeD true [] (ownData items) (tempOf incs)

/-- the file `DictParser.parse(src)` writes: `parsed.<name>` next to the source -/
abbrev tgtOf (src : Comps) : Comps := parseTarget src [] none

/-- the text of `parsed.<name>` -/
def parsedText (items : List IItem) (incs : List (Str × IncDoc)) : Str := textOf (namesOf items) (mergedData items incs)

/-- **the hypotheses, without the condition on the file names**: a source file `src` in the file system `fs`, read from
    counter `c`, whose text is an admissible layout (`GapsOKI`) of a document `items` with top-level `#include` directives
    (`HWI`: the domain of `C12_read_included` and `C12_write_included`; no comments, no `$`); every file a directive names
    exists in the folder of the source and is a plain comment-free well-formed document (`IncAt`) whose meaning lies in the
    value domain of C01; `parsed.<name>` is a native-format path that is none of the included files; the merged dict has at
    most `counterLimit + 1` quoted strings. -/
structure SetupW (fs : FS) (src : Comps) (c : Counter) (items : List IItem) (gaps : List Str) (tail : Str)
    (incs : List (Str × IncDoc)) : Prop where
  hwi : HWI c items
  layout : GapsOKI (itoksItems items) gaps tail = true
  tailws : items = [] → tail.all isWs = true
  nq : C02.countQuotedEs (plainIItems items) ≤ Gen.counterLimit + 1
  docKeys : C02.DocKeysAbsent (plainIItems items)
  srcGet : fs.get (resolveSpelled src) = some (.native (spreadC (itoksItems items) gaps tail))
  srcNotXml : isXmlPath src = false
  srcNotJson : isJsonPath src = false
  srcNe : src ≠ []
  incNames : namesOf items = incs.map (·.1)
  incFiles : ∀ q ∈ incs, IncAt fs src.dropLast q.1 q.2
  tgtNative : flavorOfPath (tgtOf src) = some .native
  tgtFresh : ∀ q ∈ incs, resolveSpelled (spellJoin src.dropLast q.1) ≠ resolveSpelled (tgtOf src)
  nqW : C02.countQuotedEs (srcOfEs .native (mergedData items incs)) ≤ Gen.counterLimit + 1

/-- **the hypotheses of the theorems**: `SetupW`, and the directives name pairwise distinct files (as spelled).  Without
    `namesnd` the written bytes do NOT stabilise after one cycle (`C03_included_bytes_statement_false`). -/
structure Setup (fs : FS) (src : Comps) (c : Counter) (items : List IItem) (gaps : List Str) (tail : Str)
    (incs : List (Str × IncDoc)) : Prop extends SetupW fs src c items gaps tail incs where
  namesnd : (namesOf items).Nodup

theorem docKeys_mergeDatas : ∀ (ds : List Entries) (t : Entries), (∀ d ∈ ds, C01.DocKeysAbsent' d) → C01.DocKeysAbsent' t →
    C01.DocKeysAbsent' (mergeDatas ds t)
  | [], _, _, ht => ht
  | d :: ds, _, h, ht =>
    docKeys_mergeDatas ds _ (fun d' hd' => h d' (List.mem_cons_of_mem _ hd')) (docKeys_mergeD [] true ht (h d List.mem_cons_self))

namespace Setup
variable {fs : FS} {src : Comps} {c : Counter} {items : List IItem} {gaps : List Str} {tail : Str}
  {incs : List (Str × IncDoc)}

theorem namesOK (S : Setup fs src c items gaps tail incs) : NamesOK (namesOf items) := by
  have W := wiok_denI "".toList S.hwi
  intro n hn
  have hn' := hn
  simp only [namesOf] at hn'
  obtain ⟨q, hq, rfl⟩ := List.mem_map.mp hn'
  exact ⟨(S.hwi.names q hq).1, (S.hwi.names q hq).2, (W.names _ hn).2⟩

theorem namesRd (S : Setup fs src c items gaps tail incs) : NamesRd (namesOf items) := names_read S.hwi.top S.hwi.wf

theorem namesLen (S : Setup fs src c items gaps tail incs) : (namesOf items).length ≤ Gen.counterLimit + 1 := by
  simp only [namesOf, List.length_map]; exact S.hwi.nIncl

theorem ownWF (S : Setup fs src c items gaps tail incs) : SrcWFEs 1 (plainIItems items) = true :=
  (label_top "".toList items 1 { c := { counter := c }, icounter := c } S.hwi.top S.hwi.wf).2.2.2.1

theorem docKeysW (S : Setup fs src c items gaps tail incs) :
    C02.DocKeysAbsent (srcOfEs .native (mergedData items incs)) := by
  apply C09.docKeys_src
  refine docKeys_mergeD [] true (C03.den_docKeys' S.ownWF S.docKeys) ?_
  refine docKeys_mergeDatas _ _ ?_ (by intro e he; cases he)
  intro d hd
  obtain ⟨q, hq, rfl⟩ := List.mem_map.mp hd
  exact C03.den_docKeys' (S.incFiles q hq).ok.wf (S.incFiles q hq).ok.docKeys

theorem tgtDir (S : Setup fs src c items gaps tail incs) : (tgtOf src).dropLast = src.dropLast :=
  C13api.parse_target_same_folder src [] none S.srcNe

/-- parsing the parsed file targets the parsed file again -/
theorem tgtFix (S : Setup fs src c items gaps tail incs) : tgtOf (tgtOf src) = tgtOf src := by
  obtain ⟨dir, name, rfl⟩ : ∃ dir name, src = dir ++ [name] :=
    ⟨src.dropLast, src.getLast S.srcNe, (List.dropLast_concat_getLast S.srcNe).symm⟩
  show parseTarget (parseTarget (dir ++ [name]) [] none) [] none = parseTarget (dir ++ [name]) [] none
  rw [C13api.parse_target_name, C13api.parse_target_name]
  show dir ++ [targetName (targetName name (some "parsed".toList) [] none) (some "parsed".toList) [] none] = _
  rw [C03.C03_parsed_name_none]
  rfl

theorem first_read (S : Setup fs src c items gaps tail incs) (ev : Str → EvalResult) :
    ∃ R1 c2, C13.ValidCounter Gen.counterLimit c2 ∧ readFile ev fs {} c src = .ok (.ok R1 c2) ∧
      RdOK R1 false (alloc Gen.counterLimit (inclsItems items).length c) (namesOf items) (mergedData items incs) := by
  have hread := C12_read_included (pathStr src.dropLast) c S.hwi.wf S.layout S.tailws S.hwi.hc S.nq S.docKeys
  have hv := parseNative_valid hread S.hwi.hc
  have h0 := (rd_first (pathStr src.dropLast) S.hwi S.namesnd).pathmap (fun e => pathStr (spellJoin src.dropLast e.file))
  have hpf : parseFile fs true c src = .ok
      ({ denI (pathStr src.dropLast) c items with
          incl := (denI (pathStr src.dropLast) c items).incl.map fun e =>
            (e.1, { e.2 with path := pathStr (spellJoin src.dropLast e.2.file) }) },
        C02.adv Gen.counterLimit (C02.countQuotedEs (plainIItems items))
          (labelI (pathStr src.dropLast) c items).1.icounter) := by
    simp only [parseFile, S.srcNotXml, S.srcGet, S.srcNotJson, hread]
    rfl
  obtain ⟨c2, hv2, hrd, h1⟩ := readFile_rd ev h0 hpf hv S.incNames S.incFiles
  exact ⟨_, c2, hv2, hrd, h1⟩

/-- the file system after the first `parse` -/
def fs' (fs : FS) (src : Comps) (items : List IItem) (incs : List (Str × IncDoc)) : FS :=
  fs.set (resolveSpelled (tgtOf src)) (.native (parsedText items incs))

theorem merged_idem (S : Setup fs src c items gaps tail incs) :
    mergeD true [] (mergedData items incs) (tempOf incs) = mergedData items incs := by
  obtain ⟨_, hd, hn⟩ := temp_ok S.incFiles
  have := C01.norm_invariants hd
  rw [hn] at this
  exact C07.merge_idem_top [] (ownData items) (tempOf incs) this.2

/-- **every later read**: the parsed file, read from any valid counter in the world after the first `parse` -/
theorem later_read (S : Setup fs src c items gaps tail incs) (ev : Str → EvalResult) {c₂ : Counter}
    (hc₂ : C13.ValidCounter Gen.counterLimit c₂) :
    ∃ R2 c3, C13.ValidCounter Gen.counterLimit c3 ∧
      readFile ev (fs' fs src items incs) {} c₂ (tgtOf src) = .ok (.ok R2 c3) ∧
      RdOK R2 true (alloc Gen.counterLimit (namesOf items).length c₂) (namesOf items) (mergedData items incs) := by
  obtain ⟨R1, _, _, _, h1⟩ := S.first_read ev
  have hget : (fs' fs src items incs).get (resolveSpelled (tgtOf src)) = some (.native (parsedText items incs)) :=
    C13api.get_set_self _ _ _
  obtain ⟨s2, c1, hv1, hpf, h2⟩ := parse_written h1 S.namesOK S.namesRd hget (C16sd.flavor_native_paths S.tgtNative).2
    (C16sd.flavor_native_paths S.tgtNative).1 S.nqW S.docKeysW
    S.namesLen hc₂
  have hall : ∀ q ∈ incs, IncAt (fs' fs src items incs) (tgtOf src).dropLast q.1 q.2 := by
    intro q hq
    rw [S.tgtDir]
    exact { notXml := (S.incFiles q hq).notXml, notJson := (S.incFiles q hq).notJson, ok := (S.incFiles q hq).ok
            get := by
              show (fs.set _ _).get _ = _
              rw [C13api.get_set_ne _ _ (S.tgtFresh q hq)]
              exact (S.incFiles q hq).get }
  obtain ⟨c3, hv3, hrd, h3⟩ := readFile_rd ev h2 hpf hv1 S.incNames hall
  rw [S.merged_idem] at h3
  exact ⟨_, c3, hv3, hrd, h3⟩

end Setup

section headline
variable {fs : FS} {src : Comps} {c : Counter} {items : List IItem} {gaps : List Str} {tail : Str}
  {incs : List (Str × IncDoc)}

/-- what a caller can see of a returned SDict beyond placeholder ids: the entries without the placeholder entries, and
    the files its include table names -/
def Agrees (sd : SD) (D : Entries) (names : List Str) : Prop :=
  C01.dropPhEntries sd.data = D ∧ sd.incl.map (·.2.file) = names

theorem RdOK.agrees {s : SD} {hdr : Bool} {ids : List Nat} {names : List Str} {D : Entries} (h : RdOK s hdr ids names D) :
    Agrees s D names := ⟨h.dropPh, h.tblFiles⟩

/-- **C03_included_parse_reread_partial.**  `DictParser.parse(src)` (mode `'w'`) completes and returns the first read `sd₁`; the
    only change of the file system is `parsed.<name>` next to the source, which now holds `parsedText` (header, the
    `#include` directives again, the MERGED entries); `DictReader.read(parsed.<name>)` then completes, merges the includes
    a second time and returns `sd₂` with the same entries (placeholder entries dropped) and the same included files as
    `sd₁`: the second merge changes nothing. -/
theorem C03_included_parse_reread_partial (S : Setup fs src c items gaps tail incs) (ev : Str → EvalResult) :
    ∃ sd₁ c₁ sd₂ c₂,
      apiStep ev { fs := fs, c := c } (.parse src {} ['w'] none) =
        ({ fs := fs.set (resolveSpelled (tgtOf src)) (.native (parsedText items incs)), c := c₁ }, .data sd₁) ∧
      apiStep ev { fs := fs.set (resolveSpelled (tgtOf src)) (.native (parsedText items incs)), c := c₁ }
          (.read (tgtOf src) {}) =
        ({ fs := fs.set (resolveSpelled (tgtOf src)) (.native (parsedText items incs)), c := c₂ }, .data sd₂) ∧
      C01.dropPhEntries sd₂.data = C01.dropPhEntries sd₁.data ∧
      sd₂.incl.map (·.2.file) = sd₁.incl.map (·.2.file) ∧
      Agrees sd₁ (mergedData items incs) (namesOf items) := by
  obtain ⟨R1, c1, hv1, hrd1, h1⟩ := S.first_read ev
  obtain ⟨R2, c2, hv2, hrd2, h2⟩ := S.later_read ev hv1
  have hw := writeText_rd ev fs h1 S.namesOK S.tgtNative c1
  have hget : (Setup.fs' fs src items incs).get (resolveSpelled (tgtOf src)) = some (.native (parsedText items incs)) :=
    C13api.get_set_self _ _ _
  refine ⟨R1, c1, R2, c2, C16sd.parse_step ev S.srcGet hrd1 hw h1.normData, C16sd.read_step ev hget hrd2, ?_, ?_, h1.agrees⟩
  · rw [h2.dropPh, h1.dropPh]
  · rw [h2.tblFiles, h1.tblFiles]

/-- `n + 1` cycles: `parse(src)`, then `n` times `parse(parsed.<name>)` (which targets `parsed.<name>` again) -/
def cycleOps (src : Comps) (n : Nat) : List ApiOp :=
  .parse src {} ['w'] none :: List.replicate n (.parse (tgtOf src) {} ['w'] none)

/-- the later cycles: in the world after the first `parse`, every further `parse(parsed.<name>)` returns the same data
    and writes the same bytes (the file system does not change at all) -/
theorem later_cycles (S : Setup fs src c items gaps tail incs) (ev : Str → EvalResult) : ∀ (k : Nat) {c₂ : Counter},
    C13.ValidCounter Gen.counterLimit c₂ →
    ∃ c₃ outs, C13.ValidCounter Gen.counterLimit c₃ ∧
      apiRun ev { fs := Setup.fs' fs src items incs, c := c₂ } (List.replicate k (.parse (tgtOf src) {} ['w'] none)) =
        ({ fs := Setup.fs' fs src items incs, c := c₃ }, outs) ∧
      outs.length = k ∧ ∀ o ∈ outs, ∃ sd, o = .data sd ∧ Agrees sd (mergedData items incs) (namesOf items)
  | 0, c₂, hc₂ => ⟨c₂, [], hc₂, rfl, rfl, fun _ h => by cases h⟩
  | k + 1, c₂, hc₂ => by
    obtain ⟨R2, c3, hv3, hrd, h2⟩ := S.later_read ev hc₂
    have ht : flavorOfPath (parseTarget (tgtOf src) [] none) = some .native := by
      show flavorOfPath (tgtOf (tgtOf src)) = _
      rw [S.tgtFix]; exact S.tgtNative
    have hw := writeText_rd ev (Setup.fs' fs src items incs) h2 S.namesOK ht c3
    have hget : (Setup.fs' fs src items incs).get (resolveSpelled (tgtOf src)) = some (.native (parsedText items incs)) :=
      C13api.get_set_self _ _ _
    have hstep := C16sd.parse_step ev hget hrd hw h2.normData
    have hfs : (Setup.fs' fs src items incs).set (resolveSpelled (parseTarget (tgtOf src) [] none))
        (.native (textOf (namesOf items) (mergedData items incs))) = Setup.fs' fs src items incs := by
      show (Setup.fs' fs src items incs).set (resolveSpelled (tgtOf (tgtOf src))) _ = _
      rw [S.tgtFix]
      exact set_set _ _ _
    rw [hfs] at hstep
    obtain ⟨c4, outs, hv4, hrun, hl, hall⟩ := later_cycles S ev k hv3
    refine ⟨c4, .data R2 :: outs, hv4, ?_, by simp [hl], ?_⟩
    · rw [List.replicate_succ, C13api.apiRun_cons, hstep, hrun]
    · intro o ho
      rcases List.mem_cons.mp ho with rfl | ho
      · exact ⟨R2, rfl, h2.agrees⟩
      · exact hall o ho

/-- **C03_included_cycles_partial.**  For every number `n + 1 ≥ 1` of cycles: every cycle completes and returns the data of the
    first read (entries without placeholder entries: `mergedData`; the same included files), and a final
    `DictReader.read(parsed.<name>)` returns them too.  The file system after any number of cycles is the one after the
    first cycle. -/
theorem C03_included_cycles_partial (S : Setup fs src c items gaps tail incs) (ev : Str → EvalResult) (n : Nat) :
    ∃ c₁ outs, C13.ValidCounter Gen.counterLimit c₁ ∧
      apiRun ev { fs := fs, c := c } (cycleOps src n) =
        ({ fs := fs.set (resolveSpelled (tgtOf src)) (.native (parsedText items incs)), c := c₁ }, outs) ∧
      outs.length = n + 1 ∧
      (∀ o ∈ outs, ∃ sd, o = .data sd ∧ Agrees sd (mergedData items incs) (namesOf items)) ∧
      ∃ sdr c₂, apiStep ev { fs := fs.set (resolveSpelled (tgtOf src)) (.native (parsedText items incs)), c := c₁ }
          (.read (tgtOf src) {}) =
        ({ fs := fs.set (resolveSpelled (tgtOf src)) (.native (parsedText items incs)), c := c₂ }, .data sdr) ∧
        Agrees sdr (mergedData items incs) (namesOf items) := by
  obtain ⟨R1, c1, hv1, hrd1, h1⟩ := S.first_read ev
  have hw := writeText_rd ev fs h1 S.namesOK S.tgtNative c1
  have hstep := C16sd.parse_step ev S.srcGet hrd1 hw h1.normData
  obtain ⟨c3, outs, hv3, hrun, hl, hall⟩ := later_cycles S ev n hv1
  obtain ⟨R2, c4, hv4, hrd2, h2⟩ := S.later_read ev hv3
  have hget : (Setup.fs' fs src items incs).get (resolveSpelled (tgtOf src)) = some (.native (parsedText items incs)) :=
    C13api.get_set_self _ _ _
  refine ⟨c3, .data R1 :: outs, hv3, ?_, by simp [hl], ?_, R2, c4, C16sd.read_step ev hget hrd2, h2.agrees⟩
  · rw [cycleOps, C13api.apiRun_cons, hstep]
    exact congrArg (fun r : World × List ApiOut => (r.1, ApiOut.data R1 :: r.2)) hrun
  · intro o ho
    rcases List.mem_cons.mp ho with rfl | ho
    · exact ⟨R1, rfl, h1.agrees⟩
    · exact hall o ho

/-- **C03_included_bytes.**  The text written in cycle 2 equals the text written in cycle 1 (flat includes, pairwise
    distinct file names): both writes produce `parsedText items incs`. -/
theorem C03_included_bytes (S : Setup fs src c items gaps tail incs) (ev : Str → EvalResult) :
    ∃ sd₁ c₁ sd₂ c₂,
      readFile ev fs {} c src = .ok (.ok sd₁ c₁) ∧
      writeText ev fs (tgtOf src) ['w'] false (.sd sd₁) c₁ = .ok (parsedText items incs, c₁) ∧
      readFile ev (fs.set (resolveSpelled (tgtOf src)) (.native (parsedText items incs))) {} c₁ (tgtOf src) =
        .ok (.ok sd₂ c₂) ∧
      writeText ev (fs.set (resolveSpelled (tgtOf src)) (.native (parsedText items incs))) (tgtOf (tgtOf src)) ['w'] false
        (.sd sd₂) c₂ = .ok (parsedText items incs, c₂) := by
  obtain ⟨R1, c1, hv1, hrd1, h1⟩ := S.first_read ev
  obtain ⟨R2, c2, hv2, hrd2, h2⟩ := S.later_read ev hv1
  have ht : flavorOfPath (tgtOf (tgtOf src)) = some .native := by rw [S.tgtFix]; exact S.tgtNative
  exact ⟨R1, c1, R2, c2, hrd1, writeText_rd ev fs h1 S.namesOK S.tgtNative c1, hrd2,
    writeText_rd ev _ h2 S.namesOK ht c2⟩

/-- … and for every number of cycles the file system is the one after the first cycle -/
theorem C03_included_bytes_cycles (S : Setup fs src c items gaps tail incs) (ev : Str → EvalResult) (n : Nat) :
    (apiRun ev { fs := fs, c := c } (cycleOps src n)).1.fs = (apiRun ev { fs := fs, c := c } (cycleOps src 0)).1.fs := by
  obtain ⟨_, _, _, h1, _⟩ := C03_included_cycles_partial S ev n
  obtain ⟨_, _, _, h0, _⟩ := C03_included_cycles_partial S ev 0
  rw [h1, h0]

end headline

/-! ## the statement without `namesnd`, and its refutation -/

/-- the text of a native file of a world -/
def textAt (w : World) (p : Comps) : Option Str :=
  match w.fs.get p with
  | some (.native t) => some t
  | _ => none

theorem textAt_set (fs : FS) (c : Counter) (p : Comps) (t : Str) :
    textAt { fs := fs.set p (.native t), c := c } p = some t := by
  simp only [textAt, C13api.get_set_self]

/-- the entries a history returned, placeholder entries dropped -/
def dataOuts (outs : List ApiOut) : List (Option Entries) :=
  outs.map fun o => match o with
    | .data s => some (C01.dropPhEntries s.data)
    | _ => none

/-- the bytes claim on the whole domain `SetupW` (file names not required to be distinct): cycle 2 writes what cycle 1
    wrote.  FALSE: `C03_included_bytes_statement_false`. -/
def C03_included_bytes_statement : Prop :=
  ∀ (fs : FS) (src : Comps) (c : Counter) (items : List IItem) (gaps : List Str) (tail : Str) (incs : List (Str × IncDoc)),
    SetupW fs src c items gaps tail incs →
    textAt (apiRun evalInt { fs := fs, c := c } (cycleOps src 1)).1 (resolveSpelled (tgtOf src)) =
      textAt (apiRun evalInt { fs := fs, c := c } (cycleOps src 0)).1 (resolveSpelled (tgtOf src))

/-- the data claim on the whole domain `SetupW`: every cycle returns the entries of the first read.  Proved under
    `namesnd` (`C03_included_cycles_partial`); on the witness of the refutation the first two cycles agree too (`dup_data`);
    not proved in general. -/
def C03_included_data_statement : Prop :=
  ∀ (fs : FS) (src : Comps) (c : Counter) (items : List IItem) (gaps : List Str) (tail : Str) (incs : List (Str × IncDoc))
    (n : Nat), SetupW fs src c items gaps tail incs →
    dataOuts (apiRun evalInt { fs := fs, c := c } (cycleOps src n)).2 =
      List.replicate (n + 1) (some (mergedData items incs))

/-- the bytes claim holds on `Setup` (distinct file names) -/
theorem C03_included_bytes_on_Setup {fs : FS} {src : Comps} {c : Counter} {items : List IItem} {gaps : List Str} {tail : Str}
    {incs : List (Str × IncDoc)} (S : Setup fs src c items gaps tail incs) :
    textAt (apiRun evalInt { fs := fs, c := c } (cycleOps src 1)).1 (resolveSpelled (tgtOf src)) =
      textAt (apiRun evalInt { fs := fs, c := c } (cycleOps src 0)).1 (resolveSpelled (tgtOf src)) := by
  unfold textAt
  rw [C03_included_bytes_cycles S evalInt 1]

/-! ## non-vacuity -/

/-- `a q; b r;` -/
def exInc : IncDoc :=
  { es := [(['a'], .lit (.bare ['q'])), (['b'], .lit (.bare ['r']))], gaps := [[], [' '], [], [' '], [' '], []], tail := ['\n'] }

theorem exInc_text : exInc.text = "a q; b r;\n".toList := by decide +kernel

theorem exInc_ok : IncDocOK exInc where
  wf := by decide +kernel
  gaps := by decide +kernel
  tail := by decide +kernel
  nq := by decide +kernel
  docKeys := by decide +kernel
  dom := by decide +kernel

def exSrc : Comps := ["w".toList, "case".toList]

/-- `#include 'inc'`, `a p;` -/
def exItems : List IItem := [.incl (some '\'') "inc".toList, .entry ['a'] (.lit (.bare ['p']))]
def exGaps : List Str := [[], ['\n'], [' '], []]

theorem exToks : itoksItems exItems =
    [.tok (.word "#include 'inc'".toList), .tok (.word ['a']), .tok (.word ['p']), .tok (.word [';'])] := by
  have e1 : dirText (some '\'') "inc".toList = "#include 'inc'".toList := by decide
  simp only [exItems, itoksItems, Lit.tok, e1]

def exSrcText : Str := "#include 'inc'\na p;\n".toList

theorem exSrc_text : spreadC (itoksItems exItems) exGaps ['\n'] = exSrcText := by rw [exToks]; decide +kernel

def exFs : FS := [(exSrc, .native exSrcText), (["w".toList, "inc".toList], .native exInc.text)]

theorem exHWI : HWI none exItems where
  wf := by decide +kernel
  top := by decide +kernel
  hc := Or.inl rfl
  nIncl := by decide +kernel
  dist := by decide +kernel
  dom := by decide +kernel
  names := by decide +kernel

/-- the merged entries: the including file wins (`a = p`), `b` comes from the included file -/
def exD : Entries := [(.str ['a'], .leaf (.str ['p'])), (.str ['b'], .leaf (.str ['r']))]

theorem ex_merged : mergedData exItems [("inc".toList, exInc)] = exD := by decide +kernel

theorem exSetup : Setup exFs exSrc none exItems exGaps ['\n'] [("inc".toList, exInc)] where
  hwi := exHWI
  layout := by rw [exToks]; decide +kernel
  tailws := fun h => by cases h
  nq := by decide +kernel
  docKeys := by decide +kernel
  srcGet := by rw [exSrc_text]; decide +kernel
  srcNotXml := by decide +kernel
  srcNotJson := by decide +kernel
  srcNe := by decide
  incNames := by decide +kernel
  incFiles := by
    intro q hq
    simp only [List.mem_singleton] at hq
    subst hq
    exact { notXml := by decide +kernel, notJson := by decide +kernel, get := by decide +kernel, ok := exInc_ok }
  tgtNative := by decide +kernel
  tgtFresh := by decide +kernel
  nqW := by rw [ex_merged]; decide +kernel
  namesnd := by decide +kernel

/-- the text of the merged entries (the kernel does not unfold `fmtEntries`: unfolded with its equations) -/
theorem exD_text : fmtPlain .native exD =
    "a                             p;\nb                             r;\n".toList := by
  rw [show fmtPlain .native exD = removeTrailingSpaces (fmtEntries .native 0 (hoistPlaceholders exD)) from rfl,
    C01.hoist_id (by decide +kernel)]
  literal_chars
  simp only [exD, fmtEntries, formatKey, formatScalar]
  decide +kernel

/-- the parsed file of the example: header, the directive again, the merged entries -/
theorem ex_parsedText : parsedText exItems [("inc".toList, exInc)] =
    nativeHeader ++ ("#include inc\n".toList ++ "a                             p;\nb                             r;\n".toList) := by
  have t3 : ((namesOf exItems).map dirLine).flatMap (· ++ ['\n']) = "#include inc\n".toList := by decide +kernel
  show nativeHeader ++ (_ ++ fmtPlain .native (mergedData exItems [("inc".toList, exInc)])) = _
  rw [t3, ex_merged, exD_text]

/-- the theorems on the example -/
example (ev : Str → EvalResult) := C03_included_parse_reread_partial exSetup ev
example (ev : Str → EvalResult) (n : Nat) := C03_included_cycles_partial exSetup ev n
example (ev : Str → EvalResult) := C03_included_bytes exSetup ev

/-! ### the witness of the refutation: the same file included twice, once in single and once in double quotes -/

/-- `#include 'x'`, `#include "x"`, `a p;` -/
def dupItems : List IItem := [.incl (some '\'') ['x'], .incl (some '"') ['x'], .entry ['a'] (.lit (.bare ['p']))]
def dupGaps : List Str := [[], ['\n'], ['\n'], [' '], []]

theorem dupToks : itoksItems dupItems =
    [.tok (.word "#include 'x'".toList), .tok (.word "#include \"x\"".toList), .tok (.word ['a']), .tok (.word ['p']),
     .tok (.word [';'])] := by
  have e1 : dirText (some '\'') ['x'] = "#include 'x'".toList := by decide
  have e2 : dirText (some '"') ['x'] = "#include \"x\"".toList := by decide
  simp only [dupItems, itoksItems, Lit.tok, e1, e2]

def dupSrcText : Str := "#include 'x'\n#include \"x\"\na p;\n".toList

theorem dupSrc_text : spreadC (itoksItems dupItems) dupGaps ['\n'] = dupSrcText := by rw [dupToks]; decide +kernel

def dupFs : FS := [(exSrc, .native dupSrcText), (["w".toList, "x".toList], .native exInc.text)]
def dupIncs : List (Str × IncDoc) := [(['x'], exInc), (['x'], exInc)]

theorem dup_merged : mergedData dupItems dupIncs = exD := by decide +kernel

/-- the witness satisfies every hypothesis but `namesnd` -/
theorem dupSetupW : SetupW dupFs exSrc none dupItems dupGaps ['\n'] dupIncs where
  hwi := ⟨by decide +kernel, by decide +kernel, Or.inl rfl, by decide +kernel, by decide +kernel, by decide +kernel,
    by decide +kernel⟩
  layout := by rw [dupToks]; decide +kernel
  tailws := fun h => by cases h
  nq := by decide +kernel
  docKeys := by decide +kernel
  srcGet := by rw [dupSrc_text]; decide +kernel
  srcNotXml := by decide +kernel
  srcNotJson := by decide +kernel
  srcNe := by decide
  incNames := by decide +kernel
  incFiles := by
    intro q hq
    have : q = (['x'], exInc) := by
      simp only [dupIncs, List.mem_cons, List.not_mem_nil, or_false, or_self] at hq; exact hq
    subst this
    exact { notXml := by decide +kernel, notJson := by decide +kernel, get := by decide +kernel, ok := exInc_ok }
  tgtNative := by decide +kernel
  tgtFresh := by decide +kernel
  nqW := by rw [dup_merged]; decide +kernel

theorem apiRun_one (ev : Str → EvalResult) (w : World) (op : ApiOp) : (apiRun ev w [op]).1 = (apiStep ev w op).1 := rfl
theorem apiRun_two (ev : Str → EvalResult) (w : World) (op op' : ApiOp) :
    (apiRun ev w [op, op']).1 = (apiStep ev (apiStep ev w op).1 op').1 := rfl

def phE (s : String) : Key × Val := (.str s.toList, .leaf (.str s.toList))

/-- what the first read returns: two include entries (the two directive texts differ) -/
def dupR1 : SD :=
  { data := phE "INCLUDE000000" :: phE "INCLUDE000001" :: exD,
    incl := [(0, { directive := "#include 'x'".toList, file := ['x'], path := "/w/x".toList }),
             (1, { directive := "#include \"x\"".toList, file := ['x'], path := "/w/x".toList })] }

theorem dup_read1 : readFile evalInt dupFs {} none exSrc = .ok (.ok dupR1 (some 1)) := by
  apply ok_of_toOption
  unfold dupFs dupSrcText dupR1 phE
  literal_chars
  decide +kernel

theorem dupR1_wiok : WIOK dupR1 [0, 1] [['x'], ['x']] exD where
  lineC := rfl
  blockC := rfl
  hoist := by decide +kernel
  dom := by decide +kernel
  len := rfl
  idsle := by decide
  look := by
    intro p hp
    simp only [List.zip_cons_cons, List.zip_nil_right, List.mem_cons, List.not_mem_nil, or_false] at hp
    rcases hp with rfl | rfl
    · exact ⟨_, rfl, rfl⟩
    · exact ⟨_, rfl, rfl⟩
  tbl := by decide +kernel
  names := by decide +kernel

/-- the text cycle 1 writes: the directive twice -/
def dupText1 : Str := C12.nativeHeaderChars ++ ("#include x\n#include x\n".toList ++
  "a                             p;\nb                             r;\n".toList)

theorem dup_write1 : fmtSD .native dupR1 = some dupText1 := by
  rw [write_incl_top dupR1_wiok, exD_text, C12.nativeHeader_eq]
  have : ([['x'], ['x']].map dirLine).flatMap (· ++ ['\n']) = "#include x\n#include x\n".toList := by decide +kernel
  rw [this]; rfl

def dupTgt : Comps := ["w".toList, "parsed.case".toList]
theorem dupTgt_eq : tgtOf exSrc = dupTgt := by decide +kernel
theorem dupTgt_res : resolveSpelled dupTgt = dupTgt := by decide +kernel

def dupFs1 : FS := dupFs.set dupTgt (.native dupText1)

/-- what the read of that file returns: `_clean` has merged the two include entries (same table value) -/
def dupR2 : SD :=
  { data := phE "BLOCKCOMMENT000000" :: phE "INCLUDE000002" :: exD,
    blockC := [(0, C12.hdrComment)],
    incl := [(2, { directive := "#include x".toList, file := ['x'], path := "/w/x".toList })] }

theorem dup_read2 : readFile evalInt dupFs1 {} (some 1) dupTgt = .ok (.ok dupR2 (some 3)) := by
  apply ok_of_toOption
  unfold dupFs1 dupFs dupSrcText dupText1 dupR2 phE
  literal_chars
  decide +kernel

theorem dupR2_ok : RdOK dupR2 true [2] [['x']] exD where
  exprs := rfl
  lineC := rfl
  blockC := rfl
  fB := by decide +kernel
  fI := by decide +kernel
  fR := by decide +kernel
  nodup := by decide +kernel
  idsle := by decide
  idsnd := by decide
  tblIds := rfl
  tblFiles := rfl
  namesnd := by decide
  dom := by decide +kernel
  norm := by decide +kernel

/-- the text cycle 2 writes: the directive once -/
def dupText2 : Str := C12.nativeHeaderChars ++ ("#include x\n".toList ++
  "a                             p;\nb                             r;\n".toList)

theorem dup_write2 : fmtSD .native dupR2 = some dupText2 := by
  have hn : NamesOK [['x']] := by
    intro n hn
    simp only [List.mem_singleton] at hn
    subst hn
    exact ⟨by decide, by decide +kernel, by decide⟩
  rw [dupR2_ok.write hn, exD_text, C12.nativeHeader_eq]
  have : ([['x']].map dirLine).flatMap (· ++ ['\n']) = "#include x\n".toList := by decide +kernel
  rw [this]; rfl

theorem dup_texts_ne : dupText1 ≠ dupText2 := by
  intro h
  have := List.append_cancel_left h
  revert this
  decide +kernel

theorem dup_cycle1 : apiStep evalInt { fs := dupFs, c := none } (.parse exSrc {} ['w'] none) =
    ({ fs := dupFs1, c := some 1 }, .data dupR1) := by
  have h := C16sd.parse_step evalInt (fs := dupFs) (c := none) (p := exSrc) (b := .native dupSrcText) (by decide +kernel) dup_read1
    (writeText_fmt evalInt dupFs dup_write1 (by decide +kernel) dupSetupW.tgtNative (some 1)) (by decide +kernel)
  have e : resolveSpelled (parseTarget exSrc [] none) = dupTgt := by decide +kernel
  rw [h, e]; rfl

theorem dup_cycle2 : apiStep evalInt { fs := dupFs1, c := some 1 } (.parse dupTgt {} ['w'] none) =
    ({ fs := dupFs1.set dupTgt (.native dupText2), c := some 3 }, .data dupR2) := by
  have ht : parseTarget dupTgt [] none = dupTgt := by decide +kernel
  have h := C16sd.parse_step evalInt (fs := dupFs1) (c := some 1) (p := dupTgt) (b := .native dupText1)
    (by rw [dupTgt_res]; exact C13api.get_set_self _ _ _) dup_read2
    (writeText_fmt evalInt dupFs1 dup_write2 (by decide +kernel) (by rw [ht, ← dupTgt_eq]; exact dupSetupW.tgtNative) (some 3))
    (by decide +kernel)
  rw [h, ht, dupTgt_res]

/-- **the bytes claim is false without `namesnd`**: on the witness cycle 1 writes `#include x` twice (both spellings are
    written bare), the reader's `_clean` merges the two include entries of that file, and cycle 2 writes it once -/
theorem C03_included_bytes_statement_false : ¬ C03_included_bytes_statement := by
  intro h
  have := h dupFs exSrc none dupItems dupGaps ['\n'] dupIncs dupSetupW
  have e0 : (apiRun evalInt { fs := dupFs, c := none } (cycleOps exSrc 0)).1 = { fs := dupFs1, c := some 1 } := by
    rw [cycleOps, List.replicate_zero, apiRun_one, dup_cycle1]
  have e1 : (apiRun evalInt { fs := dupFs, c := none } (cycleOps exSrc 1)).1 =
      { fs := dupFs1.set dupTgt (.native dupText2), c := some 3 } := by
    rw [cycleOps, List.replicate_one, apiRun_two, dup_cycle1, dupTgt_eq]
    dsimp only
    rw [dup_cycle2]
  rw [e0, e1, dupTgt_eq, dupTgt_res] at this
  have t0 : textAt { fs := dupFs1, c := some 1 } dupTgt = some dupText1 := textAt_set _ _ _ _
  rw [textAt_set, t0] at this
  exact dup_texts_ne (Option.some.inj this).symm

/-- … while the entries returned by the two cycles are the same on this witness too -/
theorem dup_data : C01.dropPhEntries dupR1.data = exD ∧ C01.dropPhEntries dupR2.data = exD := by
  constructor <;> decide +kernel

/-
#print axioms C03_included_parse_reread_partial   -- [propext, Classical.choice, Quot.sound]
#print axioms C03_included_cycles_partial         -- [propext, Classical.choice, Quot.sound]
#print axioms C03_included_bytes                  -- [propext, Classical.choice, Quot.sound]
#print axioms C03_included_bytes_cycles           -- [propext, Classical.choice, Quot.sound]
#print axioms C03_included_bytes_on_Setup         -- [propext, Classical.choice, Quot.sound]
#print axioms C03_included_bytes_statement_false  -- [propext, Classical.choice, Quot.sound]
#print axioms exSetup                             -- [propext, Classical.choice, Quot.sound]
#print axioms ex_parsedText                       -- [propext, Classical.choice, Quot.sound]
-/

end DictIO.C03incl
