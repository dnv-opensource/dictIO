/-
  C02 — layout tolerance of the native reader, from the *text* of a source document with quoted strings.

  `Props/C02.lean` proves layout tolerance for token trees (tokenize → levels → scanner).  This file adds the two
  text stages in front of it — literal extraction and expression extraction — and composes:

    1  `lex_literals`          on any admissible layout of admissible source tokens the literal stage replaces the quoted
                               strings, left to right, by the placeholder words `labelToks` draws and copies the rest
                               (`lexPiece_spread`: for every token of the wider class `TokOK'`, which also holds
                               the comment placeholder words; as a piece of a longer text, `LexPiece`)
    2  `lex_expressions_id`    a text without `$` passes the expression stage unchanged
    3  `label_toks`            the labelled token stream is the token stream of the labelled tree
    4  `C02.labelled_wf`       the labelled tree is a well-formed token tree
                               (both proved once, `label_toks_all` and `labelled_wf_all`, by the induction `SrcPWF.ind`
                               over plain values and lists and LABELLED entry lists — entries may be comment entries
                               `(ph, bare ph)`, GrammarC; a plain entry list is the instance without comment entries)
    5  `srcToks_ok`, `gaps_bridge`
                               source tokens are admissible; an admissible source layout is an admissible token layout
    6  `normalise_toks`        newline removal and `strip` only touch the white space of an admissible layout: they
                               leave the layout `normGaps gaps` (for any tokens without line feed that start and end
                               with a non-blank character, `Ends`)
       `C12.parseBlockSt`, `C12.finishSD`, `C12.parseRest_eq`
                               the reader after its comment stages, from any lexer state, as stages + `_clean`
       `C12.parseBlockSt_toks` the stages on any admissible layout of `TokOK'` tokens whose labelled stream is the
                               token stream of a well-formed token tree: no document occurs
       `parse_block_spread`    its instance for a plain document and the fresh state: `parseBlock` on *any* admissible
                               layout (line feeds, leading and trailing white space included) = denotation of the
                               labelled tree with the literals re-inserted
    7  `exSrc…`, `ex_lex`, `ex_parse`, `ex_parse_loose`     a concrete instance

  Hypotheses not named above.  `lex_literals` needs `prev ≠ some '\\'` (part of its statement;
  `lex_literals_needs_prev` shows the lexer model answers `unsupported` otherwise) and holds for every fuel ≥ the text
  length.  `label_toks` needs the well-formedness of the keys (`label_toks_needs_wf`).
-/
import DictIO.Props.C02
import DictIO.Model.GrammarC
import DictIO.Lemmas.Chars
import DictIO.Lemmas.InductSrc
import DictIO.Lemmas.Refs

namespace DictIO.C02
open DictIO

/-- an admissible source token -/
def TokOK : STok → Prop
  | .word w => isSrcWord w = true ∨ isDelimTok w = true
  | .quoted q b => isSrcQuoted q b = true

/-- a token the text stages accept: a non-empty word without quote, `$`, backslash and white space (source words,
    delimiters, comment placeholder words), or an admissible quoted string -/
def TokOK' : STok → Prop
  | .word w => w ≠ [] ∧ ∀ c ∈ w, isQuote c = false ∧ c ≠ '$' ∧ c ≠ '\\' ∧ isWs c = false
  | .quoted q b => isSrcQuoted q b = true

/-- the labelling state inside the lexer state -/
def labOf (st : LexSt) : LabelSt := { counter := st.counter, lits := st.lits }

/-- the lexer state with the labelling part replaced -/
def withLab (st : LexSt) (l : LabelSt) : LexSt := { st with counter := l.counter, lits := l.lits }

def labelTok (st : LabelSt) : STok → LabelSt × Str
  | .word w => (st, w)
  | .quoted _ b => ((st.fresh b).2, litPh (st.fresh b).1)

theorem ws_not_quote {c : Char} (h : isWs c = true) : isQuote c = false := by
  cases hq : isQuote c with
  | false => rfl
  | true => rw [(quote_facts hq).1] at h; cases h

theorem ws_ne_backslash {c : Char} (h : isWs c = true) : c ≠ '\\' := fun e => ws_not_mark h (e ▸ by decide)

theorem ws_ne_dollar {c : Char} (h : isWs c = true) : c ≠ '$' := fun e => ws_not_mark h (e ▸ by decide)

theorem delim_chars : ∀ c ∈ Gen.delimiters, isQuote c = false ∧ c ≠ '$' ∧ c ≠ '\\' ∧ isWs c = false := by decide

theorem delimTok_inv {w : Str} (h : isDelimTok w = true) : ∃ c, w = [c] ∧ c ∈ Gen.delimiters := by
  match w, h with
  | [c], h => exact ⟨c, rfl, by simpa [isDelimTok] using h⟩

namespace Main

/-- everything `isSrcWord` says -/
theorem srcWord_iff {w : Str} : isSrcWord w = true ↔
    isWordTok w = true ∧ isInfix "COMMENT".toList w = false ∧ isInfix "INCLUDE".toList w = false ∧
    isInfix kwLit w = false ∧ isInfix kwExpr w = false ∧
    (∀ x ∈ w, isQuote x = false ∧ x ≠ '$' ∧ x ≠ '\\') ∧
    isInfix ['/', '/'] w = false ∧ isInfix ['/', '*'] w = false ∧ w.head? ≠ some '#' := by
  simp only [isSrcWord, isPhTok, isCommentTok, isIncludeTok, Bool.and_eq_true, Bool.not_eq_true',
    Bool.or_eq_false_iff, List.all_eq_true, bne_iff_ne, ne_eq, beq_eq_false_iff_ne, and_assoc]

/-- everything `isSrcQuoted` says -/
theorem srcQuoted_iff {q : Char} {b : Str} : isSrcQuoted q b = true ↔
    isQuote q = true ∧ q ∉ b ∧ (∀ c ∈ b, isLineBreak c = false ∧ c ≠ '$') ∧
    isInfix ['/', '/'] b = false ∧ isInfix ['/', '*'] b = false ∧ isInfix kwLit b = false ∧
    isInfix kwExpr b = false ∧ isInfix "COMMENT".toList b = false ∧ isInfix "INCLUDE".toList b = false := by
  simp only [isSrcQuoted, Bool.and_eq_true, Bool.not_eq_true', List.all_eq_true, bne_iff_ne, ne_eq,
    List.contains_eq_mem, decide_eq_false_iff_not, and_assoc]

end Main

theorem noPh_of_noMarks {s : Str} (hc : isInfix "COMMENT".toList s = false) (hi : isInfix "INCLUDE".toList s = false) :
    containsPh kwBlock s = false ∧ containsPh kwIncl s = false ∧ containsPh kwLine s = false :=
  ⟨containsPh_false (kw := kwBlock) (by unfold kwBlock; literal_chars; decide) hc,
    containsPh_false (kw := kwIncl) (by unfold kwIncl; literal_chars; decide) hi,
    containsPh_false (kw := kwLine) (by unfold kwLine; literal_chars; decide) hc⟩

theorem srcWord_facts {w : Str} (h : isSrcWord w = true) :
    isWordTok w = true ∧ isPhTok w = false ∧ ∀ c ∈ w, isQuote c = false ∧ c ≠ '$' ∧ c ≠ '\\' := by
  obtain ⟨h1, h2, h3, _, _, h5, _⟩ := Main.srcWord_iff.mp h
  exact ⟨h1, by rw [isPhTok, isCommentTok, isIncludeTok, h2, h3]; rfl, h5⟩

theorem srcQuoted_facts {q : Char} {b : Str} (h : isSrcQuoted q b = true) :
    isQuote q = true ∧ q ∉ b ∧ ∀ c ∈ b, isLineBreak c = false ∧ c ≠ '$' := by
  obtain ⟨h1, h2, h3, _⟩ := Main.srcQuoted_iff.mp h
  exact ⟨h1, h2, h3⟩

theorem okWord_chars {w : Str} (h : isSrcWord w = true ∨ isDelimTok w = true) :
    ∀ c ∈ w, isQuote c = false ∧ c ≠ '$' ∧ c ≠ '\\' ∧ isWs c = false := by
  intro c hc
  rcases h with h | h
  · obtain ⟨hw, _, hch⟩ := srcWord_facts h
    exact ⟨(hch c hc).1, (hch c hc).2.1, (hch c hc).2.2, (wordTok_chars hw).2.1 c hc⟩
  · obtain ⟨d, rfl, hd⟩ := delimTok_inv h
    simp only [List.mem_singleton] at hc
    subst hc
    exact delim_chars c hd

theorem tokOK_delim {c : Char} (h : Gen.delimiters.contains c = true) : TokOK (.word [c]) := Or.inr h

theorem tokOK'_of_ok {t : STok} (h : TokOK t) : TokOK' t := by
  cases t with
  | word w =>
    refine ⟨?_, okWord_chars h⟩
    rcases h with h | h
    · exact (wordTok_chars (srcWord_facts h).1).1
    · obtain ⟨c, rfl, _⟩ := delimTok_inv h
      simp
  | quoted q b => exact h

theorem withLab_labOf (st : LexSt) : withLab st (labOf st) = st := rfl
theorem labOf_withLab (st : LexSt) (l : LabelSt) : labOf (withLab st l) = l := rfl
theorem withLab_withLab (st : LexSt) (l l' : LabelSt) : withLab (withLab st l) l' = withLab st l' := rfl

theorem labelToks_cons (st : LabelSt) (t : STok) (ts : List STok) :
    labelToks st (t :: ts) =
      ((labelToks (labelTok st t).1 ts).1, (labelTok st t).2 :: (labelToks (labelTok st t).1 ts).2) := by
  cases t <;> rfl

theorem labelToks_nil (st : LabelSt) : labelToks st [] = (st, []) := rfl

theorem labelToks_append (a b : List STok) : ∀ (st : LabelSt),
    labelToks st (a ++ b) =
      ((labelToks (labelToks st a).1 b).1, (labelToks st a).2 ++ (labelToks (labelToks st a).1 b).2) := by
  induction a with
  | nil => intro st; rfl
  | cons t a ih => intro st; simp only [List.cons_append, labelToks_cons, ih]

theorem lex_nil (fuel : Nat) (st : LexSt) (prev : Option Char) : lexLiteralsFuel fuel st prev [] = .ok (st, []) := by
  cases fuel <;> rfl

/-- the literal stage turns the piece `t` into `o` and takes the lexer state from `st` to `st1`, whatever follows (for
    every sufficient fuel and every previous character other than a backslash) -/
def LexPiece (st : LexSt) (t : Str) (st1 : LexSt) (o : Str) : Prop :=
  ∀ (rest : Str) (st' : LexSt) (out : Str),
    (∀ fuel prev, rest.length ≤ fuel → prev ≠ some '\\' → lexLiteralsFuel fuel st1 prev rest = .ok (st', out)) →
    ∀ fuel prev, (t ++ rest).length ≤ fuel → prev ≠ some '\\' →
      lexLiteralsFuel fuel st prev (t ++ rest) = .ok (st', o ++ out)

theorem LexPiece.nil (st : LexSt) : LexPiece st [] st [] := fun _ _ _ h => h

theorem LexPiece.append {st st1 st2 : LexSt} {t u o p : Str} (h1 : LexPiece st t st1 o) (h2 : LexPiece st1 u st2 p) :
    LexPiece st (t ++ u) st2 (o ++ p) := by
  intro rest st' out hrest
  rw [List.append_assoc, List.append_assoc]
  exact h1 _ _ _ (h2 rest st' out hrest)

theorem LexPiece.whole {st st1 : LexSt} {t o : Str} (h : LexPiece st t st1 o) (fuel : Nat) (prev : Option Char)
    (hf : t.length ≤ fuel) (hp : prev ≠ some '\\') : lexLiteralsFuel fuel st prev t = .ok (st1, o) := by
  have := h [] st1 [] (fun fuel prev _ _ => lex_nil fuel _ prev) fuel prev (by simpa using hf) hp
  simpa using this

/-- the run of the reader: the fuel it passes, no previous character -/
theorem LexPiece.run {st st1 : LexSt} {t o : Str} (h : LexPiece st t st1 o) :
    lexLiteralsFuel (t.length + 1) st none t = .ok (st1, o) :=
  h.whole _ none (Nat.le_succ _) (by simp)

theorem LexPiece.copy {t : Str} (st : LexSt) (hq : ∀ c ∈ t, isQuote c = false) (hb : ∀ c ∈ t, c ≠ '\\') :
    LexPiece st t st t := by
  intro rest st' out hrest
  induction t with
  | nil => exact hrest
  | cons a run ih =>
    intro fuel prev hf hp
    cases fuel with
    | zero => simp at hf
    | succ f =>
      have ha : isQuote a = false := hq a (by simp)
      have hab : (some a : Option Char) ≠ some '\\' := by
        intro h; exact hb a (by simp) (Option.some.inj h)
      have := ih (fun c hc => hq c (by simp [hc])) (fun c hc => hb c (by simp [hc])) f (some a)
        (by simp at hf ⊢; omega) hab
      simp only [List.cons_append, lexLiteralsFuel, ha, Bool.false_eq_true, if_false, this]
      rfl

theorem LexPiece.ws {g : Str} (st : LexSt) (hg : g.all isWs = true) : LexPiece st g st g :=
  .copy st (fun c hc => ws_not_quote (List.all_eq_true.mp hg c hc))
    (fun c hc => ws_ne_backslash (List.all_eq_true.mp hg c hc))

theorem splitAtChar_skip (q : Char) (b rest : Str) (h : q ∉ b) : splitAtChar q (b ++ q :: rest) = some (b, rest) := by
  induction b with
  | nil => simp [splitAtChar]
  | cons a b ih =>
    have ha : (a == q) = false := by
      simp only [beq_eq_false_iff_ne, ne_eq]; rintro rfl; exact h (by simp)
    simp [splitAtChar, ha, ih (fun hq => h (by simp [hq]))]

/-- a quoted string is lifted out and replaced by the next placeholder word -/
theorem LexPiece.quoted {q : Char} {b : Str} (st : LexSt) (hq : isSrcQuoted q b = true) :
    LexPiece st (STok.quoted q b).text (withLab st (labelTok (labOf st) (.quoted q b)).1)
      (labelTok (labOf st) (.quoted q b)).2 := by
  intro rest st' t hrest fuel prev hf hp
  obtain ⟨h1, h2, h3⟩ := srcQuoted_facts hq
  cases fuel with
  | zero => simp [STok.text] at hf
  | succ f =>
    have hpe : (prev == some '\\') = false := by simpa using hp
    have hd : b.contains '$' = false := by
      simp only [List.contains_eq_mem, decide_eq_false_iff_not]
      intro hm; exact (h3 _ hm).2 rfl
    have hs : splitAtChar q (b ++ [q] ++ rest) = some (b, rest) := by
      simpa using splitAtChar_skip q b rest h2
    have hr := hrest f (some q) (by simp [STok.text] at hf ⊢; omega)
      (by intro h; have := Option.some.inj h; subst this; simp [isQuote] at h1)
    simp only [STok.text, List.cons_append, lexLiteralsFuel, h1, if_true, hpe, Bool.false_eq_true, if_false, hs, hd,
      Bool.and_false]
    simp only [labelTok, withLab, labOf, LabelSt.fresh, LexSt.fresh] at hr ⊢
    rw [hr]
    rfl

theorem LexPiece.tok {t : STok} (st : LexSt) (ht : TokOK' t) :
    LexPiece st t.text (withLab st (labelTok (labOf st) t).1) (labelTok (labOf st) t).2 := by
  cases t with
  | word w => exact .copy st (fun c hc => (ht.2 c hc).1) (fun c hc => (ht.2 c hc).2.2.1)
  | quoted q b => exact .quoted st ht

/-- `GapsOKS`, one token at a time -/
theorem Main.gapsOKS_step {t : STok} {ts : List STok} {gaps : List Str} (h : GapsOKS (t :: ts) gaps = true) :
    (gaps.headD []).all isWs = true ∧ GapsOKS ts gaps.tail = true ∧
      (∀ u ts', ts = u :: ts' → isDelimSTok t = true ∨ isDelimSTok u = true ∨ gaps.tail.headD [] ≠ []) := by
  match ts, gaps, h with
  | [], [], _ => exact ⟨rfl, rfl, fun _ _ e => by cases e⟩
  | [], g :: gs, h => exact ⟨by simpa [GapsOKS] using h, rfl, fun _ _ e => by cases e⟩
  | u :: ts, [], h => simp [GapsOKS] at h
  | u :: ts, [g], h => simp [GapsOKS] at h
  | u :: ts, g :: g' :: gs, h =>
    simp only [GapsOKS, Bool.and_eq_true, Bool.or_eq_true, Bool.not_eq_true', List.isEmpty_eq_false_iff] at h
    refine ⟨h.1.1, h.2, ?_⟩
    intro u' ts' e
    cases e
    rcases h.1.2 with (h1 | h1) | h1
    · exact Or.inl h1
    · exact Or.inr (Or.inl h1)
    · exact Or.inr (Or.inr h1)

theorem gapsOKS_nogaps {t : STok} {ts : List STok} (h : GapsOKS (t :: ts) [] = true) : ts = [] := by
  cases ts with
  | nil => rfl
  | cons u ts => simp [GapsOKS] at h

theorem spread_cons (t : Str) (ts gaps : List Str) (tail : Str) :
    spread (t :: ts) gaps tail = gaps.headD [] ++ t ++ spread ts gaps.tail tail := by
  cases gaps <;> simp [spread]

theorem lexPiece_spread : ∀ (ts : List STok) (gaps : List Str) (tail : Str), (∀ t ∈ ts, TokOK' t) →
    GapsOKS ts gaps = true → tail.all isWs = true → ∀ st : LexSt,
      LexPiece st (spreadS ts gaps tail) (withLab st (labelToks (labOf st) ts).1)
        (spread (labelToks (labOf st) ts).2 gaps tail)
  | [], gaps, tail, _, _, htail, st => by
    simpa [spreadS, spread, labelToks_nil, withLab_labOf] using LexPiece.ws st htail
  | t :: ts, gaps, tail, hts, hg, htail, st => by
    obtain ⟨h1, h2, _⟩ := Main.gapsOKS_step hg
    have ih := lexPiece_spread ts gaps.tail tail (fun u hu => hts u (by simp [hu])) h2 htail
      (withLab st (labelTok (labOf st) t).1)
    have := (LexPiece.ws st h1).append ((LexPiece.tok st (hts t (by simp))).append ih)
    simpa [spreadS, spread_cons, labelToks_cons, labOf_withLab, withLab_withLab] using this

theorem splitAtChar_mem {q : Char} : ∀ {r a b : Str}, splitAtChar q r = some (a, b) → ∀ x, x ∈ a ∨ x ∈ b → x ∈ r
  | [], _, _, h => by simp [splitAtChar] at h
  | c :: r, a, b, h => by
    simp only [splitAtChar] at h
    split at h
    · simp at h; obtain ⟨rfl, rfl⟩ := h
      intro x hx; simp at hx; simp [hx]
    · simp only [Option.map_eq_some_iff] at h
      obtain ⟨⟨a', b'⟩, h1, h2⟩ := h
      simp at h2; obtain ⟨rfl, rfl⟩ := h2
      intro x hx
      have := splitAtChar_mem h1 x
      simp at hx ⊢
      rcases hx with (rfl | hx) | hx
      · left; rfl
      · right; exact this (Or.inl hx)
      · right; exact this (Or.inr hx)

theorem matchExprAt_none (s : Str) (h : ∀ c ∈ s, c ≠ '$') : matchExprAt s = none := by
  unfold matchExprAt
  split
  · rename_i r
    split
    · rename_i body rest hs
      have : ¬ '$' ∈ body := by
        intro hm
        exact h '$' (by simp [splitAtChar_mem hs '$' (Or.inl hm)]) rfl
      simp [this]
    · rfl
  · rfl

theorem findExprsFuel_nil : ∀ (fuel : Nat) (s : Str), (∀ c ∈ s, c ≠ '$') → findExprsFuel fuel s = []
  | 0, _, _ => rfl
  | _ + 1, [], _ => rfl
  | fuel + 1, c :: r, h => by
    simp only [findExprsFuel, matchExprAt_none (c :: r) h]
    exact findExprsFuel_nil fuel r (fun x hx => h x (by simp [hx]))

theorem litPh_plain (i : Nat) : ∀ c ∈ litPh i, Plain c := plain_ph (kw := kwLit) (by simp [phKeywords]) i

/-- a placeholder word holds no `C`, which both `COMMENT` and `INCLUDE` do -/
theorem litPh_not_ph (i : Nat) : isPhTok (litPh i) = false := by
  have hC : 'C' ∉ litPh i := fun h => by
    rcases List.mem_append.mp h with h | h
    · rw [kwLit_eq] at h; revert h; decide
    · exact (upper_table 'C' (by decide)).2.2 (padSix_digit i _ h)
  have key : ∀ p : Str, 'C' ∈ p → isInfix p (litPh i) = false := fun p hp => isInfix_false_of_not_mem hp hC
  rw [isPhTok, isCommentTok, isIncludeTok, key _ (by literal_chars; decide), key _ (by literal_chars; decide)]
  rfl

theorem litPh_word (i : Nat) : isWordTok (litPh i) = true := by
  have h := litPh_plain i
  rw [litPh, kwLit_eq] at h ⊢
  simp only [isWordTok, List.cons_append, List.isEmpty_cons, Bool.not_false, Bool.true_and, Bool.and_true,
    List.all_eq_true, Bool.and_eq_true, Bool.not_eq_true']
  exact fun c hc => ⟨(h c hc).nws, (h c hc).ndelim⟩

theorem litPh_not_delim (i : Nat) : isDelimTok (litPh i) = false := by
  rw [litPh, kwLit_eq]; rfl

/-! ### labelled documents

  A labelled document (`SrcPWFEs`, GrammarC) is a document in which an entry may also be a comment entry
  `(ph, .lit (.bare ph))`, written as the single word `ph`; the values inside lists are plain.  A plain document is a
  labelled document without comment entries: token stream, well-formedness and meaning agree (`srcToksPEs_plain`,
  `srcPWF_plain`, `denPEs_plain`).  So a fact about documents is proved once, by `SrcPWF.ind`, for plain values, labelled
  entry lists and plain lists; for a plain entry list it is the instance through the three equations.
  (What `SrcPWFEs`, `srcToksPEs`, `denPEs` do on an entry, and the three equations, stand in the namespace `C12` of the
  comment property, whose files use them.) -/

end DictIO.C02

namespace DictIO.C12
open DictIO

/-- what `SrcPWFEs` says about the first entry -/
theorem pwf_cons {d : Nat} {k : Str} {v : Src} {es : SrcEntries} (h : SrcPWFEs d ((k, v) :: es) = true) :
    ((isPhTok k = true ∧ isWordTok k = true ∧ v = .lit (.bare k) ∧
        (∀ c ∈ k, isQuote c = false ∧ c ≠ '$' ∧ c ≠ '\\') ∧ isInfix kwLit k = false) ∨
     (isPhTok k = false ∧ isSrcWord k = true ∧ (keyOfScalar (parseKey k)).isSome = true ∧ SrcPWFV d v = true)) ∧
    SrcPWFEs d es = true := by
  simp only [SrcPWFEs, Bool.and_eq_true] at h
  refine ⟨?_, h.2⟩
  have h1 := h.1
  by_cases hp : isPhTok k = true
  · left
    simp only [hp, if_true, Bool.and_eq_true, Bool.not_eq_true', List.all_eq_true, bne_iff_ne, ne_eq] at h1
    obtain ⟨⟨⟨⟨hw, hv⟩, hc⟩, hl⟩, _⟩ := h1
    refine ⟨hp, hw, ?_, fun c hc' => ⟨(hc c hc').1.1, (hc c hc').1.2, (hc c hc').2⟩, hl⟩
    cases v with
    | lit l =>
      cases l with
      | bare w => simp only [beq_iff_eq] at hv; rw [hv]
      | quoted q b => simp at hv
    | dict dd => simp at hv
    | list l => simp at hv
  · right
    have hp' : isPhTok k = false := by simpa using hp
    simp only [hp', Bool.false_eq_true, if_false, Bool.and_eq_true] at h1
    exact ⟨hp', h1.1.1, h1.1.2, h1.2⟩

theorem denPEs_cons_ph {k : Str} (hp : isPhTok k = true) (v : Src) (es : SrcEntries) (acc : Entries) :
    denPEs ((k, v) :: es) acc = denPEs es (setKey (.str k) (.leaf (.str k)) acc) := by
  simp only [denPEs, hp, if_true]

theorem denPEs_cons {k : Str} {key : Key} (hp : isPhTok k = false) (hk : keyOfScalar (parseKey k) = some key)
    (v : Src) (es : SrcEntries) (acc : Entries) :
    denPEs ((k, v) :: es) acc = denPEs es (setKey key (denPV v) acc) := by
  simp only [denPEs, hp, Bool.false_eq_true, if_false, hk]

theorem wf_cons {d : Nat} {k : Str} {v : Src} {es : SrcEntries} (h : SrcWFEs d ((k, v) :: es) = true) :
    isSrcWord k = true ∧ isPhTok k = false ∧ (keyOfScalar (parseKey k)).isSome = true ∧ SrcWFV d v = true ∧
      SrcWFEs d es = true := by
  simp only [SrcWFEs, Bool.and_eq_true] at h
  exact ⟨h.1.1.1, (C02.srcWord_facts h.1.1.1).2.1, h.1.1.2, h.1.2, h.2⟩

theorem srcToksPEs_plain (es : SrcEntries) : ∀ (d : Nat), SrcWFEs d es = true → srcToksPEs es = srcToksEs es := by
  induction es using SrcEntries.ind with
  | nil => intro _ _; simp only [srcToksPEs, srcToksEs]
  | lit k l es ih =>
    intro d h
    obtain ⟨_, hp, _, _, hes⟩ := wf_cons h
    simp only [srcToksPEs, srcToksEs, hp, Bool.false_eq_true, if_false, ih d hes, List.cons_append, List.nil_append]
  | list k xs es ih =>
    intro d h
    simp only [srcToksPEs, srcToksEs, ih d (wf_cons h).2.2.2.2]
  | dict k dd es ihd ih =>
    intro d h
    obtain ⟨_, _, _, hv, hes⟩ := wf_cons h
    simp only [srcToksPEs, srcToksEs, ih d hes, ihd (d + 1) (by simpa only [SrcWFV] using hv)]

theorem srcPWF_plain (es : SrcEntries) : ∀ (d : Nat), SrcWFEs d es = true → SrcPWFEs d es = true := by
  induction es using SrcEntries.ind with
  | nil => intro _ _; simp only [SrcPWFEs]
  | lit k l es ih =>
    intro d h
    obtain ⟨hk, hp, hkey, hv, hes⟩ := wf_cons h
    simp only [SrcWFV] at hv
    simp only [SrcPWFEs, SrcPWFV, hp, Bool.false_eq_true, if_false, hk, hkey, hv, ih d hes, Bool.and_self]
  | list k xs es ih =>
    intro d h
    obtain ⟨hk, hp, hkey, hv, hes⟩ := wf_cons h
    simp only [SrcWFV] at hv
    simp only [SrcPWFEs, SrcPWFV, hp, Bool.false_eq_true, if_false, hk, hkey, hv, ih d hes, Bool.and_self]
  | dict k dd es ihd ih =>
    intro d h
    obtain ⟨hk, hp, hkey, hv, hes⟩ := wf_cons h
    simp only [SrcWFV] at hv
    simp only [SrcPWFEs, SrcPWFV, hp, Bool.false_eq_true, if_false, hk, hkey, ihd (d + 1) hv, ih d hes, Bool.and_self]

theorem denPEs_plain (es : SrcEntries) : ∀ (d : Nat) (acc : Entries), SrcWFEs d es = true →
    denPEs es acc = denSrcEs es acc := by
  induction es using SrcEntries.ind with
  | nil => intro _ _ _; simp only [denPEs, denSrcEs]
  | lit k l es ih =>
    intro d acc h
    obtain ⟨hk, hp, hkey, hv, hes⟩ := wf_cons h
    obtain ⟨key, hkey⟩ := Option.isSome_iff_exists.mp hkey
    rw [denPEs_cons hp hkey]
    simp only [denSrcEs, hkey, denPV, denSrcV]
    exact ih d _ hes
  | list k xs es ih =>
    intro d acc h
    obtain ⟨hk, hp, hkey, hv, hes⟩ := wf_cons h
    obtain ⟨key, hkey⟩ := Option.isSome_iff_exists.mp hkey
    rw [denPEs_cons hp hkey]
    simp only [denSrcEs, hkey, denPV, denSrcV]
    exact ih d _ hes
  | dict k dd es ihd ih =>
    intro d acc h
    obtain ⟨hk, hp, hkey, hv, hes⟩ := wf_cons h
    obtain ⟨key, hkey⟩ := Option.isSome_iff_exists.mp hkey
    rw [denPEs_cons hp hkey]
    simp only [denSrcEs, hkey, denPV, denSrcV, ihd (d + 1) [] (by simpa only [SrcWFV] using hv)]
    exact ih d _ hes

end DictIO.C12

namespace DictIO.C02
open DictIO

theorem labelEs_cons (st : LabelSt) (k : Str) (v : Src) (es : SrcEntries) :
    labelEs st ((k, v) :: es) = ((labelEs (labelV st v).1 es).1, (.str k, (labelV st v).2) :: (labelEs (labelV st v).1 es).2) := by
  simp only [labelEs]
theorem labelXs_cons (st : LabelSt) (v : Src) (xs : List Src) :
    labelXs st (v :: xs) = ((labelXs (labelV st v).1 xs).1, (labelV st v).2 :: (labelXs (labelV st v).1 xs).2) := by
  simp only [labelXs]

/-- induction over well-formed documents: plain values (at their depth), labelled entry lists, plain lists.
    `SrcWFV`/`SrcPWFEs`/`SrcWFXs` are taken apart here, once.  An ordinary entry whose value is no dict is one case
    (`flat`: its value is plain and is written `k v ;`); the body of a dict value is a plain entry list, for which the
    labelled hypothesis holds as well (`dict`). -/
theorem SrcPWF.ind {P : Nat → Src → Prop} {Q : Nat → SrcEntries → Prop} {R : Nat → List Src → Prop}
    (lit : ∀ d l, l.ok = true → d ≤ 10 → P d (.lit l))
    (dict : ∀ d es, SrcWFEs (d + 1) es = true → Q (d + 1) es → P d (.dict es))
    (list : ∀ d xs, SrcWFXs (d + 1) xs = true → R (d + 1) xs → P d (.list xs))
    (nilE : ∀ d, Q d [])
    (ph : ∀ d k es, isPhTok k = true → isWordTok k = true → (∀ c ∈ k, isQuote c = false ∧ c ≠ '$' ∧ c ≠ '\\') →
      isInfix kwLit k = false → Q d es → Q d ((k, .lit (.bare k)) :: es))
    (flat : ∀ d k key v es, isPhTok k = false → isSrcWord k = true → keyOfScalar (parseKey k) = some key →
      (∀ dd, v ≠ .dict dd) → SrcWFV d v = true → P d v → Q d es → Q d ((k, v) :: es))
    (sub : ∀ d k key dd es, isPhTok k = false → isSrcWord k = true → keyOfScalar (parseKey k) = some key →
      Q (d + 1) dd → Q d es → Q d ((k, .dict dd) :: es))
    (nilX : ∀ d, R d []) (consX : ∀ d v xs, P d v → R d xs → R d (v :: xs)) :
    (∀ v d, SrcWFV d v = true → P d v) ∧ (∀ es d, SrcPWFEs d es = true → Q d es) ∧
      (∀ xs d, SrcWFXs d xs = true → R d xs) := by
  -- a dict value is met twice: as a plain value (`P`) and, under an entry, as a labelled body (`Q`)
  let Pm : Src → Prop := fun v => (∀ d, SrcWFV d v = true → P d v) ∧
    (match v with | .dict dd => ∀ d, SrcPWFEs d dd = true → Q d dd | _ => True)
  let Qm : SrcEntries → Prop := fun es => ∀ d, SrcPWFEs d es = true → Q d es
  let Rm : List Src → Prop := fun xs => ∀ d, SrcWFXs d xs = true → R d xs
  have hlit : ∀ l, Pm (.lit l) := fun l => ⟨fun d h => by
    simp only [SrcWFV, Bool.and_eq_true, decide_eq_true_eq] at h; exact lit d l h.1 h.2, trivial⟩
  have hdict : ∀ es, Qm es → Pm (.dict es) := fun es ih => ⟨fun d h => by
    simp only [SrcWFV] at h; exact dict d es h (ih _ (C12.srcPWF_plain es _ h)), ih⟩
  have hlist : ∀ xs, Rm xs → Pm (.list xs) := fun xs ih => ⟨fun d h => by
    simp only [SrcWFV] at h; exact list d xs h (ih _ h), trivial⟩
  have hnilE : Qm [] := fun d _ => nilE d
  have hconsE : ∀ k v es, Pm v → Qm es → Qm ((k, v) :: es) := fun k v es ihv ih d h => by
    obtain ⟨h1, hes⟩ := C12.pwf_cons h
    rcases h1 with ⟨hp, hw, rfl, hc, hl⟩ | ⟨hp, hk, hkey, hv⟩
    · exact ph d k es hp hw hc hl (ih d hes)
    · obtain ⟨key, hkey⟩ := Option.isSome_iff_exists.mp hkey
      cases v with
      | dict dd => exact sub d k key dd es hp hk hkey (ihv.2 _ (by simpa only [SrcPWFV] using hv)) (ih d hes)
      | lit l =>
        have hv' : SrcWFV d (.lit l) = true := by simpa only [SrcPWFV, SrcWFV] using hv
        exact flat d k key _ es hp hk hkey (fun _ e => by cases e) hv' (ihv.1 d hv') (ih d hes)
      | list xs =>
        have hv' : SrcWFV d (.list xs) = true := by simpa only [SrcPWFV, SrcWFV] using hv
        exact flat d k key _ es hp hk hkey (fun _ e => by cases e) hv' (ihv.1 d hv') (ih d hes)
  have hnilX : Rm [] := fun d _ => nilX d
  have hconsX : ∀ v xs, Pm v → Rm xs → Rm (v :: xs) := fun v xs ihv ih d h => by
    simp only [SrcWFXs, Bool.and_eq_true] at h
    exact consX d v xs (ihv.1 d h.1) (ih d h.2)
  exact ⟨fun v => (Src.ind (P := Pm) (Q := Qm) (R := Rm) hlit hdict hlist hnilE hconsE hnilX hconsX v).1,
    Src.indEs (P := Pm) (Q := Qm) (R := Rm) hlit hdict hlist hnilE hconsE hnilX hconsX,
    Src.indXs (P := Pm) (Q := Qm) (R := Rm) hlit hdict hlist hnilE hconsE hnilX hconsX⟩

theorem srcToksPEs_flat {k : Str} (hp : isPhTok k = false) {v : Src} (hv : ∀ dd, v ≠ .dict dd) (es : SrcEntries) :
    srcToksPEs ((k, v) :: es) = .word k :: (srcToksV v ++ .word [';'] :: srcToksPEs es) := by
  match v, hv with
  | .lit l, _ => simp only [srcToksPEs, hp, Bool.false_eq_true, if_false, srcToksV, List.cons_append, List.nil_append]
  | .list xs, _ => simp only [srcToksPEs, srcToksV, List.cons_append, List.nil_append, List.append_assoc]
  | .dict dd, h => exact absurd rfl (h dd)

theorem toksEs_flat {k : Str} (hp : isPhTok k = false) {v : Src} (hv : ∀ dd, v ≠ .dict dd) (st : LabelSt) (es : Entries) :
    toksEs ((.str k, (labelV st v).2) :: es) = k :: (toksV (labelV st v).2 ++ [';'] :: toksEs es) := by
  match v, hv with
  | .lit (.bare w), _ =>
    simp only [labelV, toksEs, hp, Bool.false_eq_true, if_false, toksV, List.cons_append, List.nil_append]
  | .lit (.quoted q b), _ =>
    simp only [labelV, toksEs, hp, Bool.false_eq_true, if_false, toksV, List.cons_append, List.nil_append]
  | .list xs, _ => simp only [labelV, toksEs, toksV, List.cons_append, List.nil_append, List.append_assoc]
  | .dict dd, h => exact absurd rfl (h dd)

/-- the labelled token stream of a document is the token stream of its token tree: `labelEs` maps a comment entry
    `(ph, bare ph)` to the token-tree entry `ph ↦ ph`, which `toksEs` writes as the single word -/
theorem label_toks_all :
    (∀ v d, SrcWFV d v = true → ∀ st, labelToks st (srcToksV v) = ((labelV st v).1, toksV (labelV st v).2)) ∧
    (∀ es d, SrcPWFEs d es = true → ∀ st,
      labelToks st (srcToksPEs es) = ((labelEs st es).1, toksEs (labelEs st es).2)) ∧
    (∀ xs d, SrcWFXs d xs = true → ∀ st,
      labelToks st (srcToksXs xs) = ((labelXs st xs).1, toksXs (labelXs st xs).2)) := by
  refine SrcPWF.ind ?_ ?_ ?_ ?_ ?_ ?_ ?_ ?_ ?_
  · intro d l _ _ st
    cases l <;> rfl
  · intro d es h ih st
    simp only [srcToksV, ← C12.srcToksPEs_plain es _ h, labelV, toksV, labelToks_cons, labelTok, labelToks_append,
      labelToks_nil, ih]
  · intro d xs _ ih st
    simp only [srcToksV, labelV, toksV, labelToks_cons, labelTok, labelToks_append, labelToks_nil, ih]
  · intro d st
    simp only [srcToksPEs, labelEs, toksEs, labelToks]
  · intro d k es hp _ _ _ ih st
    simp only [srcToksPEs, hp, if_true, List.singleton_append, labelToks_cons, labelTok, labelEs, labelV, toksEs, ih]
  · intro d k key v es hp _ _ hv _ ihv ih st
    rw [srcToksPEs_flat hp hv, labelEs_cons, toksEs_flat hp hv]
    simp only [labelToks_cons, labelTok, labelToks_append, ihv, ih]
  · intro d k key dd es hp _ _ ihd ih st
    simp only [srcToksPEs, labelToks_cons, labelTok, labelToks_append, labelEs, labelV, toksEs, ihd, ih,
      List.cons_append, List.nil_append, List.append_assoc]
  · intro d st
    rfl
  · intro d v xs ihv ih st
    simp only [srcToksXs, labelToks_append, labelXs, toksXs, ihv, ih]

theorem label_toksV : ∀ (v : Src) (d : Nat) (st : LabelSt), SrcWFV d v = true →
    labelToks st (srcToksV v) = ((labelV st v).1, toksV (labelV st v).2) :=
  fun v d st h => label_toks_all.1 v d h st

theorem tokWFEs_entry {k : Str} {key : Key} {v : Val} {es : Entries} (hp : isPhTok k = false) (hk : isWordTok k = true)
    (hkey : keyOfScalar (parseKey k) = some key) (hv : TokWFV v = true) (hes : TokWFEs es = true) :
    TokWFEs ((.str k, v) :: es) = true := by
  match v, hv with
  | .leaf (.str w), hv =>
    simp only [TokWFV, Bool.and_eq_true] at hv
    simp only [TokWFEs, hp, Bool.false_eq_true, if_false, hk, hkey, Option.isSome_some, hv.1, hv.2, hes, Bool.and_self]
  | .dict d, hv => simp only [TokWFEs, hk, hp, hkey, Option.isSome_some, hv, hes, Bool.not_false, Bool.and_self]
  | .list l, hv => simp only [TokWFEs, hk, hp, hkey, Option.isSome_some, hv, hes, Bool.not_false, Bool.and_self]

theorem labelled_wf_all :
    (∀ v d, SrcWFV d v = true → ∀ st, TokWFV (labelV st v).2 = true) ∧
    (∀ es d, SrcPWFEs d es = true → ∀ st, TokWFEs (labelEs st es).2 = true) ∧
    (∀ xs d, SrcWFXs d xs = true → ∀ st, TokWFXs (labelXs st xs).2 = true) := by
  refine SrcPWF.ind ?_ ?_ ?_ ?_ ?_ ?_ ?_ ?_ ?_
  · intro d l hl _ st
    cases l with
    | bare w => simp only [labelV, TokWFV, (srcWord_facts hl).1, (srcWord_facts hl).2.1, Bool.not_false, Bool.and_self]
    | quoted q b => simp only [labelV, TokWFV, litPh_word, litPh_not_ph, Bool.not_false, Bool.and_self]
  · intro d es _ ih st
    simpa only [labelV, TokWFV] using ih st
  · intro d xs _ ih st
    simpa only [labelV, TokWFV] using ih st
  · intro d st
    rfl
  · intro d k es hp hw _ _ ih st
    simp only [labelEs, labelV, TokWFEs, hp, if_true, hw, beq_self_eq_true, Bool.and_self, Bool.true_and, ih]
  · intro d k key v es hp hk hkey _ _ ihv ih st
    rw [labelEs_cons]
    exact tokWFEs_entry hp (srcWord_facts hk).1 hkey (ihv st) (ih _)
  · intro d k key dd es hp hk hkey ihd ih st
    rw [labelEs_cons]
    exact tokWFEs_entry hp (srcWord_facts hk).1 hkey (by simpa only [labelV, TokWFV] using ihd st) (ih _)
  · intro d st
    rfl
  · intro d v xs ihv ih st
    simp only [labelXs, TokWFXs, ihv, ih, Bool.and_self]

theorem labelled_wfV : ∀ (v : Src) (d : Nat) (st : LabelSt), SrcWFV d v = true → TokWFV (labelV st v).2 = true :=
  fun v d st h => labelled_wf_all.1 v d h st

/-- what holds of the delimiter tokens, of the keys and of the literals of a well-formed source document holds of
    all its tokens -/
theorem srcToks_forall {P : STok → Prop} (hd : ∀ c, Gen.delimiters.contains c = true → P (.word [c]))
    (hk : ∀ k, isSrcWord k = true → P (.word k)) (hl : ∀ l : Lit, l.ok = true → P l.tok) :
    (∀ (v : Src) (d : Nat), SrcWFV d v = true → ∀ t ∈ srcToksV v, P t) ∧
    (∀ (es : SrcEntries) (d : Nat), SrcWFEs d es = true → ∀ t ∈ srcToksEs es, P t) ∧
    (∀ (xs : List Src) (d : Nat), SrcWFXs d xs = true → ∀ t ∈ srcToksXs xs, P t) := by
  have lit : ∀ l, ∀ d, SrcWFV d (.lit l) = true → ∀ t ∈ srcToksV (.lit l), P t := fun l d h t ht => by
    simp only [SrcWFV, Bool.and_eq_true] at h
    simp only [srcToksV, List.mem_singleton] at ht
    subst ht; exact hl l h.1
  have dict : ∀ es, (∀ d, SrcWFEs d es = true → ∀ t ∈ srcToksEs es, P t) →
      ∀ d, SrcWFV d (.dict es) = true → ∀ t ∈ srcToksV (.dict es), P t := fun es ih d h t ht => by
    simp only [SrcWFV] at h
    simp only [srcToksV, List.mem_cons, List.mem_append, List.not_mem_nil, or_false, or_assoc] at ht
    rcases ht with rfl | ht | rfl
    · exact hd _ (by decide)
    · exact ih (d + 1) h t ht
    · exact hd _ (by decide)
  have list : ∀ xs, (∀ d, SrcWFXs d xs = true → ∀ t ∈ srcToksXs xs, P t) →
      ∀ d, SrcWFV d (.list xs) = true → ∀ t ∈ srcToksV (.list xs), P t := fun xs ih d h t ht => by
    simp only [SrcWFV] at h
    simp only [srcToksV, List.mem_cons, List.mem_append, List.not_mem_nil, or_false, or_assoc] at ht
    rcases ht with rfl | ht | rfl
    · exact hd _ (by decide)
    · exact ih (d + 1) h t ht
    · exact hd _ (by decide)
  have nilE : ∀ d, SrcWFEs d [] = true → ∀ t ∈ srcToksEs [], P t := fun _ _ t ht => by simp [srcToksEs] at ht
  have consE : ∀ k v es, (∀ d, SrcWFV d v = true → ∀ t ∈ srcToksV v, P t) →
      (∀ d, SrcWFEs d es = true → ∀ t ∈ srcToksEs es, P t) →
      ∀ d, SrcWFEs d ((k, v) :: es) = true → ∀ t ∈ srcToksEs ((k, v) :: es), P t := fun k v es ihv ih d h t ht => by
    simp only [SrcWFEs, Bool.and_eq_true] at h
    obtain ⟨⟨⟨hkw, _⟩, hv⟩, hes⟩ := h
    have hv' := ihv d hv
    cases v with
    | lit l =>
      simp only [srcToksEs, List.mem_cons] at ht
      rcases ht with rfl | rfl | rfl | ht
      · exact hk k hkw
      · exact hv' _ (by simp [srcToksV])
      · exact hd _ (by decide)
      · exact ih d hes t ht
    | dict dd =>
      simp only [srcToksEs, List.mem_cons, List.mem_append, List.not_mem_nil, or_false, or_assoc] at ht
      rcases ht with rfl | rfl | ht | rfl | ht
      · exact hk k hkw
      · exact hd _ (by decide)
      · exact hv' t (by simp [srcToksV, ht])
      · exact hd _ (by decide)
      · exact ih d hes t ht
    | list l =>
      simp only [srcToksEs, List.mem_cons, List.mem_append, List.not_mem_nil, or_false, or_assoc] at ht
      rcases ht with rfl | rfl | ht | rfl | rfl | ht
      · exact hk k hkw
      · exact hd _ (by decide)
      · exact hv' t (by simp [srcToksV, ht])
      · exact hd _ (by decide)
      · exact hd _ (by decide)
      · exact ih d hes t ht
  have nilX : ∀ d, SrcWFXs d [] = true → ∀ t ∈ srcToksXs [], P t := fun _ _ t ht => by simp [srcToksXs] at ht
  have consX : ∀ v xs, (∀ d, SrcWFV d v = true → ∀ t ∈ srcToksV v, P t) →
      (∀ d, SrcWFXs d xs = true → ∀ t ∈ srcToksXs xs, P t) →
      ∀ d, SrcWFXs d (v :: xs) = true → ∀ t ∈ srcToksXs (v :: xs), P t := fun v xs ihv ih d h t ht => by
    simp only [SrcWFXs, Bool.and_eq_true] at h
    simp only [srcToksXs, List.mem_append] at ht
    rcases ht with ht | ht
    · exact ihv d h.1 t ht
    · exact ih d h.2 t ht
  exact ⟨Src.ind lit dict list nilE consE nilX consX, Src.indEs lit dict list nilE consE nilX consX,
    Src.indXs lit dict list nilE consE nilX consX⟩

theorem tokOK_lit {l : Lit} (h : l.ok = true) : TokOK l.tok := by
  cases l with
  | bare w => exact Or.inl h
  | quoted q b => exact h

theorem srcToksV_ok (v : Src) (d : Nat) (h : SrcWFV d v = true) : ∀ t ∈ srcToksV v, TokOK t :=
  (srcToks_forall (fun _ => tokOK_delim) (fun _ => Or.inl) (fun _ => tokOK_lit)).1 v d h

/-- **5a.** Every source token of a well-formed source document is admissible. -/
theorem srcToks_ok (d : Nat) (es : SrcEntries) (h : SrcWFEs d es = true) : ∀ t ∈ srcToksEs es, TokOK t :=
  (srcToks_forall (fun _ => tokOK_delim) (fun _ => Or.inl) (fun _ => tokOK_lit)).2.1 es d h

theorem srcToksXs_ok (xs : List Src) (d : Nat) (h : SrcWFXs d xs = true) : ∀ t ∈ srcToksXs xs, TokOK t :=
  (srcToks_forall (fun _ => tokOK_delim) (fun _ => Or.inl) (fun _ => tokOK_lit)).2.2 xs d h

theorem tokOK'_ph {k : Str} (hw : isWordTok k = true)
    (hc : ∀ c ∈ k, isQuote c = false ∧ c ≠ '$' ∧ c ≠ '\\') : TokOK' (.word k) := by
  obtain ⟨hne, hws, _⟩ := wordTok_chars hw
  exact ⟨hne, fun c h => ⟨(hc c h).1, (hc c h).2.1, (hc c h).2.2, hws c h⟩⟩

theorem srcToksPEs_ok : ∀ (es : SrcEntries) (d : Nat), SrcPWFEs d es = true → ∀ t ∈ srcToksPEs es, TokOK' t := by
  -- only the entry lists are new: a value that is no dict is plain, and `srcToksV_ok` knows its tokens
  refine (SrcPWF.ind (P := fun _ _ => True) (R := fun _ _ => True) (fun _ _ _ _ => trivial) (fun _ _ _ _ => trivial)
    (fun _ _ _ _ => trivial) ?_ ?_ ?_ ?_ (fun _ => trivial) (fun _ _ _ _ _ => trivial)).2.1
  · intro d t ht
    simp [srcToksPEs] at ht
  · intro d k es hp hw hc _ ih t ht
    simp only [srcToksPEs, hp, if_true, List.mem_append, List.mem_singleton] at ht
    rcases ht with rfl | ht
    · exact tokOK'_ph hw hc
    · exact ih t ht
  · intro d k key v es hp hk _ hv hwf _ ih t ht
    rw [srcToksPEs_flat hp hv] at ht
    simp only [List.mem_cons, List.mem_append] at ht
    rcases ht with rfl | ht | rfl | ht
    · exact tokOK'_of_ok (Or.inl hk)
    · exact tokOK'_of_ok (srcToksV_ok v d hwf t ht)
    · exact tokOK'_of_ok (tokOK_delim (by decide))
    · exact ih t ht
  · intro d k key dd es hp hk _ ihd ih t ht
    simp only [srcToksPEs, List.mem_cons, List.mem_append, List.not_mem_nil, or_false, or_assoc] at ht
    rcases ht with rfl | rfl | ht | rfl | ht
    · exact tokOK'_of_ok (Or.inl hk)
    · exact tokOK'_of_ok (tokOK_delim (by decide))
    · exact ihd t ht
    · exact tokOK'_of_ok (tokOK_delim (by decide))
    · exact ih t ht

theorem labelTok_delim (st : LabelSt) (t : STok) : isDelimTok (labelTok st t).2 = isDelimSTok t := by
  cases t with
  | word w => rfl
  | quoted q b => exact litPh_not_delim _

theorem gaps_bridge_aux : ∀ (ts : List STok) (gaps : List Str) (st : LabelSt), GapsOKS ts gaps = true →
    GapsOK (labelToks st ts).2 gaps = true
  | [], _, _, _ => rfl
  | [t], [], st, _ => by simp [labelToks_cons, labelToks_nil, GapsOK]
  | [t], g :: gs, st, h => by simpa [labelToks_cons, labelToks_nil, GapsOK, GapsOKS] using h
  | t :: u :: ts, [], _, h => by simp [GapsOKS] at h
  | t :: u :: ts, [g], _, h => by simp [GapsOKS] at h
  | t :: u :: ts, g :: g' :: gs, st, h => by
    simp only [GapsOKS, Bool.and_eq_true] at h
    have ih := gaps_bridge_aux (u :: ts) (g' :: gs) (labelTok st t).1 h.2
    rw [labelToks_cons] at ih
    rw [labelToks_cons, labelToks_cons]
    simp only [GapsOK, labelTok_delim, Bool.and_eq_true]
    exact ⟨h.1, ih⟩

theorem gapsOK_nogaps {t : Str} {ts : List Str} (h : GapsOK (t :: ts) [] = true) : ts = [] := by
  cases ts with
  | nil => rfl
  | cons u ts => simp [GapsOK] at h

/-- a property of all token characters and all white space holds for every character of an admissible layout -/
theorem spread_forall (P : Char → Prop) (hws : ∀ c, isWs c = true → P c) : ∀ (toks gaps : List Str) (tail : Str),
    (∀ t ∈ toks, ∀ c ∈ t, P c) → GapsOK toks gaps = true → tail.all isWs = true →
    ∀ c ∈ spread toks gaps tail, P c
  | [], _, tail, _, _, htail, c, hc => hws c (List.all_eq_true.mp htail c (by simpa [spread] using hc))
  | t :: ts, [], tail, htoks, hg, htail, c, hc => by
    have := gapsOK_nogaps hg; subst this
    simp only [spread, List.mem_append] at hc
    rcases hc with hc | hc
    · exact htoks t (by simp) c hc
    · exact hws c (List.all_eq_true.mp htail c hc)
  | t :: ts, g :: gs, tail, htoks, hg, htail, c, hc => by
    obtain ⟨hgws, hrest, _⟩ := gapsOK_cons hg
    simp only [spread, List.mem_append] at hc
    rcases hc with (hc | hc) | hc
    · exact hws c (List.all_eq_true.mp hgws c hc)
    · exact htoks t (by simp) c hc
    · exact spread_forall P hws ts gs tail (fun u hu => htoks u (by simp [hu])) hrest htail c hc

theorem labelled_no_dollar : ∀ (ts : List STok) (st : LabelSt), (∀ t ∈ ts, TokOK' t) →
    ∀ w ∈ (labelToks st ts).2, ∀ c ∈ w, c ≠ '$'
  | [], _, _, w, hw => by simp [labelToks_nil] at hw
  | t :: ts, st, hts, w, hw => by
    rw [labelToks_cons] at hw
    simp only [List.mem_cons] at hw
    rcases hw with rfl | hw
    · intro c hc
      cases t with
      | word x => exact ((hts (.word x) (by simp)).2 c hc).2.1
      | quoted q b => exact (litPh_plain _ c hc).ne (by decide)
    · exact labelled_no_dollar ts _ (fun u hu => hts u (by simp [hu])) w hw

theorem spread_snoc : ∀ (pre gaps : List Str) (t : Str), ∃ x, spread (pre ++ [t]) gaps [] = x ++ t
  | [], gaps, t => ⟨gaps.headD [], by simp [spread_cons, spread]⟩
  | p :: pre, gaps, t => by
    obtain ⟨x, hx⟩ := spread_snoc pre gaps.tail t
    exact ⟨gaps.headD [] ++ p ++ x, by simp [spread_cons, hx]⟩

namespace Main

theorem spreadS_cons (t : STok) (ts : List STok) (gaps : List Str) (tail : Str) :
    spreadS (t :: ts) gaps tail = gaps.headD [] ++ t.text ++ spreadS ts gaps.tail tail := by
  simp only [spreadS, List.map_cons, spread_cons]

theorem spreadS_nil (gaps : List Str) (tail : Str) : spreadS [] gaps tail = tail := rfl

end Main

theorem isLineBreak_nl : isLineBreak '\n' = true := by decide

theorem tokOK'_no_nl {t : STok} (ht : TokOK' t) : ∀ c ∈ t.text, c ≠ '\n' := by
  intro c hc
  cases t with
  | word w =>
    have := (ht.2 c hc).2.2.2
    rintro rfl; rw [isWs_nl] at this; cases this
  | quoted q b =>
    obtain ⟨h1, _, h3⟩ := srcQuoted_facts ht
    simp only [STok.text, List.mem_cons, List.mem_append, List.not_mem_nil, or_false, or_assoc] at hc
    rcases hc with rfl | hc | rfl
    · rintro rfl; simp [isQuote] at h1
    · rintro rfl; have := (h3 _ hc).1; rw [isLineBreak_nl] at this; cases this
    · rintro rfl; simp [isQuote] at h1

theorem map_nl_id (s : Str) (h : ∀ c ∈ s, c ≠ '\n') : (s.map fun ch => if ch == '\n' then ' ' else ch) = s := by
  induction s with
  | nil => rfl
  | cons a s ih =>
    have ha : (a == '\n') = false := by simpa using h a (by simp)
    simp only [List.map_cons, ha, Bool.false_eq_true, if_false, ih (fun c hc => h c (by simp [hc]))]

theorem spread_tail : ∀ (toks gaps : List Str) (tail : Str), spread toks gaps tail = spread toks gaps [] ++ tail
  | [], _, _ => by simp [spread]
  | t :: ts, [], tail => by simp [spread, spread_tail ts [] tail]
  | t :: ts, g :: gs, tail => by simp [spread, spread_tail ts gs tail]

theorem map_spread (f : Char → Char) : ∀ (toks gaps : List Str) (tail : Str),
    (spread toks gaps tail).map f = spread (toks.map (·.map f)) (gaps.map (·.map f)) (tail.map f)
  | [], _, _ => by simp [spread]
  | t :: ts, [], tail => by simp [spread, map_spread f ts [] tail]
  | t :: ts, g :: gs, tail => by simp [spread, map_spread f ts gs tail]

theorem nl_ws {c : Char} (h : isWs c = true) : isWs (if c == '\n' then ' ' else c) = true := by
  split
  · exact isWs_space
  · exact h

theorem nl_ws_all (g : Str) (h : g.all isWs = true) :
    (g.map fun ch => if ch == '\n' then ' ' else ch).all isWs = true := by
  simp only [List.all_eq_true, List.mem_map] at h ⊢
  rintro c ⟨x, hx, rfl⟩
  exact nl_ws (h x hx)

theorem gapsOKS_map : ∀ (ts : List STok) (gaps : List Str), GapsOKS ts gaps = true →
    GapsOKS ts (gaps.map (·.map fun ch => if ch == '\n' then ' ' else ch)) = true
  | [], _, _ => rfl
  | [t], [], _ => rfl
  | [t], g :: gs, h => by
    simp only [GapsOKS, List.map_cons] at h ⊢
    exact nl_ws_all g h
  | t :: u :: ts, [], h => by simp [GapsOKS] at h
  | t :: u :: ts, [g], h => by simp [GapsOKS] at h
  | t :: u :: ts, g :: g' :: gs, h => by
    have ih := gapsOKS_map (u :: ts) (g' :: gs)
    simp only [GapsOKS, List.map_cons, Bool.and_eq_true, Bool.or_eq_true, Bool.not_eq_true', List.isEmpty_eq_false_iff,
      ne_eq, List.map_eq_nil_iff] at h ih ⊢
    exact ⟨⟨nl_ws_all g h.1.1, h.1.2⟩, ih h.2⟩

theorem gapsOKS_head {ts : List STok} {g w : Str} {gs : List Str} (h : GapsOKS ts (g :: gs) = true)
    (hw : w.all isWs = true) : GapsOKS ts (w :: gs) = true := by
  match ts, gs, h with
  | [], _, _ => rfl
  | [t], _, _ => simpa [GapsOKS] using hw
  | t :: u :: ts, [], h => simp [GapsOKS] at h
  | t :: u :: ts, g' :: gs, h =>
    simp only [GapsOKS, Bool.and_eq_true] at h ⊢
    exact ⟨⟨hw, h.1.2⟩, h.2⟩

/-- a text that starts and ends with a non-blank character -/
def Ends (s : Str) : Prop := (∃ a x, s = a :: x ∧ isWs a = false) ∧ ∃ y b, s = y ++ [b] ∧ isWs b = false

theorem tokOK'_ends {t : STok} (ht : TokOK' t) : Ends t.text := by
  cases t with
  | word w =>
    obtain ⟨hne, hc⟩ := ht
    constructor
    · cases w with
      | nil => exact absurd rfl hne
      | cons a x => exact ⟨a, x, rfl, (hc a (by simp)).2.2.2⟩
    · refine ⟨w.dropLast, w.getLast hne, (List.dropLast_concat_getLast hne).symm, (hc _ (List.getLast_mem hne)).2.2.2⟩
  | quoted q b =>
    obtain ⟨h1, _, _⟩ := srcQuoted_facts ht
    have hq := (quote_facts h1).1
    exact ⟨⟨q, b ++ [q], rfl, hq⟩, ⟨q :: b, q, rfl, hq⟩⟩

theorem core_shape (ts : List STok) (gaps : List Str) (hts : ∀ t ∈ ts, Ends t.text) (hne : ts ≠ [])
    (hhead : gaps.headD [] = []) : Ends (spreadS ts gaps []) := by
  constructor
  · cases ts with
    | nil => exact absurd rfl hne
    | cons t ts =>
      obtain ⟨⟨a, x, e, ha⟩, _⟩ := hts t (by simp)
      exact ⟨a, x ++ spreadS ts gaps.tail [], by rw [Main.spreadS_cons, hhead, e]; rfl, ha⟩
  · have e := (List.dropLast_concat_getLast hne).symm
    obtain ⟨_, ⟨y, b, e', hb⟩⟩ := hts _ (List.getLast_mem hne)
    obtain ⟨z, hz⟩ := spread_snoc (ts.dropLast.map STok.text) gaps (ts.getLast hne).text
    refine ⟨z ++ y, b, ?_, hb⟩
    rw [List.append_assoc, ← e', ← hz]
    conv => lhs; rw [e]
    simp [spreadS]

/-- the gaps newline removal and `strip` leave: line feeds have become blanks, the leading gap is gone -/
def normGaps (gaps : List Str) : List Str :=
  match gaps.map (·.map fun ch => if ch == '\n' then ' ' else ch) with
  | [] => []
  | _ :: gs => [] :: gs

/-- newline removal and `strip` turn an admissible layout into the layout `normGaps gaps` of the same tokens, without
    tail.  Of the tokens only this is used: none holds a line feed, each starts and ends with a non-blank character. -/
theorem normalise_toks (ts : List STok) (gaps : List Str) (tail : Str) (hnl : ∀ t ∈ ts, ∀ c ∈ t.text, c ≠ '\n')
    (hts : ∀ t ∈ ts, Ends t.text) (hg : GapsOKS ts gaps = true) (ht : tail.all isWs = true) :
    GapsOKS ts (normGaps gaps) = true ∧
      strip ((spreadS ts gaps tail).map fun ch => if ch == '\n' then ' ' else ch) = spreadS ts (normGaps gaps) [] := by
  have htoks : (List.map STok.text ts).map (·.map fun ch => if ch == '\n' then ' ' else ch) =
      List.map STok.text ts := by
    rw [List.map_map]
    apply List.map_congr_left
    intro t ht'
    exact map_nl_id _ (hnl t ht')
  have hmap : (spreadS ts gaps tail).map (fun ch => if ch == '\n' then ' ' else ch) =
      spreadS ts (gaps.map (·.map fun ch => if ch == '\n' then ' ' else ch))
        (tail.map fun ch => if ch == '\n' then ' ' else ch) := by
    simp only [spreadS, map_spread, htoks]
  rw [hmap, normGaps]
  have hg' := gapsOKS_map _ _ hg
  have ht' := nl_ws_all tail ht
  generalize gaps.map (·.map fun ch => if ch == '\n' then ' ' else ch) = gm at hg' ⊢
  generalize (tail.map fun ch => if ch == '\n' then ' ' else ch) = tm at ht' ⊢
  cases ts with
  | nil =>
    refine ⟨rfl, ?_⟩
    simp only [spreadS, List.map_nil, spread]
    exact strip_ws tm ht'
  | cons t ts =>
    cases gm with
    | nil =>
      have := gapsOKS_nogaps hg'; subst this
      refine ⟨rfl, ?_⟩
      obtain ⟨⟨a, x, h1, ha⟩, y, b, h2, hb⟩ := core_shape [t] [] hts (by simp) rfl
      have e : spreadS [t] [] tm = [] ++ spreadS [t] [] [] ++ tm := by simp [spreadS, spread]
      rw [e]
      exact strip_core [] _ tm x y a b rfl ht' h1 h2 ha hb
    | cons g gs =>
      have hgws : g.all isWs = true := (Main.gapsOKS_step hg').1
      refine ⟨gapsOKS_head hg' rfl, ?_⟩
      obtain ⟨⟨a, x, h1, ha⟩, y, b, h2, hb⟩ := core_shape (t :: ts) ([] :: gs) hts (by simp) rfl
      have esplit : spreadS (t :: ts) (g :: gs) tm = g ++ spreadS (t :: ts) ([] :: gs) [] ++ tm := by
        simp only [spreadS, List.map_cons]
        rw [spread_tail]
        simp [spread]
      rw [esplit]
      exact strip_core g _ tm x y a b hgws ht' h1 h2 ha hb

/-- **1.** The literal stage on any admissible layout of admissible source tokens: the quoted strings are replaced,
    left to right, by the placeholder words `labelToks` draws, their bodies are recorded under those ids, and
    everything else (words, delimiters, white space) is copied.  Holds for every start state, every previous
    character except a backslash (see `lex_literals_needs_prev`), and every fuel not below the text length
    (in particular for `length + 1`, which is what the reader passes). -/
theorem lex_literals (ts : List STok) (gaps : List Str) (tail : Str) (hts : ∀ t ∈ ts, TokOK t)
    (hg : GapsOKS ts gaps = true) (htail : tail.all isWs = true)
    (st : LexSt) (prev : Option Char) (hp : prev ≠ some '\\') (fuel : Nat)
    (hf : (spreadS ts gaps tail).length ≤ fuel) :
    lexLiteralsFuel fuel st prev (spreadS ts gaps tail) =
      .ok ({ st with counter := (labelToks { counter := st.counter, lits := st.lits } ts).1.counter,
                     lits := (labelToks { counter := st.counter, lits := st.lits } ts).1.lits },
           spread (labelToks { counter := st.counter, lits := st.lits } ts).2 gaps tail) :=
  (lexPiece_spread ts gaps tail (fun t h => tokOK'_of_ok (hts t h)) hg htail st).whole fuel prev hf hp

/-- the hypothesis on the previous character is needed: directly after a backslash an opening quote leaves the
    fidelity domain of the model (the reader's regular expression refuses `\\'` as the start of a literal) -/
theorem lex_literals_needs_prev (st : LexSt) :
    lexLiteralsFuel 3 st (some '\\') (spreadS [.quoted '\'' []] [[]] []) = .error .unsupported := rfl

/-- **2.** without a `$` in the text the expression stage finds neither an expression nor a reference -/
theorem lex_expressions_id (st : LexSt) (s : Str) (h : ∀ c ∈ s, c ≠ '$') : lexExpressions st s = (st, s) := by
  simp [lexExpressions, findExprsFuel_nil _ s h, lexRefs_none _ st s (findRef_none s fun hm => h _ hm rfl)]

/-- **3.** The labelled token stream is the token stream of the labelled tree: labelling the flat source tokens and
    flattening the labelled tree give the same words and the same final state. -/
theorem label_toks (d : Nat) (st : LabelSt) (es : SrcEntries) (h : SrcWFEs d es = true) :
    labelToks st (srcToksEs es) = ((labelEs st es).1, toksEs (labelEs st es).2) := by
  rw [← C12.srcToksPEs_plain es d h]
  exact label_toks_all.2.1 es d (C12.srcPWF_plain es d h) st

/-- well-formedness is needed in **3**: a key that looks like a comment placeholder is flattened to a single token -/
theorem label_toks_needs_wf :
    (labelToks { counter := none } (srcToksEs [("COMMENT".toList, .lit (.bare ['x']))])).2 ≠
      toksEs (labelEs { counter := none } [("COMMENT".toList, .lit (.bare ['x']))]).2 := by decide

/-- **4.** The labelled tree is a well-formed token tree. -/
theorem labelled_wf (d : Nat) (st : LabelSt) (es : SrcEntries) (h : SrcWFEs d es = true) :
    TokWFEs (labelEs st es).2 = true := labelled_wf_all.2.1 es d (C12.srcPWF_plain es d h) st

/-- **5b.** An admissible layout of source tokens is an admissible layout of the labelled tokens (a quoted string
    becomes a word, delimiters stay delimiters).  No hypothesis on the tokens is needed. -/
theorem gaps_bridge (ts : List STok) (gaps : List Str) (st : LabelSt) (h : GapsOKS ts gaps = true) :
    GapsOK (labelToks st ts).2 gaps = true := gaps_bridge_aux ts gaps st h

end DictIO.C02

/-! ## the reader after its comment stages, as a pipeline from any lexer state

  (namespace `C12`: a lexer state other than the fresh one is what the comment stages leave) -/

namespace DictIO.C12
open DictIO

/-- the last stages of `parseNative`: `_clean`, removal of the documentation keys -/
def finishSD (es : Entries) (st : LexSt) : SD × Counter :=
  let sd : SD := { data := es, exprs := st.exprs, lineC := st.lineC, blockC := st.blockC, incl := st.incl }
  let sd := sd.clean
  ({ sd with data := dropDocKeys sd.data }, st.counter)

/-- the stages of `parseNative` between newline removal and `_clean`, from an arbitrary lexer state -/
def parseBlockSt' (st0 : LexSt) (block : Str) : Except ParseErr (Entries × LexSt) := do
  let (st, block) ← lexLiteralsFuel (block.length + 1) st0 none block
  let (st, block) := lexExpressions st block
  let es ← parseDictToks true [] (levels 0 (tokenize block)) []
  let es ← insertLiterals st.lits es
  pure (es, st)

def parseBlockSt (st0 : LexSt) (block : Str) : Except ParseErr (Entries × LexSt) :=
  parseBlockSt' st0 (strip (block.map fun ch => if ch == '\n' then ' ' else ch))

theorem stages_tail (st0 st1 : LexSt) (T : Str) (tree : Entries) (G : List Str)
    (hlex : lexLiteralsFuel (T.length + 1) st0 none T = .ok (st1, spread (toksEs tree) G []))
    (hwf : TokWFEs tree = true) (hG : GapsOK (toksEs tree) G = true)
    (hnd : ∀ w ∈ toksEs tree, ∀ c ∈ w, c ≠ '$') :
    parseBlockSt' st0 T = (insertLiterals st1.lits (denEs tree [])).map (fun r => (r, st1)) := by
  have hdollar : ∀ x ∈ spread (toksEs tree) G [], x ≠ '$' :=
    C02.spread_forall (· ≠ '$') (fun _ => C02.ws_ne_dollar) _ _ _ hnd hG rfl
  have hscan := C02.C02_layout_tolerant_tokens tree G [] hwf hG rfl
  unfold parseBlockSt'
  rw [hlex]
  simp only [bind, Except.bind, C02.lex_expressions_id _ _ hdollar, hscan]
  cases insertLiterals st1.lits (denEs tree []) <;> rfl

theorem parseRest_eq (st : LexSt) (block : Str) :
    parseRest st block = (parseBlockSt st block).map (fun r => finishSD r.1 r.2) := by
  simp only [parseRest, parseBlockSt, parseBlockSt', finishSD, bind, Except.bind, pure, Except.pure, Except.map]
  cases hl : lexLiteralsFuel _ st none (strip (List.map (fun ch => if (ch == '\n') = true then ' ' else ch) block)) with
  | error e => rfl
  | ok v =>
    simp only []
    cases parseDictToks true [] (levels 0 (tokenize (lexExpressions v.fst v.snd).snd)) [] with
    | error e => rfl
    | ok es =>
      simp only []
      cases insertLiterals (lexExpressions v.fst v.snd).fst.lits es <;> rfl

theorem parseBlock_eq_St (c : Counter) (t : Str) :
    parseBlock c t = (parseBlockSt { counter := c } t).map fun r => (r.1, r.2.counter) := by
  simp only [parseBlock, parseBlockSt, parseBlockSt', bind, Except.bind, pure, Except.pure, Except.map]
  cases lexLiteralsFuel _ _ none (strip (List.map (fun ch => if (ch == '\n') = true then ' ' else ch) t)) with
  | error e => rfl
  | ok v =>
    simp only []
    cases parseDictToks true [] (levels 0 (tokenize (lexExpressions v.fst v.snd).snd)) [] with
    | error e => rfl
    | ok es =>
      simp only []
      cases insertLiterals (lexExpressions v.fst v.snd).fst.lits es <;> rfl

/-- **the text stages, without a document**: on any admissible layout of any list of tokens the stages accept, whose
    labelled stream is the token stream of a well-formed token tree, the stages from newline removal to the scanner
    return the meaning of that tree; what remains is literal re-insertion.  Plain and labelled documents only have to
    supply `hl` and `hwf`. -/
theorem parseBlockSt_toks (st : LexSt) (ts : List STok) (L : LabelSt) (tree : Entries) (gaps : List Str) (tail : Str)
    (hok : ∀ t ∈ ts, C02.TokOK' t) (hg : GapsOKS ts gaps = true) (ht : tail.all isWs = true)
    (hl : labelToks (C02.labOf st) ts = (L, toksEs tree)) (hwf : TokWFEs tree = true) :
    parseBlockSt st (spreadS ts gaps tail) =
      (insertLiterals L.lits (denEs tree [])).map (fun r => (r, C02.withLab st L)) := by
  obtain ⟨hg', e⟩ := C02.normalise_toks ts gaps tail (fun t h => C02.tokOK'_no_nl (hok t h))
    (fun t h => C02.tokOK'_ends (hok t h)) hg ht
  unfold parseBlockSt
  rw [e]
  have hlex := (C02.lexPiece_spread ts (C02.normGaps gaps) [] hok hg' rfl st).run
  have hgl := C02.gaps_bridge_aux ts (C02.normGaps gaps) (C02.labOf st) hg'
  have hnd := C02.labelled_no_dollar ts (C02.labOf st) hok
  rw [hl] at hlex hgl hnd
  exact stages_tail _ _ _ _ (C02.normGaps gaps) hlex hwf hgl hnd

theorem parseBlockSt_labelled (st : LexSt) (es : SrcEntries) (gaps : List Str) (tail : Str)
    (h : SrcPWFEs 1 es = true) (hg : GapsOKS (srcToksPEs es) gaps = true) (ht : tail.all isWs = true) :
    parseBlockSt st (spreadS (srcToksPEs es) gaps tail) =
      (insertLiterals (labelEs (C02.labOf st) es).1.lits (denEs (labelEs (C02.labOf st) es).2 [])).map
        (fun r => (r, C02.withLab st (labelEs (C02.labOf st) es).1)) :=
  parseBlockSt_toks st _ _ _ gaps tail (C02.srcToksPEs_ok es 1 h) hg ht (C02.label_toks_all.2.1 es 1 h _)
    (C02.labelled_wf_all.2.1 es 1 h _)

end DictIO.C12

namespace DictIO.C02
open DictIO

/-- **6 = C02 (text level).** Whatever white space (blanks, tabs, line feeds, any `\\s` character) separates the tokens
    of a well-formed source document, leads it or trails it, the reader's stages after the comment/include stages
    return the documented denotation of the labelled tree with the literals re-inserted, and the counter has
    advanced by the number of quoted strings. -/
theorem parse_block_spread (c : Counter) (d : Nat) (es : SrcEntries) (gaps : List Str) (tail : Str)
    (h : SrcWFEs d es = true) (hg : GapsOKS (srcToksEs es) gaps = true) (ht : tail.all isWs = true) :
    parseBlock c (spreadS (srcToksEs es) gaps tail) =
      (insertLiterals (labelEs { counter := c } es).1.lits (denEs (labelEs { counter := c } es).2 [])).map
        (fun r => (r, (labelEs { counter := c } es).1.counter)) := by
  rw [C12.parseBlock_eq_St, C12.parseBlockSt_toks _ _ _ _ gaps tail (fun t ht => tokOK'_of_ok (srcToks_ok d es h t ht))
    hg ht (label_toks d _ es h) (labelled_wf d _ es h)]
  show Except.map _ (Except.map _
    (insertLiterals (labelEs { counter := c } es).1.lits (denEs (labelEs { counter := c } es).2 []))) = _
  cases insertLiterals (labelEs { counter := c } es).1.lits (denEs (labelEs { counter := c } es).2 []) <;> rfl

/-- two admissible layouts of the same source document are read alike -/
theorem C02_layout_independent_text (c : Counter) (d : Nat) (es : SrcEntries) (gaps₁ gaps₂ : List Str)
    (tail₁ tail₂ : Str) (h : SrcWFEs d es = true)
    (hg₁ : GapsOKS (srcToksEs es) gaps₁ = true) (ht₁ : tail₁.all isWs = true)
    (hg₂ : GapsOKS (srcToksEs es) gaps₂ = true) (ht₂ : tail₂.all isWs = true) :
    parseBlock c (spreadS (srcToksEs es) gaps₁ tail₁) = parseBlock c (spreadS (srcToksEs es) gaps₂ tail₂) := by
  rw [parse_block_spread c d es gaps₁ tail₁ h hg₁ ht₁, parse_block_spread c d es gaps₂ tail₂ h hg₂ ht₂]

/-! ### 7. a concrete instance (non-vacuity) -/

/-- `k 'a; {b}'; l ( "it's" 1 ); sub { p 'x y'; }` -/
def exSrc : SrcEntries :=
  [ (['k'], .lit (.quoted '\'' "a; {b}".toList)),
    (['l'], .list [.lit (.quoted '"' "it's".toList), .lit (.bare ['1'])]),
    ("sub".toList, .dict [(['p'], .lit (.quoted '\'' "x y".toList))]) ]

theorem exSrc_wf : SrcWFEs 1 exSrc = true := by decide +kernel

theorem exSrc_toks : srcToksEs exSrc =
    [.word ['k'], .quoted '\'' "a; {b}".toList, .word [';'], .word ['l'], .word ['('], .quoted '"' "it's".toList,
     .word ['1'], .word [')'], .word [';'], .word "sub".toList, .word ['{'], .word ['p'], .quoted '\'' "x y".toList,
     .word [';'], .word ['}']] := by
  literal_chars; decide +kernel

/-- everything glued where the grammar allows it -/
def exSGapsGlued : List Str := [[], [' '], [], [], [], [], [' '], [], [], [], [], [], [' '], [], []]

/-- tabs, CRLF, a no-break space, runs of blanks -/
def exSGapsLoose : List Str :=
  [['\t'], [' ', ' '], [' '], ['\r', '\n'], [' '], ['\t'], ['\u00a0'], [' '], [], ['\r', '\n', '\r', '\n'], ['\n'],
   ['\n', ' ', ' '], ['\t', '\t'], [], ['\n']]

theorem exSGapsGlued_ok : GapsOKS (srcToksEs exSrc) exSGapsGlued = true := by decide +kernel
theorem exSGapsLoose_ok : GapsOKS (srcToksEs exSrc) exSGapsLoose = true := by decide +kernel

theorem exSGlued_text :
    spreadS (srcToksEs exSrc) exSGapsGlued [] = "k 'a; {b}';l(\"it's\" 1);sub{p 'x y';}".toList := by
  literal_chars; decide +kernel

theorem exSLoose_text : spreadS (srcToksEs exSrc) exSGapsLoose ['\r', '\n'] =
    "\tk  'a; {b}' ;\r\nl (\t\"it's\"\u00a01 );\r\n\r\nsub\n{\n  p\t\t'x y';\n}\r\n".toList := by
  literal_chars; decide +kernel

theorem exSrc_label_st : (labelEs { counter := none } exSrc).1.counter = some 2 ∧
    (labelEs { counter := none } exSrc).1.lits = [(0, "a; {b}".toList), (1, "it's".toList), (2, "x y".toList)] := by
  literal_chars; decide +kernel

theorem exSLoose_labelled : spread (toksEs (labelEs { counter := none } exSrc).2) exSGapsLoose ['\r', '\n'] =
    "\tk  STRINGLITERAL000000 ;\r\nl (\tSTRINGLITERAL000001\u00a01 );\r\n\r\nsub\n{\n  p\t\tSTRINGLITERAL000002;\n}\r\n".toList := by
  literal_chars; decide +kernel

/-- the literal stage on the loose layout: the three strings are lifted out, the layout is kept -/
theorem ex_lex (st : LexSt) (hc : st.counter = none) (hl : st.lits = []) :
    lexLiteralsFuel 100 st none
        "\tk  'a; {b}' ;\r\nl (\t\"it's\"\u00a01 );\r\n\r\nsub\n{\n  p\t\t'x y';\n}\r\n".toList =
      .ok ({ st with counter := some 2, lits := [(0, "a; {b}".toList), (1, "it's".toList), (2, "x y".toList)] },
        "\tk  STRINGLITERAL000000 ;\r\nl (\tSTRINGLITERAL000001\u00a01 );\r\n\r\nsub\n{\n  p\t\tSTRINGLITERAL000002;\n}\r\n".toList) := by
  have h := lex_literals (srcToksEs exSrc) exSGapsLoose ['\r', '\n'] (srcToks_ok 1 exSrc exSrc_wf) exSGapsLoose_ok
    (by decide) st none (by simp) 100 (by decide +kernel)
  rw [exSLoose_text, hc, hl, label_toks 1 _ exSrc exSrc_wf, exSrc_label_st.1, exSrc_label_st.2, exSLoose_labelled] at h
  exact h

/-- the right-hand side of `parse_block_spread` for the example, evaluated once for both layouts -/
theorem exSrc_parsed :
    (insertLiterals (labelEs { counter := none } exSrc).1.lits (denEs (labelEs { counter := none } exSrc).2 [])).map
        (fun r => (r, (labelEs { counter := none } exSrc).1.counter)) =
      .ok ([ (.str ['k'], .leaf (.str "a; {b}".toList)),
             (.str ['l'], .list [.leaf (.str "it's".toList), .leaf (.int 1)]),
             (.str "sub".toList, .dict [(.str ['p'], .leaf (.str "x y".toList))]) ], some 2) := by
  apply ok_of_toOption
  literal_chars; decide +kernel

/-- from the text to the tree: quoted strings with blanks, delimiters and the other quote character come back as
    the strings they spell -/
theorem ex_parse : parseBlock none "k 'a; {b}';l(\"it's\" 1);sub{p 'x y';}".toList =
    .ok ([ (.str ['k'], .leaf (.str "a; {b}".toList)),
           (.str ['l'], .list [.leaf (.str "it's".toList), .leaf (.int 1)]),
           (.str "sub".toList, .dict [(.str ['p'], .leaf (.str "x y".toList))]) ], some 2) := by
  rw [← exSGlued_text, parse_block_spread none 1 exSrc exSGapsGlued [] exSrc_wf exSGapsGlued_ok rfl, exSrc_parsed]

/-- the same document with tabs, CRLF, a no-break space, a leading tab and a trailing CRLF -/
theorem ex_parse_loose : parseBlock none
      "\tk  'a; {b}' ;\r\nl (\t\"it's\"\u00a01 );\r\n\r\nsub\n{\n  p\t\t'x y';\n}\r\n".toList =
    .ok ([ (.str ['k'], .leaf (.str "a; {b}".toList)),
           (.str ['l'], .list [.leaf (.str "it's".toList), .leaf (.int 1)]),
           (.str "sub".toList, .dict [(.str ['p'], .leaf (.str "x y".toList))]) ], some 2) := by
  rw [← exSLoose_text, parse_block_spread none 1 exSrc exSGapsLoose _ exSrc_wf exSGapsLoose_ok (by decide),
    exSrc_parsed]

end DictIO.C02
