/-
  C03 -- Parsed output is a fixed point: re-reading a written file changes nothing.
  Proved here for the comment-free fragment: source documents in the sense of `Model/Grammar.lean` (no comments,
  includes, `$`), any admissible layout; the writer is the plain-dict writer (`fmtPlain`: `to_string` on a builtin
  dict, no header).

    (a) `norm_den`              a denotation is already normalised: `normEs (denSrcEs es []) = denSrcEs es []`
        `C03_plain_fixpoint`    read any layout ↦ `D`; write `D`, read ↦ `normEs D`; `normEs D = D`
        `C03_read_write_read`   data of read (write (read x)) = data of read x
        `C03_cycles`            for every n: n write-read cycles after the first read give the same data
        `C03_file_fixpoint`     the same through `DictReader.read` / `DictWriter.write` on files
    (b) `C03_parsed_name_*`     parsing a parsed file targets the same name (from C13name), `cpp` counterexample cited
    (c) `C03_bytes_plain`, `C03_bytes_cycles`   the plain text stabilises with the first write;
        `C03_bytes_stable_statement`            with header / comments: kept as a statement
-/
import DictIO.Props.C01

namespace DictIO.C03
open DictIO

theorem normEs_setKey (k : Key) (v : Val) : ∀ acc : Entries, normEs (setKey k v acc) = setKey k (normV v) (normEs acc) :=
  fun acc => by simp only [normEs_eq_selMap, selMap_setKey, if_true]

theorem normEs_fix_iff : ∀ {es : Entries}, normEs es = es ↔ ∀ e ∈ es, normV e.2 = e.2
  | [] => ⟨fun _ _ h => (nomatch h), fun _ => by rw [normEs]⟩
  | (k, v) :: es => by
    rw [normEs, List.cons.injEq, Prod.mk.injEq, normEs_fix_iff (es := es), List.forall_mem_cons, eq_self_iff_true, true_and]

/-- a written scalar of a well-formed document means a normalised value: a bare word has no quote, so when
    `parse_value` leaves it a string it is the word itself (`C04.C04_idem`), which `parse_value` leaves a string;
    the meaning of a quoted string is by definition `normScalar` of its body -/
theorem normScalar_den {l : Lit} (h : l.ok = true) : normScalar l.den = l.den := by
  cases l with
  | bare w =>
    have hq : ∀ c ∈ w, isQuote c = false := fun c hc =>
      ((C02.Main.srcWord_iff.mp (show isSrcWord w = true from h)).2.2.2.2.2.1 c hc).1
    show normScalar (parseValue w) = parseValue w
    cases hp : parseValue w with
    | str t =>
      have : t = w := C04.C04_idem hp hq
      subst this
      simp [normScalar, hp]
    | _ => rfl
  | quoted q b => exact C01.normScalar_idem (.str b)

mutual
  theorem norm_denV : ∀ (d : Nat) (v : Src), SrcWFV d v = true → normV (denSrcV v) = denSrcV v
    | _, .lit l, h => by
      simp only [SrcWFV, Bool.and_eq_true] at h
      simp only [denSrcV, normV, normScalar_den h.1]
    | d, .dict es, h => by
      simp only [SrcWFV] at h
      simp only [denSrcV, normV, norm_denEs (d + 1) es h [] rfl]
    | d, .list xs, h => by
      simp only [SrcWFV] at h
      simp only [denSrcV, normV, norm_denXs (d + 1) xs h]
  theorem norm_denEs : ∀ (d : Nat) (es : SrcEntries), SrcWFEs d es = true → ∀ acc : Entries, normEs acc = acc →
      normEs (denSrcEs es acc) = denSrcEs es acc
    | _, [], _, acc, ha => ha
    | d, (k, v) :: es, h, acc, ha => by
      simp only [SrcWFEs, Bool.and_eq_true] at h
      simp only [denSrcEs]
      split
      · exact norm_denEs d es h.2 _ (by rw [normEs_setKey, norm_denV d v h.1.2, ha])
      · exact norm_denEs d es h.2 _ ha
  theorem norm_denXs : ∀ (d : Nat) (xs : List Src), SrcWFXs d xs = true → normXs (denSrcXs xs) = denSrcXs xs
    | _, [], _ => rfl
    | d, v :: xs, h => by
      simp only [SrcWFXs, Bool.and_eq_true] at h
      simp only [denSrcXs, normXs, norm_denV d v h.1, norm_denXs d xs h.2]
end

/-- **the meaning of a well-formed source document is already normalised**: what the reader returns is not changed
    by the writer's `_retype_values`.  (Well-formedness is needed: the bare word `'1'`, quotes included, is read as
    the string `1`, which the writer would re-type.) -/
theorem norm_den {d : Nat} {es : SrcEntries} (h : SrcWFEs d es = true) : normEs (denSrcEs es []) = denSrcEs es [] :=
  norm_denEs d es h [] rfl

theorem den_docKeys' {es : SrcEntries} (hwf : SrcWFEs 1 es = true) (hd : C02.DocKeysAbsent es) :
    C01.DocKeysAbsent' (denSrcEs es []) := by
  obtain ⟨h1, h2⟩ := C02.den_docKeys hwf hd
  rw [lookup_eq_none_iff] at h1 h2
  intro e he
  have hk : e.1 ∈ keys (denSrcEs es []) := List.mem_map_of_mem (f := (·.1)) he
  exact ⟨fun h => h1 (h ▸ hk), fun h => h2 (h ▸ hk)⟩

/-! #### the two reads, with the counter kept valid (needed to iterate) -/

/-- reading an admissible layout of a well-formed document (C02), counter valid afterwards -/
theorem read_layout {es : SrcEntries} {gaps : List Str} {tail : Str} {c : Counter} (comments : Bool) (dir : Str)
    (hwf : SrcWFEs 1 es = true) (hg : GapsOKS (srcToksEs es) gaps = true) (ht : tail.all isWs = true)
    (hc : C13.ValidCounter Gen.counterLimit c) (hn : C02.countQuotedEs es ≤ Gen.counterLimit + 1)
    (hd : C02.DocKeysAbsent es) :
    ∃ c', C13.ValidCounter Gen.counterLimit c' ∧
      parseNative comments dir c (spreadS (srcToksEs es) gaps tail) = .ok ({ data := denSrcEs es [] }, c') := by
  have h := C02.C02_layout_tolerant_counter comments dir hwf hg ht hc hn hd
  exact ⟨_, parseNative_valid h hc, h⟩

/-- reading the writer's text of a dict of the value domain (C01 route 1), counter valid afterwards -/
theorem read_written_text {e : Entries} {c : Counter} (comments : Bool) (dir : Str)
    (h : DomC01 .native e = true) (hd : C01.DocKeysAbsent' e)
    (hn : C02.countQuotedEs (srcOfEs .native e) ≤ Gen.counterLimit + 1) (hc : C13.ValidCounter Gen.counterLimit c) :
    ∃ c', C13.ValidCounter Gen.counterLimit c' ∧
      parseNative comments dir c (fmtPlain .native e) = .ok ({ data := normEs e }, c') :=
  C01.Fl.read_written C01.written_ok C01.den_writtenLit comments dir h hd hn hc

/-! ## (a) the fixed point -/

/-- **C03, comment-free fragment.**  Let `es` be a well-formed source document (hypotheses of
    `C02.C02_layout_tolerant`) whose meaning `D = denSrcEs es []` lies in the value domain of the writer, with the
    counting side condition for the text the writer produces.  Then
      1. reading ANY admissible layout of the document gives `D`;
      2. writing `D` as a plain dict and reading that text gives `normEs D`;
      3. `normEs D = D`.
    So read (write (read x)) = read x on the data (`C03_read_write_read`). -/
theorem C03_plain_fixpoint {es : SrcEntries} {gaps : List Str} {tail : Str} {c c₂ : Counter}
    (comments : Bool) (dir : Str)
    (hwf : SrcWFEs 1 es = true) (hg : GapsOKS (srcToksEs es) gaps = true) (ht : tail.all isWs = true)
    (hc : C13.ValidCounter Gen.counterLimit c) (hn : C02.countQuotedEs es ≤ Gen.counterLimit + 1)
    (hd : C02.DocKeysAbsent es)
    (hdom : DomC01 .native (denSrcEs es []) = true)
    (hn₂ : C02.countQuotedEs (srcOfEs .native (denSrcEs es [])) ≤ Gen.counterLimit + 1)
    (hc₂ : C13.ValidCounter Gen.counterLimit c₂) :
    (∃ c', parseNative comments dir c (spreadS (srcToksEs es) gaps tail) = .ok ({ data := denSrcEs es [] }, c')) ∧
    (∃ c', parseNative comments dir c₂ (fmtPlain .native (denSrcEs es [])) =
      .ok ({ data := normEs (denSrcEs es []) }, c')) ∧
    normEs (denSrcEs es []) = denSrcEs es [] :=
  ⟨C02.C02_layout_tolerant comments dir hwf hg ht hc hn hd,
   C01.C01_roundtrip_string comments dir hdom (den_docKeys' hwf hd) hn₂ hc₂,
   norm_den hwf⟩

/-- the data part of a read -/
def readData (comments : Bool) (dir : Str) (c : Counter) (text : Str) : Except ParseErr (Entries × Counter) :=
  match parseNative comments dir c text with
  | .ok (sd, c') => .ok (sd.data, c')
  | .error e => .error e

/-- the first read, then `n` times: write the data as a plain dict, read the text written.
    Returns the data of the last read (and the counter, which runs on through all reads). -/
def cycles (comments : Bool) (dir : Str) : Nat → Counter → Str → Except ParseErr (Entries × Counter)
  | 0, c, text => readData comments dir c text
  | n + 1, c, text =>
    match readData comments dir c text with
    | .error e => .error e
    | .ok (D, c') => cycles comments dir n c' (fmtPlain .native D)

/-- the texts written by the `n` cycles (the file after cycle 1, …, n) -/
def cycleTexts (comments : Bool) (dir : Str) : Nat → Counter → Str → List Str
  | 0, _, _ => []
  | n + 1, c, text =>
    match readData comments dir c text with
    | .error _ => []
    | .ok (D, c') => fmtPlain .native D :: cycleTexts comments dir n c' (fmtPlain .native D)

/-- **read (write (read x)) = read x** on the data, for the comment-free fragment (one cycle, spelled out) -/
theorem C03_read_write_read {es : SrcEntries} {gaps : List Str} {tail : Str} {c : Counter}
    (comments : Bool) (dir : Str)
    (hwf : SrcWFEs 1 es = true) (hg : GapsOKS (srcToksEs es) gaps = true) (ht : tail.all isWs = true)
    (hc : C13.ValidCounter Gen.counterLimit c) (hn : C02.countQuotedEs es ≤ Gen.counterLimit + 1)
    (hd : C02.DocKeysAbsent es)
    (hdom : DomC01 .native (denSrcEs es []) = true)
    (hn₂ : C02.countQuotedEs (srcOfEs .native (denSrcEs es [])) ≤ Gen.counterLimit + 1) :
    ∃ D c₁ c₂, readData comments dir c (spreadS (srcToksEs es) gaps tail) = .ok (D, c₁) ∧
      readData comments dir c₁ (fmtPlain .native D) = .ok (D, c₂) := by
  obtain ⟨c₁, hv₁, h1⟩ := read_layout comments dir hwf hg ht hc hn hd
  obtain ⟨c₂, _, h2⟩ := read_written_text (c := c₁) comments dir hdom (den_docKeys' hwf hd) hn₂ hv₁
  rw [norm_den hwf] at h2
  exact ⟨denSrcEs es [], c₁, c₂, by simp only [readData, h1], by simp only [readData, h2]⟩

/-- cycles on a text the writer wrote: always the same data -/
theorem cycles_written {D : Entries} (comments : Bool) (dir : Str)
    (hdom : DomC01 .native D = true) (hnorm : normEs D = D) (hdoc : C01.DocKeysAbsent' D)
    (hcnt : C02.countQuotedEs (srcOfEs .native D) ≤ Gen.counterLimit + 1) :
    ∀ (n : Nat) (c : Counter), C13.ValidCounter Gen.counterLimit c →
      (∃ c', C13.ValidCounter Gen.counterLimit c' ∧ cycles comments dir n c (fmtPlain .native D) = .ok (D, c')) ∧
      cycleTexts comments dir n c (fmtPlain .native D) = List.replicate n (fmtPlain .native D)
  | 0, c, hc => by
    obtain ⟨c', hv, h⟩ := read_written_text (c := c) comments dir hdom hdoc hcnt hc
    rw [hnorm] at h
    exact ⟨⟨c', hv, by simp only [cycles, readData, h]⟩, rfl⟩
  | n + 1, c, hc => by
    obtain ⟨c', hv, h⟩ := read_written_text (c := c) comments dir hdom hdoc hcnt hc
    rw [hnorm] at h
    obtain ⟨ih1, ih2⟩ := cycles_written comments dir hdom hnorm hdoc hcnt n c' hv
    refine ⟨?_, ?_⟩
    · simp only [cycles, readData, h]; exact ih1
    · simp only [cycleTexts, readData, h, ih2, List.replicate_succ]

/-- **C03, for every number of cycles.**  After the first read of any admissible layout, `n` write-read cycles
    (`n ≥ 0`; the property asks for `n ≥ 1`) return the same data `D` as the first read, and never fail. -/
theorem C03_cycles {es : SrcEntries} {gaps : List Str} {tail : Str} {c : Counter}
    (comments : Bool) (dir : Str)
    (hwf : SrcWFEs 1 es = true) (hg : GapsOKS (srcToksEs es) gaps = true) (ht : tail.all isWs = true)
    (hc : C13.ValidCounter Gen.counterLimit c) (hn : C02.countQuotedEs es ≤ Gen.counterLimit + 1)
    (hd : C02.DocKeysAbsent es)
    (hdom : DomC01 .native (denSrcEs es []) = true)
    (hn₂ : C02.countQuotedEs (srcOfEs .native (denSrcEs es [])) ≤ Gen.counterLimit + 1) (n : Nat) :
    ∃ c', cycles comments dir n c (spreadS (srcToksEs es) gaps tail) = .ok (denSrcEs es [], c') := by
  obtain ⟨c₁, hv₁, h1⟩ := read_layout comments dir hwf hg ht hc hn hd
  cases n with
  | zero => exact ⟨c₁, by simp only [cycles, readData, h1]⟩
  | succ n =>
    obtain ⟨⟨c', _, h⟩, _⟩ := cycles_written comments dir hdom (norm_den hwf) (den_docKeys' hwf hd) hn₂ n c₁ hv₁
    exact ⟨c', by simp only [cycles, readData, h1]; exact h⟩

/-- `n ≥ 1` cycles give the data of the first read (the form the property is stated in) -/
theorem C03_cycles_eq_first {es : SrcEntries} {gaps : List Str} {tail : Str} {c : Counter}
    (comments : Bool) (dir : Str)
    (hwf : SrcWFEs 1 es = true) (hg : GapsOKS (srcToksEs es) gaps = true) (ht : tail.all isWs = true)
    (hc : C13.ValidCounter Gen.counterLimit c) (hn : C02.countQuotedEs es ≤ Gen.counterLimit + 1)
    (hd : C02.DocKeysAbsent es)
    (hdom : DomC01 .native (denSrcEs es []) = true)
    (hn₂ : C02.countQuotedEs (srcOfEs .native (denSrcEs es [])) ≤ Gen.counterLimit + 1) (n : Nat) (_ : 1 ≤ n) :
    ∃ D c₀ cₙ, cycles comments dir 0 c (spreadS (srcToksEs es) gaps tail) = .ok (D, c₀) ∧
      cycles comments dir n c (spreadS (srcToksEs es) gaps tail) = .ok (D, cₙ) := by
  obtain ⟨c₀, h0⟩ := C03_cycles comments dir hwf hg ht hc hn hd hdom hn₂ 0
  obtain ⟨cₙ, hn'⟩ := C03_cycles comments dir hwf hg ht hc hn hd hdom hn₂ n
  exact ⟨_, c₀, cₙ, h0, hn'⟩

/-! #### the same on files: `DictReader.read`, `DictWriter.write` -/

/-- `DictReader.read` with default options on a native file whose text parses to a plain dict `e` without
    placeholder keys: the stages above the parser change nothing -/
theorem readFile_of_parse {e : Entries} {c c' : Counter} (ev : Str → EvalResult) (p : Comps) (text : Str)
    (hparse : parseNative true (pathStr p.dropLast) c text = .ok ({ data := e }, c'))
    (hp : C07.NoPhEs e) (hn : NodupKeysV (.dict e))
    (hj : isJsonPath p = false) (hx : isXmlPath p = false) (hr : resolveSpelled p = p) :
    readFile ev [(p, .native text)] {} c p = .ok (.ok { data := e } c') :=
  C01.readFile_clean (o := {}) (by rw [hr]; exact C01.fs_get_single _ _) hx hj hparse rfl rfl (C07.clean_id _ hn hp) hn

/-- **C03 on files.**  A source file `src` holds an admissible layout of a well-formed document; `DictReader.read`
    returns its meaning `D`; `DictWriter.write(D, target)` (new file, any mode) writes the plain text of `D` — the
    writer's re-typing changes nothing (`norm_den`) —; `DictReader.read(target)` returns `D` again. -/
theorem C03_file_fixpoint {es : SrcEntries} {gaps : List Str} {tail : Str} {c : Counter}
    (ev : Str → EvalResult) (src target : Comps) (mode : Str)
    (hwf : SrcWFEs 1 es = true) (hg : GapsOKS (srcToksEs es) gaps = true) (ht : tail.all isWs = true)
    (hc : C13.ValidCounter Gen.counterLimit c) (hn : C02.countQuotedEs es ≤ Gen.counterLimit + 1)
    (hd : C02.DocKeysAbsent es)
    (hdom : DomC01 .native (denSrcEs es []) = true)
    (hn₂ : C02.countQuotedEs (srcOfEs .native (denSrcEs es [])) ≤ Gen.counterLimit + 1)
    (hsj : isJsonPath src = false) (hsx : isXmlPath src = false) (hsr : resolveSpelled src = src)
    (htj : isJsonPath target = false) (htx : isXmlPath target = false) (htr : resolveSpelled target = target) :
    ∃ c₁ c₂,
      readFile ev [(src, .native (spreadS (srcToksEs es) gaps tail))] {} c src =
        .ok (.ok { data := denSrcEs es [] } c₁) ∧
      writeStep ev .native target none mode false (denSrcEs es []) c₁ = .ok (fmtPlain .native (denSrcEs es []), c₁) ∧
      readFile ev [(target, .native (fmtPlain .native (denSrcEs es [])))] {} c₁ target =
        .ok (.ok { data := denSrcEs es [] } c₂) := by
  obtain ⟨c₁, hv₁, h1⟩ := read_layout true (pathStr src.dropLast) hwf hg ht hc hn hd
  obtain ⟨c₂, h2⟩ := C01.read_written (c := c₁) ev target hdom (norm_den hwf) (den_docKeys' hwf hd) hn₂ hv₁ htj htx htr
  refine ⟨c₁, c₂, readFile_of_parse ev src _ h1 (C02.den_noPh hwf) (C02.den_nodup es) hsj hsx hsr, ?_, h2⟩
  show Except.ok (fmtPlain .native (normEs (denSrcEs es [])), c₁) = _
  rw [norm_den hwf]

/-! ## (b) parsing a parsed file targets the same name -/

/-- `DictParser.parse(parsed.x)` without output format writes to `parsed.x` again: the target name of a target name is
    itself, for every source name -/
theorem C03_parsed_name_none (n : Str) :
    targetName (targetName n (some "parsed".toList) [] none) (some "parsed".toList) [] none
      = targetName n (some "parsed".toList) [] none :=
  C13.targetName_idem_none n

/-- the same with output format `json` / `foam` / `xml` -/
theorem C03_parsed_name_ext {o : Str} (ho : o ∈ ["json".toList, "foam".toList, "xml".toList]) (n : Str) :
    targetName (targetName n (some "parsed".toList) [] (some o)) (some "parsed".toList) [] (some o)
      = targetName n (some "parsed".toList) [] (some o) :=
  C13.targetName_idem_ext ho n

/-- with output format `cpp` (no extension is written) the name is stable exactly on `C13.cppIdemDom`: what follows
    `parsed.` has no dot or ends in one; in particular whenever the stem of the source name has no dot -/
theorem C03_parsed_name_cpp (n : Str) :
    targetName (targetName n (some "parsed".toList) [] (some "cpp".toList)) (some "parsed".toList) [] (some "cpp".toList)
      = targetName n (some "parsed".toList) [] (some "cpp".toList) ↔ C13.cppIdemDom n = true :=
  C13.targetName_idem_cpp_iff n

theorem C03_parsed_name_cpp_plain {n : Str} (h : '.' ∉ stemOf n) :
    targetName (targetName n (some "parsed".toList) [] (some "cpp".toList)) (some "parsed".toList) [] (some "cpp".toList)
      = targetName n (some "parsed".toList) [] (some "cpp".toList) :=
  (C13.targetName_idem_cpp_iff n).mpr (C13.cppIdemDom_of_plain_stem h)

/-- all output formats at once, `cpp` with its side condition -/
theorem C03_parsed_name (n : Str) {out : Option Str} (hout : out ∈ C13.outputs)
    (hcpp : out = some "cpp".toList → C13.cppIdemDom n = true) :
    targetName (targetName n (some "parsed".toList) [] out) (some "parsed".toList) [] out
      = targetName n (some "parsed".toList) [] out :=
  C13.targetName_idem_partial n hout hcpp

/-- the side condition cannot be dropped: with output `cpp`, `a.b.c` ↦ `parsed.a.b` ↦ `parsed.a` — the second parse
    writes to another file (a finding recorded with C13) -/
theorem C03_parsed_name_cpp_cex :
    targetName "a.b.c".toList (some "parsed".toList) [] (some "cpp".toList) = "parsed.a.b".toList ∧
    targetName "parsed.a.b".toList (some "parsed".toList) [] (some "cpp".toList) = "parsed.a".toList :=
  C13.targetName_idem_cex

/-! ## (c) the bytes -/

/-- plain-dict version: writing what was read from a file the plain writer wrote reproduces that file byte for
    byte — the re-typing is the identity on a normalised dict -/
theorem C03_bytes_plain {D : Entries} (h : normEs D = D) : fmtPlain .native (normEs D) = fmtPlain .native D := by
  rw [h]

/-- the texts written in cycles 1, …, n are all the same text, the plain text of `D`: the bytes are stable from the
    first write on -/
theorem C03_bytes_cycles {es : SrcEntries} {gaps : List Str} {tail : Str} {c : Counter}
    (comments : Bool) (dir : Str)
    (hwf : SrcWFEs 1 es = true) (hg : GapsOKS (srcToksEs es) gaps = true) (ht : tail.all isWs = true)
    (hc : C13.ValidCounter Gen.counterLimit c) (hn : C02.countQuotedEs es ≤ Gen.counterLimit + 1)
    (hd : C02.DocKeysAbsent es)
    (hdom : DomC01 .native (denSrcEs es []) = true)
    (hn₂ : C02.countQuotedEs (srcOfEs .native (denSrcEs es [])) ≤ Gen.counterLimit + 1) (n : Nat) :
    cycleTexts comments dir n c (spreadS (srcToksEs es) gaps tail) =
      List.replicate n (fmtPlain .native (denSrcEs es [])) := by
  obtain ⟨c₁, hv₁, h1⟩ := read_layout comments dir hwf hg ht hc hn hd
  cases n with
  | zero => rfl
  | succ n =>
    obtain ⟨_, h⟩ := cycles_written comments dir hdom (norm_den hwf) (den_docKeys' hwf hd) hn₂ n c₁ hv₁
    simp only [cycleTexts, readData, h1, h, List.replicate_succ]

/-- **C03, bytes, full statement** (kept visible; NOT proved here).  The real writer serialises the `SDict` that was
    read (`fmtSD`: default header, block / line comments and include directives re-inserted).  For a source without
    transitive includes: the text written from what was read from a file the library wrote is that file, byte for byte.

    Proved for sources whose only comment is (at most) the header the library writes: `C03_bytes_stable`
    (Props/C03bytes.lean; the comment stage of `parseNative` on that header is Props/C12hdr.lean).  For arbitrary
    comments the statement needs `insertBlockComments ∘ lexBlockComments = id` on written texts; that case is left to
    the correspondence check (harness C03: cycles on generated sources with comments, includes and expressions). -/
def C03_bytes_stable_statement : Prop :=
  ∀ (ev : Str → EvalResult) (p : Comps) (c c₁ c₂ : Counter) (sd₀ sd₁ sd₂ : SD) (t₁ t₂ : Str) (text : Str),
    isJsonPath p = false → isXmlPath p = false → resolveSpelled p = p →
    readFile ev [(p, .native text)] {} c p = .ok (.ok sd₀ c₁) → sd₀.incl = [] →
    fmtSD .native sd₀ = some t₁ →
    readFile ev [(p, .native t₁)] {} c₁ p = .ok (.ok sd₁ c₂) →
    fmtSD .native sd₁ = some t₂ →
    t₂ = t₁ ∧ (∀ c₃ c₄, readFile ev [(p, .native t₂)] {} c₃ p = .ok (.ok sd₂ c₄) → sd₂.data = sd₁.data)

/-! ## non-vacuity: the example document of `C02lex` / `C02main` -/

theorem exData_dom : DomC01 .native C02.exData = true := by decide +kernel

/-- the loose layout (tabs, CR LF, a no-break space) and three cycles: always `exData` -/
theorem ex_cycles (comments : Bool) (dir : Str) :
    ∃ c', cycles comments dir 3 none
      "\tk  'a; {b}' ;\r\nl (\t\"it's\"\u00a01 );\r\n\r\nsub\n{\n  p\t\t'x y';\n}\r\n".toList = .ok (C02.exData, c') := by
  have h := C03_cycles (c := none) (tail := ['\r', '\n']) comments dir C02.exSrc_wf C02.exSGapsLoose_ok (by decide)
    (Or.inl rfl) (by rw [C02.exSrc_count]; decide) C02.exSrc_docKeys
    (by rw [C02.exSrc_den]; exact exData_dom) (by rw [C02.exSrc_den]; decide +kernel) 3
  rwa [C02.exSLoose_text, C02.exSrc_den] at h

end DictIO.C03
