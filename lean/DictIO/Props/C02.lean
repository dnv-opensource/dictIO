/-
  C02 — layout tolerance of the native reader, at token level.

  For every well-formed token tree (`TokWFEs`), whatever white space is put between its tokens
  (`spread … gaps tail` with `GapsOK`), the pipeline   tokenize → levels → parseDictToks   yields exactly
  the tree's documented denotation `denEs`.

    A  `levels_toks` (+ `levels_toksV/Xs`)   the hierarchy annotation of a generated token stream is the nesting depth
    B  `scan_dict`, `scan_list` (from the invariants `scan_inv`), `C02_scan`
                                             the index-based scanner computes the denotation of the token tree
    C  `tokenize_spread`, `toks_all_word_or_delim`
                                             delimiter separation + white-space splitting recovers the tokens of any layout
    D  `C02_layout_tolerant_tokens`, `C02_layout_independent`
    E  `exTree…`, `ex_glued`, `ex_loose`     a concrete instance (non-vacuity)

  The inductions over token trees (`ltoks_ge`, `levels_toks_all`, `scan_inv`, `toks_word_or_delim`) go through
  `TokWF.ind`, which takes well-formedness apart once; an entry `k v` is one case whatever `v` is (`semi`).

  Only added hypothesis: `Boundary lvl prev0` in `scan_dict` (decidable, true for `prev0 = []`, which is how the
  reader calls the scanner); `scan_dict_needs_boundary` refutes the statement without it.
  `ph_word_not_denoted` shows that `TokWFEs`'s exclusion of words containing `COMMENT` / `INCLUDE` is needed.
-/
import DictIO.Model.Grammar
import DictIO.Lemmas.Induct
import DictIO.Lemmas.Literal
import DictIO.Lemmas.Except
import DictIO.Lemmas.Str

namespace DictIO.C02
open DictIO

mutual
  /-- `toksV` with every token paired with its nesting level: brackets carry the level of their
      surroundings, the tokens between them are one deeper -/
  def ltoksV (lvl : Int) : Val → List Tok
    | .leaf (.str w) => [(lvl, w)]
    | .leaf _ => []
    | .dict es => (lvl, ['{']) :: ltoksEs (lvl + 1) es ++ [(lvl, ['}'])]
    | .list xs => (lvl, ['(']) :: ltoksXs (lvl + 1) xs ++ [(lvl, [')'])]
  def ltoksEs (lvl : Int) : Entries → List Tok
    | [] => []
    | (.str k, .leaf (.str w)) :: es =>
      (if isPhTok k then [(lvl, k)] else [(lvl, k), (lvl, w), (lvl, [';'])]) ++ ltoksEs lvl es
    | (.str k, .dict d) :: es =>
      (lvl, k) :: (lvl, ['{']) :: ltoksEs (lvl + 1) d ++ [(lvl, ['}'])] ++ ltoksEs lvl es
    | (.str k, .list l) :: es =>
      (lvl, k) :: (lvl, ['(']) :: ltoksXs (lvl + 1) l ++ [(lvl, [')']), (lvl, [';'])] ++ ltoksEs lvl es
    | _ :: es => ltoksEs lvl es
  def ltoksXs (lvl : Int) : List Val → List Tok
    | [] => []
    | v :: xs => ltoksV lvl v ++ ltoksXs lvl xs
end

/-- `prev` (the tokens already passed, nearest first) ends a statement of level `lvl`: the backward scan
    from a `;` stops immediately (nothing there, or `;`, `}`, a placeholder token, or a token of another level). -/
def Boundary (lvl : Int) (prev : List Tok) : Prop := kvBefore lvl prev = []

instance (lvl : Int) (prev : List Tok) : Decidable (Boundary lvl prev) := by
  unfold Boundary; infer_instance

theorem delim_not_ws : ∀ c ∈ Gen.delimiters, isWs c = false := by decide

theorem ws_not_delim {c : Char} (h : isWs c = true) : Gen.delimiters.contains c = false := by
  cases hd : Gen.delimiters.contains c with
  | false => rfl
  | true =>
    have := delim_not_ws c (by simpa using hd)
    simp [h] at this

/-! ### word tokens are transparent for every single-character test of the scanner -/

theorem wordTok_single {c : Char} (h : isWordTok [c] = true) :
    Gen.openingBrackets.contains c = false ∧ Gen.closingBrackets.contains c = false ∧
      Gen.delimiters.contains c = false := by
  simp [isWordTok] at h
  simp [h]

theorem wordTok_not_open {c : Char} (h : isWordTok [c] = true) : Gen.openingBrackets.contains c = false :=
  (wordTok_single h).1

theorem wordTok_not_close {c : Char} (h : isWordTok [c] = true) : Gen.closingBrackets.contains c = false :=
  (wordTok_single h).2.1

theorem wordTok_ne_semi {c : Char} (h : isWordTok [c] = true) : (c == ';') = false := by
  have := (wordTok_single h).2.2
  simp [Gen.delimiters] at this
  simp [this]

theorem wordTok_ne_parens {c : Char} (h : isWordTok [c] = true) : (c == '(' || c == ')' || c == ';') = false := by
  have := (wordTok_single h).2.2
  simp [Gen.delimiters] at this
  simp [this]

theorem wordTok_ne_delimTok {w : Str} (h : isWordTok w = true) {c : Char} (hc : Gen.delimiters.contains c = true) :
    w ≠ [c] := by
  rintro rfl
  rw [(wordTok_single h).2.2] at hc
  cases hc

theorem wordTok_ne_semiTok {w : Str} (h : isWordTok w = true) : (w != [';']) = true := by
  simpa using wordTok_ne_delimTok h (c := ';') (by decide)

theorem wordTok_ne_rbraceTok {w : Str} (h : isWordTok w = true) : (w != ['}']) = true := by
  simpa using wordTok_ne_delimTok h (c := '}') (by decide)

theorem wordTok_ne_rparenTok {w : Str} (h : isWordTok w = true) : (w == [')']) = false := by
  simpa using wordTok_ne_delimTok h (c := ')') (by decide)

theorem notPh {w : Str} (h : isPhTok w = false) : isCommentTok w = false ∧ isIncludeTok w = false := by
  simpa [isPhTok] using h

theorem levels_word (lvl : Int) {w : Str} (ts : List Str) (h : isWordTok w = true) :
    levels lvl (w :: ts) = (lvl, w) :: levels lvl ts := by
  match w, h with
  | [], _ => rfl
  | [c], h => simp only [levels, wordTok_not_open h, wordTok_not_close h, Bool.false_eq_true, if_false]
  | _ :: _ :: _, _ => rfl

theorem levels_open (lvl : Int) (c : Char) (ts : List Str) (h : Gen.openingBrackets.contains c = true) :
    levels lvl ([c] :: ts) = (lvl, [c]) :: levels (lvl + 1) ts := by
  simp only [levels, h, if_true]

theorem levels_close (lvl : Int) (c : Char) (ts : List Str) (h : Gen.closingBrackets.contains c = true)
    (h' : Gen.openingBrackets.contains c = false) :
    levels (lvl + 1) ([c] :: ts) = (lvl, [c]) :: levels lvl ts := by
  simp only [levels, h, h', if_true, Bool.false_eq_true, if_false, Int.add_sub_cancel]

theorem levels_semi (lvl : Int) (ts : List Str) : levels lvl ([';'] :: ts) = (lvl, [';']) :: levels lvl ts := by
  have h1 : Gen.openingBrackets.contains ';' = false := by decide
  have h2 : Gen.closingBrackets.contains ';' = false := by decide
  simp only [levels, h1, h2, Bool.false_eq_true, if_false]

/-! ### scanner steps of `parseDictToks` -/

theorem pd_word (top : Bool) (prev : List Tok) (l : Int) (w : Str) (rest : List Tok) (acc : Entries)
    (hw : isWordTok w = true) (hp : isPhTok w = false) :
    parseDictToks top prev ((l, w) :: rest) acc = parseDictToks top ((l, w) :: prev) rest acc := by
  conv => lhs; rw [parseDictToks.eq_def]
  simp only [isPhTok] at hp
  simp only []
  split
  · simp only [wordTok_not_open hw, wordTok_ne_semi hw, hp, Bool.false_eq_true, if_false]
  · simp [hp]

theorem pd_ph (top : Bool) (prev : List Tok) (l : Int) (w : Str) (rest : List Tok) (acc : Entries)
    (hw : isWordTok w = true) (hp : isPhTok w = true) :
    parseDictToks top prev ((l, w) :: rest) acc =
      parseDictToks top ((l, w) :: prev) rest (setKey (.str w) (.leaf (.str w)) acc) := by
  conv => lhs; rw [parseDictToks.eq_def]
  simp only [isPhTok] at hp
  simp only []
  split
  · simp only [wordTok_not_open hw, wordTok_ne_semi hw, hp, Bool.false_eq_true, if_false, if_true]
  · simp [hp]

theorem pd_semi_rparen (top : Bool) (p : Tok) (prev : List Tok) (l : Int) (rest : List Tok) (acc : Entries)
    (hp : p.2 = [')']) :
    parseDictToks top (p :: prev) ((l, [';']) :: rest) acc = parseDictToks top ((l, [';']) :: p :: prev) rest acc := by
  conv => lhs; rw [parseDictToks.eq_def]
  simp only [hp]
  simp [Gen.openingBrackets]

theorem pd_semi_kv (top : Bool) (p : Tok) (prev : List Tok) (l : Int) (rest : List Tok) (acc : Entries)
    (v ktxt : Str) (key : Key)
    (hp : (p.2 == [')']) = false) (hkv : kvBefore l (p :: prev) = [v, ktxt])
    (hkey : keyOfScalar (parseKey ktxt) = some key) :
    parseDictToks top (p :: prev) ((l, [';']) :: rest) acc =
      parseDictToks top ((l, [';']) :: p :: prev) rest (setKey key (.leaf (parseValue v)) acc) := by
  conv => lhs; rw [parseDictToks.eq_def]
  simp only [hp, hkv, hkey]
  simp [Gen.openingBrackets]

theorem splitGroup_skip (cl : Str) (lvl : Int) (body after : List Tok) (h : ∀ t ∈ body, t.1 ≠ lvl) :
    splitGroup cl lvl (body ++ (lvl, cl) :: after) = some (body, after) := by
  induction body with
  | nil => simp [splitGroup]
  | cons t body ih =>
    have h1 : t.1 ≠ lvl := h t (by simp)
    have := ih (fun t ht => h t (by simp [ht]))
    simp [splitGroup, h1, this]

theorem pd_brace (top : Bool) (prev : List Tok) (l : Int) (rest inside after : List Tok) (acc : Entries)
    (k : Str) (key : Key) (d : Entries)
    (hk : keyBefore prev = some k) (hs : splitGroup ['}'] l rest = some (inside, after))
    (hkey : keyOfScalar (parseKey k) = some key)
    (hd : parseDictToks false [] inside [] = .ok d) :
    parseDictToks top prev ((l, ['{']) :: rest) acc =
      parseDictToks top ((l, ['}']) :: (inside.reverse ++ (l, ['{']) :: prev)) after (setKey key (.dict d) acc) := by
  conv => lhs; rw [parseDictToks.eq_def]
  have hc : companion '{' = some '}' := by decide
  have ho : Gen.openingBrackets.contains '{' = true := by decide
  simp only [ho, hk, hc, if_true]
  split
  · rename_i heq; rw [hs] at heq; cases heq
  · rename_i inside' after' heq
    rw [hs] at heq; cases heq
    simp [hkey, hd]

/-- `k ( body ) …` with at least one token after `)`, so that the look-ahead guard does not fire -/
theorem pd_paren (top : Bool) (prev : List Tok) (l : Int) (rest inside : List Tok) (a : Tok) (after : List Tok)
    (acc : Entries) (k : Str) (key : Key) (xs : List Val)
    (hk : keyBefore prev = some k) (hs : splitGroup [')'] l rest = some (inside, a :: after))
    (hkey : keyOfScalar (parseKey k) = some key)
    (hd : parseListToks (l + 1) inside [] = .ok xs) :
    parseDictToks top prev ((l, ['(']) :: rest) acc =
      parseDictToks top ((l, [')']) :: (inside.reverse ++ (l, ['(']) :: prev)) (a :: after)
        (setKey key (.list xs) acc) := by
  conv => lhs; rw [parseDictToks.eq_def]
  have hc : companion '(' = some ')' := by decide
  have ho : Gen.openingBrackets.contains '(' = true := by decide
  simp only [ho, hk, hc, if_true]
  split
  · rename_i heq; rw [hs] at heq; cases heq
  · rename_i inside' after' heq
    rw [hs] at heq; cases heq
    simp only [hkey]
    cases inside with
    | nil =>
      rw [parseListToks.eq_def] at hd
      simp at hd; subst hd; simp
    | cons i is => simp [hd]

/-! ### scanner steps of `parseListToks` -/

theorem pl_word (lvl l : Int) (w : Str) (rest : List Tok) (acc : List Val) (hw : isWordTok w = true) :
    parseListToks lvl ((l, w) :: rest) acc = parseListToks lvl rest (acc ++ [.leaf (parseValue w)]) := by
  conv => lhs; rw [parseListToks.eq_def]
  simp only []
  split
  · simp only [wordTok_not_open hw, wordTok_ne_parens hw, Bool.false_eq_true, if_false]
  · rfl

theorem pl_brace (lvl l : Int) (rest inside after : List Tok) (acc : List Val) (d : Entries)
    (hs : splitGroup ['}'] l rest = some (inside, after))
    (hd : parseDictToks false [] inside [] = .ok d) :
    parseListToks lvl ((l, ['{']) :: rest) acc = parseListToks lvl after (acc ++ [.dict d]) := by
  conv => lhs; rw [parseListToks.eq_def]
  have hc : companion '{' = some '}' := by decide
  have ho : Gen.openingBrackets.contains '{' = true := by decide
  simp only [ho, hc, if_true]
  split
  · rename_i heq; rw [hs] at heq; cases heq
  · rename_i inside' after' heq
    rw [hs] at heq; cases heq
    simp [hd]

theorem pl_paren (lvl l : Int) (rest inside after : List Tok) (acc : List Val) (xs : List Val)
    (hs : splitGroup [')'] l rest = some (inside, after))
    (hd : parseListToks (l + 1) inside [] = .ok xs) :
    parseListToks lvl ((l, ['(']) :: rest) acc = parseListToks lvl after (acc ++ [.list xs]) := by
  conv => lhs; rw [parseListToks.eq_def]
  have hc : companion '(' = some ')' := by decide
  have ho : Gen.openingBrackets.contains '(' = true := by decide
  simp only [ho, hc, if_true]
  split
  · rename_i heq; rw [hs] at heq; cases heq
  · rename_i inside' after' heq
    rw [hs] at heq; cases heq
    cases inside with
    | nil =>
      rw [parseListToks.eq_def] at hd
      simp at hd; subst hd; simp
    | cons i is => simp [hd]

/-- the `;` after the value of an entry: none after a sub-dict.  With it `toksEs`, `ltoksEs` and `levels` have one
    equation for an entry `k v` whatever `v` is; only the scanner tells the three kinds of value apart. -/
def semi : Val → List Str
  | .dict _ => []
  | _ => [[';']]

theorem semi_delim (v : Val) : ∀ t ∈ semi v, isDelimTok t = true := by
  intro t ht
  cases v with
  | dict _ => simp only [semi, List.not_mem_nil] at ht
  | _ =>
    simp only [semi, List.mem_singleton] at ht
    subst ht
    rfl

theorem levels_semi' (lvl : Int) (v : Val) (ts : List Str) :
    levels lvl (semi v ++ ts) = (semi v).map (lvl, ·) ++ levels lvl ts := by
  cases v <;> simp only [semi, List.nil_append, List.map, List.cons_append, levels_semi]

theorem toksEs_ph {k : Str} (hp : isPhTok k = true) (w : Str) (es : Entries) :
    toksEs ((.str k, .leaf (.str w)) :: es) = k :: toksEs es := by
  simp only [toksEs, hp, if_true, List.singleton_append]

theorem toksEs_entry {k : Str} (hp : isPhTok k = false) {v : Val} (hv : TokWFV v = true) (es : Entries) :
    toksEs ((.str k, v) :: es) = k :: (toksV v ++ (semi v ++ toksEs es)) := by
  match v, hv with
  | .leaf (.str w), _ =>
    simp only [toksEs, hp, Bool.false_eq_true, if_false, toksV, semi, List.cons_append, List.nil_append]
  | .dict d, _ => simp only [toksEs, toksV, semi, List.cons_append, List.nil_append, List.append_assoc]
  | .list l, _ => simp only [toksEs, toksV, semi, List.cons_append, List.nil_append, List.append_assoc]

theorem ltoksEs_ph (lvl : Int) {k : Str} (hp : isPhTok k = true) (w : Str) (es : Entries) :
    ltoksEs lvl ((.str k, .leaf (.str w)) :: es) = (lvl, k) :: ltoksEs lvl es := by
  simp only [ltoksEs, hp, if_true, List.singleton_append]

theorem ltoksEs_entry (lvl : Int) {k : Str} (hp : isPhTok k = false) {v : Val} (hv : TokWFV v = true) (es : Entries) :
    ltoksEs lvl ((.str k, v) :: es) = (lvl, k) :: (ltoksV lvl v ++ ((semi v).map (lvl, ·) ++ ltoksEs lvl es)) := by
  match v, hv with
  | .leaf (.str w), _ =>
    simp only [ltoksEs, hp, Bool.false_eq_true, if_false, ltoksV, semi, List.cons_append, List.nil_append, List.map]
  | .dict d, _ => simp only [ltoksEs, ltoksV, semi, List.cons_append, List.nil_append, List.append_assoc, List.map]
  | .list l, _ => simp only [ltoksEs, ltoksV, semi, List.cons_append, List.nil_append, List.append_assoc, List.map]

/-- Induction over well-formed token trees.  `TokWFV/Es/Xs` is taken apart and the shapes it excludes (integer keys,
    leaves that are not strings) are refuted here, once.  An entry is a placeholder `k ↦ k` or a pair `k v` with a
    well-formed `v` of any kind (`toksEs_entry`, `ltoksEs_entry` say what its tokens are). -/
theorem TokWF.ind {P : Val → Prop} {Q : Entries → Prop} {R : List Val → Prop}
    (word : ∀ w, isWordTok w = true → isPhTok w = false → P (.leaf (.str w)))
    (dict : ∀ es, Q es → P (.dict es)) (list : ∀ xs, R xs → P (.list xs))
    (nilE : Q [])
    (ph : ∀ k es, isPhTok k = true → isWordTok k = true → Q es → Q ((.str k, .leaf (.str k)) :: es))
    (entry : ∀ k key v es, isPhTok k = false → isWordTok k = true → keyOfScalar (parseKey k) = some key →
      TokWFV v = true → P v → Q es → Q ((.str k, v) :: es))
    (nilX : R []) (consX : ∀ v xs, TokWFV v = true → P v → R xs → R (v :: xs)) :
    (∀ v, TokWFV v = true → P v) ∧ (∀ es, TokWFEs es = true → Q es) ∧
      (∀ xs, TokWFXs xs = true → R xs) := by
  refine Val.ind_all (P := fun v => TokWFV v = true → P v) (Q := fun es => TokWFEs es = true → Q es)
    (R := fun xs => TokWFXs xs = true → R xs) ?_ (fun es ih h => dict es (ih (by simpa only [TokWFV] using h)))
    (fun xs ih h => list xs (ih (by simpa only [TokWFV] using h))) (fun _ => nilE) ?_ (fun _ => nilX) ?_
  · intro x h
    cases x with
    | str w =>
      simp only [TokWFV, Bool.and_eq_true, Bool.not_eq_true'] at h
      exact word w h.1 h.2
    | _ => simp [TokWFV] at h
  · intro k v es ihv ih h
    match k, v, h, ihv with
    | .int _, _, h, _ => simp [TokWFEs] at h
    | .str k, .leaf (.str w), h, ihv =>
      simp only [TokWFEs, Bool.and_eq_true] at h
      by_cases hp : isPhTok k = true
      · simp only [hp, if_true, Bool.and_eq_true, beq_iff_eq] at h
        obtain ⟨⟨hk, rfl⟩, hes⟩ := h
        exact ph w es hp hk (ih hes)
      · have hp' : isPhTok k = false := by simpa using hp
        simp only [hp', Bool.false_eq_true, if_false, Bool.and_eq_true, Option.isSome_iff_exists] at h
        obtain ⟨⟨⟨⟨hk, key, hkey⟩, hw⟩, hwp⟩, hes⟩ := h
        have hv : TokWFV (.leaf (.str w)) = true := by simp only [TokWFV, hw, hwp, Bool.and_self]
        exact entry k key _ es hp' hk hkey hv (ihv hv) (ih hes)
    | .str k, .leaf (.int _), h, _ | .str k, .leaf (.float _), h, _ | .str k, .leaf (.bool _), h, _
    | .str k, .leaf .none, h, _ => simp [TokWFEs, TokWFV] at h
    | .str k, .dict _, h, ihv | .str k, .list _, h, ihv =>
      simp only [TokWFEs, Bool.and_eq_true, Bool.not_eq_true', Option.isSome_iff_exists] at h
      obtain ⟨⟨⟨⟨hk, hp⟩, key, hkey⟩, hv⟩, hes⟩ := h
      exact entry k key _ es hp hk hkey hv (ihv hv) (ih hes)
  · intro v xs ihv ih h
    simp only [TokWFXs, Bool.and_eq_true] at h
    exact consX v xs h.1 (ihv h.1) (ih h.2)

theorem ltoks_ge :
    (∀ v, TokWFV v = true → ∀ l, ∀ t ∈ ltoksV l v, l ≤ t.1) ∧
    (∀ es, TokWFEs es = true → ∀ l, ∀ t ∈ ltoksEs l es, l ≤ t.1) ∧
    (∀ xs, TokWFXs xs = true → ∀ l, ∀ t ∈ ltoksXs l xs, l ≤ t.1) := by
  refine TokWF.ind ?_ ?_ ?_ ?_ ?_ ?_ ?_ ?_
  · intro w _ _ l t ht
    simp only [ltoksV, List.mem_singleton] at ht
    subst ht
    exact Int.le_refl _
  · intro es ih l t ht
    simp only [ltoksV, List.mem_cons, List.mem_append, List.not_mem_nil, or_false, or_assoc] at ht
    rcases ht with rfl | ht | rfl
    · exact Int.le_refl _
    · have := ih (l + 1) t ht
      omega
    · exact Int.le_refl _
  · intro xs ih l t ht
    simp only [ltoksV, List.mem_cons, List.mem_append, List.not_mem_nil, or_false, or_assoc] at ht
    rcases ht with rfl | ht | rfl
    · exact Int.le_refl _
    · have := ih (l + 1) t ht
      omega
    · exact Int.le_refl _
  · intro l t ht
    simp [ltoksEs] at ht
  · intro k es hp _ ih l t ht
    rw [ltoksEs_ph l hp, List.mem_cons] at ht
    rcases ht with rfl | ht
    · exact Int.le_refl _
    · exact ih l t ht
  · intro k key v es hp _ _ hv ihv ih l t ht
    rw [ltoksEs_entry l hp hv] at ht
    simp only [List.mem_cons, List.mem_append, List.mem_map] at ht
    rcases ht with rfl | ht | ⟨_, _, rfl⟩ | ht
    · exact Int.le_refl _
    · exact ihv l t ht
    · exact Int.le_refl _
    · exact ih l t ht
  · intro l t ht
    simp [ltoksXs] at ht
  · intro v xs _ ihv ih l t ht
    simp only [ltoksXs, List.mem_append] at ht
    exact ht.elim (ihv l t) (ih l t)

theorem boundary_nil (lvl : Int) : Boundary lvl [] := rfl

theorem boundary_semi (lvl : Int) (prev : List Tok) : Boundary lvl ((lvl, [';']) :: prev) := by
  simp [Boundary, kvBefore]

theorem boundary_rbrace (lvl : Int) (prev : List Tok) : Boundary lvl ((lvl, ['}']) :: prev) := by
  simp [Boundary, kvBefore]

theorem boundary_ph (lvl : Int) (k : Str) (prev : List Tok) (h : isPhTok k = true) :
    Boundary lvl ((lvl, k) :: prev) := by
  simp only [isPhTok, Bool.or_eq_true] at h
  rcases h with h | h <;> simp [Boundary, kvBefore, h]

theorem kvBefore_word (lvl : Int) (w : Str) (prev : List Tok) (hw : isWordTok w = true) (hp : isPhTok w = false) :
    kvBefore lvl ((lvl, w) :: prev) = w :: kvBefore lvl prev := by
  simp [kvBefore, wordTok_ne_semiTok hw, wordTok_ne_rbraceTok hw, (notPh hp).1, (notPh hp).2]

theorem keyBefore_word (lvl : Int) (k : Str) (prev : List Tok) (hp : isPhTok k = false) :
    keyBefore ((lvl, k) :: prev) = some k := by
  simp [keyBefore, (notPh hp).1]

theorem pd_nil (top : Bool) (prev : List Tok) (acc : Entries) : parseDictToks top prev [] acc = .ok acc := by
  rw [parseDictToks.eq_def]

theorem pl_nil (lvl : Int) (acc : List Val) : parseListToks lvl [] acc = .ok acc := by
  rw [parseListToks.eq_def]

/-! ### the tokenizer on white space, words and delimiters -/

/-- `_separate_delimiters`: every delimiter character gets a blank on both sides -/
def sepD (s : Str) : Str := s.flatMap fun c => if Gen.delimiters.contains c then [' ', c, ' '] else [c]

theorem tokenize_eq (s : Str) : tokenize s = tokenize.go [] (sepD s) := rfl

/-- emit the pending word, if any -/
def flush (cur : Str) (l : List Str) : List Str := if cur.isEmpty then l else cur.reverse :: l

theorem flush_nil (l : List Str) : flush [] l = l := rfl

theorem sepD_append (a b : Str) : sepD (a ++ b) = sepD a ++ sepD b := by
  simp [sepD, List.flatMap_append]

theorem sepD_plain (w : Str) (hw : ∀ c ∈ w, Gen.delimiters.contains c = false) : sepD w = w := by
  induction w with
  | nil => rfl
  | cons a w ih =>
    have ha : Gen.delimiters.contains a = false := hw a (by simp)
    have := ih (fun c hc => hw c (by simp [hc]))
    simp only [sepD, List.flatMap_cons, ha, Bool.false_eq_true, if_false, List.singleton_append] at this ⊢
    rw [this]

theorem sepD_ws (s : Str) (h : s.all isWs = true) : sepD s = s :=
  sepD_plain s fun c hc => ws_not_delim (List.all_eq_true.mp h c hc)

theorem go_nil (cur : Str) : tokenize.go cur [] = flush cur [] := by
  simp [tokenize.go, flush]

theorem go_ws (s rest cur : Str) (h : s.all isWs = true) (hne : cur = [] ∨ s ≠ []) :
    tokenize.go cur (s ++ rest) = flush cur (tokenize.go [] rest) := by
  induction s generalizing cur with
  | nil =>
    rcases hne with rfl | h'
    · rfl
    · exact absurd rfl h'
  | cons a s ih =>
    simp only [List.all_cons, Bool.and_eq_true] at h
    have key : tokenize.go [] (s ++ rest) = tokenize.go [] rest := by
      simpa [flush] using ih [] h.2 (Or.inl rfl)
    cases cur with
    | nil => simp [tokenize.go, h.1, flush, key]
    | cons c cur => simp [tokenize.go, h.1, flush, key]

theorem go_word (w rest cur : Str) (hw : ∀ c ∈ w, isWs c = false) :
    tokenize.go cur (w ++ rest) = tokenize.go (w.reverse ++ cur) rest := by
  induction w generalizing cur with
  | nil => rfl
  | cons a w ih =>
    have ha : isWs a = false := hw a (by simp)
    simp [tokenize.go, ha, ih _ (fun c hc => hw c (by simp [hc]))]

theorem wordTok_chars {w : Str} (h : isWordTok w = true) :
    w ≠ [] ∧ (∀ c ∈ w, isWs c = false) ∧ (∀ c ∈ w, Gen.delimiters.contains c = false) := by
  simp only [isWordTok, Bool.and_eq_true, Bool.not_eq_true', List.all_eq_true] at h
  refine ⟨by simpa using h.1.1, fun c hc => (h.1.2 c hc).1, fun c hc => (h.1.2 c hc).2⟩

theorem wordTok_not_delimTok {w : Str} (h : isWordTok w = true) : isDelimTok w = false := by
  match w, h with
  | [], _ => rfl
  | [c], h => simpa [isDelimTok] using (wordTok_single h).2.2
  | _ :: _ :: _, _ => rfl

theorem go_tok_delim (g : Str) (c : Char) (rest cur : Str) (hg : g.all isWs = true)
    (hc : Gen.delimiters.contains c = true) :
    tokenize.go cur (g ++ sepD [c] ++ rest) = flush cur ([c] :: tokenize.go [] rest) := by
  have hcw : isWs c = false := delim_not_ws c (by simpa using hc)
  have e : g ++ sepD [c] ++ rest = (g ++ [' ']) ++ (c :: ' ' :: rest) := by
    simp only [sepD, List.flatMap_cons, List.flatMap_nil, hc, if_true, List.append_assoc, List.cons_append,
      List.nil_append, List.append_nil]
  rw [e, go_ws (g ++ [' ']) _ cur (by simp [hg, isWs_space]) (Or.inr (by simp))]
  simp [tokenize.go, hcw, isWs_space]

/-- a word token after white space (which may be missing only when no word is pending) -/
theorem go_tok_word (g w rest cur : Str) (hg : g.all isWs = true) (hw : isWordTok w = true)
    (hne : cur = [] ∨ g ≠ []) :
    tokenize.go cur (g ++ sepD w ++ rest) = flush cur (tokenize.go w.reverse rest) := by
  obtain ⟨_, h1, h2⟩ := wordTok_chars hw
  rw [sepD_plain w h2, List.append_assoc, go_ws g _ cur hg hne, go_word w rest [] h1]
  simp

/-- what `GapsOK` says about the gap in front of the first token, given what precedes it -/
def SepHead : List Str → List Str → Prop
  | t :: _, g :: _ => isDelimTok t = true ∨ g ≠ []
  | _, _ => True

theorem gapsOK_cons {t : Str} {ts : List Str} {g : Str} {gs : List Str}
    (h : GapsOK (t :: ts) (g :: gs) = true) :
    g.all isWs = true ∧ GapsOK ts gs = true ∧ (isDelimTok t = false → SepHead ts gs) := by
  match ts, gs, h with
  | [], _, h => exact ⟨by simpa [GapsOK] using h, rfl, fun _ => trivial⟩
  | u :: ts, [], h => simp [GapsOK] at h
  | u :: ts, g' :: gs, h =>
    simp only [GapsOK, Bool.and_eq_true, Bool.or_eq_true, Bool.not_eq_true', List.isEmpty_eq_false_iff] at h
    refine ⟨h.1.1, h.2, fun ht => ?_⟩
    rcases h.1.2 with (h' | h') | h'
    · simp [ht] at h'
    · exact Or.inl h'
    · exact Or.inr h'

theorem go_spread : ∀ (toks gaps : List Str) (tail cur : Str),
    (∀ t ∈ toks, isWordTok t = true ∨ isDelimTok t = true) → toks.length ≤ gaps.length →
    GapsOK toks gaps = true → tail.all isWs = true → (cur = [] ∨ SepHead toks gaps) →
    tokenize.go cur (sepD (spread toks gaps tail)) = flush cur toks
  | [], gaps, tail, cur, _, _, _, htail, _ => by
    simp only [spread, sepD_ws tail htail]
    cases tail with
    | nil => exact go_nil cur
    | cons a tl => simpa [go_nil, flush] using go_ws (a :: tl) [] cur htail (Or.inr (by simp))
  | t :: ts, [], _, _, _, hlen, _, _, _ => by simp at hlen
  | t :: ts, g :: gs, tail, cur, htoks, hlen, hg, htail, hcur => by
    have hlen' : ts.length ≤ gs.length := by simpa using hlen
    obtain ⟨hgws, hrest, hsep⟩ := gapsOK_cons hg
    have htoks' : ∀ t ∈ ts, isWordTok t = true ∨ isDelimTok t = true := fun u hu => htoks u (by simp [hu])
    simp only [spread, sepD_append, sepD_ws g hgws]
    cases hd : isDelimTok t with
    | true =>
      obtain ⟨c, rfl, hc⟩ : ∃ c, t = [c] ∧ Gen.delimiters.contains c = true := by
        match t, hd with
        | [c], hd => exact ⟨c, rfl, by simpa [isDelimTok] using hd⟩
      rw [go_tok_delim g c _ cur hgws hc, go_spread ts gs tail [] htoks' hlen' hrest htail (Or.inl rfl)]
      rfl
    | false =>
      have hw : isWordTok t = true := by
        rcases htoks t (by simp) with h | h
        · exact h
        · simp [hd] at h
      have hne : cur = [] ∨ g ≠ [] := by
        rcases hcur with h | h
        · exact Or.inl h
        · rcases h with h | h
          · simp [hd] at h
          · exact Or.inr h
      rw [go_tok_word g t _ cur hgws hw hne,
        go_spread ts gs tail t.reverse htoks' hlen' hrest htail (Or.inr (hsep hd))]
      have : t.reverse.isEmpty = false := by simpa using (wordTok_chars hw).1
      simp [flush, this]

theorem gapsOK_len : ∀ (toks gaps : List Str), GapsOK toks gaps = true →
    toks.length ≤ gaps.length ∨ ∃ t, toks = [t] ∧ gaps = []
  | [], _, _ => Or.inl (by simp)
  | [t], [], _ => Or.inr ⟨t, rfl, rfl⟩
  | [t], g :: gs, _ => Or.inl (by simp)
  | t :: u :: ts, [], h => by simp [GapsOK] at h
  | t :: u :: ts, [g], h => by simp [GapsOK] at h
  | t :: u :: ts, g :: g' :: gs, h => by
    simp only [GapsOK, Bool.and_eq_true] at h
    rcases gapsOK_len (u :: ts) (g' :: gs) h.2 with h' | ⟨_, _, h'⟩
    · left; simpa using h'
    · cases h'

theorem delimTok_facts : isDelimTok ['{'] = true ∧ isDelimTok ['}'] = true ∧ isDelimTok ['('] = true ∧
    isDelimTok [')'] = true ∧ isDelimTok [';'] = true := by decide

/-! ### A. levels -/

theorem levels_toks_all :
    (∀ v, TokWFV v = true → ∀ lvl rest,
      levels lvl (toksV v ++ rest) = ltoksV lvl v ++ levels lvl rest) ∧
    (∀ es, TokWFEs es = true → ∀ lvl rest,
      levels lvl (toksEs es ++ rest) = ltoksEs lvl es ++ levels lvl rest) ∧
    (∀ xs, TokWFXs xs = true → ∀ lvl rest,
      levels lvl (toksXs xs ++ rest) = ltoksXs lvl xs ++ levels lvl rest) := by
  refine TokWF.ind ?_ ?_ ?_ ?_ ?_ ?_ ?_ ?_
  · intro w hw _ lvl rest
    exact levels_word lvl rest hw
  · intro es ih lvl rest
    simp only [toksV, ltoksV, List.cons_append, List.append_assoc, List.nil_append]
    rw [levels_open lvl '{' _ (by decide), ih, levels_close lvl '}' _ (by decide) (by decide)]
  · intro xs ih lvl rest
    simp only [toksV, ltoksV, List.cons_append, List.append_assoc, List.nil_append]
    rw [levels_open lvl '(' _ (by decide), ih, levels_close lvl ')' _ (by decide) (by decide)]
  · intro lvl rest
    simp only [toksEs, ltoksEs, List.nil_append]
  · intro k es hp hk ih lvl rest
    rw [toksEs_ph hp, ltoksEs_ph lvl hp, List.cons_append, levels_word lvl _ hk, ih, List.cons_append]
  · intro k key v es hp hk _ hv ihv ih lvl rest
    rw [toksEs_entry hp hv, ltoksEs_entry lvl hp hv]
    simp only [List.cons_append, List.append_assoc]
    rw [levels_word lvl _ hk, ihv, levels_semi', ih]
  · intro lvl rest
    simp only [toksXs, ltoksXs, List.nil_append]
  · intro v xs _ ihv ih lvl rest
    simp only [toksXs, ltoksXs, List.append_assoc]
    rw [ihv, ih]

theorem levels_toksV : ∀ (v : Val) (lvl : Int) (rest : List Str), TokWFV v = true →
    levels lvl (toksV v ++ rest) = ltoksV lvl v ++ levels lvl rest :=
  fun v lvl rest h => levels_toks_all.1 v h lvl rest

theorem levels_toksXs : ∀ (xs : List Val) (lvl : Int) (rest : List Str), TokWFXs xs = true →
    levels lvl (toksXs xs ++ rest) = ltoksXs lvl xs ++ levels lvl rest :=
  fun xs lvl rest h => levels_toks_all.2.2 xs h lvl rest

/-- **A.** the level annotation of a generated token stream is the nesting depth -/
theorem levels_toks (es : Entries) (lvl : Int) (rest : List Str) (h : TokWFEs es = true) :
    levels lvl (toksEs es ++ rest) = ltoksEs lvl es ++ levels lvl rest := levels_toks_all.2.1 es h lvl rest

theorem levels_toks_nil (es : Entries) (lvl : Int) (h : TokWFEs es = true) :
    levels lvl (toksEs es) = ltoksEs lvl es := by
  simpa [levels] using levels_toks es lvl [] h

/-! ### B. the scanner computes the denotation -/

theorem denEs_cons {k : Str} {key : Key} (hph : isPhTok k = false) (hk : keyOfScalar (parseKey k) = some key)
    (v : Val) (es acc : Entries) : denEs ((.str k, v) :: es) acc = denEs es (setKey key (denV v) acc) := by
  cases v with
  | leaf x =>
    cases x <;> simp [denEs, denV, hph, hk]
  | dict d => simp [denEs, denV, hk]
  | list l => simp [denEs, denV, hk]

theorem denEs_cons_ph {k : Str} (hp : isPhTok k = true) (w : Str) (es acc : Entries) :
    denEs ((.str k, .leaf (.str w)) :: es) acc = denEs es (setKey (.str k) (.leaf (.str k)) acc) := by
  simp only [denEs, hp, if_true]

/-- the scanner invariants, with an arbitrary continuation `rest` and accumulator: over the entries of one dict
    level, and over the items of a list -/
theorem scan_inv :
    (∀ es, TokWFEs es = true → ∀ (top : Bool) (lvl : Int) (prev rest : List Tok) (acc : Entries),
      Boundary lvl prev →
      parseDictToks top prev (ltoksEs lvl es ++ rest) acc =
        parseDictToks top ((ltoksEs lvl es).reverse ++ prev) rest (denEs es acc)) ∧
    (∀ xs, TokWFXs xs = true → ∀ (lvl' lvl : Int) (rest : List Tok) (acc : List Val),
      parseListToks lvl' (ltoksXs lvl xs ++ rest) acc = parseListToks lvl' rest (acc ++ denXs xs)) := by
  have split : ∀ (cl : Str) (lvl : Int) (body after : List Tok), (∀ t ∈ body, lvl + 1 ≤ t.1) →
      splitGroup cl lvl (body ++ (lvl, cl) :: after) = some (body, after) :=
    fun cl lvl body after h => splitGroup_skip cl lvl body after fun t ht => by
      have := h t ht
      omega
  -- of a single value the induction carries what both scanners ask of it: a nested dict or list, scanned on its
  -- own from the empty state, gives its denotation
  refine (TokWF.ind
    (P := fun v => match v with
      | .dict d => ∀ lvl, parseDictToks false [] (ltoksEs lvl d) [] = .ok (denEs d [])
      | .list l => ∀ lvl, parseListToks lvl (ltoksXs lvl l) [] = .ok (denXs l)
      | .leaf _ => True)
    (fun _ _ _ => trivial) ?_ ?_ ?_ ?_ ?_ ?_ ?_).2
  · intro d ih lvl
    simpa [pd_nil] using ih false lvl [] [] [] (boundary_nil _)
  · intro l ih lvl
    simpa [pl_nil] using ih lvl lvl [] []
  · intro top lvl prev rest acc _
    simp [ltoksEs, denEs]
  · intro k es hp hk ih top lvl prev rest acc _
    rw [ltoksEs_ph lvl hp, denEs_cons_ph hp, List.cons_append, pd_ph top prev lvl k _ acc hk hp,
      ih top lvl _ rest _ (boundary_ph lvl k prev hp)]
    simp
  · intro k key v es hp hk hkey hv ihv ih top lvl prev rest acc hB
    rw [ltoksEs_entry lvl hp hv, denEs_cons hp hkey, List.cons_append, pd_word top prev lvl k _ acc hk hp]
    match v, hv, ihv with
    | .leaf (.str w), hv, _ =>
      simp only [TokWFV, Bool.and_eq_true, Bool.not_eq_true'] at hv
      have hkv : kvBefore lvl ((lvl, w) :: (lvl, k) :: prev) = [w, k] := by
        rw [kvBefore_word lvl w _ hv.1 hv.2, kvBefore_word lvl k _ hk hp, hB]
      simp only [ltoksV, semi, List.map, List.cons_append, List.nil_append, denV]
      rw [pd_word top _ lvl w _ acc hv.1 hv.2,
        pd_semi_kv top (lvl, w) _ lvl _ acc w k key (wordTok_ne_rparenTok hv.1) hkv hkey,
        ih top lvl _ rest _ (boundary_semi lvl _)]
      simp
    | .dict d, hv, ihd =>
      simp only [ltoksV, semi, List.map, List.cons_append, List.nil_append, List.append_assoc, denV]
      rw [pd_brace top _ lvl _ _ _ acc k key _ (keyBefore_word lvl k prev hp)
          (split ['}'] lvl _ _ (ltoks_ge.2.1 d hv (lvl + 1))) hkey (ihd (lvl + 1)),
        ih top lvl _ rest _ (boundary_rbrace lvl _)]
      simp
    | .list l, hv, ihl =>
      simp only [ltoksV, semi, List.map, List.cons_append, List.nil_append, List.append_assoc, denV]
      rw [pd_paren top _ lvl _ _ _ _ acc k key _ (keyBefore_word lvl k prev hp)
          (split [')'] lvl _ _ (ltoks_ge.2.2 l hv (lvl + 1))) hkey (ihl (lvl + 1)),
        pd_semi_rparen top _ _ lvl _ _ rfl, ih top lvl _ rest _ (boundary_semi lvl _)]
      simp
  · intro lvl' lvl rest acc
    simp [ltoksXs, denXs]
  · intro v xs hv ihv ih lvl' lvl rest acc
    simp only [ltoksXs, denXs, List.append_assoc]
    match v, hv, ihv with
    | .leaf (.str w), hv, _ =>
      simp only [TokWFV, Bool.and_eq_true] at hv
      simp only [ltoksV, denV, List.cons_append, List.nil_append]
      rw [pl_word lvl' lvl w _ acc hv.1, ih lvl' lvl rest _]
      simp
    | .dict d, hv, ihd =>
      simp only [ltoksV, denV, List.cons_append, List.append_assoc, List.nil_append]
      rw [pl_brace lvl' lvl _ _ _ acc _ (split ['}'] lvl _ _ (ltoks_ge.2.1 d hv (lvl + 1))) (ihd (lvl + 1)),
        ih lvl' lvl rest _]
      simp
    | .list l, hv, ihl =>
      simp only [ltoksV, denV, List.cons_append, List.append_assoc, List.nil_append]
      rw [pl_paren lvl' lvl _ _ _ acc _ (split [')'] lvl _ _ (ltoks_ge.2.2 l hv (lvl + 1))) (ihl (lvl + 1)),
        ih lvl' lvl rest _]
      simp

/-- **B (dict).** on the tokens of a well-formed token tree the dict scanner computes the denotation.
    `Boundary lvl prev0` (decidable; true for `prev0 = []`, the only call pattern of the reader) is needed: see
    `scan_dict_needs_boundary`. -/
theorem scan_dict (es : Entries) (top : Bool) (lvl : Int) (prev0 : List Tok) (acc : Entries)
    (h : TokWFEs es = true) (hB : Boundary lvl prev0) :
    parseDictToks top prev0 (ltoksEs lvl es) acc = .ok (denEs es acc) := by
  have := scan_inv.1 es h top lvl prev0 [] acc hB
  simpa [pd_nil] using this

/-- Without `Boundary` the statement is false: a stray word of the same level right before the first entry is
    swept up by the backward scan from `;`, which then finds three tokens instead of two and drops the entry.
    (`prev0 = [(0, x)]`, entries `k w ;`: the scanner returns `{}`, the denotation is `{k: w}`.)
    The reader never calls the scanner this way: it starts with `prev = []`. -/
theorem scan_dict_needs_boundary :
    ¬ ∀ (es : Entries) (top : Bool) (lvl : Int) (prev0 : List Tok) (acc : Entries), TokWFEs es = true →
      parseDictToks top prev0 (ltoksEs lvl es) acc = .ok (denEs es acc) := by
  intro h
  have h1 := h [(.str ['k'], .leaf (.str ['w']))] true 0 [(0, ['x'])] [] (by decide +kernel)
  exact absurd (congrArg Except.toOption h1) (by decide +kernel)

/-- **B (list).** on the tokens of a well-formed item list the list scanner computes the denotation -/
theorem scan_list (xs : List Val) (lvl' lvl : Int) (acc : List Val) (h : TokWFXs xs = true) :
    parseListToks lvl' (ltoksXs lvl xs) acc = .ok (acc ++ denXs xs) := by
  have := scan_inv.2 xs h lvl' lvl [] acc
  simpa [pl_nil] using this

theorem C02_scan (es : Entries) (h : TokWFEs es = true) :
    parseDictToks true [] (levels 0 (toksEs es)) [] = .ok (denEs es []) := by
  rw [levels_toks_nil es 0 h]
  exact scan_dict es true 0 [] [] h (boundary_nil 0)

/-! ### C. layout -/

/-- **C.** delimiter separation followed by white-space splitting recovers the token list of any admissible
    layout, whatever the amount and kind of white space. -/
theorem tokenize_spread (toks gaps : List Str) (tail : Str)
    (htoks : ∀ t ∈ toks, isWordTok t = true ∨ isDelimTok t = true)
    (hg : GapsOK toks gaps = true) (htail : tail.all isWs = true) :
    tokenize (spread toks gaps tail) = toks := by
  rw [tokenize_eq]
  rcases gapsOK_len toks gaps hg with hlen | ⟨t, rfl, rfl⟩
  · simpa [flush] using go_spread toks gaps tail [] htoks hlen hg htail (Or.inl rfl)
  · have : spread [t] [] tail = spread [t] [[]] tail := by simp [spread]
    rw [this]
    simpa [flush] using go_spread [t] [[]] tail [] htoks (by simp) (by simp [GapsOK]) htail (Or.inl rfl)

theorem toks_word_or_delim :
    (∀ v, TokWFV v = true → ∀ t ∈ toksV v, isWordTok t = true ∨ isDelimTok t = true) ∧
    (∀ es, TokWFEs es = true → ∀ t ∈ toksEs es, isWordTok t = true ∨ isDelimTok t = true) ∧
    (∀ xs, TokWFXs xs = true → ∀ t ∈ toksXs xs, isWordTok t = true ∨ isDelimTok t = true) := by
  refine TokWF.ind ?_ ?_ ?_ ?_ ?_ ?_ ?_ ?_
  · intro w hw _ t ht
    simp only [toksV, List.mem_singleton] at ht
    exact ht ▸ Or.inl hw
  · intro es ih t ht
    simp only [toksV, List.mem_cons, List.mem_append, List.not_mem_nil, or_false, or_assoc] at ht
    rcases ht with rfl | ht | rfl
    · exact Or.inr delimTok_facts.1
    · exact ih t ht
    · exact Or.inr delimTok_facts.2.1
  · intro xs ih t ht
    simp only [toksV, List.mem_cons, List.mem_append, List.not_mem_nil, or_false, or_assoc] at ht
    rcases ht with rfl | ht | rfl
    · exact Or.inr delimTok_facts.2.2.1
    · exact ih t ht
    · exact Or.inr delimTok_facts.2.2.2.1
  · intro t ht
    simp [toksEs] at ht
  · intro k es hp hk ih t ht
    rw [toksEs_ph hp, List.mem_cons] at ht
    rcases ht with rfl | ht
    · exact Or.inl hk
    · exact ih t ht
  · intro k key v es hp hk _ hv ihv ih t ht
    rw [toksEs_entry hp hv] at ht
    simp only [List.mem_cons, List.mem_append] at ht
    rcases ht with rfl | ht | ht | ht
    · exact Or.inl hk
    · exact ihv t ht
    · exact Or.inr (semi_delim v t ht)
    · exact ih t ht
  · intro t ht
    simp [toksXs] at ht
  · intro v xs _ ihv ih t ht
    simp only [toksXs, List.mem_append] at ht
    exact ht.elim (ihv t) (ih t)

theorem toksXs_word_or_delim : ∀ (xs : List Val), TokWFXs xs = true →
    ∀ t ∈ toksXs xs, isWordTok t = true ∨ isDelimTok t = true := toks_word_or_delim.2.2

theorem toks_all_word_or_delim (es : Entries) (h : TokWFEs es = true) :
    ∀ t ∈ toksEs es, isWordTok t = true ∨ isDelimTok t = true := toks_word_or_delim.2.1 es h

/-! ### D. layout tolerance -/

/-- **C02 (token level).** Whatever white space separates the tokens of a well-formed token tree, the
    reader's token pipeline (tokenize → hierarchy → scanner) returns the documented denotation. -/
theorem C02_layout_tolerant_tokens (es : Entries) (gaps : List Str) (tail : Str)
    (h : TokWFEs es = true) (hg : GapsOK (toksEs es) gaps = true) (ht : tail.all isWs = true) :
    parseDictToks true [] (levels 0 (tokenize (spread (toksEs es) gaps tail))) [] = .ok (denEs es []) := by
  rw [tokenize_spread _ _ _ (toks_all_word_or_delim es h) hg ht]
  exact C02_scan es h

/-- two admissible layouts of the same token tree scan to the same result, and the scan does not fail -/
theorem C02_layout_independent (es : Entries) (gaps₁ gaps₂ : List Str) (tail₁ tail₂ : Str)
    (h : TokWFEs es = true)
    (hg₁ : GapsOK (toksEs es) gaps₁ = true) (ht₁ : tail₁.all isWs = true)
    (hg₂ : GapsOK (toksEs es) gaps₂ = true) (ht₂ : tail₂.all isWs = true) :
    parseDictToks true [] (levels 0 (tokenize (spread (toksEs es) gaps₁ tail₁))) [] =
      parseDictToks true [] (levels 0 (tokenize (spread (toksEs es) gaps₂ tail₂))) [] ∧
    ∃ d, parseDictToks true [] (levels 0 (tokenize (spread (toksEs es) gaps₁ tail₁))) [] = .ok d := by
  rw [C02_layout_tolerant_tokens es gaps₁ tail₁ h hg₁ ht₁, C02_layout_tolerant_tokens es gaps₂ tail₂ h hg₂ ht₂]
  exact ⟨rfl, _, rfl⟩

/-! ### E. a concrete instance -/

/-- `a 1; sub { x y; l ( 1 ( 2 ) { q r; } ); } 7 z;` -/
def exTree : Entries :=
  [ (.str ['a'], .leaf (.str ['1'])),
    (.str ['s', 'u', 'b'], .dict
      [ (.str ['x'], .leaf (.str ['y'])),
        (.str ['l'], .list [.leaf (.str ['1']), .list [.leaf (.str ['2'])], .dict [(.str ['q'], .leaf (.str ['r']))]]) ]),
    (.str ['7'], .leaf (.str ['z'])) ]

theorem exTree_wf : TokWFEs exTree = true := by decide +kernel

theorem exTree_toks : toksEs exTree =
    [['a'], ['1'], [';'], ['s', 'u', 'b'], ['{'], ['x'], ['y'], [';'], ['l'], ['('], ['1'], ['('], ['2'], [')'],
     ['{'], ['q'], ['r'], [';'], ['}'], [')'], [';'], ['}'], ['7'], ['z'], [';']] := by decide +kernel

theorem exTree_den : denEs exTree [] =
    [ (.str ['a'], .leaf (.int 1)),
      (.str ['s', 'u', 'b'], .dict
        [ (.str ['x'], .leaf (.str ['y'])),
          (.str ['l'], .list [.leaf (.int 1), .list [.leaf (.int 2)], .dict [(.str ['q'], .leaf (.str ['r']))]]) ]),
      (.int 7, .leaf (.str ['z'])) ] := by decide +kernel

/-- everything glued where the grammar allows it -/
def exGapsGlued : List Str :=
  [[], [' '], [], [], [], [], [' '], [], [], [], [], [], [], [], [], [], [' '], [], [], [], [], [], [], [' '], []]

/-- tabs, line feeds, CRLF, a no-break space, runs of blanks -/
def exGapsLoose : List Str :=
  [['\t'], ['\t', '\t'], [' '], ['\r', '\n'], ['\r', '\n'], ['\r', '\n', ' ', ' '], [' ', ' ', ' '], [], ['\r', '\n', ' ', ' '],
   [' '], [' '], [' '], [], [], [' '], [], [' '], [], [], [' '], ['\n'], ['\r', '\n'], ['\r', '\n'], ['\u00a0'], ['\t']]

theorem exGapsGlued_ok : GapsOK (toksEs exTree) exGapsGlued = true := by decide +kernel
theorem exGapsLoose_ok : GapsOK (toksEs exTree) exGapsLoose = true := by decide +kernel

theorem exGlued_text : spread (toksEs exTree) exGapsGlued [] = "a 1;sub{x y;l(1(2){q r;});}7 z;".toList := by
  literal_chars; decide +kernel

theorem exLoose_text : spread (toksEs exTree) exGapsLoose ['\r', '\n'] =
    "\ta\t\t1 ;\r\nsub\r\n{\r\n  x   y;\r\n  l ( 1 (2) {q r;} )\n;\r\n}\r\n7\u00a0z\t;\r\n".toList := by
  literal_chars; decide +kernel

theorem ex_glued : parseDictToks true [] (levels 0 (tokenize "a 1;sub{x y;l(1(2){q r;});}7 z;".toList)) [] =
    .ok (denEs exTree []) := by
  rw [← exGlued_text]
  exact C02_layout_tolerant_tokens exTree exGapsGlued [] exTree_wf exGapsGlued_ok rfl

theorem ex_loose : parseDictToks true [] (levels 0 (tokenize
      "\ta\t\t1 ;\r\nsub\r\n{\r\n  x   y;\r\n  l ( 1 (2) {q r;} )\n;\r\n}\r\n7\u00a0z\t;\r\n".toList)) [] =
    .ok (denEs exTree []) := by
  rw [← exLoose_text]
  exact C02_layout_tolerant_tokens exTree exGapsLoose ['\r', '\n'] exTree_wf exGapsLoose_ok (by decide)

/-! ### remark: why `TokWF` excludes placeholder words as keys and scalars

  The scanner recognises comment / include placeholders by *substring* (`isCommentTok`, `isIncludeTok`), so an
  ordinary word that merely contains `COMMENT` or `INCLUDE` is taken for a placeholder: in `k MYINCLUDE;` the
  value is stored as an entry of its own and the backward scan from `;` stops at it, so `k` is lost.
  `TokWF` (Grammar) therefore demands `!isPhTok` of keys and scalars; the witness shows the demand is needed. -/
theorem ph_word_not_denoted :
    parseDictToks true [] (levels 0 (tokenize "k MYINCLUDE;".toList)) [] =
      .ok [(.str ['M', 'Y', 'I', 'N', 'C', 'L', 'U', 'D', 'E'], .leaf (.str ['M', 'Y', 'I', 'N', 'C', 'L', 'U', 'D', 'E']))] := by
  apply ok_of_toOption
  literal_chars; decide +kernel

end DictIO.C02
