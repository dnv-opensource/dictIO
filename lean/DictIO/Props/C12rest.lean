/-
  C12 -- the reader after its comment stages, on a *labelled* document.

  After the comment stages a commented document has become a layout of the token stream `srcToksPEs es` of a labelled
  document `es` in which every comment is an entry `(ph, .lit (.bare ph))`, written as the single word `ph`.
  `parseRest` (newline removal, literal extraction, expression extraction, tokenizing, scanning, literal re-insertion,
  `_clean`, removal of the documentation keys) returns the meaning `denPEs es []` of that document.

    1  `parseRest_labelled` (the main theorem; it is `C02.parseRest_labelled_counter`, C02ins, with the SDict written
       out and the counter hidden: the labelled documents, their induction `C02.SrcPWF.ind` and the stages on them are
       in C02lex and C02ins, where the comment-free document is their instance),
       `parseRest_labelled_clean` (uses `DocKeysAbsentP`: no `dropDocKeys` left; `C06.cleanLevel_spec`, `cleanRec_keys`,
       `clean_keys`: `_clean` only deletes keys; with `C02.Main.denP_lookup_none` of C02main: `dropDocKeys_clean`)
    2  `read_commented_of_stages` (+ `_counter`), `denC_eq`, `read_commented_denC`,
       `countQuoted_labelI`, `docKeys_label`, `counter_labelI` (the directive-free case, through `embCItems`, of the
       lemmas about documents with include directives, C12idoc), `read_commented_denC'`
           the whole reader, given what the comment stages produce
    3  `exItems`, `exP`, … `ex_parseRest`, `ex_parseRest_eval`, `ex_finishSD`, `ex_denC`     a concrete instance

  Hypotheses.  `hd : DocKeysAbsentP es` stands in `parseRest_labelled` unused (as stated, with `dropDocKeys` in the
  result, the theorem does not need it); it is what `parseRest_labelled_clean` uses to remove `dropDocKeys`.
-/
import DictIO.Props.C12idoc
import DictIO.Model.GrammarC

namespace DictIO.C12
open DictIO

/-- number of quoted strings of a labelled document (`C02.countQuotedEs`: a comment entry holds a bare word and
    counts 0) -/
abbrev countQuotedEs' (es : SrcEntries) : Nat := C02.countQuotedEs es

/-- no top-level key is spelled `_variables` or `_includes` -/
abbrev DocKeysAbsentP (es : SrcEntries) : Prop := C02.DocKeysAbsent es

/-! ## 1. the reader after its comment stages -/

set_option linter.unusedVariables false in  -- `hd`: see the head of the file
/-- **the reader after its comment stages, on any admissible layout of a well-formed labelled document**, returns the
    document's meaning: comment entries `ph ↦ ph` at their dict levels, quoted strings restored, then `_clean` and the
    removal of the documentation keys; the comment and include tables are the ones the comment stages left -/
theorem parseRest_labelled {es : SrcEntries} {gaps : List Str} {tail : Str} {st : LexSt}
    (h : SrcPWFEs 1 es = true) (hg : GapsOKS (srcToksPEs es) gaps = true) (ht : tail.all isWs = true)
    (hl : st.lits = []) (he : st.exprs = []) (hc : C13.ValidCounter Gen.counterLimit st.counter)
    (hn : countQuotedEs' es ≤ Gen.counterLimit + 1) (hd : DocKeysAbsentP es) :
    ∃ c', parseRest st (spreadS (srcToksPEs es) gaps tail)
        = .ok (let sd := ({ data := denPEs es [], exprs := [], lineC := st.lineC, blockC := st.blockC,
                            incl := st.incl } : SD).clean
               { sd with data := dropDocKeys sd.data }, c') :=
  ⟨C02.adv Gen.counterLimit (countQuotedEs' es) st.counter,
    (C02.parseRest_labelled_counter h hg ht hl hc hn).trans (by simp only [finishSD, he])⟩

/-! ### `_clean` only deletes entries; without the documentation keys in the text `dropDocKeys` is the identity -/

theorem cleanRec_keys (fuel : Nat) (s : SD) (lvl : Entries) : ∀ x ∈ keys (cleanRec fuel s lvl).2, x ∈ keys lvl :=
  cleanRec_induct (Pre := fun _ _ => True) (M := fun _ lvl _ d => ∀ x ∈ keys d, x ∈ keys lvl)
    (fun _ _ _ _ h => h) (fun s lvl _ => (keys_sublist (C06.cleanLevel_spec s lvl).1).subset) (fun _ _ _ _ _ _ _ _ _ => trivial)
    (fun s lvl _ _ _ _ _ _ _ hm he _ x hx => by
      rcases keys_setKey_sub hx with rfl | hx
      · exact List.mem_map_of_mem ((C06.cleanLevel_spec s lvl).1.subset he)
      · exact hm x hx) fuel s lvl trivial

theorem clean_keys (s : SD) : ∀ x ∈ keys s.clean.data, x ∈ keys s.data := by
  rw [SD.clean_data]; exact cleanRec_keys _ s s.data

theorem dropDocKeys_clean {d : Nat} {es : SrcEntries} (h : SrcPWFEs d es = true) (hd : DocKeysAbsentP es)
    (x : Tbl ExprEntry) (l b : Tbl Str) (i : Tbl InclEntry) :
    dropDocKeys ({ data := denPEs es [], exprs := x, lineC := l, blockC := b, incl := i } : SD).clean.data =
      ({ data := denPEs es [], exprs := x, lineC := l, blockC := b, incl := i } : SD).clean.data := by
  have hno : ∀ s : Str, (∀ e ∈ es, e.1 ≠ s) →
      lookup (.str s) ({ data := denPEs es [], exprs := x, lineC := l, blockC := b, incl := i } : SD).clean.data = none :=
    fun s hs => lookup_eq_none_iff.mpr fun hm => lookup_eq_none_iff.mp (C02.Main.denP_lookup_none h hs) (clean_keys _ _ hm)
  exact C02.dropDocKeys_id (hno _ fun e he => (hd e he).1) (hno _ fun e he => (hd e he).2)

/-- **`parseRest_labelled` without `dropDocKeys`**: when no top-level key of the labelled document is `_variables` or
    `_includes`, the reader returns the cleaned meaning itself -/
theorem parseRest_labelled_clean {es : SrcEntries} {gaps : List Str} {tail : Str} {st : LexSt}
    (h : SrcPWFEs 1 es = true) (hg : GapsOKS (srcToksPEs es) gaps = true) (ht : tail.all isWs = true)
    (hl : st.lits = []) (he : st.exprs = []) (hc : C13.ValidCounter Gen.counterLimit st.counter)
    (hn : countQuotedEs' es ≤ Gen.counterLimit + 1) (hd : DocKeysAbsentP es) :
    parseRest st (spreadS (srcToksPEs es) gaps tail) =
      .ok (({ data := denPEs es [], exprs := [], lineC := st.lineC, blockC := st.blockC, incl := st.incl } : SD).clean,
        C02.adv Gen.counterLimit (countQuotedEs' es) st.counter) := by
  rw [C02.parseRest_labelled_counter h hg ht hl hc hn]
  simp only [finishSD, he]
  rw [dropDocKeys_clean h hd]

/-! ## 2. corollaries: the whole reader, given what the comment stages produce -/

/-- the reader on a commented text, given that its comment stages leave an admissible layout of a well-formed
    labelled document (one line through `parseNative_stages`) -/
theorem read_commented_of_stages {dir : Str} {c : Counter} {text : Str} {st : LexSt} {es : SrcEntries}
    {gaps' : List Str} {tail' : Str}
    (hst : commentStages true dir c text = (st, spreadS (srcToksPEs es) gaps' tail'))
    (hl : st.lits = []) (he : st.exprs = []) (hi : st.incl = [])
    (h : SrcPWFEs 1 es = true) (hg : GapsOKS (srcToksPEs es) gaps' = true) (ht : tail'.all isWs = true)
    (hc : C13.ValidCounter Gen.counterLimit st.counter) (hn : countQuotedEs' es ≤ Gen.counterLimit + 1)
    (hd : DocKeysAbsentP es) :
    ∃ c', parseNative true dir c text =
      .ok (let sd := ({ data := denPEs es [], lineC := st.lineC, blockC := st.blockC } : SD).clean
           { sd with data := dropDocKeys sd.data }, c') := by
  rw [parseNative_stages, hst]
  obtain ⟨c', hc'⟩ := parseRest_labelled h hg ht hl he hc hn hd
  exact ⟨c', by rw [hc', hi]⟩

/-- the same with the counter spelled out -/
theorem read_commented_of_stages_counter {dir : Str} {c : Counter} {text : Str} {st : LexSt} {es : SrcEntries}
    {gaps' : List Str} {tail' : Str}
    (hst : commentStages true dir c text = (st, spreadS (srcToksPEs es) gaps' tail'))
    (hl : st.lits = []) (he : st.exprs = []) (hi : st.incl = [])
    (h : SrcPWFEs 1 es = true) (hg : GapsOKS (srcToksPEs es) gaps' = true) (ht : tail'.all isWs = true)
    (hc : C13.ValidCounter Gen.counterLimit st.counter) (hn : countQuotedEs' es ≤ Gen.counterLimit + 1) :
    parseNative true dir c text =
      .ok (let sd := ({ data := denPEs es [], lineC := st.lineC, blockC := st.blockC } : SD).clean
           { sd with data := dropDocKeys sd.data }, C02.adv Gen.counterLimit (countQuotedEs' es) st.counter) := by
  rw [parseNative_stages, hst, C02.parseRest_labelled_counter h hg ht hl hc hn]
  simp only [finishSD, he, hi]

/-- the SDict of `parseRest_labelled`, for the lexer state and the labelled document `labelCItems` describes, is
    `denC c items` (before the removal of the documentation keys) -/
theorem denC_eq (c : Counter) (items : List CItem) :
    (({ data := denPEs (labelCItems { counter := c } items).2 [], exprs := [],
        lineC := (labelCItems { counter := c } items).1.lineC,
        blockC := (labelCItems { counter := c } items).1.blockC, incl := [] } : SD).clean) = denC c items := rfl

/-- the reader on a commented text is `denC`, given that the comment stages produce what `labelCItems` describes:
    the labelled document laid out admissibly, the two comment tables, no include -/
theorem read_commented_denC {dir : Str} {c : Counter} {text : Str} {st : LexSt} {items : List CItem}
    {gaps' : List Str} {tail' : Str}
    (hst : commentStages true dir c text =
      (st, spreadS (srcToksPEs (labelCItems { counter := c } items).2) gaps' tail'))
    (hl : st.lits = []) (he : st.exprs = []) (hi : st.incl = [])
    (h1 : st.lineC = (labelCItems { counter := c } items).1.lineC)
    (h2 : st.blockC = (labelCItems { counter := c } items).1.blockC)
    (h : SrcPWFEs 1 (labelCItems { counter := c } items).2 = true)
    (hg : GapsOKS (srcToksPEs (labelCItems { counter := c } items).2) gaps' = true) (ht : tail'.all isWs = true)
    (hc : C13.ValidCounter Gen.counterLimit st.counter)
    (hn : countQuotedEs' (labelCItems { counter := c } items).2 ≤ Gen.counterLimit + 1) :
    parseNative true dir c text =
      .ok ({ denC c items with data := dropDocKeys (denC c items).data },
        C02.adv Gen.counterLimit (countQuotedEs' (labelCItems { counter := c } items).2) st.counter) := by
  rw [parseNative_stages, hst, C02.parseRest_labelled_counter h hg ht hl hc hn, ← denC_eq]
  simp only [finishSD, he, hi, h1, h2]

/-! ### the side conditions of `parseRest_labelled`, from the commented document -/

/-- comment entries hold a bare word: the labelled document has the quoted strings of the comment-free one -/
theorem countQuoted_labelI (items : List CItem) (st : CLabelSt) :
    countQuotedEs' (labelCItems st items).2 = C02.countQuotedEs (plainItems items) := by
  have := Incl.countQuoted_labelII [] (embCItems items) { c := st, icounter := none }
  rwa [label_embC, plain_embC] at this

theorem countQuoted_labelV : ∀ (v : CSrc) (st : CLabelSt),
    C02.countQuotedV (labelCV st v).2 = C02.countQuotedV (plainV v)
  | .lit l, st => by simp only [labelCV, plainV]
  | .dict items, st => by
    simp only [labelCV, plainV, C02.countQuotedV]
    exact countQuoted_labelI items st
  | .list xs, st => by simp only [labelCV, plainV]

theorem docKey_heads : "_variables".toList = '_' :: "variables".toList ∧ "_includes".toList = '_' :: "includes".toList :=
  ⟨by literal_chars, by literal_chars⟩

/-- placeholder words are none of the documentation keys -/
theorem docKeys_label (items : List CItem) (st : CLabelSt) (h : C02.DocKeysAbsent (plainItems items)) :
    DocKeysAbsentP (labelCItems st items).2 := by
  have := Incl.docKeys_labelI [] (embCItems items) { c := st, icounter := none } (by rwa [plain_embC])
  rwa [label_embC] at this

/-- the counter the comment stages leave is valid -/
theorem counter_labelI : ∀ (items : List CItem) (st : CLabelSt), C13.ValidCounter Gen.counterLimit st.counter →
    C13.ValidCounter Gen.counterLimit (labelCItems st items).1.counter := fun items st h => by
  have := Incl.lcounter_labelII [] (embCItems items) { c := st, icounter := none }
  rw [label_embC] at this
  rw [show (labelCItems st items).1.counter = _ from this]
  exact C02.adv_valid _ h

theorem counter_labelV : ∀ (v : CSrc) (st : CLabelSt), C13.ValidCounter Gen.counterLimit st.counter →
    C13.ValidCounter Gen.counterLimit (labelCV st v).1.counter
  | .lit l, st, h => by simpa only [labelCV] using h
  | .dict items, st, h => by simpa only [labelCV] using counter_labelI items st h
  | .list xs, st, h => by simpa only [labelCV] using h

/-- **ready for composition**: the reader on a commented text is exactly `denC c items`, given that the comment stages
    produce what `labelCItems` describes; side conditions stated on the commented document itself (its comment-free
    part `plainItems items`), `dropDocKeys` gone -/
theorem read_commented_denC' {dir : Str} {c : Counter} {text : Str} {st : LexSt} {items : List CItem}
    {gaps' : List Str} {tail' : Str}
    (hst : commentStages true dir c text =
      (st, spreadS (srcToksPEs (labelCItems { counter := c } items).2) gaps' tail'))
    (hl : st.lits = []) (he : st.exprs = []) (hi : st.incl = [])
    (h0 : st.counter = (labelCItems { counter := c } items).1.counter)
    (h1 : st.lineC = (labelCItems { counter := c } items).1.lineC)
    (h2 : st.blockC = (labelCItems { counter := c } items).1.blockC)
    (h : SrcPWFEs 1 (labelCItems { counter := c } items).2 = true)
    (hg : GapsOKS (srcToksPEs (labelCItems { counter := c } items).2) gaps' = true) (ht : tail'.all isWs = true)
    (hc : C13.ValidCounter Gen.counterLimit c)
    (hn : C02.countQuotedEs (plainItems items) ≤ Gen.counterLimit + 1)
    (hd : C02.DocKeysAbsent (plainItems items)) :
    parseNative true dir c text =
      .ok (denC c items, C02.adv Gen.counterLimit (C02.countQuotedEs (plainItems items)) st.counter) := by
  have hc' : C13.ValidCounter Gen.counterLimit st.counter := by
    rw [h0]; exact counter_labelI items { counter := c } hc
  have hq := countQuoted_labelI items { counter := c }
  rw [read_commented_denC hst hl he hi h1 h2 h hg ht hc' (by rw [hq]; exact hn), hq]
  rw [← denC_eq, dropDocKeys_clean h (docKeys_label items _ hd)]

/-! ## 3. non-vacuity -/

/-- `// first⏎ a 'x y'; sub { /* inner */ p 1; } l ( 1 "two" );` -/
def exItems : List CItem :=
  [ .lineC " first".toList,
    .entry ['a'] (.lit (.quoted '\'' "x y".toList)),
    .entry "sub".toList (.dict [.blockC " inner ".toList, .entry ['p'] (.lit (.bare ['1']))]),
    .entry ['l'] (.list [.lit (.bare ['1']), .lit (.quoted '"' "two".toList)]) ]

/-- the labelled document: a line-comment entry at top level, a block-comment entry inside `sub` -/
def exP : SrcEntries :=
  [ ("LINECOMMENT000000".toList, .lit (.bare "LINECOMMENT000000".toList)),
    (['a'], .lit (.quoted '\'' "x y".toList)),
    ("sub".toList, .dict [("BLOCKCOMMENT000000".toList, .lit (.bare "BLOCKCOMMENT000000".toList)),
                          (['p'], .lit (.bare ['1']))]),
    (['l'], .list [.lit (.bare ['1']), .lit (.quoted '"' "two".toList)]) ]

/-- the lexer state the comment stages leave (counter `none` at the start: the line comment drew id 0) -/
def exSt : LexSt := { counter := some 0, lineC := [(0, "// first".toList)], blockC := [(0, "/* inner */".toList)] }

theorem exItems_wf : CSrcWFItems 1 exItems = true := by decide +kernel
theorem exP_wf : SrcPWFEs 1 exP = true := by decide +kernel

theorem exItems_label : (labelCItems { counter := none } exItems).2 = exP ∧
    (labelCItems { counter := none } exItems).1.counter = exSt.counter ∧
    (labelCItems { counter := none } exItems).1.lineC = exSt.lineC ∧
    (labelCItems { counter := none } exItems).1.blockC = exSt.blockC := by
  have e1 : linePh 0 = "LINECOMMENT000000".toList := by rw [linePh]; literal_chars; decide +kernel
  have e2 : blockPh 0 = "BLOCKCOMMENT000000".toList := by rw [blockPh]; literal_chars; decide +kernel
  simp [exItems, exP, exSt, labelCItems, labelCV, Counter.next, Tbl.set, e1, e2]

theorem exP_toks : srcToksPEs exP =
    [.word "LINECOMMENT000000".toList, .word ['a'], .quoted '\'' "x y".toList, .word [';'], .word "sub".toList,
     .word ['{'], .word "BLOCKCOMMENT000000".toList, .word ['p'], .word ['1'], .word [';'], .word ['}'], .word ['l'],
     .word ['('], .word ['1'], .quoted '"' "two".toList, .word [')'], .word [';']] := by
  have h1 : isPhTok "LINECOMMENT000000".toList = true := by decide
  have h2 : isPhTok "BLOCKCOMMENT000000".toList = true := by decide
  have h3 : isPhTok ['a'] = false := by decide
  have h4 : isPhTok ['p'] = false := by decide
  simp only [exP, srcToksPEs, srcToksXs, srcToksV, Lit.tok, h1, h2, h3, h4, if_true, Bool.false_eq_true, if_false,
    List.cons_append, List.nil_append, List.append_nil]

def exPGaps : List Str :=
  [[], ['\n'], [' '], [], ['\n'], ['\n'], ['\n', ' ', ' ', ' '], [' ', '\n', ' ', ' '], [' '], [], ['\n'], ['\n'],
   [' '], [], [' '], [], []]

theorem exPGaps_ok : GapsOKS (srcToksPEs exP) exPGaps = true := by rw [exP_toks]; decide

/-- what the comment stages leave of
    `// first⏎a 'x y';⏎sub⏎{⏎  /* inner */⏎  p 1;⏎}⏎l (1 "two");⏎` (the block-comment placeholder blank-padded) -/
def exPText : Str :=
  "LINECOMMENT000000\na 'x y';\nsub\n{\n   BLOCKCOMMENT000000 \n  p 1;\n}\nl (1 \"two\");\n".toList

theorem exP_text : spreadS (srcToksPEs exP) exPGaps ['\n'] = exPText := by
  rw [exP_toks]; unfold exPText; literal_chars; decide +kernel

theorem exP_count : C02.countQuotedEs exP = 2 := by decide
theorem exP_docKeys : DocKeysAbsentP exP := by decide

/-- the instance of the theorem -/
theorem ex_parseRest : parseRest exSt exPText = .ok ((finishSD (denPEs exP []) exSt).1, some 2) := by
  have := C02.parseRest_labelled_counter (st := exSt) (tail := ['\n']) exP_wf exPGaps_ok (by decide) rfl
    (Or.inr ⟨0, rfl, by decide⟩) (by rw [exP_count]; decide)
  rw [exP_text, exP_count] at this
  exact this

/-- what the document means -/
def exSD : SD :=
  { data := [ (.str "LINECOMMENT000000".toList, .leaf (.str "LINECOMMENT000000".toList)),
              (.str ['a'], .leaf (.str "x y".toList)),
              (.str "sub".toList, .dict [ (.str "BLOCKCOMMENT000000".toList, .leaf (.str "BLOCKCOMMENT000000".toList)),
                                          (.str ['p'], .leaf (.int 1)) ]),
              (.str ['l'], .list [.leaf (.int 1), .leaf (.str "two".toList)]) ],
    lineC := [(0, "// first".toList)], blockC := [(0, "/* inner */".toList)] }

set_option synthInstance.maxSize 1000 in
/-- the reader's stages evaluated on the text (kernel reduction, well-founded scanner included), field by field -/
theorem ex_parseRest_fields :
    (parseRest exSt exPText).toOption.map (fun r => (r.1.data, r.1.exprs, r.1.lineC, r.1.blockC, r.1.incl, r.2)) =
      some (exSD.data, [], exSD.lineC, exSD.blockC, [], some 2) := by
  unfold exPText exSt exSD; literal_chars; decide +kernel

theorem ex_parseRest_eval : parseRest exSt exPText = .ok (exSD, some 2) := by
  have h := ex_parseRest_fields
  cases hr : parseRest exSt exPText with
  | error e => rw [hr] at h; simp [Except.toOption] at h
  | ok r =>
    rw [hr] at h
    obtain ⟨⟨d, x, l, b, i⟩, c⟩ := r
    simp only [Except.toOption, Option.map_some, Option.some.injEq, Prod.mk.injEq] at h
    obtain ⟨rfl, rfl, rfl, rfl, rfl, rfl⟩ := h
    rfl

/-- hence the SDict of `parseRest_labelled_counter` for the labelled document is the expected one: both comment entries
    are kept at their levels, both table entries survive `_clean` -/
theorem ex_finishSD : (finishSD (denPEs exP []) exSt).1 = exSD := by
  have := ex_parseRest.symm.trans ex_parseRest_eval
  simp only [Except.ok.injEq, Prod.mk.injEq] at this
  exact this.1

/-- … and it is what the commented document `exItems` means -/
theorem ex_denC : denC none exItems = exSD := by
  rw [← denC_eq, exItems_label.1, exItems_label.2.2.1, exItems_label.2.2.2, ← ex_finishSD]
  simp only [finishSD]
  rw [dropDocKeys_clean exP_wf exP_docKeys]
  rfl

end DictIO.C12
