/-
  C15, through files -- a file written with `order=True` reads back to the same data as the unordered file, up to key
  order; reading with `order=True` gives the ordered dict.

  Model: `writeStep … order := true` (Model/Writer.lean: `fmtPlain fl (orderD (normEs d))`), `readFile` with
  `ReadOpts.order` (Model/Reader.lean: `SD.order` after scope reduction), `orderD`/`orderV`/`orderEs`
  (Model/Order.lean; `orderD es = sortByKey (orderEs es)` is `order_keys(d)`, `orderEs` orders the values only).

    (a) `domV_order`, `domEs_order`, `DomC01_order`        the value domain is closed under ordering (any flavour)
        `docKeys_order`, `countQuoted_order`, `nodup_order`  … and so are the side conditions of `C01_roundtrip_file`
    (b) `normV_order`, `normEs_orderEs`, `normEs_sortBy`,  `_retype_values` commutes with ordering (keys are not touched
        `normEs_orderD`, `orderD_norm_fixed`                by `normEs`; the sort looks at keys only)
    (c) `C15_write_ordered_read`                            write with `order=True`, read: exactly `orderD (normEs d)`
        `C15_ordered_file_same_assoc`                       ordered file vs unordered file: same association at every
                                                            level, the ordered one sorted at every level
    (d) `filter_orderD`, `removeIncludeKeys_orderD`,        a filter on top-level keys, so `_remove_include_keys`, commutes
        `readPost_order`                                    with `order_keys`; so does all that `DictReader.read` does
                                                            after the evaluation (`Lemmas/Reader`)
        `readFile_order_flag`                               `readFile {o with order := true}` = `SD.order` of
                                                            `readFile {o with order := false}`, for every `o`, `fs`
        `C15_read_order_flag`                               … on the unordered file: the data of (c), same counter
    (e) `exD`, `exD_text`, `exD_ordered_file`,              `{'b': 1, 3: {'z': None, 'a': [{'y': 1, 'x': 2}], 2: 'x y'}, 'a': "2", 1: True}`
        `exD_order_flag`

  Everything is stated under the hypotheses of `C01.C01_roundtrip_file` for the *unordered* `normEs d`.
-/
import DictIO.Props.C01
import DictIO.Props.C15
import DictIO.Props.C16
import DictIO.Lemmas.Reader

namespace DictIO.C15
open DictIO

/-! ## (a) the value domain and the side conditions are closed under ordering -/

theorem domEs_perm {fl : Flavor} {d : Nat} {es fs : Entries} (h : es.Perm fs) : domEs fl d es = domEs fl d fs := by
  rw [C01.domEs_eq_all, C01.domEs_eq_all, h.all_eq]

theorem keys_sortByKey_perm (es : Entries) : (keys (sortByKey es)).Perm (keys es) :=
  (sortBy_perm (le := Key.le) es).map (·.1)

mutual
  /-- ordering a value of the domain gives a value of the domain (same depth: nothing is nested deeper) -/
  theorem domV_order (fl : Flavor) : ∀ (d : Nat) (v : Val), domV fl d v = true → domV fl d (orderV v) = true
    | _, .leaf _, h => h
    | _, .list _, h => h
    | d, .dict es, h => by
      simp only [domV, Bool.and_eq_true, decide_eq_true_eq] at h
      simp only [orderV, domV, Bool.and_eq_true, decide_eq_true_eq]
      refine ⟨?_, ?_⟩
      · rw [domEs_perm (sortBy_perm (orderEs es))]; exact domEs_order fl (d + 1) es h.1
      · exact (keys_sortByKey_perm _).nodup_iff.mpr (by rw [keys_orderEs]; exact h.2)
  theorem domEs_order (fl : Flavor) : ∀ (d : Nat) (es : Entries), domEs fl d es = true → domEs fl d (orderEs es) = true
    | _, [], _ => rfl
    | d, (k, v) :: es, h => by
      simp only [domEs, Bool.and_eq_true] at h
      simp only [orderEs, domEs, Bool.and_eq_true]
      exact ⟨⟨h.1.1, domV_order fl d v h.1.2⟩, domEs_order fl d es h.2⟩
end

/-- key uniqueness at the top level survives ordering -/
theorem nodup_order {es : Entries} (h : (keys es).Nodup) : (keys (orderD es)).Nodup :=
  (order_keys_perm es).nodup_iff.mpr h

/-- **(a)** `DomC01` is closed under `order_keys`, at every level (lists are not touched) -/
theorem DomC01_order {fl : Flavor} {es : Entries} (h : DomC01 fl es = true) : DomC01 fl (orderD es) = true := by
  have hv : domV fl 0 (.dict es) = true := by simpa [domV, DomC01] using h
  have := domV_order fl 0 (.dict es) hv
  simp only [domV, orderV, Bool.and_eq_true, decide_eq_true_eq] at this
  simp only [DomC01, orderD, Bool.and_eq_true]
  exact ⟨this.1, decide_eq_true this.2⟩

/-- the two documentation keys stay absent -/
theorem docKeys_order {es : Entries} (h : C01.DocKeysAbsent' es) : C01.DocKeysAbsent' (orderD es) := by
  intro e he
  have hk : e.1 ∈ keys es :=
    (order_keys_perm es).mem_iff.mp (List.mem_map_of_mem (f := (·.1)) he)
  obtain ⟨e', he', hk'⟩ := List.mem_map.mp hk
  rw [← hk']; exact h e' he'

theorem countQuotedEs_eq_sum (fl : Flavor) : ∀ es : Entries,
    C02.countQuotedEs (srcOfEs fl es) = (es.map fun e => C02.countQuotedV (srcOfV fl e.2)).sum
  | [] => rfl
  | (k, v) :: es => by simp only [srcOfEs, C02.countQuotedEs, List.map_cons, List.sum_cons, countQuotedEs_eq_sum fl es]

theorem countQuotedEs_perm {fl : Flavor} {es fs : Entries} (h : es.Perm fs) :
    C02.countQuotedEs (srcOfEs fl es) = C02.countQuotedEs (srcOfEs fl fs) := by
  rw [countQuotedEs_eq_sum, countQuotedEs_eq_sum]
  exact (h.map _).sum_nat

mutual
  theorem countQuotedV_order (fl : Flavor) : ∀ v : Val,
      C02.countQuotedV (srcOfV fl (orderV v)) = C02.countQuotedV (srcOfV fl v)
    | .leaf _ => rfl
    | .list _ => rfl
    | .dict es => by
      simp only [orderV, srcOfV, C02.countQuotedV]
      rw [countQuotedEs_perm (sortBy_perm (orderEs es)), countQuotedEs_orderEs fl es]
  theorem countQuotedEs_orderEs (fl : Flavor) : ∀ es : Entries,
      C02.countQuotedEs (srcOfEs fl (orderEs es)) = C02.countQuotedEs (srcOfEs fl es)
    | [] => rfl
    | (k, v) :: es => by
      simp only [orderEs, srcOfEs, C02.countQuotedEs, countQuotedV_order fl v, countQuotedEs_orderEs fl es]
end

/-- the number of strings the writer quotes does not depend on the key order -/
theorem countQuoted_order (fl : Flavor) (es : Entries) :
    C02.countQuotedEs (srcOfEs fl (orderD es)) = C02.countQuotedEs (srcOfEs fl es) := by
  unfold orderD
  rw [countQuotedEs_perm (sortBy_perm (orderEs es)), countQuotedEs_orderEs]

/-! ## (b) `_retype_values` commutes with ordering -/

theorem normEs_sortBy (l : Entries) : normEs (sortByKey l) = sortByKey (normEs l) := by
  rw [normEs_eq_selMap, normEs_eq_selMap, selMap_true, selMap_true]; exact sortBy_mapVal Key.le normV l

mutual
  theorem normV_order : ∀ v : Val, normV (orderV v) = orderV (normV v)
    | .leaf _ => rfl
    | .list _ => rfl
    | .dict es => by
      simp only [orderV, normV]
      rw [normEs_sortBy, normEs_orderEs es]
  theorem normEs_orderEs : ∀ es : Entries, normEs (orderEs es) = orderEs (normEs es)
    | [] => rfl
    | (k, v) :: es => by simp only [orderEs, normEs, normV_order v, normEs_orderEs es]
end

/-- **(b)** normalising the ordered dict = ordering the normalised dict -/
theorem normEs_orderD (es : Entries) : normEs (orderD es) = orderD (normEs es) := by
  unfold orderD
  rw [normEs_sortBy, normEs_orderEs]

theorem orderD_norm_fixed (d : Entries) : normEs (orderD (normEs d)) = orderD (normEs d) := by
  rw [normEs_orderD, C01.normEs_idem]

/-! ## (c) write with `order=True`, read -/

/-- **C15, through files.**  `DictWriter.write(d, f, mode, order=True)` to a target that does not exist yet writes the
    plain text of the *ordered* normal form `orderD (normEs d)`; `DictReader.read(f)` (default options) returns exactly
    that ordered dict, all side tables empty.  Hypotheses: those of `C01.C01_roundtrip_file`, stated for the unordered
    `normEs d` (they carry over to the ordered dict by (a)). -/
theorem C15_write_ordered_read {d : Entries} {c : Counter} (ev : Str → EvalResult) (target : Comps) (mode : Str) :
    DomC01 .native (normEs d) = true → C01.DocKeysAbsent' d →
    C02.countQuotedEs (srcOfEs .native (normEs d)) ≤ Gen.counterLimit + 1 → C13.ValidCounter Gen.counterLimit c →
    isJsonPath target = false → isXmlPath target = false → resolveSpelled target = target →
    writeStep ev .native target none mode true d c = .ok (fmtPlain .native (orderD (normEs d)), c) ∧
    ∃ c', readFile ev [(target, .native (fmtPlain .native (orderD (normEs d))))] {} c target =
      .ok (.ok { data := orderD (normEs d) } c') := by
  intro hdom hd hn hc hj hx hr
  refine ⟨rfl, ?_⟩
  exact C01.read_written ev target (DomC01_order hdom) (orderD_norm_fixed d) (docKeys_order (C01.docKeysAbsent_norm hd))
    (by rw [countQuoted_order]; exact hn) hc hj hx hr

/-- the same write over an existing file with a mode other than append: the old content plays no role -/
theorem writeStep_ordered_overwrite (ev : Str → EvalResult) (fl : Flavor) (target : Comps) (old mode : Str) (d : Entries)
    (c : Counter) (hm : mode ≠ ['a']) :
    writeStep ev fl target (some old) mode true d c = .ok (fmtPlain fl (orderD (normEs d)), c) :=
  C16.C16_overwrite ev fl target old mode true d c hm

/-- **C15, ordered file against unordered file.**  Write `d` once with `order=True` and once with `order=False`, read
    both files: the ordered data is `order_keys` of the unordered data; both have the same key → value association at
    every dict level (`SameAssoc`; lists identical), the same entry under every top-level key up to ordering of the
    value, the ordered one has its keys ascending at every dict level (`SortedV`), and all side tables are empty. -/
theorem C15_ordered_file_same_assoc {d : Entries} {c : Counter} (ev : Str → EvalResult) (target : Comps) (mode : Str)
    (hdom : DomC01 .native (normEs d) = true) (hd : C01.DocKeysAbsent' d)
    (hn : C02.countQuotedEs (srcOfEs .native (normEs d)) ≤ Gen.counterLimit + 1)
    (hc : C13.ValidCounter Gen.counterLimit c)
    (hj : isJsonPath target = false) (hx : isXmlPath target = false) (hr : resolveSpelled target = target) :
    ∃ tO tU dO dU cO cU,
      writeStep ev .native target none mode true d c = .ok (tO, c) ∧
      writeStep ev .native target none mode false d c = .ok (tU, c) ∧
      readFile ev [(target, .native tO)] {} c target = .ok (.ok { data := dO } cO) ∧
      readFile ev [(target, .native tU)] {} c target = .ok (.ok { data := dU } cU) ∧
      dU = normEs d ∧ dO = orderD dU ∧
      SameAssoc (.dict dU) (.dict dO) ∧ (∀ k, lookup k dO = (lookup k dU).map orderV) ∧
      (keys dO).Perm (keys dU) ∧ SortedV (.dict dO) := by
  obtain ⟨hwO, cO, hrO⟩ := C15_write_ordered_read ev target mode hdom hd hn hc hj hx hr
  obtain ⟨hwU, cU, hrU⟩ := C01.C01_roundtrip_file ev target mode hdom hd hn hc hj hx hr
  have hnd := (C01.norm_invariants hdom).2
  rw [C01.normEs_idem] at hnd
  exact ⟨_, _, _, _, cO, cU, hwO, hwU, hrO, hrU, rfl, rfl, order_sameAssoc (.dict (normEs d)) hnd,
    order_lookup (normEs d) hnd.1, order_keys_perm (normEs d), order_sorted (.dict (normEs d))⟩

/-! ## (d) reading with `order=True` -/

/-- apply a function to the dict a read returns -/
def ReadOut.mapSD (f : SD → SD) : ReadOut → ReadOut
  | .ok s c => .ok (f s) c
  | .exit1 => .exit1

theorem filter_orderEs (q : Key → Bool) : ∀ es : Entries,
    (orderEs es).filter (fun e => q e.1) = orderEs (es.filter fun e => q e.1) := fun es => by
  rw [orderEs_eq_map, orderEs_eq_map, List.filter_map]; rfl

theorem filter_sortBy (q : Key → Bool) : ∀ l : Entries,
    (sortByKey l).filter (fun e => q e.1) = sortByKey (l.filter fun e => q e.1) :=
  sortBy_filter Key.totalLe q

theorem filter_orderD (q : Key → Bool) (es : Entries) :
    (orderD es).filter (fun e => q e.1) = orderD (es.filter fun e => q e.1) := by
  unfold orderD
  rw [filter_sortBy, filter_orderEs]

theorem removeIncludeKeys_orderD (es : Entries) : removeIncludeKeys (orderD es) = orderD (removeIncludeKeys es) := by
  rw [removeIncludeKeys_eq, removeIncludeKeys_eq, filter_orderD]

/-- ordering commutes with what `DictReader.read` does after the evaluation: the scope step does not look at the flag,
    `_remove_include_keys` commutes with `order_keys` -/
theorem readPost_order (o : ReadOpts) (sd : SD) (c : Counter) :
    readPost { o with order := true } sd c = ReadOut.mapSD SD.order (readPost { o with order := false } sd c) := by
  unfold readPost
  split
  · rfl
  · cases o.includes with
    | true => rfl
    | false => simp only [ReadOut.mapSD, SD.order, removeIncludeKeys_orderD, Bool.false_eq_true, if_false, if_true]

/-- **C15, the `order` flag of the reader** (any options, any file system): reading with `order=True` returns
    `SDict.order_keys` of what reading with `order=False` returns — same failures, same `exit1`, same counter. -/
theorem readFile_order_flag (ev : Str → EvalResult) (fs : FS) (o : ReadOpts) (c : Counter) (p : Comps) :
    readFile ev fs { o with order := true } c p =
      (readFile ev fs { o with order := false } c p).map (ReadOut.mapSD SD.order) := by
  rw [readFile_eq, readFile_eq]
  show (readFront ev fs o.includes o.comments c p).map _ = ((readFront ev fs o.includes o.comments c p).map _).map _
  cases readFront ev fs o.includes o.comments c p with
  | error e => rfl
  | ok r => exact congrArg Except.ok (readPost_order o r.1 r.2)

/-- **C15, reading the unordered file with `order=True`** gives the ordered dict — the very data that reading the
    ordered file gives (`C15_write_ordered_read`), with the same counter as the plain read -/
theorem C15_read_order_flag {d : Entries} {c : Counter} (ev : Str → EvalResult) (target : Comps)
    (hdom : DomC01 .native (normEs d) = true) (hd : C01.DocKeysAbsent' d)
    (hn : C02.countQuotedEs (srcOfEs .native (normEs d)) ≤ Gen.counterLimit + 1)
    (hc : C13.ValidCounter Gen.counterLimit c)
    (hj : isJsonPath target = false) (hx : isXmlPath target = false) (hr : resolveSpelled target = target) :
    ∃ c', readFile ev [(target, .native (fmtPlain .native (normEs d)))] {} c target =
        .ok (.ok { data := normEs d } c') ∧
      readFile ev [(target, .native (fmtPlain .native (normEs d)))] { order := true } c target =
        .ok (.ok { data := orderD (normEs d) } c') := by
  obtain ⟨c', _, h⟩ := C01.read_written_fs (c := c) ev target hdom (C01.normEs_idem d) (C01.docKeysAbsent_norm hd) hn hc
    hj hx hr
  exact ⟨c', h _ {} rfl (C01.fs_get_single _ _), h _ { order := true } rfl (C01.fs_get_single _ _)⟩

/-! ## (e) non-vacuity: `{'b': 1, 3: {'z': None, 'a': [{'y': 1, 'x': 2}], 2: 'x y'}, 'a': "2", 1: True}` -/

/-- mixed int / str keys on two levels, a list with a dict inside, a string leaf that spells a number -/
def exD : Entries :=
  [(.str "b".toList, .leaf (.int 1)),
   (.int 3, .dict [(.str "z".toList, .leaf .none),
                   (.str "a".toList, .list [.dict [(.str "y".toList, .leaf (.int 1)), (.str "x".toList, .leaf (.int 2))]]),
                   (.int 2, .leaf (.str "x y".toList))]),
   (.str "a".toList, .leaf (.str "2".toList)),
   (.int 1, .leaf (.bool true))]

/-- what the writer writes without ordering: `'a': "2"` re-typed to `'a': 2` -/
def exDNorm : Entries :=
  [(.str "b".toList, .leaf (.int 1)),
   (.int 3, .dict [(.str "z".toList, .leaf .none),
                   (.str "a".toList, .list [.dict [(.str "y".toList, .leaf (.int 1)), (.str "x".toList, .leaf (.int 2))]]),
                   (.int 2, .leaf (.str "x y".toList))]),
   (.str "a".toList, .leaf (.int 2)),
   (.int 1, .leaf (.bool true))]

/-- ordered: ints before strs on both levels; the dict inside the list keeps `y` before `x` -/
def exDOrd : Entries :=
  [(.int 1, .leaf (.bool true)),
   (.int 3, .dict [(.int 2, .leaf (.str "x y".toList)),
                   (.str "a".toList, .list [.dict [(.str "y".toList, .leaf (.int 1)), (.str "x".toList, .leaf (.int 2))]]),
                   (.str "z".toList, .leaf .none)]),
   (.str "a".toList, .leaf (.int 2)),
   (.str "b".toList, .leaf (.int 1))]

theorem exD_norm : normEs exD = exDNorm := by decide +kernel
theorem exD_ord : orderD exDNorm = exDOrd := by decide +kernel
theorem exD_dom : DomC01 .native exDNorm = true := by decide +kernel
theorem exD_docKeys : C01.DocKeysAbsent' exD := by decide +kernel
theorem exD_count : C02.countQuotedEs (srcOfEs .native exDNorm) = 1 := by decide +kernel

/-- (a) on the example -/
example : DomC01 .native exDOrd = true ∧ C01.DocKeysAbsent' exDOrd ∧
    C02.countQuotedEs (srcOfEs .native exDOrd) = 1 ∧ normEs exDOrd = exDOrd := by
  have hd : C01.DocKeysAbsent' exDNorm := by decide +kernel
  rw [← exD_ord]
  exact ⟨DomC01_order exD_dom, docKeys_order hd, by rw [countQuoted_order, exD_count],
    by rw [← exD_norm]; exact orderD_norm_fixed exD⟩

/-- (b) on the example: ordering first or normalising first -/
example : normEs (orderD exD) = orderD (normEs exD) ∧ orderD (normEs exD) = exDOrd := by
  rw [normEs_orderD, exD_norm, exD_ord]; exact ⟨rfl, rfl⟩

/-- the text of the ordered file: keys ascending on both dict levels, the dict inside the list as it was -/
theorem exD_text : fmtPlain .native exDOrd = C01.unlines
    ["1                             true;",
     "3",
     "{",
     "    2                         'x y';",
     "    a",
     "    (",
     "",
     "        {",
     "            y                 1;",
     "            x                 2;",
     "        }",
     "    );",
     "    z                         NULL;",
     "}",
     "a                             2;",
     "b                             1;"] := by
  simp only [C01.unlines, List.flatMap_cons, List.flatMap_nil]
  literal_chars
  rw [show fmtPlain .native exDOrd = removeTrailingSpaces (fmtEntries .native 0 (hoistPlaceholders exDOrd)) from rfl,
    C01.hoist_id (exD_ord ▸ DomC01_order exD_dom)]
  simp only [exDOrd, fmtEntries, fmtList, fmtItems]
  decide +kernel

/-- (c) on the example: written with `order=True` to `/w/dict`, read back -/
theorem exD_ordered_file (ev : Str → EvalResult) (mode : Str) :
    writeStep ev .native ["w".toList, "dict".toList] none mode true exD none = .ok (fmtPlain .native exDOrd, none) ∧
    ∃ c', readFile ev [(["w".toList, "dict".toList], .native (fmtPlain .native exDOrd))] {} none
      ["w".toList, "dict".toList] = .ok (.ok { data := exDOrd } c') := by
  have h := C15_write_ordered_read (d := exD) (c := none) ev ["w".toList, "dict".toList] mode
    (by rw [exD_norm]; exact exD_dom) exD_docKeys (by rw [exD_norm, exD_count]; decide) (Or.inl rfl)
    (by decide) (by decide) (by decide)
  rwa [exD_norm, exD_ord] at h

/-- (d) on the example: the unordered file read with `order=True` -/
theorem exD_order_flag (ev : Str → EvalResult) :
    ∃ c', readFile ev [(["w".toList, "dict".toList], .native (fmtPlain .native exDNorm))] {} none
        ["w".toList, "dict".toList] = .ok (.ok { data := exDNorm } c') ∧
      readFile ev [(["w".toList, "dict".toList], .native (fmtPlain .native exDNorm))] { order := true } none
        ["w".toList, "dict".toList] = .ok (.ok { data := exDOrd } c') := by
  have h := C15_read_order_flag (d := exD) (c := none) ev ["w".toList, "dict".toList]
    (by rw [exD_norm]; exact exD_dom) exD_docKeys (by rw [exD_norm, exD_count]; decide) (Or.inl rfl)
    (by decide) (by decide) (by decide)
  rwa [exD_norm, exD_ord] at h

/-- the two dicts differ as lists of entries (the order is observable) but not as maps -/
example : exDOrd ≠ exDNorm ∧ SameAssoc (.dict exDNorm) (.dict exDOrd) ∧ SortedV (.dict exDOrd) ∧
    ¬ SortedV (.dict exDNorm) := by
  refine ⟨by decide +kernel, ?_, ?_, ?_⟩
  · have := order_sameAssoc (.dict exDNorm) (by simp [exDNorm, NodupKeysV, NodupKeysEs, NodupKeysXs, keys])
    simpa only [orderV, ← orderD.eq_1, exD_ord] using this
  · have := order_sorted (.dict exDNorm)
    simpa only [orderV, ← orderD.eq_1, exD_ord] using this
  · intro h
    have h1 : Key.le (.str "b".toList) (.int 3) = true := by
      have := h.1
      simp only [exDNorm, SortedBy, List.pairwise_cons] at this
      exact this.1 _ List.mem_cons_self
    exact absurd h1 (by decide)

end DictIO.C15
