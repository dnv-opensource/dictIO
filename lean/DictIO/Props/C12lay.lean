/-
  Layouts of what the writer writes for a dict with placeholder entries: the common ground of the writer side of C12
  (`C12wtext`, `C12write`) and of the written text as a function of the document (`C03cycles`).  The tokens and the layout
  relations themselves (`XTok`, `layX`, `okX`, `LaysX`, `LaysL`, `layG`, `LaysP`, `LaysLP`) are those of `C12xtok`.

    `phOf`, `xtoksEs`, `wshEs`              placeholder entries; the token stream of the raw output; the shape of the data
                         (`C12W.phOf k x` recognises the entry of a comment, `C12W.phIdOf` = `C08.phIdOf` the id in its
                         word; `C05.phOf i` of C05eval is something else, the word `EXPRESSIONnnnnnn`)
    `kindB`, `phWord_kind`, `phWord_plain`  a comment placeholder word of the writer is `Ph.ph` of its kind; its characters are `Plain`
    `laysP_leaf_line`, `laysP_list_block`   the lines of an entry; a list is laid out by `C01.Fl.lays` (`LaysP.of_lays`)
    `lays_entriesP`      the raw output `fmtEntries .native lvl D` and the same output with a given text in the place of
                         every placeholder line (`fmtT`) are layouts of `xtoksEs lvl D` with the same gaps
-/
import DictIO.Props.C01fmt
import DictIO.Props.C12xtok
import DictIO.Lemmas.Induct
import DictIO.Lemmas.Ph

namespace DictIO.C12W
open DictIO

theorem fline0 (x : Str) : fline 0 x = x ++ ['\n'] := by simp [fline, spaces]

theorem semi_delim : isDelimX (.tok (.word [';'])) = true := by decide
theorem close_delim : isDelimX (.tok (.word [')'])) = true := by decide

def phIdOf (kw w : Str) : Option Nat :=
  let i := digitsVal (w.drop kw.length)
  if w = kw ++ padSix i ∧ i ≤ 999999 then some i else none

/-- kind (`true` = line comment) and id -/
def phOf (k : Key) (x : Scalar) : Option (Bool × Nat) :=
  match k, x with
  | .str w, .str w' =>
    if w = w' then
      match phIdOf kwBlock w with
      | some i => some (false, i)
      | none => (phIdOf kwLine w).map fun i => (true, i)
    else none
  | _, _ => none

theorem phIdOf_eq (kw w : Str) : phIdOf kw w = C08.phIdOf kw w := by
  simp only [phIdOf, C08.phIdOf, and_comm, Nat.lt_succ_iff]

theorem phIdOf_some {kw w : Str} {i : Nat} (h : phIdOf kw w = some i) : w = kw ++ padSix i ∧ i ≤ 999999 :=
  have h' := C08.phIdOf_some (phIdOf_eq kw w ▸ h); ⟨h'.2, Nat.le_of_lt_succ h'.1⟩

theorem phIdOf_ph (kw : Str) {i : Nat} (hi : i ≤ 999999) : phIdOf kw (kw ++ padSix i) = some i :=
  (phIdOf_eq kw _).trans (C08.phIdOf_ph kw (Nat.lt_succ_of_le hi))

theorem phOf_some {k : Key} {x : Scalar} {l : Bool} {i : Nat} (h : phOf k x = some (l, i)) :
    k = .str (phWord l i) ∧ x = .str (phWord l i) ∧ i ≤ 999999 := by
  unfold phOf at h
  split at h
  · next w w' =>
    split at h
    · next e =>
      subst e
      split at h
      · next j hj =>
        cases h
        obtain ⟨e, hi⟩ := phIdOf_some hj
        exact ⟨by rw [e]; rfl, by rw [e]; rfl, hi⟩
      · simp only [Option.map_eq_some_iff, Prod.mk.injEq] at h
        obtain ⟨j, hj, rfl, rfl⟩ := h
        obtain ⟨e, hi⟩ := phIdOf_some hj
        exact ⟨by rw [e]; rfl, by rw [e]; rfl, hi⟩
    · cases h
  · cases h

def kindB (l : Bool) : Ph.Kind := if l then .line else .block

theorem kindB_inj {l l' : Bool} (h : kindB l = kindB l') : l = l' := by
  cases l <;> cases l' <;> first | rfl | cases h

theorem phWord_kind (l : Bool) (i : Nat) : phWord l i = Ph.ph (kindB l) i := by cases l <;> rfl

theorem phWord_plain (l : Bool) (i : Nat) : ∀ c ∈ phWord l i, Plain c := by rw [phWord_kind]; exact Ph.plain _ i

theorem phWord_chars (l : Bool) (i : Nat) : ∀ c ∈ phWord l i,
    isWs c = false ∧ Gen.delimiters.contains c = false ∧ isQuote c = false ∧ c ≠ '$' ∧ isComplexChar c = false ∧
    c ≠ '#' ∧ c ≠ '\n' ∧ c ≠ '\r' ∧ c ≠ ';' ∧ c ≠ '/' := fun c hc =>
  have p := phWord_plain l i c hc
  ⟨p.nws, p.ndelim, p.nquote, p.ne (by decide), p.ncomplex, p.ne (by decide), (ne_of_class (by decide) p.nws).symm,
    (ne_of_class (by decide) p.nws).symm,
    (ne_of_class (p := fun c => Gen.delimiters.contains c) (by decide) p.ndelim).symm, p.ne (by decide)⟩

theorem kw_lengths : kwLine.length = 11 ∧ kwBlock.length = 12 := by decide

theorem phWord_ne (l : Bool) (i : Nat) : phWord l i ≠ [] := fun h =>
  Ph.kw_ne_nil (Ph.kw_mem (kindB l)) (List.append_eq_nil_iff.mp (phWord_kind l i ▸ h)).1

theorem phWord_length (l : Bool) {i : Nat} (hi : i ≤ 999999) : (phWord l i).length = if l then 17 else 18 := by
  cases l <;> simp [phWord, padSix_length (Nat.lt_succ_of_le hi), kw_lengths]

theorem phWord_format_fl (fl : Flavor) (l : Bool) (i : Nat) : formatString fl (phWord l i) = phWord l i :=
  formatString_plain fl (phWord_ne l i) (phWord_plain l i)

theorem phWord_format (l : Bool) (i : Nat) : formatString .native (phWord l i) = phWord l i := phWord_format_fl .native l i

/-- the blanks between key and value on an entry line -/
def padOf (lvl : Nat) (skey : Str) : Str := spaces (max 8 (30 - skey.length - 4 * lvl))

theorem padOf_ws (lvl : Nat) (s : Str) : (padOf lvl s).all isWs = true := C01.spaces_ws _
theorem padOf_ne (lvl : Nat) (s : Str) : padOf lvl s ≠ [] := C01.spaces_ne (by omega)

def xtoksEs (lvl : Nat) : Entries → List XTok
  | [] => []
  | (k, .dict es) :: r =>
    .tok (.word (keyStr k)) :: .tok (.word ['{']) :: xtoksEs (lvl + 1) es ++ [.tok (.word ['}'])] ++ xtoksEs lvl r
  | (k, .list xs) :: r =>
    .tok (.word (keyStr k)) :: (.tok (.word ['(']) :: (srcToksXs (srcOfXs .native xs)).map XTok.tok ++
      [.tok (.word [')']), .tok (.word [';'])]) ++ xtoksEs lvl r
  | (k, .leaf x) :: r =>
    (match phOf k x with
     | some (l, i) => [.ph l i (padOf lvl (phWord l i))]
     | none => [.tok (.word (keyStr k)), .tok (writtenLit .native x).tok, .tok (.word [';'])]) ++ xtoksEs lvl r

def wshEs (d : Nat) : Entries → Bool
  | [] => true
  | (k, .dict es) :: r => isDomKey k && wshEs (d + 1) es && wshEs d r
  | (k, .list xs) :: r => isDomKey k && domXs .native (d + 1) xs && wshEs d r
  | (k, .leaf x) :: r => ((phOf k x).isSome || (isDomKey k && isDomScalar .native x && decide (d ≤ 10))) && wshEs d r

end DictIO.C12W

namespace DictIO.C03c
open DictIO DictIO.C12W

theorem LaysP.of_lays {tx : XTok → Str} (htok : ∀ t, tx (.tok t) = t.text) {pd : Bool} {ts : List STok} {txt : Str}
    (h : C01.Lays pd ts txt) : ∃ tail, LaysP tx (ctxPd pd) (ts.map .tok) txt txt tail := by
  obtain ⟨tail, h⟩ := lays_iff.mp h
  exact ⟨tail, h.toP fun x hx => by obtain ⟨t, _, rfl⟩ := List.mem_map.mp hx; exact htok t⟩

theorem LaysLP.line (tx : XTok → Str) (lvl : Nat) (t : XTok) : LaysLP tx [t] (fline lvl t.text) (fline lvl (tx t)) := by
  refine Or.inr ⟨by simp, ?_⟩
  have := LaysP.tok tx .cov (g := spaces (4 * lvl)) (tail := ['\n']) t (C01.spaces_ws _) nl_ws rfl
  simpa [fline] using this

section
variable (tx : XTok → Str) (htok : ∀ t, tx (.tok t) = t.text)
include htok

theorem laysP_leaf_line (lvl : Nat) (k v : STok) (pad : Str) (hp : pad.all isWs = true) (hne : pad ≠ []) :
    LaysLP tx [.tok k, .tok v, .tok (.word [';'])] (fline lvl (k.text ++ pad ++ v.text ++ [';']))
      (fline lvl (k.text ++ pad ++ v.text ++ [';'])) := by
  have h0 := LaysP.tok tx .cov (g := spaces (4 * lvl)) (tail := []) (.tok k) (C01.spaces_ws _) rfl rfl
  have h1 := LaysP.tok tx .bk (g := pad) (tail := []) (.tok v) hp rfl (by simpa [gapOK] using hne)
  have h2 := LaysP.tok tx .wd (g := []) (tail := ['\n']) (.tok (.word [';'])) rfl nl_ws
    (by simp [gapOK, semi_delim])
  have h01 := h0.append h1 (by simp) (fun u g _ hg => by
    rw [lastCtx_singleton, List.nil_append]
    have hgne : g ≠ [] := by simpa [gapOK] using hg
    rcases ctxAfter_tok k with e | e <;> rw [e] <;> exact gapOK_ne (by decide) u hgne)
  have h012 := h01.append h2 (by simp) (fun u g _ hg => by
    have : lastCtx Ctx.cov ([XTok.tok k] ++ [XTok.tok v]) = ctxAfter (.tok v) := rfl
    rw [this]
    exact gapOK_wd_ext (ctxAfter_tok v) u [] g hg)
  refine Or.inr ⟨by simp, ?_⟩
  simpa [fline, XTok.text, STok.text, htok] using h012

theorem laysP_list_block (lvl : Nat) (xs : List Val) (d : Nat) (h : domXs .native d xs = true) :
    LaysLP tx (.tok (.word ['(']) :: (srcToksXs (srcOfXs .native xs)).map XTok.tok ++ [.tok (.word [')']), .tok (.word [';'])])
      (fmtList .native lvl false xs) (fmtList .native lvl false xs) := by
  have hi := C01.Fl.lays.2 xs d lvl xs.length 0 true h
  obtain ⟨tl, p2⟩ := LaysP.of_lays htok hi
  have p1 := LaysP.tok tx .cov (g := spaces (4 * lvl)) (tail := ['\n']) (.tok (.word ['('])) (C01.spaces_ws _) nl_ws rfl
  have p12 : ∃ tl', LaysP tx .cov (.tok (.word ['(']) :: (srcToksXs (srcOfXs .native xs)).map XTok.tok)
      (spaces (4 * lvl) ++ (XTok.tok (.word ['('])).text ++ ['\n'] ++ fmtItems .native lvl xs.length 0 true xs)
      (spaces (4 * lvl) ++ tx (XTok.tok (.word ['('])) ++ ['\n'] ++ fmtItems .native lvl xs.length 0 true xs) tl' := by
    by_cases hne : (srcToksXs (srcOfXs .native xs)).map XTok.tok = []
    · rw [hne] at p2 ⊢
      exact ⟨_, p1.append_nil p2⟩
    · exact ⟨_, p1.append p2 hne fun u g _ _ => gapOK_nl _ u g⟩
  obtain ⟨tl', p12⟩ := p12
  have hl := ctxPd_cases (C01.lastDelim true (srcToksXs (srcOfXs .native xs)))
  rw [← lastCtx_lift] at hl
  have p3 := LaysP.tok tx .wd (g := spaces (4 * lvl)) (tail := []) (.tok (.word [')'])) (C01.spaces_ws _) rfl
    (by simp [gapOK, close_delim])
  have p4 := LaysP.tok tx .wd (g := []) (tail := ['\n']) (.tok (.word [';'])) rfl nl_ws (by simp [gapOK, semi_delim])
  have p123 := p12.append p3 (by simp) (fun u g _ hg => gapOK_wd_ext hl u tl' g hg)
  have p1234 := p123.append p4 (by simp) (fun u g _ hg => by
    rw [lastCtx_append, lastCtx_singleton]
    exact gapOK_wd_ext (ctxAfter_tok _) u [] g hg)
  refine Or.inr ⟨by simp, ?_⟩
  simpa [fmtList, fline, XTok.text, STok.text, htok, List.append_assoc] using p1234

end

def txOf (τ : Bool → Nat → Str) : XTok → Str
  | .ph l i _ => τ l i
  | t => t.text

/-- the comment texts looked up in the two tables -/
def tauOf (L B : Tbl Str) (l : Bool) (i : Nat) : Str := ((if l then L else B).get? i).getD []

def fmtT (τ : Bool → Nat → Str) (lvl : Nat) : Entries → Str
  | [] => []
  | (k, .dict es) :: r =>
    fline lvl (keyStr k) ++ fline lvl ['{'] ++ fmtT τ (lvl + 1) es ++ fline lvl ['}'] ++ fmtT τ lvl r
  | (k, .list xs) :: r => fline lvl (keyStr k) ++ fmtList .native lvl false xs ++ fmtT τ lvl r
  | (k, .leaf x) :: r =>
    (match phOf k x with
     | some (l, i) => fline lvl (τ l i)
     | none => fline lvl (keyStr k ++ padOf lvl (keyStr k) ++ formatScalar .native x ++ [';'])) ++ fmtT τ lvl r
termination_by D => D

/-- the raw output and the output with the comments in place are layouts with the same gaps
    (`C12W.fmt_labelled_is_layout` is the half about the raw output) -/
theorem lays_entriesP (τ : Bool → Nat → Str) : ∀ (d lvl : Nat) (D : Entries), wshEs d D = true →
    LaysLP (txOf τ) (xtoksEs lvl D) (fmtEntries .native lvl D) (fmtT τ lvl D) := by
  intro d lvl D
  induction D using Entries.ind generalizing d lvl with
  | nil => intro _; simp only [xtoksEs, fmtEntries, fmtT]; exact LaysLP.nil _
  | leaf k x r ih =>
    intro h
    simp only [wshEs, Bool.and_eq_true, Bool.or_eq_true, decide_eq_true_eq] at h
    have h4 := ih d lvl h.2
    cases hp : phOf k x with
    | some li =>
      obtain ⟨l, i⟩ := li
      obtain ⟨rfl, rfl, hi⟩ := phOf_some hp
      have h0 := LaysLP.line (txOf τ) lvl (.ph l i (padOf lvl (phWord l i)))
      have := h0.append h4
      simpa [xtoksEs, hp, fmtEntries, fmtT, txOf, XTok.text, formatKey, formatScalar, phWord_format, padOf] using this
    | none =>
      rw [hp] at h
      rcases h.1 with h1 | h1
      · cases h1
      · have h0 := laysP_leaf_line (txOf τ) (fun _ => rfl) lvl (.word (keyStr k)) (writtenLit .native x).tok
          (padOf lvl (keyStr k)) (padOf_ws _ _) (padOf_ne _ _)
        have := h0.append h4
        simpa [xtoksEs, hp, fmtEntries, fmtT, C01.text_word, C01.written_text, C01.formatKey_dom h1.1.1, padOf]
          using this
  | list k xs r ih =>
    intro h
    simp only [wshEs, Bool.and_eq_true] at h
    have h0 := LaysLP.line (txOf τ) lvl (.tok (.word (keyStr k)))
    have h1 := laysP_list_block (txOf τ) (fun _ => rfl) lvl xs (d + 1) h.1.2
    have := (h0.append h1).append (ih d lvl h.2)
    simpa [xtoksEs, fmtEntries, fmtT, txOf, XTok.text, STok.text] using this
  | dict k es r ihs ih =>
    intro h
    simp only [wshEs, Bool.and_eq_true] at h
    have h0 := LaysLP.line (txOf τ) lvl (.tok (.word (keyStr k)))
    have h1 := LaysLP.line (txOf τ) lvl (.tok (.word ['{']))
    have h3 := LaysLP.line (txOf τ) lvl (.tok (.word ['}']))
    have := (((h0.append h1).append (ihs (d + 1) (lvl + 1) h.1.2)).append h3).append (ih d lvl h.2)
    simpa [xtoksEs, fmtEntries, fmtT, txOf, XTok.text, STok.text] using this

end DictIO.C03c
