/-
  C15 -- Ordering sorts keys at every dict level and changes nothing else.
  Model: `orderV`/`orderD` (`utils/dict.py:order_keys`), `SD.order` (`SDict.order_keys`).
  The facts about one dict level are in `Lemmas/Order`, `Lemmas/Assoc`.
-/
import DictIO.Lemmas.Order
import DictIO.Lemmas.Assoc

namespace DictIO.C15
open DictIO

/-! #### specification vocabulary -/

mutual
  /-- "same key → value association at every level": dicts are compared as maps, recursively;
      lists (and the dicts inside lists) must be *identical*, order included -/
  def SameAssoc : Val → Val → Prop
    | .leaf x, w => w = .leaf x
    | .list xs, w => w = .list xs
    | .dict es, .dict fs => (keys fs).Perm (keys es) ∧ SameAssocEs es fs
    | .dict _, _ => False
  /-- every entry on the left has an entry with the same key and an associated value on the right -/
  def SameAssocEs : Entries → Entries → Prop
    | [], _ => True
    | (k, v) :: es, fs => (∃ w, lookup k fs = some w ∧ SameAssoc v w) ∧ SameAssocEs es fs
end

mutual
  /-- keys ascending, ints before strs, at every dict level reachable through dict nesting -/
  def SortedV : Val → Prop
    | .dict es => SortedK es ∧ SortedEs es
    | _ => True
  def SortedEs : Entries → Prop
    | [] => True
    | (_, v) :: es => SortedV v ∧ SortedEs es
end

theorem sortedEs_iff : ∀ {es : Entries}, SortedEs es ↔ ∀ e ∈ es, SortedV e.2
  | [] => ⟨fun _ _ h => (nomatch h), fun _ => trivial⟩
  | (k, v) :: es => by rw [SortedEs, sortedEs_iff (es := es), List.forall_mem_cons]

/-! #### the property -/

/-- (1) the ordered dict has the same key → value association, at this level … -/
theorem order_lookup (es : Entries) (hn : (keys es).Nodup) (k : Key) :
    lookup k (orderD es) = (lookup k es).map orderV := by
  rw [orderD, orderEs_eq_map]; exact lookup_sortByKey_mapVal orderV hn k

/-- … and the key set is the same (nothing added, nothing lost, nothing duplicated) -/
theorem order_keys_perm (es : Entries) : (keys (orderD es)).Perm (keys es) := keys_orderD_perm es

mutual
  /-- (1') … and at every level below: ordering preserves the association recursively -/
  theorem order_sameAssoc : ∀ v : Val, NodupKeysV v → SameAssoc v (orderV v)
    | .leaf x, _ => by simp [orderV, SameAssoc]
    | .list xs, _ => by simp [orderV, SameAssoc]
    | .dict es, h => by
      simp only [orderV, SameAssoc]
      exact ⟨order_keys_perm es, order_sameAssocEs es es h.1 h.2 (fun _ h => h)⟩
  theorem order_sameAssocEs : ∀ (sub es : Entries), (keys es).Nodup → NodupKeysEs sub →
      (∀ e, e ∈ sub → e ∈ es) → SameAssocEs sub (sortByKey (orderEs es))
    | [], _, _, _, _ => trivial
    | (k, v) :: sub, es, hn, h, hsub => by
      refine ⟨⟨orderV v, ?_, order_sameAssoc v h.1⟩, order_sameAssocEs sub es hn h.2 fun e he => hsub e (List.mem_cons_of_mem _ he)⟩
      have := order_lookup es hn k
      unfold orderD at this
      rw [this, lookup_of_mem_nodup hn (hsub (k, v) List.mem_cons_self)]; rfl
end

mutual
  /-- (2) after ordering, keys ascend (ints before strs, strs by code point) at every dict level -/
  theorem order_sorted : ∀ v : Val, SortedV (orderV v)
    | .leaf _ => by simp [orderV, SortedV]
    | .list _ => by simp [orderV, SortedV]
    | .dict es => by
      simp only [orderV, SortedV]
      exact ⟨sortBy_sorted Key.totalLe _, sortedEs_iff.mpr fun e he =>
        sortedEs_iff.mp (orderEs_sorted es) e ((sortBy_perm (orderEs es)).mem_iff.mp he)⟩
  theorem orderEs_sorted : ∀ es : Entries, SortedEs (orderEs es)
    | [] => trivial
    | (_, v) :: es => ⟨order_sorted v, orderEs_sorted es⟩
end

/-- (3) lists, and the dicts inside lists, keep their order: a list is returned unchanged -/
theorem order_lists_untouched (xs : List Val) : orderV (.list xs) = .list xs := rfl

mutual
  /-- (4) idempotence -/
  theorem order_idem : ∀ v : Val, NodupKeysV v → orderV (orderV v) = orderV v
    | .leaf _, _ => rfl
    | .list _, _ => rfl
    | .dict es, h => by
      simp only [orderV]
      have hfix : orderEs (sortByKey (orderEs es)) = sortByKey (orderEs es) :=
        orderEs_fix _ (fun e he => by
          have he' := (sortBy_perm (orderEs es)).mem_iff.mp he
          exact orderEs_idem_mem es h.2 e he')
      rw [hfix]
      congr 1
      apply sortBy_of_sorted Key.totalLe _ (sortBy_sorted Key.totalLe _)
      have := order_keys_perm es
      unfold orderD at this
      exact this.nodup_iff.mpr h.1
  theorem orderEs_idem_mem : ∀ es : Entries, NodupKeysEs es → ∀ e ∈ orderEs es, orderV e.2 = e.2
    | [], _, e, he => by simp [orderEs] at he
    | (k, v) :: es, h, e, he => by
      simp only [orderEs] at he
      rcases List.mem_cons.mp he with rfl | hm
      · exact order_idem v h.1
      · exact orderEs_idem_mem es h.2 e hm
  theorem orderEs_fix : ∀ l : Entries, (∀ e ∈ l, orderV e.2 = e.2) → orderEs l = l
    | [], _ => rfl
    | (k, v) :: es, h => by
      simp only [orderEs]
      rw [h (k, v) List.mem_cons_self, orderEs_fix es fun e he => h e (List.mem_cons_of_mem _ he)]
end

/-- (5) `SDict.order_keys` orders the data and leaves every side table with the same entries, ids ascending -/
theorem order_tables (s : SD) :
    s.order.data = orderD s.data ∧
    (s.order.lineC.Perm s.lineC ∧ SortedBy (fun a b : Nat => decide (a ≤ b)) s.order.lineC) ∧
    (s.order.blockC.Perm s.blockC ∧ SortedBy (fun a b : Nat => decide (a ≤ b)) s.order.blockC) ∧
    (s.order.exprs.Perm s.exprs ∧ SortedBy (fun a b : Nat => decide (a ≤ b)) s.order.exprs) ∧
    (s.order.incl.Perm s.incl ∧ SortedBy (fun a b : Nat => decide (a ≤ b)) s.order.incl) :=
  ⟨rfl, ⟨sortBy_perm _, sortBy_sorted Nat.totalLe _⟩, ⟨sortBy_perm _, sortBy_sorted Nat.totalLe _⟩,
    ⟨sortBy_perm _, sortBy_sorted Nat.totalLe _⟩, ⟨sortBy_perm _, sortBy_sorted Nat.totalLe _⟩⟩

/-! #### non-vacuity -/

example : NodupKeysV (.dict [(.str "b".toList, .leaf (.int 1)), (.int 3, .dict [(.str "z".toList, .leaf .none), (.str "a".toList, .leaf (.bool true))])]) := by
  simp [NodupKeysV, NodupKeysEs, keys]

example : orderV (.dict [(.str "b".toList, .leaf (.int 1)), (.int 3, .dict [(.str "z".toList, .leaf .none), (.str "a".toList, .leaf (.bool true))])])
    = .dict [(.int 3, .dict [(.str "a".toList, .leaf (.bool true)), (.str "z".toList, .leaf .none)]), (.str "b".toList, .leaf (.int 1))] := by
  decide

end DictIO.C15
