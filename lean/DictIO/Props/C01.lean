/-
  C01 -- Native dict files: what is written is what is read back.  The three public routes.

    route 1   formatter + parser on strings        `C01_roundtrip_string`, restated as `C01_roundtrip_route1`
    route 2   DictWriter + DictReader on files      `C01_roundtrip_file`
    route 3   SDict.dump + SDict.load               `C01_roundtrip_dump_statement` (the statement; proved as
                                                    `C01_roundtrip_dump` in Props/C01dump.lean),
                                                    `C01_roundtrip_dump_partial` (what the text written is)

  Model: `writeStep` (Model/Writer.lean), `readFile`, `parseFile`, `mergeIncludes`, `evalExpressions`
  (Model/Reader.lean), `fmtPlain`, `fmtSD` (Model/NativeFormat.lean), `normEs`, `DomC01` (Model/Written.lean).

  Route 1 first: `C01.C01_writer` (C01fmt) says that the writer's text is an admissible layout of the well-formed
  document `srcOfEs .native es`, which means `normEs es`; `Fl.read_written` composes it with the reader
  (`C02.C02_layout_tolerant_gen`) for any flavour and says that the counter is valid afterwards; `exDict_roundtrip`
  (the dict of C01fmt).  Then: (a) the reader stages above the parser are identities on a parsed dict
  without includes and expressions; (b) route 1 restated; (c) route 2; (d) route 3; non-vacuity.  Last,
  `C09.docKeys_src`: `DocKeysAbsent'` of a dict is `C02.DocKeysAbsent` of the document written for it (for the files
  that read a written dict through the reader theorems of C12).
-/
import DictIO.Props.C02main
import DictIO.Props.C01fmt
import DictIO.Model.Writer
import DictIO.Lemmas.Reader

/-! ## C01, route 1 (formatter + parser on strings), native flavour -/

namespace DictIO.C01
open DictIO

/-- no top-level key is `_variables` or `_includes` -/
def DocKeysAbsent' (es : Entries) : Prop :=
  ∀ e ∈ es, e.1 ≠ .str "_variables".toList ∧ e.1 ≠ .str "_includes".toList

instance (es : Entries) : Decidable (DocKeysAbsent' es) := by unfold DocKeysAbsent'; infer_instance

theorem norm_lookup_none {es : Entries} {k : Key} (h : ∀ e ∈ es, e.1 ≠ k) : lookup k (normEs es) = none := by
  rw [lookup_eq_none_iff, keys_normEs]
  intro hm
  obtain ⟨e, he, hk⟩ := List.mem_map.mp hm
  exact h e he hk

/-- the writer followed by the reader, for any flavour `fl` whose written scalars are admissible source literals
    (`hok`) that mean their normal form (`hden`): the text written for a dict of the domain — reordering, formatting,
    trailing-space removal — is read back as the normalised dict, and the counter is valid afterwards -/
theorem Fl.read_written {fl : Flavor} (hok : ∀ {x}, isDomScalar fl x = true → (writtenLit fl x).ok = true)
    (hden : ∀ {x}, isDomScalar fl x = true → (writtenLit fl x).den = normScalar x)
    {es : Entries} {c : Counter} (comments : Bool) (dir : Str) (h : DomC01 fl es = true) (hd : DocKeysAbsent' es)
    (hn : C02.countQuotedEs (srcOfEs fl es) ≤ Gen.counterLimit + 1) (hc : C13.ValidCounter Gen.counterLimit c) :
    ∃ c', C13.ValidCounter Gen.counterLimit c' ∧
      parseNative comments dir c (removeTrailingSpaces (fmtEntries fl 0 (hoistPlaceholders es))) =
        .ok ({ data := normEs es }, c') := by
  obtain ⟨hwf, hden', gaps, tail, e, hg, ht⟩ := Fl.writer hok hden h
  have hr := C02.C02_layout_tolerant_gen comments dir hwf hg ht hc hn
    (by rw [hden']; exact norm_lookup_none fun e he => (hd e he).1)
    (by rw [hden']; exact norm_lookup_none fun e he => (hd e he).2)
  rw [← e, hden'] at hr
  exact ⟨_, parseNative_valid hr hc, hr⟩

theorem Fl.roundtrip {fl : Flavor} (hok : ∀ {x}, isDomScalar fl x = true → (writtenLit fl x).ok = true)
    (hden : ∀ {x}, isDomScalar fl x = true → (writtenLit fl x).den = normScalar x)
    {es : Entries} {c : Counter} (comments : Bool) (dir : Str) (h : DomC01 fl es = true) (hd : DocKeysAbsent' es)
    (hn : C02.countQuotedEs (srcOfEs fl es) ≤ Gen.counterLimit + 1) (hc : C13.ValidCounter Gen.counterLimit c) :
    ∃ c', parseNative comments dir c (removeTrailingSpaces (fmtEntries fl 0 (hoistPlaceholders es))) =
      .ok ({ data := normEs es }, c') :=
  let ⟨c', _, h'⟩ := Fl.read_written hok hden comments dir h hd hn hc
  ⟨c', h'⟩

/-- **C01 (strings, native).**  For a dict of the value domain, the text the native writer produces is read back by
    the native reader — with `comments` on or off — as the dict with the documented element-type normalisation
    (`normEs`: a string that spells a number, boolean or none comes back typed), with all side tables empty.

    Hypotheses: the two documentation keys, which the reader deletes, are not among the top-level keys; the writer
    quotes at most `counterLimit + 1` strings; the counter state is one that can occur. -/
theorem C01_roundtrip_string {es : Entries} {c : Counter} (comments : Bool) (dir : Str) :
    DomC01 .native es = true → DocKeysAbsent' es →
    C02.countQuotedEs (srcOfEs .native es) ≤ Gen.counterLimit + 1 → C13.ValidCounter Gen.counterLimit c →
    ∃ c', parseNative comments dir c (fmtPlain .native es) = .ok ({ data := normEs es }, c') :=
  Fl.roundtrip written_ok den_writtenLit comments dir

/-- the writer followed by the reader never fails on the domain -/
theorem C01_roundtrip_never_fails {es : Entries} {c : Counter} (comments : Bool) (dir : Str)
    (h : DomC01 .native es = true) (hd : DocKeysAbsent' es)
    (hn : C02.countQuotedEs (srcOfEs .native es) ≤ Gen.counterLimit + 1) (hc : C13.ValidCounter Gen.counterLimit c) :
    ∃ r, parseNative comments dir c (fmtPlain .native es) = .ok r := by
  obtain ⟨c', h'⟩ := C01_roundtrip_string comments dir h hd hn hc
  exact ⟨_, h'⟩

/-! ### non-vacuity: the example dict of `C01fmt` -/

theorem exDict_docKeys : DocKeysAbsent' exDict := by decide +kernel

theorem exDict_count : C02.countQuotedEs (srcOfEs .native exDict) = 4 := by decide +kernel

/-- `{'k': 'a;b', 'l': [1, 'x y', {'q': "it's"}], 's': {'t': 2.5, 7: None}, 'e': ''}` written and read back -/
theorem exDict_roundtrip (comments : Bool) (dir : Str) :
    ∃ c', parseNative comments dir none (unlines
      ["k                             'a;b';",
       "l",
       "(",
       "    1                 'x y'",
       "    {",
       "        q                     \"it's\";",
       "    }",
       ");",
       "s",
       "{",
       "    t                         2.5;",
       "    7                         NULL;",
       "}",
       "e                             '';"]) = .ok ({ data := exDict }, c') := by
  have h := C01_roundtrip_string (c := none) comments dir exDict_dom exDict_docKeys
    (by rw [exDict_count]; decide) (Or.inl rfl)
  rw [exDict_text, exDict_norm] at h
  exact h

end DictIO.C01

namespace DictIO.C01
open DictIO

/-- merging a table into itself adds nothing: every id of the table is present -/
theorem tbl_merge_sub {α} : ∀ (o t : Tbl α), (∀ e ∈ o, (Tbl.get? e.1 t).isSome = true) → Tbl.merge t o = t
  | [], _, _ => rfl
  | e :: o, t, h => by
    rw [tbl_merge_cons, if_pos (h e List.mem_cons_self)]
    exact tbl_merge_sub o t fun e he => h e (List.mem_cons_of_mem _ he)

theorem tbl_get_of_mem {α} (t : Tbl α) (e : Nat × α) (h : e ∈ t) : (Tbl.get? e.1 t).isSome = true :=
  Option.isSome_iff_ne_none.mpr fun hn => tbl_get_eq_none_iff.mp hn (List.mem_map_of_mem h)

theorem tbl_merge_self {α} (t : Tbl α) : Tbl.merge t t = t := tbl_merge_sub t t (tbl_get_of_mem t)

theorem tbl_merge_nil {α} (t : Tbl α) : Tbl.merge t [] = t := DictIO.tbl_merge_nil t

/-! ## (a) the reader stages above the parser -/

/-- `sd.merge(SDict())`, the empty temporary dict of `_merge_includes`: what is left of `merge` is its closing `_clean` -/
theorem merge_empty (sd : SD) : sd.merge (.sd {}) = sd.clean := by
  have h : ({ sd with data := mergeD true sd.exprs sd.data (Arg.sd {}).data } : SD).postMerge (.sd {}) = sd := by
    cases sd; simp [SD.postMerge, Arg.data, C07.mergeD_nil, tbl_merge_nil]
  unfold SD.merge
  rw [h]

/-- `sd.merge(sd)`, the closing self-merge of `_merge_includes` -/
theorem merge_self (sd : SD) (hn : NodupKeysV (.dict sd.data)) : sd.merge (.sd sd) = sd.clean := by
  have h : ({ sd with data := mergeD true sd.exprs sd.data (Arg.sd sd).data } : SD).postMerge (.sd sd) = sd := by
    cases sd
    simp only [SD.postMerge, Arg.data, tbl_merge_self]
    rw [C07.mergeD_self _ true _ hn]
  unfold SD.merge
  rw [h]

theorem merge_self_clean (sd : SD) (hcl : sd.clean = sd) (hn : NodupKeysV (.dict sd.data)) :
    sd.merge (.sd sd) = sd := by
  rw [merge_self sd hn, hcl]

/-- the two merges `_merge_includes` makes on a dict without include entries leave alone a dict that `_clean`
    leaves alone -/
theorem selfMerge_clean {sd : SD} (hcl : sd.clean = sd) (hn : NodupKeysV (.dict sd.data)) :
    C08api.selfMerge sd = sd := by
  simp only [C08api.selfMerge]
  rw [merge_empty, hcl, merge_self_clean sd hcl hn]

/-- **(a1)** `_merge_includes` on a dict without include entries on which `_clean` is the identity returns it
    unchanged (data and all four tables) and leaves the counter alone -/
theorem mergeIncludes_clean (fs : FS) (comments : Bool) (sd : SD) (dir : Comps) (c : Counter)
    (hi : sd.incl = []) (hcl : sd.clean = sd) (hn : NodupKeysV (.dict sd.data)) :
    mergeIncludes fs comments sd dir c = .ok (sd, c) := by
  rw [DictIO.mergeIncludes_noincl fs comments dir c hi, selfMerge_clean hcl hn]

/-! ## the element-type normalisation is idempotent -/

/-- a typed value stays; a string that stays a string stays (e.g. `"'1'"`: `parseValue` gives the string `"1"`, so
    `normScalar` keeps `"'1'"`, and keeps it again) -/
theorem normScalar_idem (x : Scalar) : normScalar (normScalar x) = normScalar x := by
  cases x with
  | str s =>
    cases h : parseValue s <;> simp [normScalar, h]
  | _ => rfl

mutual
  theorem normV_idem : ∀ v : Val, normV (normV v) = normV v
    | .leaf x => by simp [normV, normScalar_idem]
    | .dict es => by simp [normV, normEs_idem es]
    | .list xs => by simp [normV, normXs_idem xs]
  /-- `_retype_values` applied twice is `_retype_values` -/
  theorem normEs_idem : ∀ es : Entries, normEs (normEs es) = normEs es
    | [] => by simp [normEs]
    | (k, v) :: es => by simp [normEs, normV_idem v, normEs_idem es]
  theorem normXs_idem : ∀ xs : List Val, normXs (normXs xs) = normXs xs
    | [] => by simp [normXs]
    | v :: xs => by simp [normXs, normV_idem v, normXs_idem xs]
end

/-! ## (b) route 1 : `NativeParser.parse_string(NativeFormatter.to_string(d))` -/

/-- **C01, route 1** (formatter + parser on strings): the text the native writer produces for a dict of the value
    domain is read back, with `comments` on or off, as the dict with the documented element-type normalisation and
    empty side tables.  This is `C01_roundtrip_string` under its route name. -/
theorem C01_roundtrip_route1 {es : Entries} {c : Counter} (comments : Bool) (dir : Str) :
    DomC01 .native es = true → DocKeysAbsent' es →
    C02.countQuotedEs (srcOfEs .native es) ≤ Gen.counterLimit + 1 → C13.ValidCounter Gen.counterLimit c →
    ∃ c', parseNative comments dir c (fmtPlain .native es) = .ok ({ data := normEs es }, c') :=
  C01_roundtrip_string comments dir

/-! ## (c) route 2 : `DictWriter.write(d, f, mode)` then `DictReader.read(f)` -/

/-- a dict of the value domain, normalised, has no placeholder key and unique keys at every level -/
theorem norm_invariants {es : Entries} (h : DomC01 .native es = true) :
    C07.NoPhEs (normEs es) ∧ NodupKeysV (.dict (normEs es)) := by
  obtain ⟨hwf, hden, _⟩ := C01_writer h
  rw [← hden]
  exact ⟨C02.den_noPh hwf, C02.den_nodup _⟩

theorem fs_get_single (p : Comps) (b : FileBody) : FS.get [(p, b)] p = some b := by
  simp [FS.get, List.find?]

/-- **The read lemma of the round trips.**  A native file, in any file system and read with any options, whose text
    parses to an `SDict` without include and expression entries that `_clean` leaves alone: the stages above the
    parser change nothing, the read is `readPost` of the parsed dict. -/
theorem readFile_clean {ev : Str → EvalResult} {fs : FS} {o : ReadOpts} {c c' : Counter} {p : Comps} {text : Str} {sd : SD}
    (hget : fs.get (resolveSpelled p) = some (.native text)) (hx : isXmlPath p = false) (hj : isJsonPath p = false)
    (hparse : parseNative o.comments (pathStr p.dropLast) c text = .ok (sd, c')) (hi : sd.incl = []) (he : sd.exprs = [])
    (hcl : sd.clean = sd) (hn : NodupKeysV (.dict sd.data)) : readFile ev fs o c p = .ok (readPost o sd c') :=
  readFile_of_parseNative hget hx hj hparse hi he fun _ => selfMerge_clean hcl hn

/-- `DictReader.read`, with any options that keep the comments, of the writer's text for a normalised dict `e` of the
    value domain, in every file system that holds it at `target`: `e`, and the same (valid) counter in all of them -/
theorem read_written_fs {e : Entries} {c : Counter} (ev : Str → EvalResult) (target : Comps)
    (hdom : DomC01 .native e = true) (hnorm : normEs e = e) (hd : DocKeysAbsent' e)
    (hn : C02.countQuotedEs (srcOfEs .native e) ≤ Gen.counterLimit + 1) (hc : C13.ValidCounter Gen.counterLimit c)
    (hj : isJsonPath target = false) (hx : isXmlPath target = false) (hr : resolveSpelled target = target) :
    ∃ c', C13.ValidCounter Gen.counterLimit c' ∧
      ∀ (fs : FS) (o : ReadOpts), o.comments = true → fs.get target = some (.native (fmtPlain .native e)) →
        readFile ev fs o c target = .ok (readPost o { data := e } c') := by
  obtain ⟨c', hparse⟩ := C01_roundtrip_string (c := c) true (pathStr target.dropLast) hdom hd hn hc
  rw [hnorm] at hparse
  have hinv := norm_invariants hdom
  rw [hnorm] at hinv
  exact ⟨c', parseNative_valid hparse hc, fun fs o ho hget => readFile_clean (by rw [hr]; exact hget) hx hj
    (by rw [ho]; exact hparse) rfl rfl (C07.clean_id _ hinv.2 hinv.1) hinv.2⟩

/-- … in the one-file file system, default options -/
theorem read_written {e : Entries} {c : Counter} (ev : Str → EvalResult) (target : Comps)
    (hdom : DomC01 .native e = true) (hnorm : normEs e = e) (hd : DocKeysAbsent' e)
    (hn : C02.countQuotedEs (srcOfEs .native e) ≤ Gen.counterLimit + 1) (hc : C13.ValidCounter Gen.counterLimit c)
    (hj : isJsonPath target = false) (hx : isXmlPath target = false) (hr : resolveSpelled target = target) :
    ∃ c', readFile ev [(target, .native (fmtPlain .native e))] {} c target = .ok (.ok { data := e } c') := by
  obtain ⟨c', _, h⟩ := read_written_fs (c := c) ev target hdom hnorm hd hn hc hj hx hr
  exact ⟨c', h _ {} rfl (fs_get_single _ _)⟩

/-- the writer's normalisation keeps the keys, so it keeps the documentation keys away -/
theorem docKeysAbsent_norm {d : Entries} (hd : DocKeysAbsent' d) : DocKeysAbsent' (normEs d) := by
  intro e he
  have hk : e.1 ∈ keys d := by rw [← keys_normEs]; exact List.mem_map_of_mem (f := (·.1)) he
  obtain ⟨e', he', hk'⟩ := List.mem_map.mp hk
  rw [← hk']; exact hd e' he'

/-- **C01, route 2** (DictWriter + DictReader on files).  For a dict `d` whose normal form `normEs d` (the writer
    first re-types strings that spell numbers / booleans / none: `writeStep` starts with `normEs`) lies in the value
    domain, writing it with any `mode` to a target that does not exist yet writes the plain text of `normEs d`, and
    reading that file with the default options returns exactly `normEs d`, all side tables empty.

    Hypotheses as in route 1 (documentation keys absent; at most `counterLimit + 1` quoted strings; a counter state that
    can occur), plus on the path: it is not a `.json` / `.xml` / `.ssd` path (those go to other parsers) and it is
    already normalised (`resolveSpelled target = target`; the file system of the model is keyed by resolved paths). -/
theorem C01_roundtrip_file {d : Entries} {c : Counter} (ev : Str → EvalResult) (target : Comps) (mode : Str) :
    DomC01 .native (normEs d) = true → DocKeysAbsent' d →
    C02.countQuotedEs (srcOfEs .native (normEs d)) ≤ Gen.counterLimit + 1 → C13.ValidCounter Gen.counterLimit c →
    isJsonPath target = false → isXmlPath target = false → resolveSpelled target = target →
    writeStep ev .native target none mode false d c = .ok (fmtPlain .native (normEs d), c) ∧
    ∃ c', readFile ev [(target, .native (fmtPlain .native (normEs d)))] {} c target =
      .ok (.ok { data := normEs d } c') := by
  intro hdom hd hn hc hj hx hr
  refine ⟨rfl, ?_⟩
  exact read_written ev target hdom (normEs_idem d) (docKeysAbsent_norm hd) hn hc hj hx hr

/-- route 2 never fails on the domain -/
theorem C01_roundtrip_file_never_fails {d : Entries} {c : Counter} (ev : Str → EvalResult) (target : Comps) (mode : Str)
    (hdom : DomC01 .native (normEs d) = true) (hd : DocKeysAbsent' d)
    (hn : C02.countQuotedEs (srcOfEs .native (normEs d)) ≤ Gen.counterLimit + 1)
    (hc : C13.ValidCounter Gen.counterLimit c)
    (hj : isJsonPath target = false) (hx : isXmlPath target = false) (hr : resolveSpelled target = target) :
    ∃ t c₁ r, writeStep ev .native target none mode false d c = .ok (t, c₁) ∧
      readFile ev [(target, .native t)] {} c₁ target = .ok r := by
  obtain ⟨hw, c', hrd⟩ := C01_roundtrip_file ev target mode hdom hd hn hc hj hx hr
  exact ⟨_, _, _, hw, hrd⟩

/-! ## (d) route 3 : `SDict(d).dump(f)` then `SDict().load(f)` -/

/-- what `to_string` writes for an `SDict` whose four side tables are empty (native flavour): the default header —
    a block comment — in front of the text the plain-dict route writes (before trailing-space removal) -/
theorem C01_roundtrip_dump_partial (e : Entries) :
    fmtSD .native { data := e } =
      some (removeTrailingSpaces (nativeHeader ++ fmtEntries .native 0 (hoistPlaceholders e))) := by
  rw [fmtSD_plain, makeDefault_native_nil]

/-- `dump` of `SDict(d)` in the model: `writeStep`'s serialisation of the `SDict` is `fmtSD`; with `d` normalised
    first, as `DictWriter.write` does -/
theorem C01_dump_text (d : Entries) :
    fmtSD .native { data := normEs d } =
      some (removeTrailingSpaces (nativeHeader ++ fmtEntries .native 0 (hoistPlaceholders (normEs d)))) :=
  C01_roundtrip_dump_partial (normEs d)

/-- the placeholder entries the reader adds for comments (C01 permits them): removed for the comparison -/
def dropPhEntries (es : Entries) : Entries := es.filter fun e => !C07.isPhKey e.1

/-- **C01, route 3, full statement** (proved as `C01_roundtrip_dump` in Props/C01dump.lean).  `SDict(d).dump(f)` writes
    the default header in front of the dict; `SDict().load(f)` reads the file with comments on, so the header comes
    back as a block-comment table entry and one placeholder entry in the data.  Apart from that placeholder entry the
    data read is `normEs d`.

    Re-reading a text with a block comment goes through the comment stage of `parseNative`
    (`lexBlockCommentsFuel`, `_clean`), which C02 does not cover (it is about comment-free text); that stage is
    Props/C12hdr.lean. -/
def C01_roundtrip_dump_statement : Prop :=
  ∀ (ev : Str → EvalResult) (d : Entries) (c : Counter) (target : Comps),
    DomC01 .native (normEs d) = true → DocKeysAbsent' d →
    C02.countQuotedEs (srcOfEs .native (normEs d)) ≤ Gen.counterLimit + 1 → C13.ValidCounter Gen.counterLimit c →
    isJsonPath target = false → isXmlPath target = false → resolveSpelled target = target →
    ∃ text sd c', fmtSD .native { data := normEs d } = some text ∧
      readFile ev [(target, .native text)] {} c target = .ok (.ok sd c') ∧
      dropPhEntries sd.data = normEs d

/-! ## non-vacuity: the example dict of `C01fmt`, written to `/w/dict` and read back -/

theorem exDict_route2 (ev : Str → EvalResult) (mode : Str) :
    writeStep ev .native ["w".toList, "dict".toList] none mode false exDict none = .ok (fmtPlain .native exDict, none) ∧
    ∃ c', readFile ev [(["w".toList, "dict".toList], .native (fmtPlain .native exDict))] {} none
      ["w".toList, "dict".toList] = .ok (.ok { data := exDict } c') := by
  have h := C01_roundtrip_file (d := exDict) (c := none) ev ["w".toList, "dict".toList] mode
    (by rw [exDict_norm]; exact exDict_dom) exDict_docKeys (by rw [exDict_norm, exDict_count]; decide) (Or.inl rfl)
    (by decide) (by decide) (by decide)
  rw [exDict_norm] at h
  exact h

/-- a string leaf that spells a number is re-typed by the writer: `{a: "1"}` is written and read back as `{a: 1}` -/
theorem ex_retyped (ev : Str → EvalResult) (mode : Str) :
    ∃ c', readFile ev [(["f".toList], .native (fmtPlain .native [(.str ['a'], .leaf (.int 1))]))] {} none ["f".toList] =
      .ok (.ok { data := [(.str ['a'], .leaf (.int 1))] } c') := by
  have h := C01_roundtrip_file (d := [(.str ['a'], .leaf (.str ['1']))]) (c := none) ev ["f".toList] mode
    (by decide +kernel) (by decide) (by decide +kernel) (Or.inl rfl) (by decide) (by decide) (by decide)
  have e : normEs [(.str ['a'], .leaf (.str ['1']))] = [(.str ['a'], .leaf (.int 1))] := by decide +kernel
  rw [e] at h
  exact h.2

end DictIO.C01

namespace DictIO.C09
open DictIO

/-- the side condition of `C01_roundtrip_string` on a dict is that of the reader theorems on its source document -/
theorem docKeys_src {es : Entries} (h : C01.DocKeysAbsent' es) : C02.DocKeysAbsent (srcOfEs .native es) := by
  induction es with
  | nil => intro e he; simp [srcOfEs] at he
  | cons a es ih =>
    obtain ⟨k, v⟩ := a
    intro e he
    simp only [srcOfEs, List.mem_cons] at he
    rcases he with rfl | he
    · have hk := h (k, v) List.mem_cons_self
      cases k with
      | str s => exact ⟨fun e => hk.1 (by rw [← e]; rfl), fun e => hk.2 (by rw [← e]; rfl)⟩
      | int z =>
        have hn := (C01.intRepr_numChars z).2
        have hu : '_' ∉ C01.numChars := by decide
        refine ⟨fun e => hu (hn '_' ?_), fun e => hu (hn '_' ?_)⟩
        · show '_' ∈ intRepr z
          have : intRepr z = "_variables".toList := e
          rw [this]; decide
        · show '_' ∈ intRepr z
          have : intRepr z = "_includes".toList := e
          rw [this]; decide
    · exact ih (fun e he => h e (List.mem_cons_of_mem _ he)) e he

end DictIO.C09
