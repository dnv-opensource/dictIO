/-
  C09 -- JSON files round-trip, and mean the same as the equivalent native file.
  Model: `parseJson` (`JsonParser.parse_string` after `json.loads`: `_extract_includes`, the two `update`s,
  `_extract_expressions`), `parseFile`, `readFile` (Model/Reader.lean).  JSON text ↔ value is `json`'s job: a `.json`
  file body is the value `json.loads` returns.

    (a) `C09_post_id`               the post-processing after `json.loads` is the identity on a dict without include
                                    keys, without `$` in string leaves, without placeholder keys
    (b) `C09_string_leaves_stay`    a string leaf that spells a number stays a string
    (c) `C09_file`                  the file route: reading a `.json` file that holds `normEs d` returns `normEs d`
                                    (`C09_file_statement`, proved: `C09_file_holds`)
        `C09_file_dom`              … on the native value domain the hypotheses of (a) hold (`dom_noIncludeKeys`,
                                    `dom_noDollar`, `C01.norm_invariants`)
        `C09_equiv_plain`           a native and a JSON rendering of the same plain dict read to the same data
                                    (`exDict_equiv`: non-vacuity)
        `C09_equiv_statement`       the same with include entries and `$`-expressions: stated here, decided for documents
                                    without expressions in Props/C09equiv.lean
-/
import DictIO.Props.C01

namespace DictIO.C09
open DictIO

/-! ## specification vocabulary -/

mutual
  /-- no string leaf contains `$` (keys are not looked at: `_extract_expressions` visits values only) -/
  def noDollarV : Val → Bool
    | .leaf (.str s) => !s.contains '$'
    | .leaf _ => true
    | .dict es => noDollarEs es
    | .list xs => noDollarXs xs
  def noDollarEs : Entries → Bool
    | [] => true
    | (_, v) :: es => noDollarV v && noDollarEs es
  def noDollarXs : List Val → Bool
    | [] => true
    | v :: xs => noDollarV v && noDollarXs xs
end

/-- no string leaf, at any depth (also inside lists), contains `$` -/
def NoDollarEs (es : Entries) : Prop := noDollarEs es = true

instance (es : Entries) : Decidable (NoDollarEs es) := by unfold NoDollarEs; infer_instance

/-- no top-level key is an include key (`^\s*#\s*include`) -/
def NoIncludeKeys (es : Entries) : Prop :=
  ∀ e ∈ es, match e.1 with | .str k => isIncludeKey k = false | _ => True

/-! ## the stages of `JsonParser.parse_string` on such a dict -/

/-- a loop that only ever appends the item to the last component of its state -/
theorem foldl_rest {σ : Type} (f : σ → Key × Val → σ) (mk : Entries → σ) :
    ∀ (l : Entries) (rest : Entries), (∀ rest e, e ∈ l → f (mk rest) e = mk (rest ++ [e])) →
    l.foldl f (mk rest) = mk (rest ++ l)
  | [], rest, _ => by simp
  | e :: l, rest, h => by
    rw [List.foldl_cons, h rest e List.mem_cons_self,
      foldl_rest f mk l (rest ++ [e]) fun r e' he' => h r e' (List.mem_cons_of_mem _ he')]
    simp

theorem jsonExtractExpr_none (st : JsonSt) {s : Str} (h : s.contains '$' = false) : jsonExtractExpr st s = (st, s) := by
  simp [jsonExtractExpr, findRefs_none (s := s) (by simpa using h)]

mutual
  /-- `_extract_expressions` changes nothing (string leaves stay strings, whatever they spell) -/
  theorem jsonExprV_id (st : JsonSt) : ∀ v : Val, noDollarV v = true → jsonExprV st v = (st, v)
    | .leaf (.str s), h => by
      have hs : s.contains '$' = false := by simpa [noDollarV] using h
      simp only [jsonExprV, jsonExtractExpr_none st hs]
      split <;> rfl
    | .leaf (.int _), _ => rfl
    | .leaf (.float _), _ => rfl
    | .leaf (.bool _), _ => rfl
    | .leaf .none, _ => rfl
    | .dict es, h => by
      simp only [noDollarV] at h
      simp only [jsonExprV, jsonExprEs_id st es h]
    | .list xs, h => by
      simp only [noDollarV] at h
      simp only [jsonExprV, jsonExprXs_id st xs h]
  theorem jsonExprEs_id (st : JsonSt) : ∀ es : Entries, noDollarEs es = true → jsonExprEs st es = (st, es)
    | [], _ => rfl
    | (k, v) :: es, h => by
      simp only [noDollarEs, Bool.and_eq_true] at h
      simp only [jsonExprEs, jsonExprV_id st v h.1, jsonExprEs_id st es h.2]
  theorem jsonExprXs_id (st : JsonSt) : ∀ xs : List Val, noDollarXs xs = true → jsonExprXs st xs = (st, xs)
    | [], _ => rfl
    | v :: xs, h => by
      simp only [noDollarXs, Bool.and_eq_true] at h
      simp only [jsonExprXs, jsonExprV_id st v h.1, jsonExprXs_id st xs h.2]
end

/-- the two `update` calls of `JsonParser.parse_string` (placeholders first, then the data back) -/
theorem json_updates (es : Entries) (hp : C07.NoPhEs es) (hn : NodupKeysV (.dict es)) :
    (({ data := [], incl := [] } : SD).update (.plain [])).update (.sd { data := es, incl := [] }) = { data := es } := by
  have h1 : ({ data := [], incl := [] } : SD).update (.plain []) = {} := by
    unfold SD.update
    exact C07.clean_id _ C07.nodupV_nil trivial
  rw [h1]
  have h2 : (({ ({} : SD) with data := updateD ({} : SD).data (Arg.sd { data := es, incl := [] }).data }).postUpdate
      (.sd { data := es, incl := [] })) = { data := es } := by
    simp [SD.postUpdate, Arg.data, updateD_nil_left es hn.1, Tbl.update]
  unfold SD.update
  rw [h2]
  exact C07.clean_id _ hn hp

/-! ## (a) the post-processing is the identity -/

/-- **(a)** `JsonParser.parse_string` after `json.loads`: a dict without include keys at the top level, without `$`
    in any string leaf, without placeholder keys and with unique keys at every level (every `json.loads` result has
    them) is returned unchanged, with empty side tables, and the counter is not used.  In particular string leaves
    keep their string type even when they spell a number, boolean or none: `parse_value` is consulted only to decide
    where to look for references. -/
theorem C09_post_id (dir : Comps) (c : Counter) (es : Entries) :
    NoIncludeKeys es → NoDollarEs es → C07.NoPhEs es → NodupKeysV (.dict es) →
    parseJson dir c es = ({ data := es }, c) := by
  intro hi hd hp hn
  unfold parseJson
  rw [foldl_rest _ (fun rest => (c, ([] : Tbl InclEntry), ([] : Entries), rest)) es []]
  · simp only [List.nil_append, json_updates es hp hn, jsonExprEs_id { counter := c } es hd]
  · -- `_extract_includes` finds nothing
    intro rest e he
    have hk := hi e he
    obtain ⟨k, v⟩ := e
    cases k with
    | int z => rfl
    | str s =>
      cases v with
      | leaf x => simp only at hk; simp only [hk]; rfl
      | dict d => rfl
      | list xs => rfl

/-! ## (b) string leaves keep their type -/

/-- **(b)** `{"a": "1"}` comes back as `{"a": "1"}`: the string leaf is not re-typed -/
theorem C09_string_leaves_stay (dir : Comps) (c : Counter) :
    parseJson dir c [(.str ['a'], .leaf (.str ['1']))] = ({ data := [(.str ['a'], .leaf (.str ['1']))] }, c) :=
  C09_post_id dir c _ (by intro e he; simp at he; subst he; decide +kernel) (by decide +kernel)
    ⟨by decide +kernel, trivial, trivial⟩ ⟨by simp [keys], trivial, trivial⟩

/-- … as do `"true"`, `"NULL"`, `"1.5"` next to typed values and nested containers -/
theorem C09_string_leaves_stay' (dir : Comps) (c : Counter) :
    parseJson dir c
      [(.str ['a'], .leaf (.str "true".toList)), (.str ['b'], .list [.leaf (.str "NULL".toList), .leaf (.int 1)]),
       (.str ['c'], .dict [(.str ['d'], .leaf (.str "1.5".toList))])] =
      ({ data := [(.str ['a'], .leaf (.str "true".toList)), (.str ['b'], .list [.leaf (.str "NULL".toList), .leaf (.int 1)]),
       (.str ['c'], .dict [(.str ['d'], .leaf (.str "1.5".toList))])] }, c) :=
  C09_post_id dir c _ (by intro e he; simp at he; rcases he with rfl | rfl | rfl <;> decide +kernel) (by decide +kernel)
    ⟨by decide +kernel, trivial, by decide +kernel, trivial, by decide +kernel, ⟨by decide +kernel, trivial, trivial⟩, trivial⟩
    (by simp [NodupKeysV, NodupKeysEs, NodupKeysXs, keys])

/-! ## (c) the file route -/

theorem not_xml_of_json {p : Comps} (h : isJsonPath p = true) : isXmlPath p = false := by
  unfold isJsonPath at h
  unfold isXmlPath
  cases hl : p.getLast? with
  | none => rfl
  | some n =>
    rw [hl] at h
    have : suffixOf n = ".json".toList := by simpa using h
    simp only [this]
    decide

/-- **(c)** `DictReader.read` of a `.json` file whose content (as `json.loads` returns it) is `es`: under the hypotheses
    of (a) the data read is `es`, all tables empty, counter untouched.  The stages above the parser are identities
    (`C01.mergeIncludes_clean`, `evalExpressions_noexpr`). -/
theorem C09_read_json (ev : Str → EvalResult) (p : Comps) (c : Counter) (es : Entries)
    (hj : isJsonPath p = true) (hr : resolveSpelled p = p)
    (hi : NoIncludeKeys es) (hd : NoDollarEs es) (hp : C07.NoPhEs es) (hn : NodupKeysV (.dict es)) :
    readFile ev [(p, .json es)] {} c p = .ok (.ok { data := es } c) := by
  have hpf : parseFile [(p, .json es)] true c p = .ok ({ data := es }, c) := by
    simp only [parseFile, not_xml_of_json hj, hr, C01.fs_get_single, hj, C09_post_id p.dropLast c es hi hd hp hn]
    rfl
  exact DictIO.readFile_default hpf
    (C01.mergeIncludes_clean _ true { data := es } p.dropLast c rfl (C07.clean_id _ hn hp) hn)
    (evalExpressions_noexpr ev _ rfl)

/-- **C09, file route, statement.**  `DictWriter.write(d, x.json)` re-types the dict (`normEs`, as for every format)
    and hands it to `json.dumps`; `DictReader.read(x.json)` gets it back from `json.loads`.  Reading returns exactly
    `normEs d`: through the file writer and reader the only change is the documented element-type normalisation.
    (The JSON serialiser itself — `json.dumps`/`json.loads` being inverse on JSON-representable values — is the
    library's; the correspondence check exercises it.) -/
def C09_file_statement : Prop :=
  ∀ (ev : Str → EvalResult) (p : Comps) (c : Counter) (d : Entries),
    isJsonPath p = true → resolveSpelled p = p →
    NoIncludeKeys (normEs d) → NoDollarEs (normEs d) → C07.NoPhEs (normEs d) → NodupKeysV (.dict (normEs d)) →
    readFile ev [(p, .json (normEs d))] {} c p = .ok (.ok { data := normEs d } c)

theorem C09_file (ev : Str → EvalResult) (p : Comps) (c : Counter) (d : Entries)
    (hj : isJsonPath p = true) (hr : resolveSpelled p = p)
    (hi : NoIncludeKeys (normEs d)) (hd : NoDollarEs (normEs d)) (hp : C07.NoPhEs (normEs d))
    (hn : NodupKeysV (.dict (normEs d))) :
    readFile ev [(p, .json (normEs d))] {} c p = .ok (.ok { data := normEs d } c) :=
  C09_read_json ev p c (normEs d) hj hr hi hd hp hn

theorem C09_file_holds : C09_file_statement := C09_file

/-! #### equivalence of the native and the JSON rendering -/

/-! the native value domain satisfies the JSON-side hypotheses: a domain key is a single word that does not start with
    `#`, a domain string has no `$` -/

theorem domKey_not_include {s : Str} (h : isDomKey (.str s) = true) : isIncludeKey s = false := by
  simp only [isDomKey, Bool.and_eq_true] at h
  obtain ⟨hw, _, _, _, _, _, _, _, hh⟩ := C02.Main.srcWord_iff.mp h.1.1
  cases s with
  | nil => rfl
  | cons c r =>
    have hc : isWs c = false := by
      simp only [isWordTok, Bool.and_eq_true, List.all_eq_true] at hw
      have := hw.1.2 c List.mem_cons_self
      simpa using this.1
    have hne : c ≠ '#' := by simpa using hh
    unfold isIncludeKey dropWs
    rw [List.dropWhile_cons_of_neg (by simp [hc])]
    split
    · rename_i heq; cases heq; exact absurd rfl hne
    · rfl

theorem dom_noIncludeKeys {es : Entries} (h : DomC01 .native es = true) : NoIncludeKeys es := by
  intro e he
  have hd : domEs .native 1 es = true := by
    simp only [DomC01, Bool.and_eq_true] at h; exact h.1
  have hk := C01.domEs_keys hd e he
  cases hk1 : e.1 with
  | int z => trivial
  | str s => rw [hk1] at hk; exact domKey_not_include hk

mutual
  theorem dom_noDollarV : ∀ (d : Nat) (v : Val), domV .native d v = true → noDollarV v = true
    | _, .leaf (.str s), h => by
      simp only [domV, isDomScalar, Bool.and_eq_true] at h
      have := C01.domStr_no_dollar h.1
      simp only [noDollarV, this]; rfl
    | _, .leaf (.int _), _ => rfl
    | _, .leaf (.float _), _ => rfl
    | _, .leaf (.bool _), _ => rfl
    | _, .leaf .none, _ => rfl
    | d, .dict es, h => by
      simp only [domV, Bool.and_eq_true] at h
      simp only [noDollarV]; exact dom_noDollarEs (d + 1) es h.1
    | d, .list xs, h => by
      simp only [domV] at h
      simp only [noDollarV]; exact dom_noDollarXs (d + 1) xs h
  theorem dom_noDollarEs : ∀ (d : Nat) (es : Entries), domEs .native d es = true → noDollarEs es = true
    | _, [], _ => rfl
    | d, (k, v) :: es, h => by
      simp only [domEs, Bool.and_eq_true] at h
      simp only [noDollarEs, Bool.and_eq_true]
      exact ⟨dom_noDollarV d v h.1.2, dom_noDollarEs d es h.2⟩
  theorem dom_noDollarXs : ∀ (d : Nat) (xs : List Val), domXs .native d xs = true → noDollarXs xs = true
    | _, [], _ => rfl
    | d, v :: xs, h => by
      simp only [domXs, Bool.and_eq_true] at h
      simp only [noDollarXs, Bool.and_eq_true]
      exact ⟨dom_noDollarV d v h.1, dom_noDollarXs d xs h.2⟩
end

theorem dom_noDollar {es : Entries} (h : DomC01 .native es = true) : NoDollarEs es := by
  have hd : domEs .native 1 es = true := by
    simp only [DomC01, Bool.and_eq_true] at h; exact h.1
  exact dom_noDollarEs 1 es hd

/-- **native ≡ JSON, plain dicts.**  A normalised dict `e` of the (native) value domain, rendered once as native text
    and once as JSON, reads to the same data — `e` itself — through `DictReader.read`.  (Native: C01 route 2; JSON:
    `C09_read_json`, whose hypotheses follow from the value domain: `dom_noIncludeKeys`, `dom_noDollar`,
    `C01.norm_invariants`.) -/
theorem C09_equiv_plain {e : Entries} {c : Counter} (ev : Str → EvalResult) (pn pj : Comps)
    (hdom : DomC01 .native e = true) (hnorm : normEs e = e) (hdoc : C01.DocKeysAbsent' e)
    (hcnt : C02.countQuotedEs (srcOfEs .native e) ≤ Gen.counterLimit + 1) (hc : C13.ValidCounter Gen.counterLimit c)
    (hnj : isJsonPath pn = false) (hnx : isXmlPath pn = false) (hnr : resolveSpelled pn = pn)
    (hjj : isJsonPath pj = true) (hjr : resolveSpelled pj = pj) :
    ∃ c₁, readFile ev [(pn, .native (fmtPlain .native e))] {} c pn = .ok (.ok { data := e } c₁) ∧
      readFile ev [(pj, .json e)] {} c pj = .ok (.ok { data := e } c) := by
  obtain ⟨c₁, h1⟩ := C01.read_written (c := c) ev pn hdom hnorm hdoc hcnt hc hnj hnx hnr
  have hinv := C01.norm_invariants hdom
  rw [hnorm] at hinv
  exact ⟨c₁, h1, C09_read_json ev pj c e hjj hjr (dom_noIncludeKeys hdom) (dom_noDollar hdom) hinv.1 hinv.2⟩

/-- the file route on the value domain: no hypothesis beyond the domain and the path -/
theorem C09_file_dom (ev : Str → EvalResult) (p : Comps) (c : Counter) (d : Entries)
    (hdom : DomC01 .native (normEs d) = true) (hj : isJsonPath p = true) (hr : resolveSpelled p = p) :
    readFile ev [(p, .json (normEs d))] {} c p = .ok (.ok { data := normEs d } c) := by
  have hinv := C01.norm_invariants hdom
  rw [C01.normEs_idem] at hinv
  exact C09_read_json ev p c (normEs d) hj hr (dom_noIncludeKeys hdom) (dom_noDollar hdom) hinv.1 hinv.2

/-- non-vacuity: the example dict of `C01fmt`, as `/w/dict` (native) and `/w/dict.json` -/
theorem exDict_equiv (ev : Str → EvalResult) :
    ∃ c₁, readFile ev [(["w".toList, "dict".toList], .native (fmtPlain .native C01.exDict))] {} none
        ["w".toList, "dict".toList] = .ok (.ok { data := C01.exDict } c₁) ∧
      readFile ev [(["w".toList, "dict.json".toList], .json C01.exDict)] {} none ["w".toList, "dict.json".toList] =
        .ok (.ok { data := C01.exDict } none) :=
  C09_equiv_plain ev _ _ C01.exDict_dom C01.exDict_norm C01.exDict_docKeys (by rw [C01.exDict_count]; decide)
    (Or.inl rfl) (by decide) (by decide) (by decide) (by decide +kernel) (by decide)

/-! #### the general equivalence: kept as a statement -/

/-- a model document: files (native path, content tree).  In a content tree a top-level entry whose key is an include
    key and whose value is a file name stands for an include directive; string leaves with `$` are references /
    expressions. -/
abbrev Doc := List (Comps × Entries)

/-- path of the JSON rendering of a file -/
def jsonPathOf (p : Comps) : Comps := p.dropLast ++ [p.getLast?.getD [] ++ ".json".toList]

def isInclEntry (e : Key × Val) : Bool :=
  match e.1, e.2 with
  | .str k, .leaf (.str _) => isIncludeKey k
  | _, _ => false

/-- JSON rendering: the tree as it is, include file names pointing at the JSON renderings -/
def renderJson (doc : Doc) : FS :=
  doc.map fun f => (jsonPathOf f.1, .json (f.2.map fun e =>
    match e.1, e.2 with
    | .str k, .leaf (.str n) => if isIncludeKey k then (e.1, .leaf (.str (n ++ ".json".toList))) else e
    | _, _ => e))

/-- native rendering: `#include 'name'` lines for the include entries, then the writer's text of the rest -/
def renderNative (doc : Doc) : FS :=
  doc.map fun f => (f.1, .native (
    ((f.2.filter isInclEntry).flatMap fun e => match e.2 with
      | .leaf (.str n) => "#include '".toList ++ n ++ "'\n".toList
      | _ => []) ++
    fmtPlain .native (f.2.filter fun e => !isInclEntry e)))

/-- **C09, equivalence, full statement.**  A model document — content trees with
    include entries and `$`-references / expressions, across an include graph — rendered once in native syntax and
    once in JSON syntax reads to equal data (up to the comment / include placeholder entries, whose position differs:
    the JSON parser hoists include placeholders to the front).

    Decided in Props/C09equiv.lean for documents without expressions: false as it stands
    (`C09.Ex.C09_equiv_statement_false`), true under the guards of `C09_equiv_includes`; every file independently native
    or JSON: `C09_equiv_mixed` (Props/C09mixed.lean).  Documents with expressions across include graphs are decided by the
    correspondence check (harness C09: generated model documents rendered in both syntaxes, in any mix). -/
def C09_equiv_statement : Prop :=
  ∀ (ev : Str → EvalResult) (doc : Doc) (root : Comps) (c : Counter),
    root ∈ doc.map (·.1) →
    (∀ f ∈ doc, isJsonPath f.1 = false ∧ isXmlPath f.1 = false ∧ resolveSpelled f.1 = f.1) →
    ∀ sdN cN sdJ cJ,
      readFile ev (renderNative doc) {} c root = .ok (.ok sdN cN) →
      readFile ev (renderJson doc) {} c (jsonPathOf root) = .ok (.ok sdJ cJ) →
      C01.dropPhEntries sdN.data = C01.dropPhEntries sdJ.data

end DictIO.C09
