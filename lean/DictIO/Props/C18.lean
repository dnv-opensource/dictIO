/-
  C18 -- Relative paths, the highest common root folder, include directives.
  Model (Model/Path.lean): `relPath` (`relative_path`), `joinNorm` (`os.path.normpath(from / rel)`),
  `commonPrefix`/`commonPrefixAll`/`folderOf`/`commonRoot` (`highest_common_root_folder`),
  `includeLine` (`NativeFormatter.insert_includes`), `parseIncludeLine` (`NativeParser._extract_includes`).
-/
import DictIO.Model.Path
import DictIO.Props.C04

namespace DictIO.C18
open DictIO

/-! #### specification vocabulary -/

/-- the names for which the include directive is claimed to round-trip: non-empty, no line feed, no `$`,
    first and last character neither a quote nor white space, not both kinds of quote -/
def pathDom (name : Str) : Bool :=
  !name.isEmpty && !name.contains '\n' && !name.contains '$' &&
  (match name.head? with | some c => !isQuote c && !isWs c | none => false) &&
  (match name.getLast? with | some c => !isQuote c && !isWs c | none => false) &&
  !(name.contains '\'' && name.contains '"')

def PathDom (name : Str) : Prop := pathDom name = true

instance (name : Str) : Decidable (PathDom name) := by unfold PathDom; infer_instance

/-! ##### (2) `commonPrefix` is the longest common prefix -/

/-- `commonPrefix a b` is the greatest lower bound of `a` and `b` in the prefix order -/
theorem prefix_commonPrefix_iff {p : Comps} : ∀ {a b : Comps}, p <+: commonPrefix a b ↔ p <+: a ∧ p <+: b := by
  induction p with
  | nil => exact fun {a b} => ⟨fun _ => ⟨List.nil_prefix, List.nil_prefix⟩, fun _ => List.nil_prefix⟩
  | cons x p ih =>
    intro a b
    cases a with
    | nil => simp [commonPrefix]
    | cons y as =>
      cases b with
      | nil => simp [commonPrefix]
      | cons z bs =>
        rw [commonPrefix]
        by_cases h : y = z
        · subst h
          simp only [if_true, List.cons_prefix_cons, ih]
          exact ⟨fun ⟨e, h1, h2⟩ => ⟨⟨e, h1⟩, e, h2⟩, fun ⟨⟨e, h1⟩, _, h2⟩ => ⟨e, h1, h2⟩⟩
        · simp only [if_neg h, List.cons_prefix_cons]
          exact ⟨fun h' => absurd h' (by simp), fun ⟨⟨e1, _⟩, e2, _⟩ => absurd (e1.symm.trans e2) h⟩

theorem commonPrefix_isPrefix_left (a b : Comps) : commonPrefix a b <+: a :=
  (prefix_commonPrefix_iff.mp (List.prefix_refl _)).1

theorem commonPrefix_isPrefix_right (a b : Comps) : commonPrefix a b <+: b :=
  (prefix_commonPrefix_iff.mp (List.prefix_refl _)).2

theorem commonPrefix_maximal {p a b : Comps} (ha : p <+: a) (hb : p <+: b) : p <+: commonPrefix a b :=
  prefix_commonPrefix_iff.mpr ⟨ha, hb⟩

theorem commonPrefixAll_cons_cons (p q : Comps) (ps : List Comps) :
    commonPrefixAll (p :: q :: ps) = commonPrefix p (commonPrefixAll (q :: ps)) := rfl

theorem prefix_commonPrefixAll_iff {x : Comps} : ∀ {l : List Comps}, l ≠ [] → (x <+: commonPrefixAll l ↔ ∀ p ∈ l, x <+: p)
  | [p], _ => by simp [commonPrefixAll]
  | p :: q :: ps, _ => by
    rw [commonPrefixAll_cons_cons, prefix_commonPrefix_iff, prefix_commonPrefixAll_iff (l := q :: ps) (by simp),
      List.forall_mem_cons (l := q :: ps)]

theorem joinNorm_nil (frm : Comps) : joinNorm frm [] = frm := rfl

theorem joinNorm_append (frm a b : Comps) : joinNorm frm (a ++ b) = joinNorm (joinNorm frm a) b := by
  simp [joinNorm, List.foldl_append]

theorem joinNorm_cons_dotdot (frm rel : Comps) : joinNorm frm (['.', '.'] :: rel) = joinNorm frm.dropLast rel := by
  simp [joinNorm]

theorem joinNorm_cons_plain {c : Str} (h : isDots c = false) (frm rel : Comps) :
    joinNorm frm (c :: rel) = joinNorm (frm ++ [c]) rel := by
  simp only [isDots, Bool.or_eq_false_iff, beq_eq_false_iff_ne, ne_eq] at h
  simp [joinNorm, h.1, h.2]

/-- `n` leading `..` components pop the last `n` components of the start (never below the root) -/
theorem joinNorm_replicate_dotdot : ∀ (n : Nat) (frm : Comps),
    joinNorm frm (List.replicate n ['.', '.']) = frm.take (frm.length - n)
  | 0, frm => by rw [Nat.sub_zero, List.take_length]; rfl
  | n + 1, frm => by
    rw [List.replicate_succ, joinNorm_cons_dotdot, joinNorm_replicate_dotdot n, List.dropLast_eq_take, List.take_take,
      List.length_take, Nat.min_eq_left (Nat.sub_le _ _), Nat.sub_sub, Nat.add_comm 1 n,
      Nat.min_eq_left (Nat.sub_le_sub_left (Nat.le_add_left 1 n) _)]

/-- components that are neither `.` nor `..` are pushed -/
theorem joinNorm_plain : ∀ (t frm : Comps), (∀ c ∈ t, isDots c = false) → joinNorm frm t = frm ++ t
  | [], frm, _ => by simp [joinNorm]
  | c :: t, frm, h => by
    rw [joinNorm_cons_plain (h c List.mem_cons_self), joinNorm_plain t _ fun c' hc' => h c' (List.mem_cons_of_mem _ hc')]
    simp

theorem noDots_of_norm {p : Comps} (h : NormComps p) : ∀ c ∈ p, isDots c = false := fun c hc => (h c hc).2.1

theorem norm_append_right {a b : Comps} (h : NormComps (a ++ b)) : NormComps b :=
  fun c hc => h c (List.mem_append_right _ hc)

theorem includeKw_lit : "#include ".toList = ['#', 'i', 'n', 'c', 'l', 'u', 'd', 'e', ' '] := String.toList_ofList
theorem include_lit : "include".toList = ['i', 'n', 'c', 'l', 'u', 'd', 'e'] := String.toList_ofList

theorem isWs_hash : isWs '#' = false := by decide
theorem isWs_i : isWs 'i' = false := by decide

theorem doubleBackslashes_cons (c : Char) (r : Str) :
    doubleBackslashes (c :: r) = if c = '\\' then '\\' :: '\\' :: doubleBackslashes r else c :: doubleBackslashes r := by
  by_cases h : c = '\\'
  · subst h; simp [doubleBackslashes]
  · simp [doubleBackslashes, h]

theorem doubleBackslashes_eq_flatMap : ∀ s : Str,
    doubleBackslashes s = s.flatMap fun c => if c = '\\' then ['\\', '\\'] else [c]
  | [] => rfl
  | c :: r => by rw [doubleBackslashes_cons, List.flatMap_cons, ← doubleBackslashes_eq_flatMap r]; split <;> rfl

/-- doubling only repeats a character that is already there -/
theorem any_doubleBackslashes (p : Char → Bool) (s : Str) : (doubleBackslashes s).any p = s.any p := by
  rw [doubleBackslashes_eq_flatMap, List.any_flatMap]
  exact congrArg _ (funext fun c => by split <;> simp [*])

theorem contains_doubleBackslashes (x : Char) (s : Str) : (doubleBackslashes s).contains x = s.contains x := by
  rw [List.contains_eq_any_beq, List.contains_eq_any_beq, any_doubleBackslashes]

theorem doubleBackslashes_append (a b : Str) :
    doubleBackslashes (a ++ b) = doubleBackslashes a ++ doubleBackslashes b := by
  simp only [doubleBackslashes_eq_flatMap, List.flatMap_append]

theorem doubleBackslashes_of_not_mem : ∀ {a : Str}, '\\' ∉ a → doubleBackslashes a = a
  | [], _ => rfl
  | c :: a, h => by
    rw [doubleBackslashes_cons, if_neg fun (e : c = '\\') => h (e ▸ List.mem_cons_self),
      doubleBackslashes_of_not_mem fun hm => h (List.mem_cons_of_mem _ hm)]

/-- a name wrapped in a pair of quotes `q` (`sq`, `dq` are the cases `'` and `"`) -/
theorem doubleBackslashes_wrap {q : Char} (hq : q ≠ '\\') (s : Str) :
    doubleBackslashes (q :: s ++ [q]) = q :: doubleBackslashes s ++ [q] := by
  rw [List.cons_append, doubleBackslashes_cons, if_neg hq, doubleBackslashes_append,
    doubleBackslashes_of_not_mem (a := [q]) fun hm => hq (List.mem_singleton.mp hm).symm]
  rfl

theorem isEmpty_doubleBackslashes (s : Str) : (doubleBackslashes s).isEmpty = s.isEmpty := by
  cases s with
  | nil => rfl
  | cons c r => rw [doubleBackslashes_cons]; split <;> rfl

theorem isPrefixOf_doubleBackslashes : ∀ (p s : Str), '\\' ∉ p →
    p.isPrefixOf (doubleBackslashes s) = p.isPrefixOf s
  | [], _, _ => by simp
  | _ :: _, [], _ => by simp [doubleBackslashes]
  | a :: p, c :: s, h => by
    have ha : a ≠ '\\' := fun e => h (by simp [e])
    have hp : '\\' ∉ p := fun hm => h (List.mem_cons_of_mem _ hm)
    rw [doubleBackslashes_cons]
    by_cases hc : c = '\\'
    · subst hc
      have : (a == '\\') = false := by simpa using ha
      simp [List.isPrefixOf, this]
    · simp only [hc, if_false, List.isPrefixOf, isPrefixOf_doubleBackslashes p s hp]

theorem eq_hash_doubleBackslashes (s : Str) : (doubleBackslashes s == ['#']) = (s == ['#']) := by
  cases s with
  | nil => rfl
  | cons c r =>
    rw [doubleBackslashes_cons]
    by_cases hc : c = '\\'
    · subst hc
      simp
    · simp only [hc, if_false]
      cases r with
      | nil => simp [doubleBackslashes]
      | cons d r' =>
        have : doubleBackslashes (d :: r') ≠ [] := by
          rw [doubleBackslashes_cons]; split <;> simp
        simp [this]

theorem startsInclude_doubleBackslashes (s : Str) : startsInclude (doubleBackslashes s) = startsInclude s := by
  unfold startsInclude
  rw [isPrefixOf_doubleBackslashes _ s (by decide), eq_hash_doubleBackslashes]

theorem templateExpand_cons_ne {c : Char} (h : c ≠ '\\') (r : Str) :
    templateExpand (c :: r) = (templateExpand r).map (c :: ·) := by
  rw [templateExpand.eq_4]
  · intro _ hc; exact absurd hc h
  · intro hc; exact absurd hc h

theorem templateExpand_bs_bs (r : Str) : templateExpand ('\\' :: '\\' :: r) = (templateExpand r).map ('\\' :: ·) := by
  simp [templateExpand]

theorem templateExpand_double : ∀ s : Str, templateExpand (doubleBackslashes s) = some s
  | [] => rfl
  | c :: s => by
    rw [doubleBackslashes_cons]
    by_cases h : c = '\\'
    · subst h; rw [if_pos rfl, templateExpand_bs_bs, templateExpand_double s]; rfl
    · rw [if_neg h, templateExpand_cons_ne h, templateExpand_double s]; rfl

/-- the quoting decision of `format_string` (Native), as a function of the text alone -/
def wrapOf (s : Str) : Str → Str :=
  if s.isEmpty then sq
  else if s.any isQuote then (if s.contains '"' then sq else dq)
  else if s.any isComplexChar || startsInclude s then sq
  else id

theorem formatString_native_eq {s : Str} (h : s.contains '$' = false) : formatString .native s = wrapOf s s := by
  rw [formatString.eq_def, h]
  unfold wrapOf
  cases s.isEmpty <;> cases s.any isQuote <;> cases s.contains '"' <;> cases (s.any isComplexChar || startsInclude s) <;> rfl

theorem formatString_native_double {s : Str} (h : s.contains '$' = false) :
    formatString .native (doubleBackslashes s) = wrapOf s (doubleBackslashes s) := by
  rw [formatString_native_eq (by rw [contains_doubleBackslashes]; exact h)]
  unfold wrapOf
  rw [isEmpty_doubleBackslashes, any_doubleBackslashes, any_doubleBackslashes, contains_doubleBackslashes,
    startsInclude_doubleBackslashes]

theorem wrapOf_cases (s : Str) :
    wrapOf s = sq ∨ wrapOf s = dq ∨ (wrapOf s = id ∧ s ≠ [] ∧ s.any isQuote = false ∧ s.any isComplexChar = false) := by
  unfold wrapOf
  by_cases hne : s = []
  · exact Or.inl (by rw [hne]; rfl)
  · rw [List.isEmpty_eq_false_iff.mpr hne]
    cases hq : s.any isQuote with
    | true =>
      cases s.contains '"' with
      | true => exact Or.inl rfl
      | false => exact Or.inr (Or.inl rfl)
    | false =>
      cases hc : s.any isComplexChar with
      | true => exact Or.inl rfl
      | false =>
        cases startsInclude s with
        | true => exact Or.inl rfl
        | false => exact Or.inr (Or.inr ⟨rfl, hne, rfl, rfl⟩)

/-- what `insert_includes` writes, after `re.sub` has expanded the replacement template, is the formatted
    *original* name: the quoting class is that of the original, so the template is the formatted original with its
    backslashes doubled, and the expansion undoes the doubling -/
theorem expand_formatted {pre : Str} (hp : '\\' ∉ pre) {s : Str} (h : s.contains '$' = false) :
    templateExpand (pre ++ formatString .native (doubleBackslashes s)) = some (pre ++ formatString .native s) := by
  have e : pre ++ wrapOf s (doubleBackslashes s) = doubleBackslashes (pre ++ wrapOf s s) := by
    rw [doubleBackslashes_append, doubleBackslashes_of_not_mem hp]
    rcases wrapOf_cases s with e | e | ⟨e, _⟩ <;> rw [e]
    · exact congrArg _ (doubleBackslashes_wrap (by decide) s).symm
    · exact congrArg _ (doubleBackslashes_wrap (by decide) s).symm
    · rfl
  rw [formatString_native_double h, formatString_native_eq h, e, templateExpand_double]

theorem dropEndQuote_append_quote {q : Char} (hq : isQuote q = true) : ∀ s : Str, dropEndQuote (s ++ [q]) = s
  | [] => by simp [dropEndQuote, hq]
  | [c] => by
    have hne : q ≠ '\n' := by intro e; subst e; revert hq; decide
    rw [List.singleton_append, dropEndQuote.eq_4 c [q] (by simp) (by simpa using hne)]
    simp [dropEndQuote, hq]
  | c :: c2 :: s => by
    rw [List.cons_append, dropEndQuote.eq_4 c _ (by simp) (by
      intro e
      have := congrArg List.length e
      simp at this), dropEndQuote_append_quote hq (c2 :: s)]

theorem removeQuotes_wrap {q : Char} (hq : isQuote q = true) (s : Str) : removeQuotes (q :: (s ++ [q])) = s := by
  rw [removeQuotes, if_pos hq]
  exact dropEndQuote_append_quote hq s

theorem rstrip_of_last {body : Str} {l : Char} (hl : body.getLast? = some l) (hw : isWs l = false) :
    (body.reverse.dropWhile isWs).reverse = body := by
  rw [dropWhile_eq_self_of_head fun c hc => ?_, List.reverse_reverse]
  rw [List.head?_reverse, hl] at hc
  exact Option.some.inj hc ▸ hw

/-- a directive whose argument neither starts nor ends with white space is recognised, the argument is unquoted -/
theorem parse_include_body {b l : Char} {bs : Str} (hb : isWs b = false) (hl : (b :: bs).getLast? = some l)
    (hlw : isWs l = false) : parseIncludeLine ("#include ".toList ++ b :: bs) = some (removeQuotes (b :: bs)) := by
  rw [includeKw_lit]
  simp only [parseIncludeLine, include_lit, dropWs, List.cons_append, List.nil_append, List.dropWhile, isWs_hash, isWs_i]
  simp only [List.isPrefixOf, List.drop, beq_self_eq_true, Bool.true_and, if_true, List.dropWhile, isWs_space, hb]
  rw [rstrip_of_last hl hlw]

/-! #### (1) `relative_path` followed by `normpath(from / ·)` is the identity -/

/-- the target lies below (or is) the start -/
theorem rel_join_below {frm to : Comps} (hto : NormComps to) (hp : frm.isPrefixOf to = true) :
    joinNorm frm (relPath frm to) = to := by
  obtain ⟨t, rfl⟩ := List.isPrefixOf_iff_prefix.mp hp
  simp only [relPath, hp, if_true, List.drop_left]
  exact joinNorm_plain t frm (noDots_of_norm (norm_append_right hto))

/-- the general shape: climb out of what is not shared, then descend -/
theorem rel_join_general {frm to : Comps} (hto : NormComps to) :
    joinNorm frm (List.replicate (frm.length - (commonPrefix frm to).length) ['.', '.'] ++ to.drop (commonPrefix frm to).length) = to := by
  obtain ⟨f', hf⟩ := commonPrefix_isPrefix_left frm to
  obtain ⟨t', ht⟩ := commonPrefix_isPrefix_right frm to
  generalize commonPrefix frm to = c at hf ht
  subst hf ht
  rw [joinNorm_append, joinNorm_replicate_dotdot, List.drop_left]
  have : (c ++ f').length - ((c ++ f').length - c.length) = c.length := by simp
  rw [this, List.take_left]
  exact joinNorm_plain t' c (noDots_of_norm (norm_append_right hto))

/-- (1) for normalised absolute paths, `normpath(from / relative_path(from, to)) = to`, wherever `to` lies
    relative to `from` (below, above, beside).  Only `to` needs to be free of `.`/`..` components. -/
theorem rel_join {frm to : Comps} (_hfrm : NormComps frm) (hto : NormComps to) : joinNorm frm (relPath frm to) = to := by
  by_cases hp : frm.isPrefixOf to = true
  · exact rel_join_below hto hp
  · simp only [relPath, hp]
    exact rel_join_general hto

/-! #### (3) `highest_common_root_folder` -/

/-- the result is an ancestor-or-self of every (heuristically determined) folder -/
theorem root_prefix {paths : List Comps} (_h : paths ≠ []) : ∀ p ∈ paths, commonRoot paths <+: folderOf p :=
  fun _ hp => (prefix_commonPrefixAll_iff (by simpa using _h)).mp (List.prefix_refl _) _ (List.mem_map_of_mem hp)

/-- no deeper common ancestor exists -/
theorem root_maximal {paths : List Comps} {q : Comps} (h : paths ≠ []) (hq : ∀ p ∈ paths, q <+: folderOf p) :
    q <+: commonRoot paths :=
  (prefix_commonPrefixAll_iff (by simpa using h)).mpr (List.forall_mem_map.mpr hq)

/-- the heuristic: a last component with a suffix is taken for a file … -/
theorem folderOf_of_file {d : Comps} {last : Str} (h : suffixOf last ≠ []) : folderOf (d ++ [last]) = d := by
  simp [folderOf, h]

/-- … and one without for a directory -/
theorem folderOf_of_dir {d : Comps} {last : Str} (h : suffixOf last = []) : folderOf (d ++ [last]) = d ++ [last] := by
  simp [folderOf, h]

theorem folderOf_nil : folderOf [] = [] := rfl

/-- known finding D24: a *directory* whose name contains a dot is treated as a file, so the reported root
    is too high: `/x/y.d` is a common ancestor-or-self of `/x/y.d` and `/x/y.d/w`, the result is `/x` -/
theorem root_dotted_dir_too_high :
    commonRoot [["x".toList, "y.d".toList], ["x".toList, "y.d".toList, "w".toList]] = ["x".toList] ∧
    (∀ p ∈ [["x".toList, "y.d".toList], ["x".toList, "y.d".toList, "w".toList]], ["x".toList, "y.d".toList] <+: p) := by
  literal_chars; decide +kernel

/-! #### (4) include directives: what is written is read back -/

theorem not_ws_of_not_complex {s : Str} (h : s.any isComplexChar = false) : ∀ c ∈ s, isWs c = false := by
  intro c hc
  have := (List.any_eq_false.mp h) c hc
  simp only [isComplexChar, Bool.or_eq_true, not_or] at this
  simpa using this.1.1.1.1.1.1.1.1.1.1.1.1.1

/-- the text written for an include: the keyword and the formatted *original* name -/
theorem includeLine_eq {name : Str} (h : name.contains '$' = false) :
    includeLine name = some ("#include ".toList ++ formatString .native name) :=
  expand_formatted (by rw [includeKw_lit]; decide) h

/-- the quoting classes, separately -/
theorem parse_wrap {q : Char} (hq : isQuote q = true) (hw : isWs q = false) (name : Str) :
    parseIncludeLine ("#include ".toList ++ q :: (name ++ [q])) = some name := by
  rw [parse_include_body (bs := name ++ [q]) hw (List.getLast?_concat (l := q :: name)) hw, removeQuotes_wrap hq]

theorem parse_bare {name : Str} (hne : name ≠ []) (hq : name.any isQuote = false) (hc : name.any isComplexChar = false) :
    parseIncludeLine ("#include ".toList ++ name) = some name := by
  have hws := not_ws_of_not_complex hc
  cases name with
  | nil => exact absurd rfl hne
  | cons b bs =>
    have hl : (b :: bs).getLast? = some ((b :: bs).getLast (by simp)) := List.getLast?_eq_some_getLast _
    rw [parse_include_body (hws b List.mem_cons_self) hl (hws _ (List.getLast_mem _))]
    exact congrArg some (C04.removeQuotes_of_qf fun c hm => Bool.eq_false_iff.mpr (List.any_eq_false.mp hq c hm))

/-- (4, strong form) every `$`-free name round-trips through the written directive.  In the model the other
    conjuncts of `PathDom` are not needed: a quoted name is protected by its quotes (only the outermost pair is
    removed on reading), an unquoted one contains no quote and no white space at all (the empty name is written `''`). -/
theorem directive_roundtrip_of_no_dollar {name : Str} (h : name.contains '$' = false) :
    ∃ line, includeLine name = some line ∧ parseIncludeLine line = some name := by
  refine ⟨_, includeLine_eq h, ?_⟩
  rw [formatString_native_eq h]
  rcases wrapOf_cases name with e | e | ⟨e, hne, hq, hc⟩ <;> rw [e]
  · exact parse_wrap (by decide) isWs_sq name
  · exact parse_wrap (by decide) isWs_dq name
  · exact parse_bare hne hq hc

theorem PathDom.no_dollar {name : Str} (h : PathDom name) : name.contains '$' = false := by
  simp only [PathDom, pathDom, Bool.and_eq_true, Bool.not_eq_true'] at h
  exact h.1.1.1.2

/-- (4) the include directive written for `name` is read back as `name` (only the `$`-freeness of `PathDom` is used) -/
theorem directive_roundtrip {name : Str} (h : PathDom name) :
    ∃ line, includeLine name = some line ∧ parseIncludeLine line = some name :=
  directive_roundtrip_of_no_dollar h.no_dollar


/-! #### non-vacuity -/

section Examples

instance (p : Comps) : Decidable (NormComps p) := by unfold NormComps; infer_instance

private def frm0 : Comps := ["w".toList, "s1".toList, "t1".toList]
private def to0 : Comps := ["w".toList, "s2".toList, "t2".toList, "b".toList]

/-- concrete evaluation: a cousin placement needs two `..` -/
example : relPath frm0 to0 = ["..".toList, "..".toList, "s2".toList, "t2".toList, "b".toList] := by
  simp only [frm0, to0]; literal_chars; decide +kernel
example : joinNorm frm0 ["..".toList, "..".toList, "s2".toList, "t2".toList, "b".toList] = to0 := by
  simp only [frm0, to0]; literal_chars; decide +kernel
/-- `normpath` drops `.` and never climbs above the root -/
example : joinNorm ["a".toList] [".".toList, "..".toList, "..".toList, "b".toList] = ["b".toList] := by
  literal_chars; decide +kernel

/-- (1) instantiated (beside), and for a target above and one below the start -/
example : joinNorm frm0 (relPath frm0 to0) = to0 := rel_join (by decide) (by decide)
example : joinNorm frm0 (relPath frm0 ["w".toList]) = ["w".toList] ∧ relPath frm0 ["w".toList] = ["..".toList, "..".toList] :=
  ⟨rel_join (by decide) (by decide), by simp only [frm0]; literal_chars; decide +kernel⟩
example : relPath ["w".toList] to0 = ["s2".toList, "t2".toList, "b".toList] := by
  simp only [to0]; literal_chars; decide +kernel

/-- (1) needs `to` to be normalised: a `..` component inside `to` is not reproduced -/
example : joinNorm [] (relPath [] ["a".toList, "..".toList]) ≠ ["a".toList, "..".toList] := by literal_chars; decide +kernel

/-- (2)/(3) instantiated -/
example : commonPrefix frm0 to0 = ["w".toList] := by simp only [frm0, to0]; literal_chars; decide +kernel
example : commonRoot [["w".toList, "s1".toList, "a.txt".toList], ["w".toList, "s1".toList, "sub".toList]] = ["w".toList, "s1".toList] := by
  literal_chars; decide +kernel
example : ["w".toList] <+: commonRoot [frm0, to0] := root_maximal (by decide) (by decide)

/-- (4) instantiated: a name with a space and a backslash is in the domain, is written single-quoted with
    the backslash intact, and is read back -/
example : PathDom "my dir\\sub.dict".toList := by literal_chars; decide +kernel
example : includeLine "my dir\\sub.dict".toList = some "#include 'my dir\\sub.dict'".toList := by
  literal_chars; decide +kernel
example : parseIncludeLine "#include 'my dir\\sub.dict'".toList = some "my dir\\sub.dict".toList := by
  literal_chars; decide +kernel
example : ∃ line, includeLine "my dir\\sub.dict".toList = some line ∧ parseIncludeLine line = some "my dir\\sub.dict".toList := by
  literal_chars; exact directive_roundtrip (by decide +kernel)
/-- the other two classes -/
example : includeLine "a.dict".toList = some "#include a.dict".toList := by literal_chars; decide +kernel
example : includeLine "it's".toList = some "#include \"it's\"".toList := by literal_chars; decide +kernel
/-- the template expansion is partial: a single backslash is an escape -/
example : templateExpand "a\\b".toList = none := by literal_chars; decide +kernel

end Examples

end DictIO.C18
