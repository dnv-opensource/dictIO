/-
  Writer tokens and their layouts, without reference to what is written: a text as gaps and tokens (`XTok`, `layX`), the
  conditions on the gaps that the reader side needs (`okX`, by the context `Ctx` a token leaves behind, and through that
  context only: `okX_map`), the relations
  `LaysX` / `LaysL` (one text) and `layG` / `LaysP` / `LaysLP` (the same gaps read with another text for every token), and
  their concatenation lemmas; `layA` reads a layout over any type of token.  `removeTrailing_lay`:
  `remove_trailing_spaces` changes the gaps of a layout only, if every token reads as something `Solid` (same tokens,
  still admissible, an empty first gap stays empty).
  The layouts of plain documents are defined here too, in namespace `C01`: `C01.layP`, `C01.okFrom`, `C01.lastDelim`,
  `C01.Lays` are `layX`, `okX`, `lastCtx`, `LaysX` at layouts all of whose tokens are `.tok` (the bridge: `liftP`,
  `ctxPd`, `lays_iff`, `gapOK_ctxPd`).  `layG` / `LaysP` / `LaysLP` are in namespace `C03c`, the rest in `C12W`.
  `C01fmt` (plain documents) and `C12lay` (documents with placeholder entries) build on it.
-/
import DictIO.Model.Grammar
import DictIO.Lemmas.Str
import DictIO.Lemmas.Rts

namespace DictIO.C12W
open DictIO

/-- what the writer emits between gaps: a source token, a comment (`full` = the complete text, delimiters included),
    or a placeholder entry line `PH<pad>PH;` that still waits for its comment -/
inductive XTok where
  | tok (t : STok)
  | cmt (line : Bool) (full : Str)
  | ph (line : Bool) (i : Nat) (pad : Str)
  deriving Repr, Inhabited

def phWord (line : Bool) (i : Nat) : Str := (if line then kwLine else kwBlock) ++ padSix i

def XTok.text : XTok → Str
  | .tok t => t.text
  | .cmt _ full => full
  | .ph l i pad => phWord l i ++ pad ++ phWord l i ++ [';']

/-- what stands in front of a gap -/
inductive Ctx where
  | cov   -- the text in front ends with a line feed that belongs to the gap (or: nothing in front)
  | dl    -- a delimiter token
  | wd    -- a token that is no delimiter
  | ln    -- a line comment (or the placeholder line of one)
  | bk    -- a block comment (or the placeholder line of one)
  deriving DecidableEq, Repr

def isCommentX : XTok → Bool
  | .tok _ => false
  | _ => true

def ctxAfter : XTok → Ctx
  | .tok t => if isDelimSTok t then .dl else .wd
  | .cmt true _ => .ln
  | .cmt false _ => .bk
  | .ph true _ _ => .ln
  | .ph false _ _ => .bk

def isDelimX : XTok → Bool
  | .tok t => isDelimSTok t
  | _ => false

def gapOK : Ctx → XTok → Str → Bool
  | .cov, _, _ => true
  | .dl, t, g => !isCommentX t || !g.isEmpty
  | .wd, t, g => isDelimX t || !g.isEmpty
  | .bk, _, g => !g.isEmpty
  | .ln, _, g => g.head? == some '\n'

def layX : List (Str × XTok) → Str → Str
  | [], tail => tail
  | (g, t) :: l, tail => g ++ t.text ++ layX l tail

def okX (c : Ctx) : List (Str × XTok) → Bool
  | [] => true
  | (g, t) :: l => g.all isWs && gapOK c t g && okX (ctxAfter t) l

def lastCtx (c : Ctx) : List XTok → Ctx
  | [] => c
  | t :: ts => lastCtx (ctxAfter t) ts

theorem layX_tail : ∀ (l : List (Str × XTok)) (tail : Str), layX l tail = layX l [] ++ tail
  | [], _ => rfl
  | (g, t) :: l, tail => by simp only [layX, layX_tail l tail, List.append_assoc]

theorem layX_append (l1 l2 : List (Str × XTok)) (tail : Str) : layX (l1 ++ l2) tail = layX l1 [] ++ layX l2 tail := by
  induction l1 with
  | nil => rfl
  | cons p l1 ih => obtain ⟨g, t⟩ := p; simp only [List.cons_append, layX, ih, List.append_assoc]

theorem lastCtx_singleton (c : Ctx) (t : XTok) : lastCtx c [t] = ctxAfter t := rfl

theorem lastCtx_append (c : Ctx) (ts us : List XTok) : lastCtx c (ts ++ us) = lastCtx (lastCtx c ts) us := by
  induction ts generalizing c with
  | nil => rfl
  | cons t ts ih => simp only [List.cons_append, lastCtx, ih]

theorem okX_append (c : Ctx) (l1 l2 : List (Str × XTok)) :
    okX c (l1 ++ l2) = (okX c l1 && okX (lastCtx c (l1.map Prod.snd)) l2) := by
  induction l1 generalizing c with
  | nil => simp [okX, lastCtx]
  | cons p l1 ih => obtain ⟨g, t⟩ := p; simp only [List.cons_append, okX, ih, List.map_cons, lastCtx, Bool.and_assoc]

theorem gapOK_nl (c : Ctx) (t : XTok) (g : Str) : gapOK c t ('\n' :: g) = true := by
  cases c <;> simp [gapOK]

theorem gapOK_ne {c : Ctx} (hc : c ≠ .ln) (t : XTok) {g : Str} (hg : g ≠ []) : gapOK c t g = true := by
  cases c <;> simp_all [gapOK]

theorem ctxAfter_tok (t : STok) : ctxAfter (.tok t) = .dl ∨ ctxAfter (.tok t) = .wd := by
  cases hd : isDelimSTok t <;> simp [ctxAfter, hd]

/-- a delimiter is no comment, so a gap `.wd` accepts is one `.dl` accepts (also with text put in front of it) -/
theorem gapOK_wd_ext {c : Ctx} (hc : c = .dl ∨ c = .wd) (u : XTok) (t g : Str) (h : gapOK .wd u g = true) :
    gapOK c u (t ++ g) = true := by
  simp only [gapOK, Bool.or_eq_true, Bool.not_eq_true', List.isEmpty_eq_false_iff] at h
  rcases hc with rfl | rfl
  · simp only [gapOK, Bool.or_eq_true, Bool.not_eq_true', List.isEmpty_eq_false_iff]
    rcases h with h | h
    · left; cases u <;> simp_all [isDelimX, isCommentX]
    · right; simp [h]
  · simp only [gapOK, Bool.or_eq_true, Bool.not_eq_true', List.isEmpty_eq_false_iff]
    rcases h with h | h
    · exact Or.inl h
    · right; simp [h]

theorem kind_of_ctx (t : XTok) :
    isCommentX t = (ctxAfter t == .ln || ctxAfter t == .bk) ∧ isDelimX t = (ctxAfter t == .dl) := by
  cases t with
  | tok s => cases h : isDelimSTok s <;> simp [isCommentX, isDelimX, ctxAfter, h]
  | cmt l f => cases l <;> exact ⟨rfl, rfl⟩
  | ph l i pad => cases l <;> exact ⟨rfl, rfl⟩

theorem gapOK_congr {t t' : XTok} (h : ctxAfter t = ctxAfter t') (c : Ctx) (g : Str) : gapOK c t g = gapOK c t' g := by
  cases c <;> simp only [gapOK, (kind_of_ctx t).1, (kind_of_ctx t).2, (kind_of_ctx t').1, (kind_of_ctx t').2, h]

theorem okX_map {α : Type} (e e' : α → XTok) (h : ∀ t, ctxAfter (e' t) = ctxAfter (e t)) :
    ∀ (l : List (Str × α)) (c : Ctx), okX c (l.map fun p => (p.1, e' p.2)) = okX c (l.map fun p => (p.1, e p.2))
  | [], _ => rfl
  | (g, t) :: l, c => by simp only [List.map_cons, okX, h, gapOK_congr (h t), okX_map e e' h l]

theorem okX_mono {c c' : Ctx} (h : ∀ u g, gapOK c u g = true → gapOK c' u g = true) :
    ∀ {l : List (Str × XTok)}, okX c l = true → okX c' l = true
  | [], _ => rfl
  | (g, t) :: l, ok => by
    simp only [okX, Bool.and_eq_true] at ok ⊢
    exact ⟨⟨ok.1.1, h t g ok.1.2⟩, ok.2⟩

def LaysX (c : Ctx) (xs : List XTok) (txt tail : Str) : Prop :=
  ∃ l, l.map Prod.snd = xs ∧ txt = layX l tail ∧ okX c l = true ∧ tail.all isWs = true

def LaysL (xs : List XTok) (txt : Str) : Prop := (xs = [] ∧ txt = []) ∨ (xs ≠ [] ∧ LaysX .cov xs txt ['\n'])

end DictIO.C12W

namespace DictIO.C03c
open DictIO DictIO.C12W

def layG (tx : XTok → Str) : List (Str × XTok) → Str → Str
  | [], tail => tail
  | (g, t) :: l, tail => g ++ tx t ++ layG tx l tail

theorem layG_text : ∀ (l : List (Str × XTok)) (tail : Str), layG XTok.text l tail = layX l tail
  | [], _ => rfl
  | (g, t) :: l, tail => by simp only [layG, layX, layG_text l tail]

theorem layG_tail (tx : XTok → Str) : ∀ (l : List (Str × XTok)) (tail : Str), layG tx l tail = layG tx l [] ++ tail
  | [], _ => rfl
  | (g, t) :: l, tail => by simp only [layG, layG_tail tx l tail, List.append_assoc]

theorem layG_append (tx : XTok → Str) (l1 l2 : List (Str × XTok)) (tail : Str) :
    layG tx (l1 ++ l2) tail = layG tx l1 [] ++ layG tx l2 tail := by
  induction l1 with
  | nil => rfl
  | cons p l1 ih => obtain ⟨g, t⟩ := p; simp only [List.cons_append, layG, ih, List.append_assoc]

def LaysP (tx : XTok → Str) (c : Ctx) (xs : List XTok) (a b tail : Str) : Prop :=
  ∃ l, l.map Prod.snd = xs ∧ a = layX l tail ∧ b = layG tx l tail ∧ okX c l = true ∧ tail.all isWs = true

theorem LaysP.tok (tx : XTok → Str) (c : Ctx) {g tail : Str} (t : XTok) (hg : g.all isWs = true)
    (ht : tail.all isWs = true) (hok : gapOK c t g = true) :
    LaysP tx c [t] (g ++ t.text ++ tail) (g ++ tx t ++ tail) tail :=
  ⟨[(g, t)], rfl, rfl, rfl, by simp [okX, hg, hok], ht⟩

theorem LaysP.append {tx : XTok → Str} {c c2 : Ctx} {xs ys : List XTok} {a a' b b' t1 t2 : Str}
    (ha : LaysP tx c xs a a' t1) (hb : LaysP tx c2 ys b b' t2) (hne : ys ≠ [])
    (hc : ∀ u g, g.all isWs = true → gapOK c2 u g = true → gapOK (lastCtx c xs) u (t1 ++ g) = true) :
    LaysP tx c (xs ++ ys) (a ++ b) (a' ++ b') t2 := by
  obtain ⟨l1, rfl, rfl, rfl, ok1, ht1⟩ := ha
  obtain ⟨l2, rfl, rfl, rfl, ok2, ht2⟩ := hb
  cases l2 with
  | nil => exact absurd rfl hne
  | cons p l2 =>
    obtain ⟨g, t⟩ := p
    refine ⟨l1 ++ (t1 ++ g, t) :: l2, by simp, ?_, ?_, ?_, ht2⟩
    · rw [layX_append, layX_tail l1 t1]
      simp [layX]
    · rw [layG_append, layG_tail tx l1 t1]
      simp [layG]
    · rw [okX_append, ok1, Bool.true_and]
      simp only [okX, Bool.and_eq_true, List.all_append] at ok2 ⊢
      exact ⟨⟨⟨ht1, ok2.1.1⟩, hc t g ok2.1.1 ok2.1.2⟩, ok2.2⟩

theorem LaysP.append_nil {tx : XTok → Str} {c c2 : Ctx} {xs : List XTok} {a a' b b' t1 t2 : Str}
    (ha : LaysP tx c xs a a' t1) (hb : LaysP tx c2 [] b b' t2) : LaysP tx c xs (a ++ b) (a' ++ b') (t1 ++ t2) := by
  obtain ⟨l1, rfl, rfl, rfl, ok1, ht1⟩ := ha
  obtain ⟨l2, h2, rfl, rfl, ok2, ht2⟩ := hb
  cases l2 with
  | cons p l2 => cases h2
  | nil =>
    refine ⟨l1, rfl, ?_, ?_, ok1, by simp [ht1, ht2]⟩
    · rw [layX_tail l1 t1, layX_tail l1 (t1 ++ t2)]
      simp [layX]
    · rw [layG_tail tx l1 t1, layG_tail tx l1 (t1 ++ t2)]
      simp [layG]

def LaysLP (tx : XTok → Str) (xs : List XTok) (a b : Str) : Prop :=
  (xs = [] ∧ a = [] ∧ b = []) ∨ (xs ≠ [] ∧ LaysP tx .cov xs a b ['\n'])

theorem LaysLP.nil (tx : XTok → Str) : LaysLP tx [] [] [] := Or.inl ⟨rfl, rfl, rfl⟩

theorem LaysLP.append {tx : XTok → Str} {xs ys : List XTok} {a a' b b' : Str} (ha : LaysLP tx xs a a')
    (hb : LaysLP tx ys b b') : LaysLP tx (xs ++ ys) (a ++ b) (a' ++ b') := by
  rcases ha with ⟨rfl, rfl, rfl⟩ | ⟨hx, ha⟩
  · simpa using hb
  · rcases hb with ⟨rfl, rfl, rfl⟩ | ⟨hy, hb⟩
    · rw [List.append_nil, List.append_nil, List.append_nil]; exact Or.inr ⟨hx, ha⟩
    · exact Or.inr ⟨by simp [hx], ha.append hb hy fun u g _ _ => gapOK_nl _ u g⟩

theorem LaysP.toX {tx : XTok → Str} {c : Ctx} {xs : List XTok} {a b tail : Str} (h : LaysP tx c xs a b tail) :
    LaysX c xs a tail := by
  obtain ⟨l, hm, ha, _, ok, ht⟩ := h
  exact ⟨l, hm, ha, ok, ht⟩

theorem LaysP.ofX {c : Ctx} {xs : List XTok} {a tail : Str} (h : LaysX c xs a tail) : LaysP XTok.text c xs a a tail := by
  obtain ⟨l, hm, ha, ok, ht⟩ := h
  exact ⟨l, hm, ha, by rw [layG_text]; exact ha, ok, ht⟩

theorem LaysLP.toL {tx : XTok → Str} {xs : List XTok} {a b : Str} (h : LaysLP tx xs a b) : LaysL xs a :=
  h.imp (fun h => ⟨h.1, h.2.1⟩) (fun h => ⟨h.1, h.2.toX⟩)

theorem LaysLP.ofL {xs : List XTok} {a : Str} (h : LaysL xs a) : LaysLP XTok.text xs a a :=
  h.imp (fun h => ⟨h.1, h.2, h.2⟩) (fun h => ⟨h.1, .ofX h.2⟩)

end DictIO.C03c

namespace DictIO.C12W
open DictIO

section
variable {α : Type}

def layA (tx : α → Str) : List (Str × α) → Str → Str
  | [], tail => tail
  | (g, t) :: l, tail => g ++ tx t ++ layA tx l tail

theorem layA_layG (tx : XTok → Str) : ∀ (l : List (Str × XTok)) (tail : Str), layA tx l tail = C03c.layG tx l tail
  | [], _ => rfl
  | (g, t) :: l, tail => by simp only [layA, C03c.layG, layA_layG tx l tail]

theorem layA_map (e : α → XTok) : ∀ (l : List (Str × α)) (tail : Str),
    layA (fun t => (e t).text) l tail = layX (l.map fun p => (p.1, e p.2)) tail
  | [], _ => rfl
  | (g, t) :: l, tail => by simp only [layA, List.map_cons, layX, layA_map e l tail]

theorem layA_congr {tx tx' : α → Str} : ∀ (l : List (Str × α)) (tail : Str), (∀ p ∈ l, tx p.2 = tx' p.2) →
    layA tx l tail = layA tx' l tail
  | [], _, _ => rfl
  | (g, t) :: l, tail, h => by
    simp only [layA, h (g, t) List.mem_cons_self, layA_congr l tail fun p hp => h p (List.mem_cons_of_mem _ hp)]

end

/-- concatenation: the final gap of the first text joins the first gap of the second -/
theorem LaysX.append {c c2 : Ctx} {xs ys : List XTok} {a b t1 t2 : Str} (ha : LaysX c xs a t1) (hb : LaysX c2 ys b t2)
    (hne : ys ≠ [])
    (hc : ∀ u g, g.all isWs = true → gapOK c2 u g = true → gapOK (lastCtx c xs) u (t1 ++ g) = true) :
    LaysX c (xs ++ ys) (a ++ b) t2 :=
  (C03c.LaysP.append (.ofX ha) (.ofX hb) hne hc).toX

theorem LaysL.append {xs ys : List XTok} {a b : Str} (ha : LaysL xs a) (hb : LaysL ys b) : LaysL (xs ++ ys) (a ++ b) :=
  (C03c.LaysLP.append (.ofL ha) (.ofL hb)).toL

theorem LaysX.toP {tx : XTok → Str} {c : Ctx} {xs : List XTok} {a tail : Str} (h : LaysX c xs a tail)
    (htx : ∀ x ∈ xs, tx x = x.text) : C03c.LaysP tx c xs a a tail := by
  obtain ⟨l, rfl, ha, ok, ht⟩ := h
  refine ⟨l, rfl, ha, ?_, ok, ht⟩
  rw [ha, ← C03c.layG_text, ← layA_layG, ← layA_layG]
  exact layA_congr l tail fun p hp => (htx p.2 (List.mem_map_of_mem hp)).symm

/-- a token text the line-wise processing leaves alone: it ends in a non-blank, holds no carriage return, is a fixed
    point of the trailing-space removal, and its first line is not blank -/
def Solid (τ : Str) : Prop :=
  (∃ a z, τ = a ++ [z] ∧ isWs z = false) ∧ (∀ c ∈ τ, c ≠ '\r') ∧ C01.rts τ = τ ∧ C01.blankHead τ = false

theorem Solid.of_line {τ a : Str} {z : Char} (e : τ = a ++ [z]) (hz : isWs z = false)
    (hch : ∀ c ∈ τ, c ≠ '\n' ∧ c ≠ '\r') : Solid τ := by
  subst e
  have := C01.rts_solid hz [] a fun c hc => (hch c (by simp [hc])).1
  exact ⟨⟨a, z, rfl, hz⟩, fun c hc => (hch c hc).2, by simpa [C01.rts_nil] using this.2, by simpa using this.1⟩

theorem solid_rts {τ : Str} (h : Solid τ) (s : Str) :
    C01.rts (τ ++ s) = τ ++ C01.rts s ∧ C01.blankHead (τ ++ s) = false := by
  obtain ⟨⟨a, z, rfl, hz⟩, _, hfix, hb⟩ := h
  have := C01.rts_append_end (Or.inl hz) s a
  simp only [List.append_assoc, List.singleton_append]
  rw [this.1, this.2, hfix, hb]
  simp

theorem solid_head {τ : Str} (h : Solid τ) (s : Str) : (τ ++ s).head? ≠ some '\n' := by
  obtain ⟨⟨a, z, rfl, hz⟩, _, _, hb⟩ := h
  cases a with
  | nil =>
    simp only [List.nil_append, List.singleton_append, List.head?_cons, ne_eq, Option.some.injEq]
    exact ne_nl_of_not_ws hz
  | cons c a =>
    simp only [List.cons_append, List.head?_cons, ne_eq, Option.some.injEq]
    rintro rfl
    rw [List.cons_append, C01.blankHead_nl] at hb
    cases hb

theorem gapOK_map {c : Ctx} {t : XTok} {g g' : Str} (h : gapOK c t g = true) (hne : g ≠ [] → g' ≠ [])
    (hnl : g.head? = some '\n' → g'.head? = some '\n') : gapOK c t g' = true := by
  cases c with
  | cov => rfl
  | dl =>
    simp only [gapOK, Bool.or_eq_true, Bool.not_eq_true', List.isEmpty_eq_false_iff] at h ⊢
    exact h.imp id hne
  | wd =>
    simp only [gapOK, Bool.or_eq_true, Bool.not_eq_true', List.isEmpty_eq_false_iff] at h ⊢
    exact h.imp id hne
  | bk =>
    simp only [gapOK, Bool.not_eq_true', List.isEmpty_eq_false_iff] at h ⊢
    exact hne h
  | ln =>
    simp only [gapOK, beq_iff_eq] at h ⊢
    exact hnl h

/-- the newline translation changes the gaps only -/
theorem unl_lay (tx : XTok → Str) : ∀ (l : List (Str × XTok)) (c : Ctx) (tail : Str), okX c l = true →
    (∀ p ∈ l, Solid (tx p.2)) →
    universalNl (C03c.layG tx l tail) = C03c.layG tx (l.map fun p => (universalNl p.1, p.2)) (universalNl tail) ∧
    okX c (l.map fun p => (universalNl p.1, p.2)) = true
  | [], _, _, _, _ => ⟨rfl, rfl⟩
  | (g, t) :: l, c, tail, ok, hs => by
    simp only [okX, Bool.and_eq_true] at ok
    obtain ⟨ih1, ih2⟩ := unl_lay tx l (ctxAfter t) tail ok.2 (fun p hp => hs p (List.mem_cons_of_mem _ hp))
    have hsol := hs (g, t) List.mem_cons_self
    obtain ⟨hg', hne⟩ := C01.universalNl_ws g ok.1.1
    constructor
    · simp only [C03c.layG, List.map_cons, List.append_assoc]
      rw [C01.universalNl_append (solid_head hsol _), C01.universalNl_solid _ _ hsol.2.1, ih1]
    · simp only [List.map_cons, okX, Bool.and_eq_true]
      exact ⟨⟨hg', gapOK_map ok.1.2 hne (C01.universalNl_head_nl g)⟩, ih2⟩

/-- the trailing-space removal changes the gaps only (an empty first gap stays empty) -/
theorem rts_lay (tx : XTok → Str) : ∀ (l : List (Str × XTok)) (c : Ctx) (tail : Str), okX c l = true →
    (∀ p ∈ l, Solid (tx p.2)) →
    ∃ l', C01.rts (C03c.layG tx l tail) = C03c.layG tx l' (C01.rts tail) ∧ l'.map Prod.snd = l.map Prod.snd ∧ okX c l' = true ∧
      (∀ t r, l = ([], t) :: r → ∃ r', l' = ([], t) :: r')
  | [], _, _, _, _ => ⟨[], rfl, rfl, rfl, fun _ _ e => by cases e⟩
  | (g, t) :: l, c, tail, ok, hs => by
    simp only [okX, Bool.and_eq_true] at ok
    obtain ⟨l', e, hm, ok', _⟩ := rts_lay tx l (ctxAfter t) tail ok.2 (fun p hp => hs p (List.mem_cons_of_mem _ hp))
    have hsol := solid_rts (hs (g, t) List.mem_cons_self) (C03c.layG tx l tail)
    obtain ⟨g', hg', hne, hnl, hnil, eg⟩ := C01.rts_gap hsol.2 g ok.1.1
    refine ⟨(g', t) :: l', ?_, by simp [hm], ?_, ?_⟩
    · simp only [C03c.layG, List.append_assoc]
      rw [eg, hsol.1, e]
    · simp only [okX, Bool.and_eq_true]
      exact ⟨⟨hg', gapOK_map ok.1.2 hne hnl⟩, ok'⟩
    · intro t2 r2 e2
      simp only [List.cons.injEq, Prod.mk.injEq] at e2
      obtain ⟨⟨rfl, rfl⟩, _⟩ := e2
      exact ⟨l', by rw [hnil rfl]⟩

theorem removeTrailing_lay (tx : XTok → Str) (l : List (Str × XTok)) (c : Ctx) (tail : Str) (ok : okX c l = true)
    (hs : ∀ p ∈ l, Solid (tx p.2)) :
    ∃ l', removeTrailingSpaces (C03c.layG tx l tail) = C03c.layG tx l' (removeTrailingSpaces tail) ∧
      l'.map Prod.snd = l.map Prod.snd ∧ okX c l' = true ∧ (∀ t r, l = ([], t) :: r → ∃ r', l' = ([], t) :: r') := by
  obtain ⟨e1, ok1⟩ := unl_lay tx l c tail ok hs
  obtain ⟨l', e2, hm, ok2, hfirst⟩ := rts_lay tx _ c (universalNl tail) ok1 (fun p hp => by
    obtain ⟨q, hq, rfl⟩ := List.mem_map.mp hp
    exact hs q hq)
  refine ⟨l', by rw [C01.removeTrailingSpaces_eq, e1, e2, C01.removeTrailingSpaces_eq], by rw [hm]; simp, ok2, ?_⟩
  intro t r e
  subst e
  exact hfirst t (r.map fun p => (universalNl p.1, p.2)) rfl

end DictIO.C12W

namespace DictIO.C01

def layP : List (Str × STok) → Str → Str
  | [], tail => tail
  | (g, t) :: l, tail => g ++ t.text ++ layP l tail

/-- admissibility of a layout; `pd` = "the token in front (if any) is a delimiter, or there is none" -/
def okFrom (pd : Bool) : List (Str × STok) → Bool
  | [] => true
  | (g, t) :: l => g.all isWs && (pd || isDelimSTok t || !g.isEmpty) && okFrom (isDelimSTok t) l

def lastDelim (pd : Bool) : List STok → Bool
  | [] => pd
  | t :: ts => lastDelim (isDelimSTok t) ts

def Lays (pd : Bool) (ts : List STok) (txt : Str) : Prop :=
  ∃ l tail, l.map Prod.snd = ts ∧ txt = layP l tail ∧ okFrom pd l = true ∧ tail.all isWs = true

end DictIO.C01

namespace DictIO.C12W

def liftP (l : List (Str × STok)) : List (Str × XTok) := l.map fun p => (p.1, XTok.tok p.2)

def ctxPd (pd : Bool) : Ctx := if pd then .dl else .wd

theorem ctxAfter_tok_eq (t : STok) : ctxAfter (.tok t) = ctxPd (isDelimSTok t) := rfl

theorem ctxPd_cases (pd : Bool) : ctxPd pd = .dl ∨ ctxPd pd = .wd := by cases pd <;> simp [ctxPd]

theorem layX_lift : ∀ (l : List (Str × STok)) (tail : Str), layX (liftP l) tail = C01.layP l tail
  | [], _ => rfl
  | (g, t) :: l, tail => by
    have := layX_lift l tail
    simp only [liftP] at this
    simp only [liftP, List.map_cons, layX, C01.layP, XTok.text, this]

theorem okX_lift : ∀ (l : List (Str × STok)) (pd : Bool), okX (ctxPd pd) (liftP l) = C01.okFrom pd l
  | [], _ => rfl
  | (g, t) :: l, pd => by
    have ih := okX_lift l (isDelimSTok t)
    simp only [liftP] at ih
    simp only [liftP, List.map_cons, okX, C01.okFrom, ctxAfter_tok_eq, ih]
    cases pd <;> simp [gapOK, ctxPd, isCommentX, isDelimX]

theorem lastCtx_lift : ∀ (ts : List STok) (pd : Bool), lastCtx (ctxPd pd) (ts.map .tok) = ctxPd (C01.lastDelim pd ts)
  | [], _ => rfl
  | t :: ts, pd => by simp only [List.map_cons, lastCtx, C01.lastDelim, ctxAfter_tok_eq, lastCtx_lift ts]

theorem lastCtx_toks (c : Ctx) : ∀ (ts : List STok), lastCtx c (ts.map XTok.tok) = c ∨
    lastCtx c (ts.map XTok.tok) = .dl ∨ lastCtx c (ts.map XTok.tok) = .wd
  | [] => Or.inl rfl
  | t :: ts => Or.inr ((lastCtx_lift ts (isDelimSTok t)).symm ▸ ctxPd_cases _)

theorem unlift : ∀ (l : List (Str × XTok)) (ts : List STok), l.map Prod.snd = ts.map .tok →
    ∃ l0, l = liftP l0 ∧ l0.map Prod.snd = ts
  | [], [], _ => ⟨[], rfl, rfl⟩
  | [], _ :: _, h => by cases h
  | _ :: _, [], h => by cases h
  | (g, x) :: l, t :: ts, h => by
    simp only [List.map_cons, List.cons.injEq] at h
    obtain ⟨l0, rfl, rfl⟩ := unlift l ts h.2
    obtain rfl : x = .tok t := h.1
    exact ⟨(g, t) :: l0, rfl, rfl⟩

theorem lays_iff {pd : Bool} {ts : List STok} {txt : Str} :
    C01.Lays pd ts txt ↔ ∃ tail, LaysX (ctxPd pd) (ts.map .tok) txt tail := by
  constructor
  · rintro ⟨l, tail, rfl, rfl, ok, ht⟩
    exact ⟨tail, liftP l, by simp [liftP], (layX_lift l tail).symm, by rw [okX_lift]; exact ok, ht⟩
  · rintro ⟨tail, l, hm, rfl, ok, ht⟩
    obtain ⟨l0, rfl, rfl⟩ := unlift l ts hm
    exact ⟨l0, tail, rfl, layX_lift l0 tail, by rw [← okX_lift]; exact ok, ht⟩

/-- what `C01.Lays.append` asks of the two contexts is what `LaysX.append` needs -/
theorem gapOK_ctxPd {pd' b : Bool} (h : pd' = true → b = true) (u : XTok) (t g : Str)
    (hg : gapOK (ctxPd pd') u g = true) : gapOK (ctxPd b) u (t ++ g) = true := by
  cases pd' with
  | false => exact gapOK_wd_ext (ctxPd_cases b) u t g hg
  | true =>
    rw [h rfl]
    simp only [ctxPd, gapOK, if_true, Bool.or_eq_true, Bool.not_eq_true', List.isEmpty_eq_false_iff] at hg ⊢
    exact hg.imp id fun h => by simp [h]

end DictIO.C12W
