/-
  C13 on the API state machine (`Model/Api.lean`): the file system after any history of API calls.

  Unlike `Props/C13.lean` (which speaks about the *order* of effects of one call), these theorems are about the
  state: the world `apiStep` returns, for every world, every operation and every history, with the real model
  functions (`readFile`, `writeText`, `fmtSD`, `targetName`) underneath.

    * `step_cases`                              what one call does, in three cases; the next five are read off it
    * `read_pure`                               reads (and `load`, `reset`) leave every file as it was;
    * `step_frame`                              one call changes at most the file `op.target` names;
    * `step_fail_safe`                          a call that does not complete leaves the whole world as it was;
    * `step_done_target`                        a completed write/dump/parse leaves a native text in its target;
    * `step_paths`                              a call creates at most one new path, and removes none;
    * `apiRun_inv`                              what every call of a history keeps holds at its end;
    * `run_frame`, `run_paths`                  frame and paths for every history;
    * `parse_target_same_folder`, `parse_target_name`  the file `parse` writes is in the source's folder and is
                                                 named by `targetName` with prefix `parsed`.
    * `apiStep_read`, `apiStep_parse`           `read` and `parse` of a path that exists, in terms of `readFile` and
                                                 `writeText`; `C16sd.read_step`, `parse_step`, `dump_read_run`: the
                                                 successful cases (for the files that follow a text through the API).
-/
import DictIO.Model.Api
import DictIO.Lemmas.Literal

namespace DictIO
namespace C13api

theorem get_nil (p : Comps) : FS.get [] p = none := rfl

theorem get_cons (e : Comps × FileBody) (fs : FS) (p : Comps) :
    FS.get (e :: fs) p = if e.1 == p then some e.2 else FS.get fs p := by
  unfold FS.get
  by_cases h : e.1 == p <;> simp [List.find?, h]

theorem get_append_single_ne (fs : FS) {p q : Comps} (b : FileBody) (h : q ≠ p) :
    FS.get (fs ++ [(p, b)]) q = FS.get fs q := by
  induction fs with
  | nil =>
    have : ((p == q) = false) := by simpa using (fun hh : p = q => h hh.symm)
    simp [get_cons, get_nil, this]
  | cons e fs ih => simp only [List.cons_append, get_cons, ih]

theorem get_append_single_self (fs : FS) (p : Comps) (b : FileBody) (h : fs.any (fun e => e.1 == p) = false) :
    FS.get (fs ++ [(p, b)]) p = some b := by
  induction fs with
  | nil => simp [get_cons]
  | cons e fs ih =>
    simp only [List.any_cons, Bool.or_eq_false_iff] at h
    simp only [List.cons_append, get_cons, h.1, ih h.2]
    simp

theorem get_map_set_ne (fs : FS) {p q : Comps} (b : FileBody) (h : q ≠ p) :
    FS.get (fs.map (fun e => if e.1 == p then (p, b) else e)) q = FS.get fs q := by
  induction fs with
  | nil => rfl
  | cons e fs ih =>
    simp only [List.map_cons, get_cons, ih]
    by_cases he : e.1 == p
    · have e1 : e.1 = p := by simpa using he
      have hpq : (p == q) = false := by simpa using (fun hh : p = q => h hh.symm)
      have heq : (e.1 == q) = false := by rw [e1]; exact hpq
      simp [he, hpq, heq]
    · simp [he]

theorem get_map_set_self (fs : FS) (p : Comps) (b : FileBody) (h : fs.any (fun e => e.1 == p) = true) :
    FS.get (fs.map (fun e => if e.1 == p then (p, b) else e)) p = some b := by
  induction fs with
  | nil => simp at h
  | cons e fs ih =>
    simp only [List.map_cons, get_cons]
    by_cases he : e.1 == p
    · simp [he]
    · simp only [List.any_cons, he, Bool.false_or] at h
      have := ih h
      simp only [he, Bool.false_eq_true, if_false]
      exact this

theorem get_set_ne (fs : FS) {p q : Comps} (b : FileBody) (h : q ≠ p) : (fs.set p b).get q = fs.get q := by
  unfold FS.set
  split
  · exact get_map_set_ne fs b h
  · exact get_append_single_ne fs b h

theorem get_set_self (fs : FS) (p : Comps) (b : FileBody) : (fs.set p b).get p = some b := by
  unfold FS.set
  split
  · next h => exact get_map_set_self fs p b h
  · next h => exact get_append_single_self fs p b (Bool.eq_false_iff.mpr h)

/-- the paths of a file system -/
def paths (fs : FS) : List Comps := fs.map (·.1)

theorem paths_map_set (fs : FS) (p : Comps) (b : FileBody) :
    paths (fs.map (fun e => if e.1 == p then (p, b) else e)) = paths fs := by
  induction fs with
  | nil => rfl
  | cons e fs ih =>
    simp only [paths, List.map_cons] at ih ⊢
    rw [ih]
    by_cases he : e.1 == p
    · have : e.1 = p := by simpa using he
      simp [this]
    · simp [he]

theorem paths_set (fs : FS) (p : Comps) (b : FileBody) :
    paths (fs.set p b) = paths fs ∨ (p ∉ paths fs ∧ paths (fs.set p b) = paths fs ++ [p]) := by
  unfold FS.set
  split
  · exact .inl (paths_map_set fs p b)
  · next h =>
    refine .inr ⟨?_, by simp [paths]⟩
    intro hm
    apply h
    simp only [paths, List.mem_map] at hm
    obtain ⟨e, he, hp⟩ := hm
    exact List.any_eq_true.mpr ⟨e, he, by simp [hp]⟩

/-- the operations that are reads -/
def IsReadOp : ApiOp → Prop
  | .read _ _ => True
  | .load _ => True
  | .reset => True
  | _ => False

theorem target_of_readOp {op : ApiOp} (h : IsReadOp op) : op.target = none := by
  cases op <;> first | rfl | exact h.elim

/-- a call completed iff it returned data (`read`, `load`, `parse`) or `done` (`write`, `dump`, `reset`) -/
def Completed : ApiOut → Prop
  | .data _ => True
  | .done => True
  | _ => False

/-- `writeTo` spelled out on the two outcomes of `writeText` -/
theorem writeTo_error {ev : Str → EvalResult} {w : World} {target : Comps} {mode : Str} {order : Bool} {a : Arg} {e : ParseErr}
    (h : writeText ev w.fs target mode order a w.c = .error e) : writeTo ev w target mode order a = (w, .gaveUp e) := by
  simp [writeTo, h]

theorem writeTo_ok {ev : Str → EvalResult} {w : World} {target : Comps} {mode : Str} {order : Bool} {a : Arg} {t : Str} {c' : Counter}
    (h : writeText ev w.fs target mode order a w.c = .ok (t, c')) :
    writeTo ev w target mode order a = ({ fs := w.fs.set (resolveSpelled target) (.native t), c := c' }, .done) := by
  simp [writeTo, h]

theorem writeTo_cases (ev : Str → EvalResult) (w : World) (target : Comps) (mode : Str) (order : Bool) (a : Arg) :
    (∃ e, writeTo ev w target mode order a = (w, .gaveUp e)) ∨
    ∃ t c', writeTo ev w target mode order a = ({ fs := w.fs.set (resolveSpelled target) (.native t), c := c' }, .done) := by
  unfold writeTo
  split
  · exact .inl ⟨_, rfl⟩
  · exact .inr ⟨_, _, rfl⟩

theorem apiStep_read {ev : Str → EvalResult} {w : World} {p : Comps} {b : FileBody} (o : ReadOpts)
    (hget : w.fs.get (resolveSpelled p) = some b) :
    apiStep ev w (.read p o) =
      match readFile ev w.fs o w.c p with
      | .error e => (w, .gaveUp e)
      | .ok .exit1 => (w, .exit1)
      | .ok (.ok sd c') => ({ w with c := c' }, .data sd) := by
  simp only [apiStep, hget]
  rfl

/-- the value `parse` returns is the dict that was read, re-typed by the writer: `_retype_values` works in place -/
theorem apiStep_parse {ev : Str → EvalResult} {w : World} {p : Comps} {b : FileBody} (o : ReadOpts) (mode : Str)
    (output : Option Str) (hget : w.fs.get (resolveSpelled p) = some b) :
    apiStep ev w (.parse p o mode output) =
      match readFile ev w.fs o w.c p with
      | .error e => (w, .gaveUp e)
      | .ok .exit1 => (w, .exit1)
      | .ok (.ok sd c') =>
        match writeText ev w.fs (parseTarget p o.scope output) mode o.order (.sd sd) c' with
        | .error e => (w, .gaveUp e)
        | .ok (t, c'') => ({ fs := w.fs.set (resolveSpelled (parseTarget p o.scope output)) (.native t), c := c'' },
            .data { sd with data := normEs sd.data }) := by
  simp only [apiStep, hget]
  cases readFile ev w.fs o w.c p with
  | error e => rfl
  | ok r =>
    cases r with
    | exit1 => rfl
    | ok sd c' =>
      simp only [writeTo]
      cases writeText ev w.fs (parseTarget p o.scope output) mode o.order (.sd sd) c' <;> rfl

/-- What one call does to the world.  It does not complete, and leaves the world as it was; or it completes without
    touching a file (`read`, `load`, `reset`); or it completes and has put a native text into its target. -/
theorem step_cases (ev : Str → EvalResult) (w : World) (op : ApiOp) :
    ((apiStep ev w op).1 = w ∧ ¬ Completed (apiStep ev w op).2) ∨
    (op.target = none ∧ (apiStep ev w op).1.fs = w.fs ∧ Completed (apiStep ev w op).2) ∨
    ∃ tgt t, op.target = some tgt ∧ (apiStep ev w op).1.fs = w.fs.set tgt (.native t) ∧ Completed (apiStep ev w op).2 := by
  cases op with
  | read p o =>
    simp only [apiStep]
    split
    · exact .inl ⟨rfl, id⟩
    · split
      · exact .inl ⟨rfl, id⟩
      · exact .inl ⟨rfl, id⟩
      · exact .inr (.inl ⟨rfl, rfl, trivial⟩)
  | load p =>
    simp only [apiStep]
    split
    · exact .inl ⟨rfl, id⟩
    · split
      · exact .inl ⟨rfl, id⟩
      · exact .inl ⟨rfl, id⟩
      · exact .inr (.inl ⟨rfl, rfl, trivial⟩)
  | reset => exact .inr (.inl ⟨rfl, rfl, trivial⟩)
  | write a target mode order =>
    rw [show apiStep ev w (.write a target mode order) = writeTo ev w target mode order a from rfl]
    rcases writeTo_cases ev w target mode order a with ⟨e, h⟩ | ⟨t, c', h⟩ <;> rw [h]
    · exact .inl ⟨rfl, id⟩
    · exact .inr (.inr ⟨_, t, rfl, rfl, trivial⟩)
  | dump s target =>
    rw [show apiStep ev w (.dump s target) = writeTo ev w target ['a'] false (.sd s) from rfl]
    rcases writeTo_cases ev w target ['a'] false (.sd s) with ⟨e, h⟩ | ⟨t, c', h⟩ <;> rw [h]
    · exact .inl ⟨rfl, id⟩
    · exact .inr (.inr ⟨_, t, rfl, rfl, trivial⟩)
  | parse src o mode output =>
    simp only [apiStep]
    split
    · exact .inl ⟨rfl, id⟩
    · split
      · exact .inl ⟨rfl, id⟩
      · exact .inl ⟨rfl, id⟩
      · next sd c' _ =>
        rcases writeTo_cases ev { w with c := c' } (parseTarget src o.scope output) mode o.order (.sd sd) with
          ⟨e, h⟩ | ⟨t, c'', h⟩ <;> rw [h]
        · exact .inl ⟨rfl, id⟩
        · exact .inr (.inr ⟨_, t, rfl, rfl, trivial⟩)

/-- **reads write nothing**: after `read`, `load` or `reset` the file system is the one before, whatever is returned -/
theorem read_pure (ev : Str → EvalResult) (w : World) (op : ApiOp) (h : IsReadOp op) : (apiStep ev w op).1.fs = w.fs := by
  rcases step_cases ev w op with ⟨h0, _⟩ | ⟨_, h0, _⟩ | ⟨tgt, t, ht, _⟩
  · rw [h0]
  · exact h0
  · rw [target_of_readOp h] at ht; cases ht

/-- **writes touch only their target**: every other path holds after the call exactly what it held before
    (present or absent, byte for byte) -/
theorem step_frame (ev : Str → EvalResult) (w : World) (op : ApiOp) (p : Comps) (h : op.target ≠ some p) :
    (apiStep ev w op).1.fs.get p = w.fs.get p := by
  rcases step_cases ev w op with ⟨h0, _⟩ | ⟨_, h0, _⟩ | ⟨tgt, t, ht, hs, _⟩
  · rw [h0]
  · rw [h0]
  · rw [hs]
    exact get_set_ne _ _ (fun hp => h (by rw [ht, hp]))

/-- **failures destroy nothing**: a call that ends in `FileNotFoundError`, `sys.exit(1)` or inside a serialiser
    leaves the whole world — every file and the target in particular — as it was -/
theorem step_fail_safe (ev : Str → EvalResult) (w : World) (op : ApiOp) (h : ¬ Completed (apiStep ev w op).2) :
    (apiStep ev w op).1 = w := by
  rcases step_cases ev w op with ⟨h0, _⟩ | ⟨_, _, hc⟩ | ⟨_, _, _, _, hc⟩
  · exact h0
  · exact absurd hc h
  · exact absurd hc h

/-- a completed `write`, `dump` or `parse` leaves a native text in its target -/
theorem step_done_target (ev : Str → EvalResult) (w : World) (op : ApiOp) (tgt : Comps) (ht : op.target = some tgt)
    (h : Completed (apiStep ev w op).2) : ∃ t, (apiStep ev w op).1.fs.get tgt = some (.native t) := by
  rcases step_cases ev w op with ⟨_, hn⟩ | ⟨hn, _⟩ | ⟨tgt', t, ht', hs, _⟩
  · exact absurd h hn
  · rw [hn] at ht; cases ht
  · rw [ht] at ht'
    cases ht'
    exact ⟨t, by rw [hs]; exact get_set_self _ _ _⟩

/-- **a call creates at most one path and removes none** -/
theorem step_paths (ev : Str → EvalResult) (w : World) (op : ApiOp) :
    paths (apiStep ev w op).1.fs = paths w.fs ∨
    ∃ tgt, op.target = some tgt ∧ tgt ∉ paths w.fs ∧ paths (apiStep ev w op).1.fs = paths w.fs ++ [tgt] := by
  rcases step_cases ev w op with ⟨h0, _⟩ | ⟨_, h0, _⟩ | ⟨tgt, t, ht, hs, _⟩
  · exact .inl (by rw [h0])
  · exact .inl (by rw [h0])
  · rw [hs]
    rcases paths_set w.fs tgt (.native t) with h | ⟨hn, h⟩
    · exact .inl h
    · exact .inr ⟨tgt, ht, hn, h⟩

theorem apiRun_cons (ev : Str → EvalResult) (w : World) (op : ApiOp) (ops : List ApiOp) :
    apiRun ev w (op :: ops) =
      ((apiRun ev (apiStep ev w op).1 ops).1, (apiStep ev w op).2 :: (apiRun ev (apiStep ev w op).1 ops).2) := rfl

theorem apiRun_snoc (ev : Str → EvalResult) : ∀ (ops : List ApiOp) (w : World) (op : ApiOp),
    apiRun ev w (ops ++ [op]) =
      ((apiStep ev (apiRun ev w ops).1 op).1, (apiRun ev w ops).2 ++ [(apiStep ev (apiRun ev w ops).1 op).2])
  | [], w, op => rfl
  | o :: ops, w, op => by
    rw [List.cons_append, apiRun_cons, apiRun_snoc ev ops _ op, apiRun_cons]
    rfl

theorem apiRun_inv (ev : Str → EvalResult) (I : World → Prop) : ∀ (ops : List ApiOp) (w : World),
    (∀ op ∈ ops, ∀ w, I w → I (apiStep ev w op).1) → I w → I (apiRun ev w ops).1
  | [], _, _, h => h
  | op :: ops, w, hs, h => by
    rw [apiRun_cons]
    exact apiRun_inv ev I ops _ (fun o ho => hs o (List.mem_cons_of_mem _ ho)) (hs op List.mem_cons_self w h)

/-- **for every history of API calls**: a path that is not the target of any call in the history holds at the end
    exactly what it held at the start.  In particular sources and included files are byte for byte unchanged as long
    as nobody names them as a target, and a history of reads, loads and resets changes no file at all. -/
theorem run_frame (ev : Str → EvalResult) (p : Comps) : ∀ (ops : List ApiOp) (w : World),
    (∀ op ∈ ops, op.target ≠ some p) → (apiRun ev w ops).1.fs.get p = w.fs.get p :=
  fun ops w h => apiRun_inv ev (fun w' => w'.fs.get p = w.fs.get p) ops w
    (fun op ho w' hw' => (step_frame ev w' op p (h op ho)).trans hw') rfl

/-- a history of reads changes nothing at all -/
theorem run_read_pure (ev : Str → EvalResult) : ∀ (ops : List ApiOp) (w : World),
    (∀ op ∈ ops, IsReadOp op) → (apiRun ev w ops).1.fs = w.fs :=
  fun ops w h => apiRun_inv ev (fun w' => w'.fs = w.fs) ops w
    (fun op ho w' hw' => (read_pure ev w' op (h op ho)).trans hw') rfl

/-- **no file is ever deleted, and every new file is the target of some call of the history** -/
theorem run_paths (ev : Str → EvalResult) : ∀ (ops : List ApiOp) (w : World),
    ∃ new : List Comps, paths (apiRun ev w ops).1.fs = paths w.fs ++ new ∧
      (∀ q ∈ new, ∃ op ∈ ops, op.target = some q) ∧ new.length ≤ ops.length
  | [], w => ⟨[], by simp [apiRun], by simp, by simp⟩
  | op :: ops, w => by
    rw [apiRun_cons]
    simp only
    obtain ⟨new, hp, hn, hl⟩ := run_paths ev ops (apiStep ev w op).1
    rcases step_paths ev w op with h | ⟨tgt, ht, _, h⟩
    · refine ⟨new, by rw [hp, h], fun q hq => ?_, by simp; omega⟩
      obtain ⟨o, ho, hq⟩ := hn q hq
      exact ⟨o, List.mem_cons_of_mem _ ho, hq⟩
    · refine ⟨tgt :: new, by rw [hp, h]; simp, fun q hq => ?_, by simp; omega⟩
      rcases List.mem_cons.mp hq with rfl | hq
      · exact ⟨op, List.mem_cons_self, ht⟩
      · obtain ⟨o, ho, hq⟩ := hn q hq
        exact ⟨o, List.mem_cons_of_mem _ ho, hq⟩

/-- the file `parse` writes lies in the folder of the source … -/
theorem parse_target_same_folder (src : Comps) (scope : List Key) (output : Option Str) (h : src ≠ []) :
    (parseTarget src scope output).dropLast = src.dropLast := by
  unfold parseTarget
  cases hl : src.getLast? with
  | none => exact absurd (List.getLast?_eq_none_iff.mp hl) h
  | some name => simp

/-- … and is named by `create_target_file_name` with prefix `parsed`, the scope keys as `str(key)`, and the output format -/
theorem parse_target_name (dir : Comps) (name : Str) (scope : List Key) (output : Option Str) :
    parseTarget (dir ++ [name]) scope output =
      dir ++ [targetName name (some "parsed".toList) (scope.map keyText) output] := by
  simp [parseTarget]

/-! ## non-vacuity: a concrete history -/

def exSrc : Comps := ["w".toList, "case".toList]
def exWorld : World := { fs := [(exSrc, .native "a 1;\nb { c 2; }\n".toList), (["w".toList, "other".toList], .native "x 1;".toList)] }
def exOps : List ApiOp := [.parse exSrc {} ['w'] none, .read exSrc {}, .write (.plain [(.str "k".toList, .leaf (.int 5))]) ["w".toList, "out".toList] ['a'] false]

/-- the history completes, creates exactly `parsed.case` and `out`, and leaves `case` and `other` alone -/
example : paths (apiRun evalInt exWorld exOps).1.fs =
    [exSrc, ["w".toList, "other".toList], ["w".toList, "parsed.case".toList], ["w".toList, "out".toList]] := by
  unfold exWorld exOps exSrc
  literal_chars
  decide +kernel

example : (apiRun evalInt exWorld exOps).2.all (fun o => match o with | .data _ => true | .done => true | _ => false) = true := by
  unfold exWorld exOps exSrc
  literal_chars
  decide +kernel

end C13api

namespace C16sd

/-! ## `read` and `parse` in terms of `readFile` and `writeText` -/

theorem read_step (ev : Str → EvalResult) {fs : FS} {c c' : Counter} {p : Comps} {b : FileBody} {sd : SD} {o : ReadOpts}
    (hget : fs.get (resolveSpelled p) = some b) (hread : readFile ev fs o c p = .ok (.ok sd c')) :
    apiStep ev { fs := fs, c := c } (.read p o) = ({ fs := fs, c := c' }, .data sd) := by
  rw [C13api.apiStep_read (w := { fs := fs, c := c }) o hget, hread]

/-- one `DictParser.parse(p)` in terms of its read and its write, when the re-typing changes nothing (`hnorm`) -/
theorem parse_step (ev : Str → EvalResult) {fs : FS} {c c' c'' : Counter} {p : Comps} {b : FileBody} {sd : SD} {t : Str}
    {mode : Str} (hget : fs.get (resolveSpelled p) = some b) (hread : readFile ev fs {} c p = .ok (.ok sd c'))
    (hwrite : writeText ev fs (parseTarget p [] none) mode false (.sd sd) c' = .ok (t, c''))
    (hnorm : normEs sd.data = sd.data) :
    apiStep ev { fs := fs, c := c } (.parse p {} mode none) =
      ({ fs := fs.set (resolveSpelled (parseTarget p [] none)) (.native t), c := c'' }, .data sd) := by
  rw [C13api.apiStep_parse (w := { fs := fs, c := c }) {} mode none hget, hread]
  simp only [hwrite, hnorm]

theorem dump_read_run (ev : Str → EvalResult) (w : World) (s : SD) (target : Comps) {t : Str} {c₁ c' : Counter} {sd : SD}
    (hwt : writeText ev w.fs target ['a'] false (.sd s) w.c = .ok (t, c₁))
    (hread : readFile ev (w.fs.set (resolveSpelled target) (.native t)) {} c₁ target = .ok (.ok sd c')) :
    apiRun ev w [.dump s target, .read target {}] =
      ({ fs := w.fs.set (resolveSpelled target) (.native t), c := c' }, [.done, .data sd]) := by
  rw [C13api.apiRun_cons, show apiStep ev w (.dump s target) = _ from C13api.writeTo_ok hwt, C13api.apiRun_cons,
    read_step ev (C13api.get_set_self _ _ _) hread]
  rfl

end C16sd
end DictIO
