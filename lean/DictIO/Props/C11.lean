/-
  C11 -- XML: the dict ↔ element-tree mapping of `XmlParser._parse_nodes` and `XmlFormatter.populate_into_element`.
  Model: `xmlEach`, `xmlToDict`, `dictToXml`, `dictChildren`, `numberedKey`, `stripNumbering` (Model/Xml.lean).
  XML text ↔ tree (lxml in, ElementTree + minidom out), namespaces and prefix stripping are not in the model
  (correspondence check only).

  Proved in full (no `sorry`, axioms: propext / Classical.choice / Quot.sound only):

  (a) reading
      `C11_faithful`          keys of `xmlEach c ids kids` = `zipWith (fun i k => numberedKey i k.tag) ids kids`: one entry per
                              child element, in document order (no length hypothesis needed); `xmlEach_length`, `C11_length`
      `xmlEach_entries`       the entries in closed form: `zipWith` over the numbers and the siblings, each paired with the
                              counter state it is translated in (`ctrs`); `C11_faithful`, `C11_values_dict`,
                              `C11_entry_at` are read off it
      `C11_values_dict`       every value is a dict
      `C11_entry`, `C11_entry_leaf`, `elemBody_eq`
                              the entry of one element, explicitly: children entries (or `_content`), then `_attributes`
      `C11_lookup_content`, `C11_has_content_iff`
                              `_content` is present iff the element has no children and non-blank text, and is then
                              `xmlType (xmlText text)`
      `C11_lookup_attributes`, `C11_has_attributes_iff`
                              `_attributes` is present iff some attribute value is non-empty, and is then the dict of
                              exactly the non-empty ones, typed, in document order
      `C11_entry_at`          the same for the `j`-th element of a list of siblings
  (b) numbering
      `C11_numberedKey_eq`    `numberedKey i tag = padSix i ++ "_" ++ tag`
      `padSix_length` (Lemmas/Digits), `padSix_digits`
                              six characters for `i ≤ 999999`, all ASCII digits
      `C11_strip_number`      `i ≤ 999999 → stripNumbering (numberedKey i tag) = tag` (bound needed: example at the end;
                              every number the counter hands out satisfies it: `alloc_le`, Lemmas/Counter)
  (c) writing back and reading again
      `C11_written`, `C11_written_each`
                              `dictChildren (xmlToDict c root).1 = root.children.map norm`: the written tree is the tree read,
                              normalised (`norm`: tags, order and nesting kept; text typed and printed with `str()`, blank
                              text and text next to children dropped; empty attributes dropped, attribute values typed and
                              printed, `True`/`False` spelled `true`/`false`) -- all elements, attributes included
      `C11_roundtrip_leaf_str`, `C11_roundtrip_leaf`, `C11_blank_leaf`
                              the leaf cases.  Right-hand side worked out on examples first: the entry's value is the dict
                              `{'_content': x}`, so the text is `str(x)` for *every* scalar (`None` prints `None`); the
                              hypothesis `xmlType (xmlText t) ≠ .none` suggested in the task is therefore NOT needed.
                              Hypotheses kept: `i ≤ 999999`, text not blank, `xmlStr (xmlType (xmlText t)) = xmlText t`
      `C11_counter_independent`
                              the dict read, numbers stripped at every level (`stripEs`), does not depend on the counter
      `C11_roundtrip : C11_roundtrip_statement`
                              general tree statement: tree → dict → tree → dict gives the same dict up to numbers, for every
                              document whose recorded texts and attribute values are stable under typing + printing
                              (`stableL`, a decidable Bool).  Hypothesis needed: `C11_roundtrip_unrestricted_false` (text `''`).
  (d) examples by `decide +kernel` (via `eachS`, a structurally recursive copy of `xmlEach` proved equal to it, because
      `xmlEach` is compiled by well-founded recursion): two-level document with repeated tags, empty attribute value,
      white-space-only element, multi-line text, instantiations of (b) and (c).

  Partial / not covered: nothing of a-d is left as a bare statement.  Outside the model (correspondence only): XML text,
  namespaces, `_parse_nodes` on the root's own attributes (ignored by the model as by the code).
-/
import DictIO.Model.Xml
import DictIO.Lemmas.Assoc
import DictIO.Lemmas.Digits
import DictIO.Lemmas.List
import DictIO.Lemmas.Literal
import DictIO.Lemmas.Counter

namespace DictIO.C11
open DictIO

/-! ## specification vocabulary -/

/-- the key under which the text of a leaf element is stored -/
def contentKey : Key := .str "_content".toList
/-- the key under which the attributes of an element are stored -/
def attrsKey : Key := .str "_attributes".toList

/-- the attributes that are recorded: those with a non-empty value -/
def keptAttrs (attrs : List (Str × Str)) : List (Str × Str) := attrs.filter fun a => !a.2.isEmpty

/-- the `_attributes` dict: the recorded attributes in document order, values typed -/
def attrsVal (attrs : List (Str × Str)) : Val :=
  .dict ((keptAttrs attrs).map fun a => (Key.str a.1, Val.leaf (xmlType a.2)))

/-- `node_dict["_attributes"] = …` when there is something to record -/
def withAttrs (attrs : List (Str × Str)) (body : Entries) : Entries :=
  if (keptAttrs attrs).isEmpty then body else setKey attrsKey (attrsVal attrs) body

/-- the `_content` entry of a leaf element (nothing for blank text) -/
def contentEntries (text : Option Str) : Entries :=
  if isBlankText text then [] else [(contentKey, .leaf (xmlType (xmlText (text.getD []))))]

/-- the entries of an element before the attributes are added, and the counter afterwards -/
def kidsBody (c : Counter) (text : Option Str) (kids : List XElem) : Entries × Counter :=
  if !kids.isEmpty then xmlEach (advance kids.length c) (alloc Gen.counterLimit kids.length c) kids
  else (contentEntries text, c)

/-- the dict stored for an element visited in counter state `c` -/
def elemBody (c : Counter) : XElem → Entries
  | .mk _ attrs text kids => withAttrs attrs (kidsBody c text kids).1

/-- the counter state after an element has been visited -/
def elemCounter (c : Counter) : XElem → Counter
  | .mk _ _ text kids => (kidsBody c text kids).2

/-- what `d.get("_content")` of the element's dict is -/
def contentOf : XElem → Option Val
  | .mk _ _ text kids =>
    if kids.isEmpty && !isBlankText text then some (.leaf (xmlType (xmlText (text.getD [])))) else none

/-- what `d.get("_attributes")` of the element's dict is -/
def attrsOf : XElem → Option Val
  | .mk _ attrs _ _ => if (keptAttrs attrs).isEmpty then none else some (attrsVal attrs)

theorem xmlEach_nil_ids (c : Counter) (kids : List XElem) : xmlEach c [] kids = ([], c) := by
  rw [xmlEach.eq_2]; intros; contradiction

theorem xmlEach_nil_kids (c : Counter) (ids : List Nat) : xmlEach c ids [] = ([], c) := by
  rw [xmlEach.eq_2]; intros; contradiction

theorem xmlEach_cons (c : Counter) (i : Nat) (ids : List Nat) (el : XElem) (rest : List XElem) :
    xmlEach c (i :: ids) (el :: rest) =
      ((Key.str (numberedKey i el.tag), Val.dict (elemBody c el)) :: (xmlEach (elemCounter c el) ids rest).1,
       (xmlEach (elemCounter c el) ids rest).2) := by
  cases el with
  | mk tag attrs text kids =>
    rw [xmlEach.eq_1]
    simp only [elemBody, elemCounter, kidsBody, withAttrs, keptAttrs, attrsVal, contentEntries, attrsKey, contentKey, XElem.tag]
    cases hk : kids.isEmpty <;> cases hb : isBlankText text <;>
      simp only [Bool.not_true, Bool.not_false, if_false, Bool.false_eq_true, if_pos]

theorem kidsBody_nil (c : Counter) (text : Option Str) : kidsBody c text [] = (contentEntries text, c) := rfl

theorem kidsBody_cons (c : Counter) (text : Option Str) (el : XElem) (rest : List XElem) :
    kidsBody c text (el :: rest) =
      xmlEach (advance (rest.length + 1) c) (alloc Gen.counterLimit (rest.length + 1) c) (el :: rest) := rfl

/-- an ASCII digit `0`..`9`, as the regex class `\d` of `stripNumbering` tests it -/
def isNum (ch : Char) : Bool := decide ('0' ≤ ch ∧ ch ≤ '9')

/-- (b) all characters of `padSix i` are ASCII digits (no bound needed); it has six of them for every number the
    counter can hand out (`padSix_length`) -/
theorem padSix_digits (i : Nat) : ∀ ch ∈ padSix i, isNum ch = true := padSix_forall (by decide) i

/-- (b) the numbered key is the six-digit number, an underscore, the tag -/
theorem C11_numberedKey_eq (i : Nat) (tag : Str) : numberedKey i tag = padSix i ++ "_".toList ++ tag := rfl

theorem numberedKey_head (i : Nat) (tag : Str) : ∃ d r, numberedKey i tag = d :: r ∧ isNum d = true := by
  obtain ⟨d, r, h, hd⟩ := padSix_head (P := (isNum · = true)) (by decide) i
  exact ⟨d, r ++ ['_'] ++ tag, by rw [numberedKey, h]; rfl, hd⟩

/-- (b) `re.sub(r"^\d{1,6}_", "", key)` undoes the numbering, for every number the counter can hand out -/
theorem C11_strip_number {i : Nat} (tag : Str) (hi : i ≤ 999999) : stripNumbering (numberedKey i tag) = tag := by
  have htw : (numberedKey i tag).takeWhile (fun ch => decide ('0' ≤ ch ∧ ch ≤ '9')) = padSix i := by
    rw [numberedKey, List.append_assoc, List.takeWhile_append_of_pos (padSix_forall (by decide) i), List.singleton_append,
      List.takeWhile_cons_of_neg (by decide), List.append_nil]
  have hi := Nat.lt_succ_of_le hi
  have hdrop : (numberedKey i tag).drop 6 = '_' :: tag := by
    rw [← padSix_length hi, numberedKey, List.append_assoc, List.drop_left]; rfl
  unfold stripNumbering
  simp only [htw, padSix_length hi, hdrop]
  exact if_pos (by decide)

/-! #### (a) one entry per child element, in document order -/

/-- the counter state in which each sibling is translated -/
def ctrs (c : Counter) : List XElem → List Counter
  | [] => []
  | el :: rest => c :: ctrs (elemCounter c el) rest

theorem ctrs_length (c : Counter) : ∀ kids, (ctrs c kids).length = kids.length
  | [] => rfl
  | el :: rest => by rw [ctrs, List.length_cons, List.length_cons, ctrs_length _ rest]

/-- the entries `xmlEach` builds, in closed form: element `j` becomes the entry `number_tag ↦ dict body`.  The flat
    facts about the entries are then facts about `zipWith`. -/
theorem xmlEach_entries : ∀ (kids : List XElem) (c : Counter) (ids : List Nat),
    (xmlEach c ids kids).1 =
      List.zipWith (fun i (p : XElem × Counter) => (Key.str (numberedKey i p.1.tag), Val.dict (elemBody p.2 p.1))) ids
        (kids.zip (ctrs c kids))
  | [], c, ids => by rw [xmlEach_nil_kids]; simp [ctrs]
  | el :: rest, c, [] => by rw [xmlEach_nil_ids]; simp
  | el :: rest, c, i :: ids => by
    rw [xmlEach_cons, xmlEach_entries rest (elemCounter c el) ids]; rfl

/-- (a) the keys of the dict read from a list of sibling elements: one per element, in document order, the element's
    tag prefixed by the number drawn for it.  (No hypothesis on the lengths: `xmlEach` and `zipWith` both stop at the
    end of the shorter list; `xmlToDict` always supplies as many numbers as there are children.) -/
theorem C11_faithful : ∀ (kids : List XElem) (c : Counter) (ids : List Nat),
    (xmlEach c ids kids).1.map (·.1) = List.zipWith (fun i k => Key.str (numberedKey i k.tag)) ids kids :=
  fun kids c ids => by
    rw [xmlEach_entries, List.map_zipWith]
    conv => rhs; rw [← List.map_fst_zip (l₁ := kids) (l₂ := ctrs c kids) (by rw [ctrs_length]; exact Nat.le_refl _)]
    rw [List.zipWith_map_right]

theorem xmlEach_length (kids : List XElem) (c : Counter) (ids : List Nat) :
    (xmlEach c ids kids).1.length = min ids.length kids.length := by
  have := congrArg List.length (C11_faithful kids c ids)
  rwa [List.length_map, List.length_zipWith] at this

/-- (a) … so there are as many entries as elements -/
theorem C11_length (kids : List XElem) (c : Counter) (ids : List Nat) (h : ids.length = kids.length) :
    (xmlEach c ids kids).1.length = kids.length := by
  rw [xmlEach_length, h, Nat.min_self]

/-- (a) every value is a dict -/
theorem C11_values_dict : ∀ (kids : List XElem) (c : Counter) (ids : List Nat), ∀ e ∈ (xmlEach c ids kids).1, e.2.isDict = true :=
  fun kids c ids e he => by
    rw [xmlEach_entries, ← List.map_uncurry_zip_eq_zipWith] at he
    obtain ⟨⟨i, p⟩, -, rfl⟩ := List.mem_map.mp he
    rfl

/-- a key that starts with an underscore (`_content`, `_attributes`) is not among the numbered keys -/
theorem underscore_not_mem {k : Str} (hk : k.head? = some '_') (kids : List XElem) (c : Counter) (ids : List Nat) :
    Key.str k ∉ keys (xmlEach c ids kids).1 := by
  intro (hm : Key.str k ∈ (xmlEach c ids kids).1.map (·.1))
  rw [C11_faithful, ← List.map_uncurry_zip_eq_zipWith] at hm
  obtain ⟨⟨i, el⟩, -, e⟩ := List.mem_map.mp hm
  obtain ⟨d, r, h, hd⟩ := numberedKey_head i el.tag
  rw [← Key.str.inj e, h] at hk
  exact ne_of_class hd (by decide) (Option.some.inj hk)

theorem contentKey_ne_attrsKey : contentKey ≠ attrsKey := by
  unfold contentKey attrsKey; literal_chars; decide

theorem attrsKey_not_mem_kidsBody (c : Counter) (text : Option Str) (kids : List XElem) :
    attrsKey ∉ keys (kidsBody c text kids).1 := by
  cases kids with
  | cons el rest => rw [kidsBody_cons]; exact underscore_not_mem (by literal_chars; rfl) _ _ _
  | nil =>
    rw [kidsBody_nil, contentEntries]
    split
    · exact List.not_mem_nil
    · exact fun h => contentKey_ne_attrsKey (List.mem_singleton.mp h).symm

/-- (a) the attributes are appended after the children / the content -/
theorem elemBody_eq (c : Counter) (tag : Str) (attrs : List (Str × Str)) (text : Option Str) (kids : List XElem) :
    elemBody c (.mk tag attrs text kids) =
      (kidsBody c text kids).1 ++ (if (keptAttrs attrs).isEmpty then [] else [(attrsKey, attrsVal attrs)]) := by
  simp only [elemBody, withAttrs]
  split
  · simp
  · exact setKey_of_not_mem _ _ _ (attrsKey_not_mem_kidsBody c text kids)

theorem lookup_content_kidsBody (c : Counter) (text : Option Str) (kids : List XElem) :
    lookup contentKey (kidsBody c text kids).1 =
      if kids.isEmpty && !isBlankText text then some (.leaf (xmlType (xmlText (text.getD [])))) else none := by
  cases kids with
  | cons el rest => rw [kidsBody_cons]; exact lookup_eq_none_iff.mpr (underscore_not_mem (by literal_chars; rfl) _ _ _)
  | nil => rw [kidsBody_nil]; cases hb : isBlankText text <;> simp [contentEntries, hb, lookup]

/-- (a) the dict of an element has `_content` iff the element has no children and non-blank text, and then the
    content is the typed normalised text -/
theorem C11_lookup_content (c : Counter) (el : XElem) : lookup contentKey (elemBody c el) = contentOf el := by
  cases el with
  | mk tag attrs text kids =>
    simp only [elemBody, withAttrs, contentOf]
    split
    · exact lookup_content_kidsBody c text kids
    · rw [lookup_setKey_ne _ contentKey_ne_attrsKey]; exact lookup_content_kidsBody c text kids

/-- (a) the dict of an element has `_attributes` iff some attribute value is non-empty, and then it holds exactly the
    non-empty ones, typed, in document order -/
theorem C11_lookup_attributes (c : Counter) (el : XElem) : lookup attrsKey (elemBody c el) = attrsOf el := by
  cases el with
  | mk tag attrs text kids =>
    simp only [elemBody, withAttrs, attrsOf]
    split
    · exact lookup_eq_none_iff.mpr (attrsKey_not_mem_kidsBody c text kids)
    · exact lookup_setKey_self _ _ _

theorem C11_has_content_iff (c : Counter) (el : XElem) :
    hasKey contentKey (elemBody c el) = true ↔ el.children = [] ∧ isBlankText el.text = false := by
  cases el with
  | mk tag attrs text kids =>
    rw [hasKey, C11_lookup_content, contentOf]
    cases kids <;> cases hb : isBlankText text <;> simp [XElem.children, XElem.text, hb]

theorem C11_has_attributes_iff (c : Counter) (el : XElem) :
    hasKey attrsKey (elemBody c el) = true ↔ ∃ a ∈ el.attrs, a.2 ≠ [] := by
  cases el with
  | mk tag attrs text kids =>
    rw [hasKey, C11_lookup_attributes, attrsOf]
    have : (keptAttrs attrs).isEmpty = false ↔ ∃ a ∈ attrs, a.2 ≠ [] := by
      simp [keptAttrs, List.isEmpty_eq_false_iff, List.filter_eq_nil_iff]
    show _ ↔ ∃ a ∈ attrs, a.2 ≠ []
    rw [← this]
    cases (keptAttrs attrs).isEmpty <;> simp

/-- (a) the one-element case: the entry written for an element -/
theorem C11_entry (c : Counter) (i : Nat) (el : XElem) :
    (xmlEach c [i] [el]).1 = [(Key.str (numberedKey i el.tag), Val.dict (elemBody c el))] := by
  rw [xmlEach_cons, xmlEach_nil_kids]

/-- (a) the one-element case for an element without children, spelled out -/
theorem C11_entry_leaf (c : Counter) (i : Nat) (tag : Str) (attrs : List (Str × Str)) (text : Option Str) :
    (xmlEach c [i] [.mk tag attrs text []]).1 =
      [(Key.str (numberedKey i tag), Val.dict (
          (if isBlankText text then [] else [(contentKey, Val.leaf (xmlType (xmlText (text.getD []))))]) ++
          (if (keptAttrs attrs).isEmpty then [] else [(attrsKey, attrsVal attrs)])))] := by
  rw [C11_entry, elemBody_eq]
  rfl

/-- (a) the general case, position by position: the `j`-th entry belongs to the `j`-th element -/
theorem C11_entry_at : ∀ (kids : List XElem) (c : Counter) (ids : List Nat) (j : Nat) (hi : j < ids.length) (hk : j < kids.length),
    ∃ b, (xmlEach c ids kids).1[j]? = some (Key.str (numberedKey ids[j] kids[j].tag), Val.dict b) ∧
      lookup contentKey b = contentOf kids[j] ∧ lookup attrsKey b = attrsOf kids[j]
  | kids, c, ids, j, hi, hk => by
    have hc : j < (ctrs c kids).length := by rw [ctrs_length]; exact hk
    have hz : j < (kids.zip (ctrs c kids)).length := by rw [List.length_zip, ctrs_length, Nat.min_self]; exact hk
    refine ⟨elemBody (ctrs c kids)[j] kids[j], ?_, C11_lookup_content _ _, C11_lookup_attributes _ _⟩
    rw [xmlEach_entries, List.getElem?_zipWith, List.getElem?_eq_getElem hi, List.getElem?_eq_getElem hz, List.getElem_zip]

/-! #### (c) writing the dict back as a tree -/

/-- `populate_into_element` does not skip a key that starts with a digit -/
theorem skip_false {d : Char} (r : Str) (h : isNum d = true) :
    ("_content".toList.isPrefixOf (d :: r) || "_attrib".toList.isPrefixOf (d :: r) || isOptsKey (d :: r)) = false := by
  have e : ∀ c, isNum c = false → (c == d) = false := fun c hc => beq_eq_false_iff_ne.mpr (ne_of_class h hc).symm
  unfold isOptsKey
  literal_chars
  simp only [List.isPrefixOf_cons_cons, e '_' (by decide), e 'I' (by decide), e 'B' (by decide), e 'L' (by decide),
    Bool.false_and, Bool.or_false, Bool.false_or]
  split
  · next heq => cases heq; exact absurd h (by decide)
  · rfl

/-- `populate_into_element` on a numbered entry: the element gets the tag back -/
theorem dictChildren_numbered {i : Nat} (tag : Str) (v : Val) (es : Entries) (hi : i ≤ 999999) :
    dictChildren ((Key.str (numberedKey i tag), v) :: es) = dictToXml tag v :: dictChildren es := by
  obtain ⟨d, r, hk, hd⟩ := numberedKey_head i tag
  have hs := C11_strip_number tag hi
  rw [hk] at hs
  rw [dictChildren.eq_2, hk, skip_false r hd, hs]
  simp

/-- the `_attributes` entry produces no child element -/
theorem dictChildren_append_attrs (v : Val) : ∀ es : Entries, dictChildren (es ++ [(attrsKey, v)]) = dictChildren es
  | [] => by
    rw [List.nil_append, attrsKey, dictChildren.eq_2, if_pos (by decide +kernel)]
  | (.str k, w) :: es => by
    rw [List.cons_append, dictChildren.eq_2, dictChildren.eq_2, dictChildren_append_attrs v es]
  | (.int z, w) :: es => by
    rw [List.cons_append, dictChildren.eq_3, dictChildren.eq_3, dictChildren_append_attrs v es]

/-- the `_content` entry produces no child element -/
theorem dictChildren_contentEntries (text : Option Str) : dictChildren (contentEntries text) = [] := by
  unfold contentEntries
  split
  · rfl
  · rw [contentKey, dictChildren.eq_2, if_pos (by decide +kernel)]; rfl

/-- `"true"` / `"false"` for the strings `"True"` / `"False"` (attribute values only) -/
def tfSpell (s : Str) : Str :=
  if s == "True".toList then "true".toList else if s == "False".toList then "false".toList else s

/-- the attribute written for a recorded attribute (none when the typed value prints as the empty string) -/
def writtenAttr (a : Str × Str) : Option (Str × Str) :=
  let s := xmlStr (xmlType a.2)
  if s.isEmpty then none else some (a.1, tfSpell s)

/-- the attributes of the element written back -/
def normAttrs (attrs : List (Str × Str)) : List (Str × Str) := (keptAttrs attrs).filterMap writtenAttr

/-- the text of the (childless) element written back -/
def normText (text : Option Str) : Option Str :=
  if isBlankText text then none else some (xmlStr (xmlType (xmlText (text.getD []))))

mutual
  /-- the element that is written back for an element that was read -/
  def norm : XElem → XElem
    | .mk tag attrs text kids => .mk tag (normAttrs attrs) (if kids.isEmpty then normText text else none) (normL kids)
  def normL : List XElem → List XElem
    | [] => []
    | el :: rest => norm el :: normL rest
end

theorem normL_eq_map : ∀ kids : List XElem, normL kids = kids.map norm
  | [] => rfl
  | el :: rest => by simp [normL, normL_eq_map rest]

/-- `populate_into_element` on the dict of an element -/
theorem dictToXml_elemBody (c : Counter) (tag' tag : Str) (attrs : List (Str × Str)) (text : Option Str) (kids : List XElem) :
    dictToXml tag' (.dict (elemBody c (.mk tag attrs text kids))) =
      .mk tag' (normAttrs attrs) (if kids.isEmpty then normText text else none) (dictChildren (kidsBody c text kids).1) := by
  have h1 := C11_lookup_content c (.mk tag attrs text kids)
  have h2 := C11_lookup_attributes c (.mk tag attrs text kids)
  simp only [contentKey, attrsKey] at h1 h2
  rw [dictToXml.eq_4, h1, h2]
  congr 1
  · simp only [attrsOf, normAttrs]
    cases he : (keptAttrs attrs).isEmpty
    · simp only [Bool.false_eq_true, if_false, attrsVal, List.filterMap_map]
      rfl
    · rw [List.isEmpty_iff.mp he]; rfl
  · simp only [contentOf, normText]
    cases kids.isEmpty <;> cases isBlankText text <;> rfl
  · rw [elemBody_eq]
    split
    · rw [List.append_nil]
    · exact dictChildren_append_attrs _ _

mutual
  /-- (c) the tree written back for the dict of an element is the normalised element (under whatever tag) -/
  theorem written_elem : ∀ (el : XElem) (c : Counter) (tag' : Str),
      dictToXml tag' (.dict (elemBody c el)) = .mk tag' (norm el).attrs (norm el).text (norm el).children
    | .mk tag attrs text kids, c, tag' => by
      rw [dictToXml_elemBody, norm]
      simp only [XElem.attrs, XElem.text, XElem.children]
      congr 1
      cases kids with
      | nil => rw [kidsBody_nil]; exact dictChildren_contentEntries text
      | cons el rest => rw [kidsBody_cons]; exact written_list (el :: rest) _ _ (alloc_length _ _ _) (alloc_le _ _ _)
  /-- (c) the trees written back for the dict read from sibling elements are the normalised elements -/
  theorem written_list : ∀ (kids : List XElem) (c : Counter) (ids : List Nat), ids.length = kids.length →
      (∀ i ∈ ids, i ≤ 999999) → dictChildren (xmlEach c ids kids).1 = normL kids
    | [], c, ids, _, _ => by rw [xmlEach_nil_kids]; rfl
    | el :: rest, c, [], hl, _ => by simp at hl
    | el :: rest, c, i :: ids, hl, hi => by
      rw [xmlEach_cons, dictChildren_numbered _ _ _ (hi i List.mem_cons_self), written_elem el c el.tag,
        written_list rest _ ids (by simpa using hl) (fun j hj => hi j (List.mem_cons_of_mem _ hj)), normL]
      cases el with
      | mk tag attrs text kids => simp only [norm, XElem.tag, XElem.attrs, XElem.text, XElem.children]
end

/-- (c) the children written back for the dict read from sibling elements: the elements, normalised -/
theorem C11_written_each (c : Counter) (ids : List Nat) (kids : List XElem) (hl : ids.length = kids.length)
    (hi : ∀ i ∈ ids, i ≤ 999999) : dictChildren (xmlEach c ids kids).1 = kids.map norm := by
  rw [written_list kids c ids hl hi, normL_eq_map]

/-- (c) the children written back for the dict read from a document: the children of the root, normalised
    (tags and order kept; text typed and printed; empty attributes dropped; text next to children dropped) -/
theorem C11_written (c : Counter) (root : XElem) : dictChildren (xmlToDict c root).1 = root.children.map norm :=
  C11_written_each _ _ _ (by rw [alloc_length]) (alloc_le _ _ _)

/-- (c) leaf element, general form: the text written back is `str()` of the typed normalised text.
    No hypothesis `xmlType (xmlText t) ≠ .none` is needed: the entry's value is the dict `{'_content': x}`, so the
    text is written by the `_content` branch of `populate_into_element`, which is `str(x)` for every scalar, `None`
    included (text `None` is written back as `None`); the special case "`None` is written as empty text" only applies
    to a value that *is* a bare `None` leaf, which `_parse_nodes` never produces. -/
theorem C11_roundtrip_leaf_str {i : Nat} (c : Counter) (tag t : Str) (hi : i ≤ 999999) (hb : isBlankText (some t) = false) :
    dictChildren (xmlEach c [i] [.mk tag [] (some t) []]).1 = [.mk tag [] (some (xmlStr (xmlType (xmlText t)))) []] := by
  rw [C11_written_each c [i] _ rfl (by simpa using hi)]
  simp [norm, normL, normAttrs, keptAttrs, normText, hb]

/-- (c) a leaf element whose text is not blank and whose typed value prints back to the normalised text is written
    back with exactly the normalised text.  Hypotheses: `i ≤ 999999` (the counter never hands out more, `alloc_le`;
    a seven-digit number would not be stripped by `\d{1,6}_`), `hb` (blank text is not recorded at all, see
    `C11_blank_leaf`), `hp` (typing is lossy: `+1`, `on`, `'x'` print back as `1`, `True`, `x`). -/
theorem C11_roundtrip_leaf {i : Nat} (c : Counter) (tag t : Str) (hi : i ≤ 999999) (hb : isBlankText (some t) = false)
    (hp : xmlStr (xmlType (xmlText t)) = xmlText t) :
    dictChildren (xmlEach c [i] [.mk tag [] (some t) []]).1 = [.mk tag [] (some (xmlText t)) []] := by
  rw [C11_roundtrip_leaf_str c tag t hi hb, hp]

/-- (c) a leaf element with blank (or no) text is read as the empty dict and written back without text -/
theorem C11_blank_leaf {i : Nat} (c : Counter) (tag : Str) (text : Option Str) (hi : i ≤ 999999) (hb : isBlankText text = true) :
    (xmlEach c [i] [.mk tag [] text []]).1 = [(.str (numberedKey i tag), .dict [])] ∧
    dictChildren (xmlEach c [i] [.mk tag [] text []]).1 = [.mk tag [] none []] := by
  refine ⟨?_, ?_⟩
  · rw [C11_entry_leaf]; simp [hb, keptAttrs]
  · rw [C11_written_each c [i] _ rfl (by simpa using hi)]
    simp [norm, normL, normAttrs, keptAttrs, normText, hb]

/-! ##### re-reading the written tree -/

mutual
  /-- `stripNumbering` applied to the str keys at every level -/
  def stripV : Val → Val
    | .leaf x => .leaf x
    | .dict es => .dict (stripEs es)
    | .list xs => .list (stripXs xs)
  def stripEs : Entries → Entries
    | [] => []
    | (.str k, v) :: es => (.str (stripNumbering k), stripV v) :: stripEs es
    | (.int z, v) :: es => (.int z, stripV v) :: stripEs es
  def stripXs : List Val → List Val
    | [] => []
    | v :: xs => stripV v :: stripXs xs
end

theorem stripEs_append : ∀ (a b : Entries), stripEs (a ++ b) = stripEs a ++ stripEs b
  | [], b => rfl
  | (.str k, v) :: a, b => by simp [stripEs, stripEs_append a b]
  | (.int z, v) :: a, b => by simp [stripEs, stripEs_append a b]

theorem stripEs_contentEntries (text : Option Str) : stripEs (contentEntries text) = contentEntries text := by
  unfold contentEntries
  split
  · rfl
  · simp only [contentKey, stripEs, stripV]
    have : stripNumbering "_content".toList = "_content".toList := by decide
    rw [this]

theorem stripNumbering_attrs : stripNumbering "_attributes".toList = "_attributes".toList := by decide

mutual
  /-- the dict of an element with the numbers removed: determined by the element alone (no counter) -/
  def shapeBody : XElem → Entries
    | .mk _ attrs text kids =>
      (if kids.isEmpty then contentEntries text else shapeL kids) ++
        (if (keptAttrs attrs).isEmpty then [] else [(attrsKey, stripV (attrsVal attrs))])
  def shapeL : List XElem → Entries
    | [] => []
    | el :: rest => (.str el.tag, .dict (shapeBody el)) :: shapeL rest
end

mutual
  theorem strip_elem : ∀ (el : XElem) (c : Counter), stripEs (elemBody c el) = shapeBody el
    | .mk tag attrs text kids, c => by
      rw [elemBody_eq, stripEs_append, shapeBody]
      congr 1
      · cases kids with
        | nil => rw [kidsBody_nil]; exact stripEs_contentEntries text
        | cons el rest => rw [kidsBody_cons]; exact strip_list (el :: rest) _ _ (alloc_length _ _ _) (alloc_le _ _ _)
      · split
        · rfl
        · simp only [attrsKey, stripEs, stripNumbering_attrs]
  /-- the dict read from sibling elements, numbers removed, does not depend on the counter -/
  theorem strip_list : ∀ (kids : List XElem) (c : Counter) (ids : List Nat), ids.length = kids.length →
      (∀ i ∈ ids, i ≤ 999999) → stripEs (xmlEach c ids kids).1 = shapeL kids
    | [], c, ids, _, _ => by rw [xmlEach_nil_kids]; rfl
    | el :: rest, c, [], hl, _ => by simp at hl
    | el :: rest, c, i :: ids, hl, hi => by
      rw [xmlEach_cons, stripEs, C11_strip_number _ (hi i List.mem_cons_self), stripV, strip_elem el c,
        strip_list rest _ ids (by simpa using hl) (fun j hj => hi j (List.mem_cons_of_mem _ hj)), shapeL]
end

/-- the dict read from a document, numbers removed, is the same whatever the counter state -/
theorem C11_counter_independent (c c' : Counter) (root : XElem) :
    stripEs (xmlToDict c root).1 = stripEs (xmlToDict c' root).1 := by
  have h := fun c => strip_list root.children (advance root.children.length c)
    (alloc Gen.counterLimit root.children.length c) (alloc_length _ _ _) (alloc_le Gen.counterLimit _ _)
  simp only [xmlToDict, h]

/-! ##### stability: what survives typing and printing -/

/-- the text of a leaf element is blank, or its typed value prints as a non-blank text that is typed the same again -/
def stableText (text : Option Str) : Bool :=
  isBlankText text ||
    (let s := xmlStr (xmlType (xmlText (text.getD [])))
     !isBlankText (some s) && decide (xmlType (xmlText s) = xmlType (xmlText (text.getD []))))

/-- the typed attribute value prints as a non-empty string that is typed the same again -/
def stableAttr (a : Str × Str) : Bool :=
  let s := xmlStr (xmlType a.2)
  !s.isEmpty && decide (xmlType (tfSpell s) = xmlType a.2)

mutual
  /-- every recorded attribute and every recorded text in the tree is stable -/
  def stableE : XElem → Bool
    | .mk _ attrs text kids => (keptAttrs attrs).all stableAttr && (!kids.isEmpty || stableText text) && stableL kids
  def stableL : List XElem → Bool
    | [] => true
    | el :: rest => stableE el && stableL rest
end

theorem tfSpell_ne_nil {s : Str} (h : s ≠ []) : tfSpell s ≠ [] := by
  unfold tfSpell
  split
  · decide
  · split
    · decide
    · exact h

theorem stable_attrs : ∀ (l : List (Str × Str)), l.all stableAttr = true →
    keptAttrs (l.filterMap writtenAttr) = l.filterMap writtenAttr ∧
    (l.filterMap writtenAttr).map (fun a => (Key.str a.1, Val.leaf (xmlType a.2))) =
      l.map (fun a => (Key.str a.1, Val.leaf (xmlType a.2))) ∧
    (l.filterMap writtenAttr).isEmpty = l.isEmpty
  | [], _ => ⟨rfl, rfl, rfl⟩
  | a :: l, h => by
    simp only [List.all_cons, Bool.and_eq_true] at h
    obtain ⟨ih1, ih2, _⟩ := stable_attrs l h.2
    have ha := h.1
    simp only [stableAttr, Bool.and_eq_true, Bool.not_eq_true', decide_eq_true_eq] at ha
    have hw : writtenAttr a = some (a.1, tfSpell (xmlStr (xmlType a.2))) := by
      simp only [writtenAttr, ha.1, Bool.false_eq_true, if_false]
    have hne : (tfSpell (xmlStr (xmlType a.2))).isEmpty = false := by
      have := tfSpell_ne_nil (s := xmlStr (xmlType a.2)) (by simpa using ha.1)
      simpa using this
    simp only [keptAttrs] at ih1
    refine ⟨?_, ?_, ?_⟩
    · simp only [keptAttrs, List.filterMap_cons, hw, List.filter_cons, hne, Bool.not_false, if_true, ih1]
    · simp only [List.filterMap_cons, hw, List.map_cons, ha.2, ih2]
    · simp only [List.filterMap_cons, hw, List.isEmpty_cons]

theorem stable_contentEntries {text : Option Str} (h : stableText text = true) :
    contentEntries (normText text) = contentEntries text := by
  unfold stableText at h
  cases hb : isBlankText text
  · simp only [hb, Bool.false_or, Bool.and_eq_true, Bool.not_eq_true', decide_eq_true_eq] at h
    simp only [normText, hb, Bool.false_eq_true, if_false, contentEntries, h.1, Option.getD_some, h.2]
  · simp only [normText, hb, if_true, contentEntries]
    rfl

theorem normL_isEmpty : ∀ kids : List XElem, (normL kids).isEmpty = kids.isEmpty
  | [] => rfl
  | _ :: _ => rfl

mutual
  theorem shape_norm_elem : ∀ (el : XElem), stableE el = true → shapeBody (norm el) = shapeBody el
    | .mk tag attrs text kids, h => by
      simp only [stableE, Bool.and_eq_true, Bool.or_eq_true, Bool.not_eq_true'] at h
      obtain ⟨⟨ha, ht⟩, hk⟩ := h
      obtain ⟨a1, a2, a3⟩ := stable_attrs (keptAttrs attrs) ha
      have hv : attrsVal (normAttrs attrs) = attrsVal attrs := by
        simp only [attrsVal, normAttrs, a1, a2]
      have he : (keptAttrs (normAttrs attrs)).isEmpty = (keptAttrs attrs).isEmpty := by
        simp only [normAttrs, a1, a3]
      simp only [norm, shapeBody, normL_isEmpty, hv, he]
      congr 1
      cases hke : kids.isEmpty
      · simp only [Bool.false_eq_true, if_false]
        exact shape_norm_list kids hk
      · simp only [if_true]
        rcases ht with ht | ht
        · rw [hke] at ht; cases ht
        · exact stable_contentEntries ht
  theorem shape_norm_list : ∀ (kids : List XElem), stableL kids = true → shapeL (normL kids) = shapeL kids
    | [], _ => rfl
    | el :: rest, h => by
      simp only [stableL, Bool.and_eq_true] at h
      rw [normL, shapeL, shapeL, shape_norm_elem el h.1, shape_norm_list rest h.2]
      cases el with
      | mk tag attrs text kids => simp only [norm, XElem.tag]
end

/-- (c) the general tree statement: read a document, write the dict back as a tree, read that tree again (in any
    counter state): the same dict comes out, up to the numbers in the keys (`stripNumbering` applied to the keys at
    every level) -- for documents in which every recorded text and attribute value is stable under typing and
    printing (`stableL`, decidable).  Proved below (`C11_roundtrip`); the same statement on real XML text (lxml in,
    ElementTree + minidom out) is decided by the correspondence check. -/
def C11_roundtrip_statement : Prop :=
  ∀ (c c' : Counter) (root : XElem), stableL root.children = true →
    stripEs (xmlToDict c' (dictToXml root.tag (.dict (xmlToDict c root).1))).1 = stripEs (xmlToDict c root).1

/-- the same without the stability hypothesis: false (`C11_roundtrip_unrestricted_false`) -/
def C11_roundtrip_unrestricted : Prop :=
  ∀ (c c' : Counter) (root : XElem),
    stripEs (xmlToDict c' (dictToXml root.tag (.dict (xmlToDict c root).1))).1 = stripEs (xmlToDict c root).1

theorem dictToXml_children (tag : Str) (es : Entries) : (dictToXml tag (.dict es)).children = dictChildren es := by
  rw [dictToXml.eq_4]; rfl

theorem C11_roundtrip : C11_roundtrip_statement := by
  intro c c' root hs
  have h := fun (c : Counter) (kids : List XElem) => strip_list kids (advance kids.length c)
    (alloc Gen.counterLimit kids.length c) (alloc_length _ _ _) (alloc_le Gen.counterLimit _ _)
  have hw := C11_written c root
  rw [← normL_eq_map] at hw
  rw [xmlToDict, dictToXml_children, h, hw, shape_norm_list _ hs, xmlToDict, h]

/-! #### (d) examples -/

/-! ##### evaluation: `xmlEach` is defined by well-founded recursion, which `decide` does not unfold; `eachS` is the same
    function by structural recursion, and element trees get a decidable equality -/

mutual
  def elemS : XElem → Counter → Entries × Counter
    | .mk _ attrs text kids, c =>
      let r : Entries × Counter :=
        if !kids.isEmpty then eachS kids (advance kids.length c) (alloc Gen.counterLimit kids.length c)
        else (contentEntries text, c)
      (withAttrs attrs r.1, r.2)
  def eachS : List XElem → Counter → List Nat → Entries × Counter
    | [], c, _ => ([], c)
    | _ :: _, c, [] => ([], c)
    | el :: rest, c, i :: ids =>
      ((Key.str (numberedKey i el.tag), Val.dict (elemS el c).1) :: (eachS rest (elemS el c).2 ids).1,
       (eachS rest (elemS el c).2 ids).2)
end

mutual
  theorem elemS_eq : ∀ (el : XElem) (c : Counter), elemS el c = (elemBody c el, elemCounter c el)
    | .mk _ attrs text kids, c => by
      simp only [elemS, eachS_eq kids, elemBody, elemCounter, kidsBody]
  theorem eachS_eq : ∀ (kids : List XElem) (c : Counter) (ids : List Nat), eachS kids c ids = xmlEach c ids kids
    | [], c, ids => by rw [xmlEach_nil_kids, eachS]
    | el :: rest, c, [] => by rw [xmlEach_nil_ids, eachS]
    | el :: rest, c, i :: ids => by
      rw [xmlEach_cons, eachS, elemS_eq el c, eachS_eq rest]
end

/-- `_parse_nodes(root)`, evaluable -/
def toDictS (c : Counter) (root : XElem) : Entries × Counter :=
  eachS root.children (advance root.children.length c) (alloc Gen.counterLimit root.children.length c)

theorem xmlToDict_eq (c : Counter) (root : XElem) : xmlToDict c root = toDictS c root := by
  rw [xmlToDict, toDictS, eachS_eq]

mutual
  def beqE : XElem → XElem → Bool
    | .mk t a x k, .mk t' a' x' k' => decide (t = t') && decide (a = a') && decide (x = x') && beqL k k'
  def beqL : List XElem → List XElem → Bool
    | [], [] => true
    | e :: es, e' :: es' => beqE e e' && beqL es es'
    | _, _ => false
end

mutual
  theorem beqE_iff : ∀ a b : XElem, beqE a b = true ↔ a = b
    | .mk t a x k, .mk t' a' x' k' => by simp [beqE, beqL_iff k k', and_assoc]
  theorem beqL_iff : ∀ a b : List XElem, beqL a b = true ↔ a = b
    | [], [] => by simp [beqL]
    | [], _ :: _ => by simp [beqL]
    | _ :: _, [] => by simp [beqL]
    | e :: es, e' :: es' => by simp [beqL, beqE_iff e e', beqL_iff es es']
end

instance : DecidableEq XElem := fun a b => decidable_of_iff _ (beqE_iff a b)

def leafEl (tag text : String) : XElem := .mk tag.toList [] (some text.toList) []

/-- (d1) a two-level document with repeated tags: every element gets its own numbered key, siblings first
    (`0`, `1`), then the children of the first sibling (`2`, `3`) -/
example : (xmlToDict none (.mk "root".toList [] none
      [.mk "a".toList [] none [leafEl "b" "1", leafEl "b" "2"], leafEl "a" "z"])).1 =
    [(.str "000000_a".toList, .dict [(.str "000002_b".toList, .dict [(contentKey, .leaf (.int 1))]),
                                      (.str "000003_b".toList, .dict [(contentKey, .leaf (.int 2))])]),
     (.str "000001_a".toList, .dict [(contentKey, .leaf (.str "z".toList))])] := by
  rw [xmlToDict_eq]; simp only [leafEl, contentKey]; literal_chars; decide +kernel

/-- (d2) an attribute with an empty value is not recorded; the others are, typed, after the content -/
example : (xmlEach none [7] [.mk "p".toList [("k".toList, "".toList), ("n".toList, "3".toList), ("f".toList, "ON".toList)]
      (some "x".toList) []]).1 =
    [(.str "000007_p".toList, .dict [(contentKey, .leaf (.str "x".toList)),
      (attrsKey, .dict [(.str "n".toList, .leaf (.int 3)), (.str "f".toList, .leaf (.bool true))])])] := by
  rw [← eachS_eq]; simp only [contentKey, attrsKey]; literal_chars; decide +kernel

/-- (d2') … and when all values are empty there is no `_attributes` key at all -/
example : (xmlEach none [7] [.mk "p".toList [("k".toList, "".toList)] (some "x".toList) []]).1 =
    [(.str "000007_p".toList, .dict [(contentKey, .leaf (.str "x".toList))])] := by
  rw [← eachS_eq]; decide +kernel

/-- (d3) a white-space-only element (and one without text) is the empty dict -/
example : (xmlEach (some 41) [42, 43] [leafEl "w" " \n\t  ", .mk "e".toList [] none []]).1 =
    [(.str "000042_w".toList, .dict []), (.str "000043_e".toList, .dict [])] := by
  rw [← eachS_eq]; decide +kernel

/-- (d4) multi-line text: every line stripped, lines joined by `\n`, the whole stripped; then typed (a str here) -/
example : (xmlEach none [0] [leafEl "text" "  first line  \n\n   second line\n"]).1 =
    [(.str "000000_text".toList, .dict [(contentKey, .leaf (.str "first line\n\nsecond line".toList))])] := by
  rw [← eachS_eq]; simp only [leafEl, contentKey]; literal_chars; decide +kernel

/-- (d4') multi-line text that types as a number after normalisation -/
example : (xmlEach none [0] [leafEl "n" "\n   +12\n"]).1 =
    [(.str "000000_n".toList, .dict [(contentKey, .leaf (.int 12))])] := by
  rw [← eachS_eq]; decide +kernel

/-- a document with attributes on the root (ignored) and on an inner element, text next to children (ignored), an
    empty attribute, a white-space-only element, a signed number and a multi-line text -/
def doc1 : XElem := .mk "root".toList [("v".toList, "1".toList)] (some "\n  ".toList)
  [.mk "a".toList [("k".toList, "".toList), ("on".toList, "ON".toList)] (some "ignored".toList)
      [leafEl "b" "1", leafEl "b" " +2 "],
   .mk "a".toList [("e".toList, "".toList)] (some " \n\t ".toList) [],
   leafEl "text" "  first line  \n\n   second line\n"]

/-- (c) instantiated: what is written back for `doc1` (`ON` comes back as `true`, `+2` as `2`) -/
example : dictChildren (xmlToDict none doc1).1 =
    [.mk "a".toList [("on".toList, "true".toList)] none [leafEl "b" "1", leafEl "b" "2"],
     .mk "a".toList [] none [],
     leafEl "text" "first line\n\nsecond line"] := by
  rw [C11_written]; simp only [doc1, leafEl]; literal_chars; decide +kernel

/-- (c) `C11_roundtrip` instantiated (the hypothesis is satisfiable on a non-trivial document) -/
example : stripEs (xmlToDict (some 5) (dictToXml doc1.tag (.dict (xmlToDict none doc1).1))).1 = stripEs (xmlToDict none doc1).1 :=
  C11_roundtrip none (some 5) doc1 (by simp only [doc1, leafEl]; literal_chars; decide +kernel)

/-- (c) `C11_roundtrip_leaf` instantiated -/
example : dictChildren (xmlEach none [3] [.mk "t".toList [] (some "  hello \n world ".toList) []]).1 =
    [.mk "t".toList [] (some "hello\nworld".toList) []] := by
  literal_chars
  rw [C11_roundtrip_leaf none _ _ (by decide) (by decide +kernel) (by decide +kernel)]
  decide +kernel

/-- (c) the print-back hypothesis of `C11_roundtrip_leaf` is needed: `on` is typed `True` and written `True` -/
example : dictChildren (xmlEach none [3] [.mk "t".toList [] (some "on".toList) []]).1 =
    [.mk "t".toList [] (some "True".toList) []] := by
  literal_chars
  rw [C11_roundtrip_leaf_str none _ _ (by decide) (by decide +kernel)]; decide +kernel

/-- (c) the stability hypothesis of `C11_roundtrip_statement` is needed: the text `''` is recorded as the empty string,
    which is written as empty text, which is read as "no content" -/
theorem C11_roundtrip_unrestricted_false : ¬ C11_roundtrip_unrestricted := by
  intro h
  have := h none none (.mk "r".toList [] none [leafEl "q" "''"])
  rw [xmlToDict_eq, xmlToDict_eq] at this
  revert this
  decide +kernel

/-- (b) the bound of `C11_strip_number` is needed: a seven-digit number is not removed by `\d{1,6}_` -/
example : stripNumbering (numberedKey 1000000 "a".toList) ≠ "a".toList := by decide +kernel

/-- (b) instantiated; a tag that itself looks numbered keeps its own number -/
example : stripNumbering (numberedKey 12 "7_x".toList) = "7_x".toList := C11_strip_number _ (by decide)

end DictIO.C11
