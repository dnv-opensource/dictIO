/-
  C08 -- history independence for documents with comments AND `#include` directives: naturality of the reader's
  stages (line comments, include directives, block comments, `_clean`) in the placeholder ids.

  The reader gives every line comment and every include directive an id drawn from the ONE process-global counter
  (`labelI`: first all line comments in document order, then all directives in document order; ids `0 … 999999`,
  wrapping), puts `LINECOMMENTnnnnnn ↦ …` / `INCLUDEnnnnnn ↦ …` entries into the data and the texts / directive entries
  into the tables `lineC` / `incl` under those ids.  Block comments are numbered locally.  So two reads of one text from
  two counter values differ exactly by the rotation `shift c₁ c₂` of `C08nat`, applied to the line-comment ids AND the
  include ids; this file proves that, through `_clean` (which merges identical directives of one dict level) and
  through the whole reader (`C12_read_included`).

    1  `renWord3 f g h`, `renKey3`, `renScalar3`, `renV3` / `renEs3` / `renXs3`, `renSD3 f g h`
           the renaming with a third function for the include ids: `INCLUDE%06d` (id below 10^6) gets its id mapped by
           `h`, `LINECOMMENT%06d` by `f`, `BLOCKCOMMENT%06d` by `g`, every other string stays (`renWord3_spec`: complete,
           exclusive case analysis); `incl` table re-keyed by `h`.  `renWord3 f g h` is `renK (tri f g h)` of `C08ren`,
           `renV3 f g h` is `mapV (renK (tri f g h))`
       `renWord' f g := renWord3 f g f`, `renSD' f g := renSD3 f g f`     the renaming of the statement: line comments
           and directives draw from the same counter (`renWord'_spec`, `renSD'_fields`)
       `renSD_eq3`            the `renSD f g` of `C08nat` is `renSD3 f g id`, on every `SDict`
    2  `clean_ren3`           `(renSD3 f g h s).clean = renSD3 f g h s.clean` for `RenOK f g h`, provided every key `_clean`
                              looks at is an exact placeholder word or contains no placeholder (`PhWF3Es s.data`):
                              `clean_renSDK` of `C08ren`, `renSD3 f g h` being `renSDK (tri f g h)` (`renSD3_eq`).
                              This covers the merging of identical directives: NO restriction to pairwise distinct
                              directive texts (`hdist` of `C12_incl_table_result` is not needed; `exMerge_natural`)
       `clean_ren3_needs_wf`  … the hypothesis is needed: refuted on a witness without it
    3a `ren3_denSrcV/Es/Xs`   the comment- and directive-free part of a well-formed document is untouched
    3b `label_nat3V`, `phWF3_labelI`
                              labelling from two counters related by `f` (`CRel f c₁ c₂`): states (both counters, the two
                              tables keyed by drawn ids) and meanings related by the renaming (`label_natIV` of `C08nat`
                              with the include ids renamed by `f` too); the meaning satisfies `PhWF3Es` (`levels_labelII`
                              of `C12incl`)
    3c `denI_natural`         `denI dir c₂ items = renSD' (shift c₁ c₂) id (denI dir c₁ items)` (`sdOf_natural` of `C08nat`
                              with both counters related by the same function), with `shift` injective and
                              `(alloc limit k c₁).map (shift c₁ c₂) = alloc limit k c₂` for every `k`
    4  `C08_included_read_natural`   both reads `.ok`, results related by `renSD' (shift c₁ c₂) id`
       `counterAfterI_rel`    … and so are the counters they leave
       `C08_included_read_stripped`  stripped data (`denSrcEs (plainIItems items) []`, no counter in it:
                              `C12.denI_stripped`), line-comment texts, include entries (directive text, file name, path)
                              in table order, block-comment table: EQUAL
    5  `canonSD'`, `canonSD'_ren'`, `C08_denI_canon`, `C08_included_canon`, `C08_included_canon_eq`
           canonical form with the include ids (ids ↦ rank of first appearance per kind; three tables re-keyed): invariant
           under every injective renaming (`rank_renSDK`); the canonical forms of the two reads are EQUAL
    6  `exI_reads` … `exI_canon_eval`, `exMerge_natural`   the example `exI` of `C12incl` from `none` (ids 0,1 | 2,3,4) and
           from `some 999997` (ids 999998, 999999 | 0, 1, 2: the wrap-around falls between the last line comment and the
           first directive), both evaluated by the kernel, and related by the theorem
    7  `exI_incl_ids_global`, `exI_incl_table_moves`, `exI_block_ids_local`, `clean_ren3_needs_wf`   negatives on witnesses
    8  `renV3_of_noIncl` (+Es, Xs)   on values without include ids `renV3 f g h = renV f g`
       `renSD'_of_noIncl`     `renSD'` ties the include ids to `f`: it is `renSD` where there is no include placeholder

  Hypotheses of the reader theorems: those of `C12_read_included` (for both counters) and `nBlockII items ≤ 1000000` (at
  most one million block comments, as in `C08nat`: from the 1 000 001-st on the block placeholder has seven digits,
  outside the format the renaming speaks about).  NO bound on the number of line comments and directives is needed:
  `shift` is a bijection of the id space, so collisions after a full turn of the counter happen alike in both reads.
  Scope: documents of `ISrc` / `IItem` (comments and directives at statement boundaries, directives alone on their
  line, no `$`), as in `C12_read_included`.
-/
import DictIO.Props.C12incl
import DictIO.Props.C08nat

namespace DictIO.C08
open DictIO
open DictIO.C12 (exI exI_wf exIGaps exIGaps_ok exI_text exIText inclsItems)

/-! ## 1. the renaming, extended to include placeholders -/

/-- rename the id of a placeholder word: line-comment ids by `f`, block-comment ids by `g`, include ids by `h` -/
def renWord3 (f g h : Nat → Nat) (s : Str) : Str :=
  match phIdOf kwIncl s with
  | some i => inclPh (h i)
  | none => renWord f g s

def renKey3 (f g h : Nat → Nat) : Key → Key
  | .str s => .str (renWord3 f g h s)
  | .int z => .int z

def renScalar3 (f g h : Nat → Nat) : Scalar → Scalar
  | .str s => .str (renWord3 f g h s)
  | x => x

mutual
  def renV3 (f g h : Nat → Nat) : Val → Val
    | .leaf x => .leaf (renScalar3 f g h x)
    | .dict es => .dict (renEs3 f g h es)
    | .list xs => .list (renXs3 f g h xs)
  def renEs3 (f g h : Nat → Nat) : Entries → Entries
    | [] => []
    | (k, v) :: es => (renKey3 f g h k, renV3 f g h v) :: renEs3 f g h es
  def renXs3 (f g h : Nat → Nat) : List Val → List Val
    | [] => []
    | v :: xs => renV3 f g h v :: renXs3 f g h xs
end

/-- the renaming on an `SDict`: data renamed, line-comment table re-keyed by `f`, block-comment table by `g`, include
    table by `h` -/
def renSD3 (f g h : Nat → Nat) (s : SD) : SD :=
  { s with data := renEs3 f g h s.data, lineC := renTbl f s.lineC, blockC := renTbl g s.blockC, incl := renTbl h s.incl }

theorem renSD3_data (f g h : Nat → Nat) (s : SD) : (renSD3 f g h s).data = renEs3 f g h s.data := rfl
theorem renSD3_lineC (f g h : Nat → Nat) (s : SD) : (renSD3 f g h s).lineC = renTbl f s.lineC := rfl
theorem renSD3_blockC (f g h : Nat → Nat) (s : SD) : (renSD3 f g h s).blockC = renTbl g s.blockC := rfl
theorem renSD3_incl (f g h : Nat → Nat) (s : SD) : (renSD3 f g h s).incl = renTbl h s.incl := rfl
theorem renSD3_exprs (f g h : Nat → Nat) (s : SD) : (renSD3 f g h s).exprs = s.exprs := rfl

/-- the renaming of the statement: line comments and include directives draw from the one global counter, so their ids are
    renamed by the same `f`; block-comment ids by `g` -/
def renWord' (f g : Nat → Nat) (s : Str) : Str := renWord3 f g f s
def renSD' (f g : Nat → Nat) (s : SD) : SD := renSD3 f g f s

/-! ### the renaming on words and keys -/

theorem renWord3_eq (f g h : Nat → Nat) (s : Str) : renWord3 f g h s = renK (tri f g h) s := by
  unfold renWord3 renK kindOf renWord inclPh
  cases phIdOf kwIncl s <;> cases phIdOf kwLine s <;> cases phIdOf kwBlock s <;> rfl

theorem renWord_inclPh (f g : Nat → Nat) (i : Nat) : renWord f g (inclPh i) = inclPh i := by
  show renWord f g (kwIncl ++ padSix i) = kwIncl ++ padSix i
  simp only [renWord,
    show phIdOf kwLine (kwIncl ++ padSix i) = none from phIdOf_other (a := .line) (b := .incl) (by decide) i,
    show phIdOf kwBlock (kwIncl ++ padSix i) = none from phIdOf_other (a := .block) (b := .incl) (by decide) i]

theorem renWord3_linePh (f g h : Nat → Nat) {i : Nat} (hi : i < 1000000) : renWord3 f g h (linePh i) = linePh (f i) := by
  rw [renWord3_eq, renK_linePh _ hi]; rfl
theorem renWord3_blockPh (f g h : Nat → Nat) {i : Nat} (hi : i < 1000000) :
    renWord3 f g h (blockPh i) = blockPh (g i) := by rw [renWord3_eq, renK_blockPh _ hi]; rfl
theorem renWord3_inclPh (f g h : Nat → Nat) {i : Nat} (hi : i < 1000000) : renWord3 f g h (inclPh i) = inclPh (h i) := by
  rw [renWord3_eq]; exact renK_inclPh _ hi

theorem renWord3_congr {F G H F' G' H' : Nat → Nat} (w : Str) (hl : ∀ i ∈ wordIds kwLine w, F i = F' i)
    (hb : ∀ i ∈ wordIds kwBlock w, G i = G' i) (hi : ∀ i ∈ wordIds kwIncl w, H i = H' i) :
    renK (tri F G H) w = renK (tri F' G' H') w :=
  renK_congr (ρ := tri F G H) (ρ' := tri F' G' H') w fun | .line => hl | .block => hb | .incl => hi

theorem renK_of_noIncl (f g h : Nat → Nat) {s : Str} (hs : wordIds kwIncl s = []) :
    renK (tri f g h) s = renK (tri f g id) s :=
  renWord3_congr s (fun _ _ => rfl) (fun _ _ => rfl) fun i hi => by rw [hs] at hi; cases hi

/-- on strings that are no include placeholder the extended renaming is the renaming of `C08nat` -/
theorem renWord3_of_noIncl (f g h : Nat → Nat) {s : Str} (hs : wordIds kwIncl s = []) : renWord3 f g h s = renWord f g s := by
  rw [renWord_eq, renWord3_eq]; exact renK_of_noIncl f g h hs

/-- the specification of `renWord3`, complete: the four cases are exhaustive and exclusive -/
theorem renWord3_spec (f g h : Nat → Nat) (s : Str) :
    (∃ i, i < 1000000 ∧ s = linePh i ∧ renWord3 f g h s = linePh (f i)) ∨
    (∃ i, i < 1000000 ∧ s = blockPh i ∧ renWord3 f g h s = blockPh (g i)) ∨
    (∃ i, i < 1000000 ∧ s = inclPh i ∧ renWord3 f g h s = inclPh (h i)) ∨
    ((∀ i, i < 1000000 → s ≠ linePh i) ∧ (∀ i, i < 1000000 → s ≠ blockPh i) ∧ (∀ i, i < 1000000 → s ≠ inclPh i) ∧
      renWord3 f g h s = s) := by
  rw [renWord3_eq]
  rcases renK_spec (tri f g h) s with ⟨a, i, hi, e, r⟩ | ⟨hn, r⟩
  · cases a
    · exact Or.inl ⟨i, hi, e, r⟩
    · exact Or.inr (Or.inl ⟨i, hi, e, r⟩)
    · exact Or.inr (Or.inr (Or.inl ⟨i, hi, e, r⟩))
  · exact Or.inr (Or.inr (Or.inr ⟨hn .line, hn .block, hn .incl, r⟩))

/-- the renaming of the statement, on words: include placeholders are renamed by the same `f` as line comments -/
theorem renWord'_spec (f g : Nat → Nat) :
    (∀ i, i < 1000000 → renWord' f g (kwIncl ++ padSix i) = kwIncl ++ padSix (f i)) ∧
    (∀ i, i < 1000000 → renWord' f g (kwLine ++ padSix i) = kwLine ++ padSix (f i)) ∧
    (∀ i, i < 1000000 → renWord' f g (kwBlock ++ padSix i) = kwBlock ++ padSix (g i)) ∧
    (∀ s, (∀ i, i < 1000000 → s ≠ kwIncl ++ padSix i) → renWord' f g s = renWord f g s) :=
  ⟨fun _ hi => renWord3_inclPh f g f hi, fun _ hi => renWord3_linePh f g f hi, fun _ hi => renWord3_blockPh f g f hi,
    fun _ hs => renWord3_of_noIncl f g f (wordIds_none hs)⟩

/-- … and on an `SDict`: the include table is re-keyed by `f`, like the line-comment table -/
theorem renSD'_fields (f g : Nat → Nat) (sd : SD) :
    (renSD' f g sd).data = renEs3 f g f sd.data ∧ (renSD' f g sd).lineC = renTbl f sd.lineC ∧
      (renSD' f g sd).blockC = renTbl g sd.blockC ∧ (renSD' f g sd).incl = renTbl f sd.incl ∧
      (renSD' f g sd).exprs = sd.exprs := ⟨rfl, rfl, rfl, rfl, rfl⟩

/-- a key of a dict level as `_clean` must find it: an exact line-comment, block-comment or include placeholder word, or
    a key without any placeholder in it -/
def KeyOK3 (k : Key) : Prop :=
  (∃ i, i < 1000000 ∧ k = .str (linePh i)) ∨ (∃ i, i < 1000000 ∧ k = .str (blockPh i)) ∨
    (∃ i, i < 1000000 ∧ k = .str (inclPh i)) ∨ C07.isPhKey k = false

theorem KeyOK3.ph {k : Key} : KeyOK3 k → PhKey k
  | .inl ⟨i, hi, e⟩ => .inl ⟨.line, i, hi, e⟩
  | .inr (.inl ⟨i, hi, e⟩) => .inl ⟨.block, i, hi, e⟩
  | .inr (.inr (.inl ⟨i, hi, e⟩)) => .inl ⟨.incl, i, hi, e⟩
  | .inr (.inr (.inr h)) => .inr h

theorem renKey3_eq (f g h : Nat → Nat) (k : Key) : renKey3 f g h k = keyMap (renK (tri f g h)) k := by
  cases k with
  | int z => rfl
  | str s => rw [renKey3, renWord3_eq]; rfl

theorem renKey3_noPh (f g h : Nat → Nat) {k : Key} (hk : C07.isPhKey k = false) : renKey3 f g h k = k := by
  rw [renKey3_eq, renK_key_noPh _ hk]

theorem renKey3_linePh (f g h : Nat → Nat) {i : Nat} (hi : i < 1000000) :
    renKey3 f g h (.str (linePh i)) = .str (linePh (f i)) := by simp only [renKey3, renWord3_linePh f g h hi]
theorem renKey3_blockPh (f g h : Nat → Nat) {i : Nat} (hi : i < 1000000) :
    renKey3 f g h (.str (blockPh i)) = .str (blockPh (g i)) := by simp only [renKey3, renWord3_blockPh f g h hi]
theorem renKey3_inclPh (f g h : Nat → Nat) {i : Nat} (hi : i < 1000000) :
    renKey3 f g h (.str (inclPh i)) = .str (inclPh (h i)) := by simp only [renKey3, renWord3_inclPh f g h hi]

section
variable {f g h : Nat → Nat} (hf : RenOK f) (hg : RenOK g) (hh : RenOK h)
include hf hg hh

theorem renKey3_ok {k : Key} (hk : KeyOK3 k) : KeyOK3 (renKey3 f g h k) := by
  rcases hk with ⟨i, hi, rfl⟩ | ⟨i, hi, rfl⟩ | ⟨i, hi, rfl⟩ | hk
  · exact Or.inl ⟨f i, hf.lt i hi, renKey3_linePh f g h hi⟩
  · exact Or.inr (Or.inl ⟨g i, hg.lt i hi, renKey3_blockPh f g h hi⟩)
  · exact Or.inr (Or.inr (Or.inl ⟨h i, hh.lt i hi, renKey3_inclPh f g h hi⟩))
  · rw [renKey3_noPh f g h hk]; exact Or.inr (Or.inr (Or.inr hk))

end

/-! ### the renaming on values is `mapV (renK (tri f g h))` -/

theorem renEs3_nil (f g h : Nat → Nat) : renEs3 f g h [] = [] := by simp only [renEs3]
theorem renEs3_cons (f g h : Nat → Nat) (k : Key) (v : Val) (es : Entries) :
    renEs3 f g h ((k, v) :: es) = (renKey3 f g h k, renV3 f g h v) :: renEs3 f g h es := by simp only [renEs3]
theorem renV3_dict (f g h : Nat → Nat) (es : Entries) : renV3 f g h (.dict es) = .dict (renEs3 f g h es) := by
  simp only [renV3]
theorem renV3_leaf (f g h : Nat → Nat) (x : Scalar) : renV3 f g h (.leaf x) = .leaf (renScalar3 f g h x) := by
  simp only [renV3]
theorem renV3_list (f g h : Nat → Nat) (xs : List Val) : renV3 f g h (.list xs) = .list (renXs3 f g h xs) := by
  simp only [renV3]
theorem renXs3_nil (f g h : Nat → Nat) : renXs3 f g h [] = [] := by simp only [renXs3]
theorem renXs3_cons (f g h : Nat → Nat) (v : Val) (xs : List Val) :
    renXs3 f g h (v :: xs) = renV3 f g h v :: renXs3 f g h xs := by simp only [renXs3]

theorem renScalar3_eq (f g h : Nat → Nat) (x : Scalar) : renScalar3 f g h x = scalarMap (renK (tri f g h)) x := by
  cases x with
  | str s => rw [renScalar3, renWord3_eq]; rfl
  | _ => rfl

theorem ren3_eq_map (f g h : Nat → Nat) : (∀ v, renV3 f g h v = mapV (renK (tri f g h)) v) ∧
    (∀ es, renEs3 f g h es = mapEs (renK (tri f g h)) es) ∧ (∀ xs, renXs3 f g h xs = mapXs (renK (tri f g h)) xs) :=
  Val.ind_all (fun x => by rw [renV3_leaf, mapV_leaf, renScalar3_eq]) (fun es ih => by rw [renV3_dict, mapV_dict, ih])
    (fun xs ih => by rw [renV3_list, mapV_list, ih]) (by rw [renEs3_nil, mapEs_nil])
    (fun k v es hv hes => by rw [renEs3_cons, mapEs_cons, renKey3_eq, hv, hes]) (by rw [renXs3_nil, mapXs_nil])
    (fun v xs hv hxs => by rw [renXs3_cons, mapXs_cons, hv, hxs])

theorem renV3_eq (f g h : Nat → Nat) (v : Val) : renV3 f g h v = mapV (renK (tri f g h)) v := (ren3_eq_map f g h).1 v
theorem renEs3_eq (f g h : Nat → Nat) (es : Entries) : renEs3 f g h es = mapEs (renK (tri f g h)) es := (ren3_eq_map f g h).2.1 es
theorem renXs3_eq (f g h : Nat → Nat) (xs : List Val) : renXs3 f g h xs = mapXs (renK (tri f g h)) xs := (ren3_eq_map f g h).2.2 xs

/-! ## 2. `_clean` commutes with the extended renaming -/

mutual
  /-- every key of every dict level that `_clean` visits (through dict nesting; lists are opaque to it) is admissible -/
  def PhWF3V : Val → Prop
    | .dict es => PhWF3Es es
    | _ => True
  def PhWF3Es : Entries → Prop
    | [] => True
    | (k, v) :: es => KeyOK3 k ∧ PhWF3V v ∧ PhWF3Es es
end

theorem phWF3Es_iff : ∀ {es : Entries}, PhWF3Es es ↔ ∀ e ∈ es, KeyOK3 e.1 ∧ PhWF3V e.2
  | [] => by simp [PhWF3Es]
  | (k, v) :: es => by simp [PhWF3Es, phWF3Es_iff (es := es), and_assoc]

theorem phWF3Es_setKey {k : Key} {v : Val} {es : Entries} (h : PhWF3Es es) (hk : KeyOK3 k) (hv : PhWF3V v) :
    PhWF3Es (setKey k v es) :=
  phWF3Es_iff.mpr (forall_mem_setKey (phWF3Es_iff.mp h) ⟨hk, hv⟩)

theorem phWF3Es_levels (lvl : Entries) (h : PhWF3Es lvl) : ∀ e ∈ lvl, PhKey e.1 ∧ ∀ sub, e.2 = .dict sub → PhWF3Es sub :=
  fun e he => ⟨(phWF3Es_iff.mp h e he).1.ph, fun sub hs => by have := (phWF3Es_iff.mp h e he).2; rwa [hs] at this⟩

theorem depthV_ren3 (f g h : Nat → Nat) : ∀ v : Val, depthV (renV3 f g h v) = depthV v := fun v => by
  rw [renV3_eq, (depth_map _).1]
theorem depthEs_ren3 (f g h : Nat → Nat) : ∀ es : Entries, depthV.depthEs (renEs3 f g h es) = depthV.depthEs es := fun es => by
  rw [renEs3_eq, (depth_map _).2.1]
theorem depthVs_ren3 (f g h : Nat → Nat) : ∀ xs : List Val, depthV.depthVs (renXs3 f g h xs) = depthV.depthVs xs := fun xs => by
  rw [renXs3_eq, (depth_map _).2.2]

theorem renSD3_eq (f g h : Nat → Nat) (s : SD) : renSD3 f g h s = renSDK (tri f g h) s :=
  sd_ext (renEs3_eq f g h s.data) rfl rfl rfl rfl

theorem renSD_eq3 (f g : Nat → Nat) (s : SD) : renSD f g s = renSD3 f g id s :=
  (renSD_eq f g s).trans (renSD3_eq f g id s).symm

/-- **`_clean` commutes with the renaming** of the three kinds of placeholder ids, in particular on the include table
    (where `_clean` merges identical directives of one level): no restriction to pairwise distinct directive texts -/
theorem clean_ren3 {f g h : Nat → Nat} (hf : RenOK f) (hg : RenOK g) (hh : RenOK h) (s : SD) (hw : PhWF3Es s.data) :
    (renSD3 f g h s).clean = renSD3 f g h s.clean := by
  rw [renSD3_eq, renSD3_eq]; exact clean_renSDK (tri_ok hf hg hh) phWF3Es_levels s hw

/-! ## 3a. the comment- and directive-free part of a document is untouched by the renaming -/

theorem ren3_denSrcV (f g h : Nat → Nat) : ∀ (v : Src) (d : Nat), SrcWFV d v = true → renV3 f g h (denSrcV v) = denSrcV v :=
  fun v d hw => by
    rw [renV3_eq]
    exact mapV_denSrcV (renK_plain (tri f g h)) (renK_key_noPh (tri f g h)) v d hw

theorem ren3_denSrcEs (f g h : Nat → Nat) : ∀ (es : SrcEntries) (d : Nat) (acc : Entries), SrcWFEs d es = true →
      (∀ e ∈ acc, renKey3 f g h e.1 = e.1 ∧ renV3 f g h e.2 = e.2) →
      ∀ e ∈ denSrcEs es acc, renKey3 f g h e.1 = e.1 ∧ renV3 f g h e.2 = e.2 := fun es d acc hw hacc e he => by
  rw [renKey3_eq, renV3_eq]
  exact mapV_denSrcEs (renK_plain (tri f g h)) (renK_key_noPh (tri f g h)) es d acc hw
    (fun e he => by rw [← renKey3_eq, ← renV3_eq]; exact hacc e he) e he

theorem ren3_denSrcXs (f g h : Nat → Nat) : ∀ (xs : List Src) (d : Nat), SrcWFXs d xs = true →
      renXs3 f g h (denSrcXs xs) = denSrcXs xs := fun xs d hw => by
  rw [renXs3_eq]
  exact mapV_denSrcXs (renK_plain (tri f g h)) (renK_key_noPh (tri f g h)) xs d hw

/-! ## 3b. the labelling of comments and directives is natural in the counter -/

/-- two labelling states that differ by the renaming of the ids drawn from the global counter: those of the line
    comments and those of the include directives -/
structure StRel3 (f : Nat → Nat) (st₁ st₂ : ILabelSt) : Prop where
  counter : CRel f st₁.c.counter st₂.c.counter
  icounter : CRel f st₁.icounter st₂.icounter
  lineC : st₂.c.lineC = renTbl f st₁.c.lineC
  blockC : st₂.c.blockC = st₁.c.blockC
  incl : st₂.incl = renTbl f st₁.incl

theorem levels_phWF3 : Levels KeyOK3 PhWF3V PhWF3Es 1000000 where
  leaf _ := by simp only [PhWF3V]
  list _ := by simp only [PhWF3V]
  dict h := by simpa only [PhWF3V] using h
  nil := by simp only [PhWF3Es]
  set hk hv h := phWF3Es_setKey h hk hv
  typed h := .inr (.inr (.inr h))
  line i hi := .inl ⟨i, hi, rfl⟩
  block i hi := .inr (.inl ⟨i, hi, rfl⟩)

/-- the meaning of a labelled document with directives has admissible keys at every dict level -/
theorem phWF3_labelV (dir : Str) : ∀ (v : ISrc) (d : Nat) (st : ILabelSt), ISrcWFV d v = true →
    st.c.blockC.length + nBlockIV v ≤ 1000000 → PhWF3V (denPV (labelIV dir st v).2) := fun v d st hw hb =>
  levels_labelIV levels_phWF3 dir v d st hw hb (.inr fun i hi => .inr (.inr (.inl ⟨i, hi, rfl⟩)))

theorem phWF3_labelI (dir : Str) (items : List IItem) (d : Nat) (st : ILabelSt) (acc : Entries)
    (hw : ISrcWFItems d items = true) (hb : st.c.blockC.length + nBlockII items ≤ 1000000) (hacc : PhWF3Es acc) :
    PhWF3Es (denPEs (labelIItems dir st items).2 acc) :=
  levels_labelII levels_phWF3 dir items d st acc hw hb (.inr fun i hi => .inr (.inr (.inl ⟨i, hi, rfl⟩))) hacc

theorem StRel3.toI {f : Nat → Nat} {st₁ st₂ : ILabelSt} (hs : StRel3 f st₁ st₂) : StRelI f f st₁ st₂ :=
  ⟨hs.counter, hs.icounter, hs.lineC, hs.blockC, hs.incl⟩

theorem StRelI.to3 {f : Nat → Nat} {st₁ st₂ : ILabelSt} (hs : StRelI f f st₁ st₂) : StRel3 f st₁ st₂ :=
  ⟨hs.counter, hs.icounter, hs.lineC, hs.blockC, hs.incl⟩

section
variable {f : Nat → Nat} (hf : RenOK f)
include hf

theorem label_nat3V (dir : Str) : ∀ (v : ISrc) (d : Nat) (st₁ st₂ : ILabelSt), ISrcWFV d v = true → StRel3 f st₁ st₂ →
      st₁.c.blockC.length + nBlockIV v ≤ 1000000 →
      StRel3 f (labelIV dir st₁ v).1 (labelIV dir st₂ v).1 ∧
        denPV (labelIV dir st₂ v).2 = renV3 f id f (denPV (labelIV dir st₁ v).2) := fun v d st₁ st₂ hw hs hb => by
  have h := label_natIV hf hf dir v d st₁ st₂ hw hs.toI hb
  rw [← renV3_eq] at h
  exact ⟨h.1.to3, h.2⟩

end

/-! ## 3c. `denI` is natural in the counter -/

/-- the two states `labelI` starts from: every include id is drawn after all line-comment ids, from the same counter -/
theorem StRelI.start {f : Nat → Nat} {c₁ c₂ : Counter} (hrel : CRel f c₁ c₂) (n : Nat) :
    StRelI f f { c := { counter := c₁ }, icounter := C02.adv Gen.counterLimit n c₁ }
      { c := { counter := c₂ }, icounter := C02.adv Gen.counterLimit n c₂ } :=
  ⟨hrel, CRel.adv _ hrel, rfl, rfl, rfl⟩

/-- naturality for any renaming that carries the ids drawn from `c₁` to the ids drawn from `c₂` -/
theorem denI_natural_of {f : Nat → Nat} (hf : RenOK f) (dir : Str) {d : Nat} {items : List IItem} {c₁ c₂ : Counter}
    (hwf : ISrcWFItems d items = true) (hrel : CRel f c₁ c₂) (hb : nBlockII items ≤ 1000000) :
    denI dir c₂ items = renSD' f id (denI dir c₁ items) := by
  rw [renSD', renSD3_eq]
  exact sdOf_natural hf hf phWF3Es_levels dir hwf (StRelI.start hrel _) (by simpa using hb)
    (phWF3_labelI dir items d _ [] hwf (by simpa using hb) (by simp only [PhWF3Es]))

/-- **naturality of the reader's stages in the counter, documents with include directives.**  Two valid counters; the
    rotation `shift c₁ c₂` of the id space is injective, maps the ids drawn from `c₁` to the ids drawn from `c₂` one by
    one, and the meaning of the document read from `c₂` is the meaning read from `c₁` with the line-comment ids AND the
    include ids renamed by it (data and both tables), block-comment ids untouched.  `_clean`, which merges identical
    directives of one level, is included: no restriction to pairwise distinct directive texts, and no bound on the
    number of line comments and directives (the rotation is a bijection of `0 … 999999`). -/
theorem denI_natural (dir : Str) {d : Nat} {items : List IItem} {c₁ c₂ : Counter} (hwf : ISrcWFItems d items = true)
    (hc₁ : C13.ValidCounter Gen.counterLimit c₁) (hc₂ : C13.ValidCounter Gen.counterLimit c₂)
    (hb : nBlockII items ≤ 1000000) :
    Function.Injective (shift c₁ c₂) ∧
      (∀ k, (alloc Gen.counterLimit k c₁).map (shift c₁ c₂) = alloc Gen.counterLimit k c₂) ∧
      denI dir c₂ items = renSD' (shift c₁ c₂) id (denI dir c₁ items) :=
  ⟨(shift_ok c₁ c₂).inj, shift_rel hc₁ hc₂, denI_natural_of (shift_ok c₁ c₂) dir hwf (shift_rel hc₁ hc₂) hb⟩

/-! ## 4. the reader: two reads of the same text from two counter values -/

/-- the counter after the read (`C12_read_included`): advanced by the line comments, the directives, the quoted strings -/
def counterAfterI (dir : Str) (c : Counter) (items : List IItem) : Counter :=
  C02.adv Gen.counterLimit (C02.countQuotedEs (plainIItems items)) (labelI dir c items).1.icounter

/-- **C08 for documents with comments and include directives.**  For every well-formed document, every admissible
    layout, every directory and every two valid counter values, both reads succeed, and the second result is the first
    one with the line-comment ids and the include ids renamed by the rotation `shift c₁ c₂`. -/
theorem C08_included_read_natural {items : List IItem} {gaps : List Str} {tail : Str} (dir : Str) {c₁ c₂ : Counter}
    (hwf : ISrcWFItems 1 items = true) (hg : GapsOKI (itoksItems items) gaps tail = true)
    (htail : items = [] → tail.all isWs = true)
    (hc₁ : C13.ValidCounter Gen.counterLimit c₁) (hc₂ : C13.ValidCounter Gen.counterLimit c₂)
    (hn : C02.countQuotedEs (plainIItems items) ≤ Gen.counterLimit + 1)
    (hd : C02.DocKeysAbsent (plainIItems items)) (hb : nBlockII items ≤ 1000000) :
    parseNative true dir c₁ (spreadC (itoksItems items) gaps tail) = .ok (denI dir c₁ items, counterAfterI dir c₁ items) ∧
    parseNative true dir c₂ (spreadC (itoksItems items) gaps tail) =
      .ok (renSD' (shift c₁ c₂) id (denI dir c₁ items), counterAfterI dir c₂ items) := by
  refine ⟨C12.C12_read_included dir c₁ hwf hg htail hc₁ hn hd, ?_⟩
  rw [C12.C12_read_included dir c₂ hwf hg htail hc₂ hn hd, (denI_natural dir hwf hc₁ hc₂ hb).2.2]
  rfl

/-- the counters the two reads leave behind are related by the same rotation -/
theorem counterAfterI_rel (dir : Str) {d : Nat} {c₁ c₂ : Counter} {items : List IItem} (hwf : ISrcWFItems d items = true)
    (hc₁ : C13.ValidCounter Gen.counterLimit c₁) (hc₂ : C13.ValidCounter Gen.counterLimit c₂)
    (hb : nBlockII items ≤ 1000000) :
    CRel (shift c₁ c₂) (counterAfterI dir c₁ items) (counterAfterI dir c₂ items) :=
  CRel.adv _ (label_natII (shift_ok c₁ c₂) (shift_ok c₁ c₂) dir items d _ _ [] hwf (StRelI.start (shift_rel hc₁ hc₂) _)
    (by simpa using hb) (fun _ hx => nomatch hx)).1.icounter

/-- what the renaming leaves alone: the comment texts and the include entries (directive text, file name, path) in
    table order, the whole block-comment table, the expressions -/
theorem renSD'_texts (f : Nat → Nat) (sd : SD) :
    (renSD' f id sd).lineC.map (·.2) = sd.lineC.map (·.2) ∧ (renSD' f id sd).blockC = sd.blockC ∧
      (renSD' f id sd).exprs = sd.exprs ∧ (renSD' f id sd).incl.map (·.2) = sd.incl.map (·.2) :=
  ⟨renTbl_texts f _, renTbl_id _, rfl, renTbl_texts f _⟩

/-! ### the data with the placeholder entries stripped does not depend on the counter at all -/

theorem strip_denIV (dir : Str) : ∀ (v : ISrc) (d : Nat) (st : ILabelSt), ISrcWFV d v = true →
    C12.stripPhV (denPV (labelIV dir st v).2) = denSrcV (plainIV v) := C12.strip_denIV dir

/-- corollary: the stripped data, the line-comment texts, the include entries (directive, file name, path) in table
    order and the block-comment table are *equal* in the two reads -/
theorem C08_included_read_stripped {items : List IItem} {gaps : List Str} {tail : Str} (dir : Str) {c₁ c₂ : Counter}
    (hwf : ISrcWFItems 1 items = true) (hg : GapsOKI (itoksItems items) gaps tail = true)
    (htail : items = [] → tail.all isWs = true)
    (hc₁ : C13.ValidCounter Gen.counterLimit c₁) (hc₂ : C13.ValidCounter Gen.counterLimit c₂)
    (hn : C02.countQuotedEs (plainIItems items) ≤ Gen.counterLimit + 1)
    (hd : C02.DocKeysAbsent (plainIItems items)) (hb : nBlockII items ≤ 1000000) :
    ∃ sd₁ sd₂ c₁' c₂',
      parseNative true dir c₁ (spreadC (itoksItems items) gaps tail) = .ok (sd₁, c₁') ∧
      parseNative true dir c₂ (spreadC (itoksItems items) gaps tail) = .ok (sd₂, c₂') ∧
      C12.stripPhEs sd₂.data = C12.stripPhEs sd₁.data ∧
      sd₂.lineC.map (·.2) = sd₁.lineC.map (·.2) ∧ sd₂.blockC = sd₁.blockC ∧
      sd₂.incl.map (·.2) = sd₁.incl.map (·.2) ∧
      sd₂.incl.map (·.2.file) = sd₁.incl.map (·.2.file) := by
  obtain ⟨h₁, h₂⟩ := C08_included_read_natural dir hwf hg htail hc₁ hc₂ hn hd hb
  have h4 := (renSD'_texts (shift c₁ c₂) (denI dir c₁ items)).2.2.2
  refine ⟨_, _, _, _, h₁, h₂, ?_, (renSD'_texts _ _).1, (renSD'_texts _ _).2.1, h4, ?_⟩
  · rw [← (denI_natural dir hwf hc₁ hc₂ hb).2.2, C12.denI_stripped dir c₂ hwf, C12.denI_stripped dir c₁ hwf]
  · have := congrArg (List.map (·.file)) h4
    rw [List.map_map, List.map_map] at this
    exact this

/-! ## 5. the canonical form, extended with the include ids -/

/-- the word-level fact `wordIds_renK`, for the keyword of a kind and the function that renames its ids -/
def WordNat3 (kw : Str) (m f g h : Nat → Nat) : Prop :=
  ∀ s, (∀ i ∈ wordIds kw s, m i < 1000000) → wordIds kw (renWord3 f g h s) = (wordIds kw s).map m

theorem wordNat3_line (f g h : Nat → Nat) : WordNat3 kwLine f f g h := fun s hb => by
  rw [renWord3_eq]; exact wordIds_renK (tri f g h) .line s hb
theorem wordNat3_block (f g h : Nat → Nat) : WordNat3 kwBlock g f g h := fun s hb => by
  rw [renWord3_eq]; exact wordIds_renK (tri f g h) .block s hb
theorem wordNat3_incl (f g h : Nat → Nat) : WordNat3 kwIncl h f g h := fun s hb => by
  rw [renWord3_eq]; exact wordIds_renK (tri f g h) .incl s hb

theorem idsV_ren3 {kw : Str} {m f g h : Nat → Nat} (hw : WordNat3 kw m f g h) : ∀ (v : Val),
      (∀ i ∈ idsV kw v, m i < 1000000) → idsV kw (renV3 f g h v) = (idsV kw v).map m := fun v hb => by
  rw [renV3_eq]; exact idsV_map v fun w hm => renWord3_eq f g h w ▸ hw w fun i hi => hb i (mem_idsV hm hi)
theorem idsEs_ren3 {kw : Str} {m f g h : Nat → Nat} (hw : WordNat3 kw m f g h) : ∀ (es : Entries),
      (∀ i ∈ idsEs kw es, m i < 1000000) → idsEs kw (renEs3 f g h es) = (idsEs kw es).map m := fun es hb => by
  rw [renEs3_eq]; exact idsEs_map es fun w hm => renWord3_eq f g h w ▸ hw w fun i hi => hb i (mem_idsEs hm hi)
theorem idsXs_ren3 {kw : Str} {m f g h : Nat → Nat} (hw : WordNat3 kw m f g h) : ∀ (xs : List Val),
      (∀ i ∈ idsXs kw xs, m i < 1000000) → idsXs kw (renXs3 f g h xs) = (idsXs kw xs).map m := fun xs hb => by
  rw [renXs3_eq]; exact idsXs_map xs fun w hm => renWord3_eq f g h w ▸ hw w fun i hi => hb i (mem_idsXs hm hi)

theorem renWord3_comp (F G H f g h : Nat → Nat) (w : Str) (hl : ∀ i ∈ wordIds kwLine w, f i < 1000000)
    (hb : ∀ i ∈ wordIds kwBlock w, g i < 1000000) (hi : ∀ i ∈ wordIds kwIncl w, h i < 1000000) :
    (renK (tri F G H) ∘ renK (tri f g h)) w = renK (tri (F ∘ f) (G ∘ g) (H ∘ h)) w :=
  (renK_comp (tri F G H) (tri f g h) w fun | .line => hl | .block => hb | .incl => hi).trans
    (congrArg (renK · w) (tri_comp F G H f g h))

theorem renV3_comp (F G H f g h : Nat → Nat) : ∀ (v : Val), (∀ i ∈ idsV kwLine v, f i < 1000000) →
      (∀ i ∈ idsV kwBlock v, g i < 1000000) → (∀ i ∈ idsV kwIncl v, h i < 1000000) →
      renV3 F G H (renV3 f g h v) = renV3 (F ∘ f) (G ∘ g) (H ∘ h) v := fun v hl hb hi => by
  rw [renV3_eq f g h, renV3_eq F G H, renV3_eq, (map_comp _ _).1]
  exact map_congr.1 v fun w hw => renWord3_comp F G H f g h w (fun i hm => hl i (mem_idsV hw hm))
    (fun i hm => hb i (mem_idsV hw hm)) fun i hm => hi i (mem_idsV hw hm)
theorem renEs3_comp (F G H f g h : Nat → Nat) : ∀ (es : Entries), (∀ i ∈ idsEs kwLine es, f i < 1000000) →
      (∀ i ∈ idsEs kwBlock es, g i < 1000000) → (∀ i ∈ idsEs kwIncl es, h i < 1000000) →
      renEs3 F G H (renEs3 f g h es) = renEs3 (F ∘ f) (G ∘ g) (H ∘ h) es := fun es hl hb hi => by
  rw [renEs3_eq f g h, renEs3_eq F G H, renEs3_eq, (map_comp _ _).2.1]
  exact map_congr.2.1 es fun w hw => renWord3_comp F G H f g h w (fun i hm => hl i (mem_idsEs hw hm))
    (fun i hm => hb i (mem_idsEs hw hm)) fun i hm => hi i (mem_idsEs hw hm)
theorem renXs3_comp (F G H f g h : Nat → Nat) : ∀ (xs : List Val), (∀ i ∈ idsXs kwLine xs, f i < 1000000) →
      (∀ i ∈ idsXs kwBlock xs, g i < 1000000) → (∀ i ∈ idsXs kwIncl xs, h i < 1000000) →
      renXs3 F G H (renXs3 f g h xs) = renXs3 (F ∘ f) (G ∘ g) (H ∘ h) xs := fun xs hl hb hi => by
  rw [renXs3_eq f g h, renXs3_eq F G H, renXs3_eq, (map_comp _ _).2.2]
  exact map_congr.2.2 xs fun w hw => renWord3_comp F G H f g h w (fun i hm => hl i (mem_idsXs hw hm))
    (fun i hm => hb i (mem_idsXs hw hm)) fun i hm => hi i (mem_idsXs hw hm)

theorem renV3_congr {F G H F' G' H' : Nat → Nat} : ∀ (v : Val), (∀ i ∈ idsV kwLine v, F i = F' i) →
      (∀ i ∈ idsV kwBlock v, G i = G' i) → (∀ i ∈ idsV kwIncl v, H i = H' i) → renV3 F G H v = renV3 F' G' H' v :=
  fun v hl hb hi => by
    rw [renV3_eq, renV3_eq]
    exact map_congr.1 v fun w hw => renWord3_congr w (fun i hm => hl i (mem_idsV hw hm))
      (fun i hm => hb i (mem_idsV hw hm)) fun i hm => hi i (mem_idsV hw hm)
theorem renEs3_congr {F G H F' G' H' : Nat → Nat} : ∀ (es : Entries), (∀ i ∈ idsEs kwLine es, F i = F' i) →
      (∀ i ∈ idsEs kwBlock es, G i = G' i) → (∀ i ∈ idsEs kwIncl es, H i = H' i) →
      renEs3 F G H es = renEs3 F' G' H' es := fun es hl hb hi => by
  rw [renEs3_eq, renEs3_eq]
  exact map_congr.2.1 es fun w hw => renWord3_congr w (fun i hm => hl i (mem_idsEs hw hm))
      (fun i hm => hb i (mem_idsEs hw hm)) fun i hm => hi i (mem_idsEs hw hm)
theorem renXs3_congr {F G H F' G' H' : Nat → Nat} : ∀ (xs : List Val), (∀ i ∈ idsXs kwLine xs, F i = F' i) →
      (∀ i ∈ idsXs kwBlock xs, G i = G' i) → (∀ i ∈ idsXs kwIncl xs, H i = H' i) →
      renXs3 F G H xs = renXs3 F' G' H' xs := fun xs hl hb hi => by
  rw [renXs3_eq, renXs3_eq]
  exact map_congr.2.2 xs fun w hw => renWord3_congr w (fun i hm => hl i (mem_idsXs hw hm))
      (fun i hm => hb i (mem_idsXs hw hm)) fun i hm => hi i (mem_idsXs hw hm)

/-- all include ids of an `SDict`: those in the data (traversal order), then the keys of the include table -/
def inclIdsSD (sd : SD) : List Nat := idsEs kwIncl sd.data ++ sd.incl.map (·.1)

/-- the canonical form with the include ids: every line-comment id replaced by its rank of first appearance among the
    line-comment ids, every block-comment id by its rank among the block-comment ids, every include id by its rank
    among the include ids; the three tables re-keyed accordingly -/
def canonSD' (sd : SD) : SD :=
  renSD3 (rankOf (lineIdsSD sd)) (rankOf (blockIdsSD sd)) (rankOf (inclIdsSD sd)) sd

theorem canonSD'_eq (sd : SD) : canonSD' sd = renSDK (fun a => rankOf (idsSD a sd)) sd :=
  (renSD3_eq ..).trans (congrArg (renSDK · sd) (funext fun a => by cases a <;> rfl))

/-- **the canonical form forgets the ids**: it is invariant under every injective renaming that keeps ids six-digit
    (`rank_renSDK`: what is needed is injectivity on the ids occurring in the `SDict`, data and table keys, per kind,
    and that those of the data stay six-digit) -/
theorem canonSD'_ren' {f g h : Nat → Nat} (hf : RenOK f) (hg : RenOK g) (hh : RenOK h) (sd : SD) :
    canonSD' (renSD3 f g h sd) = canonSD' sd := by
  rw [canonSD'_eq, canonSD'_eq, renSD3_eq]
  exact rank_renSDK (tri f g h) sd (fun a i hi => (tri_ok hf hg hh a).lt i (idsEs_lt _ _ i hi))
    fun a _ _ _ _ e => (tri_ok hf hg hh a).inj e

/-- **the canonical forms of the meanings from two counters are equal** -/
theorem C08_denI_canon (dir : Str) {d : Nat} {items : List IItem} {c₁ c₂ : Counter} (hwf : ISrcWFItems d items = true)
    (hc₁ : C13.ValidCounter Gen.counterLimit c₁) (hc₂ : C13.ValidCounter Gen.counterLimit c₂)
    (hb : nBlockII items ≤ 1000000) :
    canonSD' (denI dir c₂ items) = canonSD' (denI dir c₁ items) := by
  rw [(denI_natural dir hwf hc₁ hc₂ hb).2.2, renSD', canonSD'_ren' (shift_ok c₁ c₂) renOK_id (shift_ok c₁ c₂)]

/-- **C08, documents with comments and include directives, canonical form**: the canonical forms of the results of two
    reads of the same text from two valid counter values are equal; both reads succeed -/
theorem C08_included_canon {items : List IItem} {gaps : List Str} {tail : Str} (dir : Str) {c₁ c₂ : Counter}
    (hwf : ISrcWFItems 1 items = true) (hg : GapsOKI (itoksItems items) gaps tail = true)
    (htail : items = [] → tail.all isWs = true)
    (hc₁ : C13.ValidCounter Gen.counterLimit c₁) (hc₂ : C13.ValidCounter Gen.counterLimit c₂)
    (hn : C02.countQuotedEs (plainIItems items) ≤ Gen.counterLimit + 1)
    (hd : C02.DocKeysAbsent (plainIItems items)) (hb : nBlockII items ≤ 1000000) :
    (parseNative true dir c₁ (spreadC (itoksItems items) gaps tail)).map (fun r => canonSD' r.1) =
        .ok (canonSD' (denI dir c₁ items)) ∧
      (parseNative true dir c₂ (spreadC (itoksItems items) gaps tail)).map (fun r => canonSD' r.1) =
        .ok (canonSD' (denI dir c₁ items)) := by
  obtain ⟨h₁, h₂⟩ := C08_included_read_natural dir hwf hg htail hc₁ hc₂ hn hd hb
  rw [h₁, h₂]
  exact ⟨rfl, by simp only [Except.map]; rw [renSD', canonSD'_ren' (shift_ok c₁ c₂) renOK_id (shift_ok c₁ c₂)]⟩

/-- … in the form "the same whatever value the counter has reached" -/
theorem C08_included_canon_eq {items : List IItem} {gaps : List Str} {tail : Str} (dir : Str) {c₁ c₂ : Counter}
    (hwf : ISrcWFItems 1 items = true) (hg : GapsOKI (itoksItems items) gaps tail = true)
    (htail : items = [] → tail.all isWs = true)
    (hc₁ : C13.ValidCounter Gen.counterLimit c₁) (hc₂ : C13.ValidCounter Gen.counterLimit c₂)
    (hn : C02.countQuotedEs (plainIItems items) ≤ Gen.counterLimit + 1)
    (hd : C02.DocKeysAbsent (plainIItems items)) (hb : nBlockII items ≤ 1000000) :
    (parseNative true dir c₁ (spreadC (itoksItems items) gaps tail)).map (fun r => canonSD' r.1) =
      (parseNative true dir c₂ (spreadC (itoksItems items) gaps tail)).map (fun r => canonSD' r.1) := by
  obtain ⟨h₁, h₂⟩ := C08_included_canon dir hwf hg htail hc₁ hc₂ hn hd hb
  rw [h₁, h₂]

/-! ## 6. non-vacuity: the example `exI` of `C12incl`, read from a fresh counter and from `999997`
    (line comments 999998, 999999; the wrap-around falls between the last line comment and the first directive) -/

theorem exI_blocks : nBlockII exI ≤ 1000000 := by decide +kernel

theorem ex_valid7 : C13.ValidCounter Gen.counterLimit (some 999997) := Or.inr ⟨999997, rfl, by decide⟩

/-- both reads of the example text succeed and differ by the renaming -/
theorem exI_reads (dir : Str) :
    parseNative true dir none exIText = .ok (denI dir none exI, counterAfterI dir none exI) ∧
    parseNative true dir (some 999997) exIText =
      .ok (renSD' (shift none (some 999997)) id (denI dir none exI), counterAfterI dir (some 999997) exI) := by
  rw [← exI_text]
  exact C08_included_read_natural dir exI_wf exIGaps_ok (fun h => by cases h) (Or.inl rfl) ex_valid7 (by decide +kernel)
    (by decide +kernel) exI_blocks

/-- the rotation on the example: `0 ↦ 999998`, `1 ↦ 999999`, `2 ↦ 0`, … -/
theorem exI_shift : (alloc Gen.counterLimit 5 none).map (shift none (some 999997)) = [999998, 999999, 0, 1, 2] ∧
    alloc Gen.counterLimit 5 (some 999997) = [999998, 999999, 0, 1, 2] := by decide +kernel

/-- the read from the fresh counter, evaluated: line comments 0, 1; directives 2, 3, 4 -/
theorem exI_none :
    (denI "/d".toList none exI).data =
      [ (.str "LINECOMMENT000000".toList, .leaf (.str "LINECOMMENT000000".toList)),
        (.str ['a'], .leaf (.int 1)),
        (.str "INCLUDE000002".toList, .leaf (.str "INCLUDE000002".toList)),
        (.str "BLOCKCOMMENT000000".toList, .leaf (.str "BLOCKCOMMENT000000".toList)),
        (.str ['n'], .dict [
          (.str ['p'], .leaf (.str "x y".toList)),
          (.str "INCLUDE000003".toList, .leaf (.str "INCLUDE000003".toList)),
          (.str "LINECOMMENT000001".toList, .leaf (.str "LINECOMMENT000001".toList))]),
        (.str "INCLUDE000004".toList, .leaf (.str "INCLUDE000004".toList)) ] ∧
    (denI "/d".toList none exI).lineC = [(0, "// head".toList), (1, "// in".toList)] ∧
    (denI "/d".toList none exI).blockC = [(0, "/* blk */".toList)] ∧
    (denI "/d".toList none exI).incl =
      [(2, { directive := "#include 'inc/a'".toList, file := "inc/a".toList, path := "/d/inc/a".toList }),
       (3, { directive := "#include \"../b\"".toList, file := "../b".toList, path := "/d/../b".toList }),
       (4, { directive := "#include /abs/c".toList, file := "/abs/c".toList, path := "/abs/c".toList })] := by
  literal_chars
  decide +kernel

/-- the read from `999997`, evaluated directly (not through the theorem): line comments 999998, 999999; directives
    0, 1, 2 -/
theorem exI_wrap :
    (denI "/d".toList (some 999997) exI).data =
      [ (.str "LINECOMMENT999998".toList, .leaf (.str "LINECOMMENT999998".toList)),
        (.str ['a'], .leaf (.int 1)),
        (.str "INCLUDE000000".toList, .leaf (.str "INCLUDE000000".toList)),
        (.str "BLOCKCOMMENT000000".toList, .leaf (.str "BLOCKCOMMENT000000".toList)),
        (.str ['n'], .dict [
          (.str ['p'], .leaf (.str "x y".toList)),
          (.str "INCLUDE000001".toList, .leaf (.str "INCLUDE000001".toList)),
          (.str "LINECOMMENT999999".toList, .leaf (.str "LINECOMMENT999999".toList))]),
        (.str "INCLUDE000002".toList, .leaf (.str "INCLUDE000002".toList)) ] ∧
    (denI "/d".toList (some 999997) exI).lineC = [(999998, "// head".toList), (999999, "// in".toList)] ∧
    (denI "/d".toList (some 999997) exI).blockC = [(0, "/* blk */".toList)] ∧
    (denI "/d".toList (some 999997) exI).incl =
      [(0, { directive := "#include 'inc/a'".toList, file := "inc/a".toList, path := "/d/inc/a".toList }),
       (1, { directive := "#include \"../b\"".toList, file := "../b".toList, path := "/d/../b".toList }),
       (2, { directive := "#include /abs/c".toList, file := "/abs/c".toList, path := "/abs/c".toList })] := by
  literal_chars
  decide +kernel

/-- the renaming of the first read, evaluated: it is the second read (an evaluation that does not go through
    `denI_natural`) -/
theorem exI_renamed :
    (renSD' (shift none (some 999997)) id (denI "/d".toList none exI)).data = (denI "/d".toList (some 999997) exI).data ∧
    (renSD' (shift none (some 999997)) id (denI "/d".toList none exI)).lineC = (denI "/d".toList (some 999997) exI).lineC ∧
    (renSD' (shift none (some 999997)) id (denI "/d".toList none exI)).blockC = (denI "/d".toList (some 999997) exI).blockC ∧
    (renSD' (shift none (some 999997)) id (denI "/d".toList none exI)).incl = (denI "/d".toList (some 999997) exI).incl := by
  rw [renSD', renSD3_data, renSD3_lineC, renSD3_blockC, renSD3_incl, exI_none.1, exI_none.2.1, exI_none.2.2.1, exI_none.2.2.2,
    exI_wrap.1, exI_wrap.2.1, exI_wrap.2.2.1, exI_wrap.2.2.2]
  literal_chars
  decide +kernel

/-- … and through the theorem -/
theorem exI_natural (dir : Str) :
    denI dir (some 999997) exI = renSD' (shift none (some 999997)) id (denI dir none exI) :=
  (denI_natural dir exI_wf (Or.inl rfl) ex_valid7 exI_blocks).2.2

/-- the two reads are different data and different include tables … -/
theorem exI_differ : (denI "/d".toList (some 999997) exI).data ≠ (denI "/d".toList none exI).data ∧
    (denI "/d".toList (some 999997) exI).incl ≠ (denI "/d".toList none exI).incl := by
  rw [exI_none.1, exI_none.2.2.2, exI_wrap.1, exI_wrap.2.2.2]
  literal_chars
  decide +kernel

/-- … with the same canonical form -/
theorem exI_canon (dir : Str) : canonSD' (denI dir (some 999997) exI) = canonSD' (denI dir none exI) :=
  C08_denI_canon dir exI_wf (Or.inl rfl) ex_valid7 exI_blocks

/-- the canonical form of the wrapped read, evaluated: line comments 0, 1; directives 0, 1, 2 (each kind ranked by
    itself) -/
theorem exI_canon_eval :
    keys (canonSD' (denI "/d".toList (some 999997) exI)).data =
      [.str "LINECOMMENT000000".toList, .str ['a'], .str "INCLUDE000000".toList, .str "BLOCKCOMMENT000000".toList,
       .str ['n'], .str "INCLUDE000002".toList] ∧
    (canonSD' (denI "/d".toList (some 999997) exI)).lineC = (denI "/d".toList none exI).lineC ∧
    (canonSD' (denI "/d".toList (some 999997) exI)).blockC = (denI "/d".toList none exI).blockC ∧
    (canonSD' (denI "/d".toList (some 999997) exI)).incl.map (·.1) = [0, 1, 2] ∧
    (canonSD' (denI "/d".toList (some 999997) exI)).incl.map (·.2) = (denI "/d".toList none exI).incl.map (·.2) := by
  rw [canonSD', renSD3_data, renSD3_lineC, renSD3_blockC, renSD3_incl, lineIdsSD, blockIdsSD, inclIdsSD,
    exI_none.2.1, exI_none.2.2.1, exI_none.2.2.2, exI_wrap.1, exI_wrap.2.1, exI_wrap.2.2.1, exI_wrap.2.2.2]
  literal_chars
  decide +kernel

/-- `_clean` merging two identical directives of one level (`incl_clean_merges`), across the wrap-around: the ids drawn
    are 999999 and 0 resp. 0 and 1, the entry that survives is the first one in both reads, and the results are related
    by the rotation as the theorem says (here `hdist` of `C12_incl_table_result` fails) -/
theorem exMerge_natural :
    (denI "/d".toList none [.incl (some '\'') ['x'], .incl (some '\'') ['x']]).incl =
      [(0, { directive := "#include 'x'".toList, file := ['x'], path := "/d/x".toList })] ∧
    (denI "/d".toList (some 999998) [.incl (some '\'') ['x'], .incl (some '\'') ['x']]).incl =
      [(999999, { directive := "#include 'x'".toList, file := ['x'], path := "/d/x".toList })] ∧
    keys (denI "/d".toList (some 999998) [.incl (some '\'') ['x'], .incl (some '\'') ['x']]).data =
      [.str "INCLUDE999999".toList] ∧
    denI "/d".toList (some 999998) [.incl (some '\'') ['x'], .incl (some '\'') ['x']] =
      renSD' (shift none (some 999998)) id (denI "/d".toList none [.incl (some '\'') ['x'], .incl (some '\'') ['x']]) := by
  literal_chars
  refine ⟨?_, ?_, ?_, ?_⟩
  · decide +kernel
  · decide +kernel
  · decide +kernel
  · exact (denI_natural (d := 1) _ (by decide +kernel) (Or.inl rfl) ex_valid (by decide +kernel)).2.2

/-! ## 7. what is false, on witnesses -/

/-- the include ids ARE drawn from the counter: the renaming of `C08nat` (line-comment ids only) does not relate the
    two reads of a document with directives -/
theorem exI_incl_ids_global :
    (renSD (shift none (some 999997)) id (denI "/d".toList none exI)).data ≠ (denI "/d".toList (some 999997) exI).data := by
  rw [renSD_data, exI_none.1, exI_wrap.1]
  literal_chars
  decide +kernel

/-- … and they move by the SAME rotation as the line-comment ids: leaving the include table alone (or re-keying it by
    anything else than the rotation) gives something else than the second read -/
theorem exI_incl_table_moves :
    (renSD3 (shift none (some 999997)) id id (denI "/d".toList none exI)).incl ≠ (denI "/d".toList (some 999997) exI).incl := by
  rw [renSD3_incl, exI_none.2.2.2, exI_wrap.2.2.2]
  literal_chars
  decide +kernel

/-- block-comment ids are not drawn from the counter (as in `C08nat`) -/
theorem exI_block_ids_local :
    (renSD3 (shift none (some 999997)) (shift none (some 999997)) (shift none (some 999997))
      (denI "/d".toList none exI)).data ≠ (denI "/d".toList (some 999997) exI).data := by
  rw [renSD3_data, exI_none.1, exI_wrap.1]
  literal_chars
  decide +kernel

/-- **`_clean` does not commute with the extended renaming on arbitrary data** either: a key that merely *contains* an
    include placeholder (`xINCLUDE000001`) is read by `_clean` as a directive with the id 1, but is no placeholder word
    and is not renamed.  Hence the hypothesis `PhWF3Es` of `clean_ren3`; the meanings of documents with directives
    satisfy it (`phWF3_labelI`). -/
theorem clean_ren3_needs_wf :
    ¬ ∀ (f g h : Nat → Nat) (s : SD), RenOK f → RenOK g → RenOK h → (renSD3 f g h s).clean = renSD3 f g h s.clean := by
  intro hall
  have := congrArg SD.incl (hall id id swap01
    { data := [(.str "INCLUDE000000".toList, .leaf .none), (.str "xINCLUDE000001".toList, .leaf .none)],
      incl := [(0, { directive := ['a'], file := [], path := [] }), (1, { directive := ['a'], file := [], path := [] })] }
    renOK_id renOK_id swap01_ok)
  revert this
  literal_chars
  decide +kernel

/-! ## 8. the extended renaming extends the renaming of `C08nat` -/

theorem renV3_of_noIncl (f g h : Nat → Nat) : ∀ (v : Val), idsV kwIncl v = [] → renV3 f g h v = renV f g v := fun v hn => by
  rw [(ids_words kwIncl).1] at hn
  rw [renV3_eq, renV_eq]
  exact map_congr.1 v fun w hw => renK_of_noIncl f g h (List.flatMap_eq_nil_iff.mp hn w hw)
theorem renEs3_of_noIncl (f g h : Nat → Nat) : ∀ (es : Entries), idsEs kwIncl es = [] → renEs3 f g h es = renEs f g es :=
  fun es hn => by
    rw [(ids_words kwIncl).2.1] at hn
    rw [renEs3_eq, renEs_eq]
    exact map_congr.2.1 es fun w hw => renK_of_noIncl f g h (List.flatMap_eq_nil_iff.mp hn w hw)
theorem renXs3_of_noIncl (f g h : Nat → Nat) : ∀ (xs : List Val), idsXs kwIncl xs = [] → renXs3 f g h xs = renXs f g xs :=
  fun xs hn => by
    rw [(ids_words kwIncl).2.2] at hn
    rw [renXs3_eq, renXs_eq]
    exact map_congr.2.2 xs fun w hw => renK_of_noIncl f g h (List.flatMap_eq_nil_iff.mp hn w hw)

/-- on an `SDict` without include placeholders and with an empty include table (e.g. the meaning of a commented document
    without directives) `renSD'` is the `renSD` of `C08nat` -/
theorem renSD'_of_noIncl (f g : Nat → Nat) (sd : SD) (hd : idsEs kwIncl sd.data = []) (ht : sd.incl = []) :
    renSD' f g sd = renSD f g sd :=
  sd_ext (renEs3_of_noIncl f g f sd.data hd) rfl rfl rfl (by rw [renSD', renSD3_incl, renSD_incl, ht]; rfl)

end DictIO.C08
