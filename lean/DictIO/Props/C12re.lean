/-
  C12 -- the regular expressions of the library functions this property's model was written against, pinned against the
  table regenerated from the sources on every run (Generated/Regex.lean, harness/extract_regex.py).  After a changed
  pattern the row stated below is no longer in the table and the membership proof fails: the hand-written recogniser
  of the model is then no longer justified, and the check searches for a failing input.
  Generated by tools/mkrepins.py (never run by a check).
-/
import DictIO.Lemmas.Regex

namespace DictIO.C12.Re
open DictIO.Gen

theorem re_parser_NativeParser__extract_line_comments :
    regexesOf "parser.py" "NativeParser._extract_line_comments" = ["search:(?<!:)/{2}.*$"] :=
  regexesOf_of_mem (by simp only [regexTable, List.mem_cons, true_or, or_true])

theorem re_parser_NativeParser__extract_includes :
    regexesOf "parser.py" "NativeParser._extract_includes" = ["search:^\\s*#\\s*include", "sub:(^\\s*#\\s*include\\s*|\\s*$)"] :=
  regexesOf_of_mem (by simp only [regexTable, List.mem_cons, true_or, or_true])

theorem re_parser_NativeParser__extract_block_comments :
    regexesOf "parser.py" "NativeParser._extract_block_comments" = ["sub:/\\*[\\w\\W\\d\\D\\s]*?\\*/"] :=
  regexesOf_of_mem (by simp only [regexTable, List.mem_cons, true_or, or_true])

theorem re_parser_NativeParser__remove_line_endings_from_block_content :
    regexesOf "parser.py" "NativeParser._remove_line_endings_from_block_content" = ["sub:\\n"] :=
  regexesOf_of_mem (by simp only [regexTable, List.mem_cons, true_or, or_true])

theorem re_parser_NativeParser_parse_string :
    regexesOf "parser.py" "NativeParser.parse_string" = ["sub:(BLOCKCOMMENT\\d{6})"] :=
  regexesOf_of_mem (by simp only [regexTable, List.mem_cons, true_or, or_true])

theorem re_parser_NativeParser__extract_string_literals :
    regexesOf "parser.py" "NativeParser._extract_string_literals" = ["compile:(?P<q>((?<!\\\\)\\\\{8}['\\\"])|((?<!\\\\)\\\\{6}['\\\"])|((?<!\\\\)\\\\{4}['\\\"])|((?<!\\\\)\\\\{2}['\\\"])|(?<!\\\\)['\\\"]).*?(?P=q)", "finditer:search_pattern=[(?P<q>((?<!\\\\)\\\\{8}['\\\"])|((?<!\\\\)\\\\{6}['\\\"])|((?<!\\\\)\\\\{4}['\\\"])|((?<!\\\\)\\\\{2}['\\\"])|(?<!\\\\)['\\\"]).*?(?P=q)]"] :=
  regexesOf_of_mem (by simp only [regexTable, List.mem_cons, true_or, or_true])

theorem re_parser_NativeParser__extract_expressions :
    regexesOf "parser.py" "NativeParser._extract_expressions" = ["findall:search_pattern=[\"[^\"]*\\$.*?\" | \\$\\w[\\w\\[\\]]* | {re.escape(expression)}]", "compile:{re.escape(expression)}", "sub:search_pattern=[\"[^\"]*\\$.*?\" | \\$\\w[\\w\\[\\]]* | {re.escape(expression)}]", "sub:\\\"", "search:search_pattern=[\"[^\"]*\\$.*?\" | \\$\\w[\\w\\[\\]]* | {re.escape(expression)}]"] :=
  regexesOf_of_mem (by simp only [regexTable, List.mem_cons, true_or, or_true])

theorem re_parser_NativeParser__separate_delimiters :
    regexesOf "parser.py" "NativeParser._separate_delimiters" = ["sub:(\\{char})", "sub:\\s+"] :=
  regexesOf_of_mem (by simp only [regexTable, List.mem_cons, true_or, or_true])

theorem re_parser_NativeParser__convert_block_content_to_tokens :
    regexesOf "parser.py" "NativeParser._convert_block_content_to_tokens" = ["split:\\s"] :=
  regexesOf_of_mem (by simp only [regexTable, List.mem_cons, true_or, or_true])

theorem re_parser_NativeParser__parse_tokenized_dict :
    regexesOf "parser.py" "NativeParser._parse_tokenized_dict" = ["match:^.*COMMENT.*$", "match:^.*COMMENT.*$", "match:^.*COMMENT.*$", "match:^.*COMMENT.*$", "match:^.*INCLUDE.*$", "match:^.*COMMENT.*$", "match:^.*INCLUDE.*$"] :=
  regexesOf_of_mem (by simp only [regexTable, List.mem_cons, true_or, or_true])

theorem re_parser_NativeParser__parse_tokenized_list :
    regexesOf "parser.py" "NativeParser._parse_tokenized_list" = ["match:^.*COMMENT.*$", "match:^.*COMMENT.*$"] :=
  regexesOf_of_mem (by simp only [regexTable, List.mem_cons, true_or, or_true])

theorem re_parser_Parser_parse_value :
    regexesOf "parser.py" "Parser.parse_value" = ["search:^[+-]?\\d+$", "search:^[+-]?(\\d+(\\.\\d*)?|\\.\\d+)$", "search:^[+-]?(\\d+(\\.\\d*)?|\\.\\d+)([eE][-+]?\\d+)?$", "search:^(true)$", "search:^(false)$", "search:^(on)$", "search:^(off)$", "search:^(none)$", "search:^(null)$"] :=
  regexesOf_of_mem (by simp only [regexTable, List.mem_cons, true_or, or_true])

theorem re_parser_Parser_remove_quotes_from_string :
    regexesOf "parser.py" "Parser.remove_quotes_from_string" = ["compile:[\\'\\\"]", "compile:(^['\\\"]{1}|['\\\"]{1}$)", "sub:search_pattern=[[\\'\\\"] | (^['\\\"]{1}|['\\\"]{1}$)]"] :=
  regexesOf_of_mem (by simp only [regexTable, List.mem_cons, true_or, or_true])

theorem re_dict_SDict__clean_data :
    regexesOf "dict.py" "SDict._clean_data" = ["search:BLOCKCOMMENT\\d{6}", "search:INCLUDE\\d{6}", "search:LINECOMMENT\\d{6}", "findall:\\d{6}", "findall:\\d{6}", "findall:\\d{6}"] :=
  regexesOf_of_mem (by simp only [regexTable, List.mem_cons, true_or, or_true])

theorem re_formatter_Formatter_format_string :
    regexesOf "formatter.py" "Formatter.format_string" = ["search:[$]", "search:^\\$\\w[\\w\\[\\]]*$", "search:[\\\"']", "search:[\\s:/\\\\;,{}()<>\\[\\]]|^#(include|$)"] :=
  regexesOf_of_mem (by simp only [regexTable, List.mem_cons, true_or, or_true])

theorem re_formatter_NativeFormatter_format_string_with_nested_string :
    regexesOf "formatter.py" "NativeFormatter.format_string_with_nested_string" = ["search:\"", "search:'"] :=
  regexesOf_of_mem (by simp only [regexTable, List.mem_cons, true_or, or_true])

theorem re_formatter_NativeFormatter_to_string :
    regexesOf "formatter.py" "NativeFormatter.to_string" = ["search:BLOCKCOMMENT\\d{6}", "search:INCLUDE\\d{6}"] :=
  regexesOf_of_mem (by simp only [regexTable, List.mem_cons, true_or, or_true])

theorem re_formatter_NativeFormatter_insert_block_comments :
    regexesOf "formatter.py" "NativeFormatter.insert_block_comments" = ["search:{re.escape(block_comment)}", "findall:search_pattern=[BLOCKCOMMENT{key:06d}\\s+BLOCKCOMMENT{key:06d};]", "sub:search_pattern=[BLOCKCOMMENT{key:06d}\\s+BLOCKCOMMENT{key:06d};]", "sub:\\\\"] :=
  regexesOf_of_mem (by simp only [regexTable, List.mem_cons, true_or, or_true])

theorem re_formatter_NativeFormatter_insert_includes :
    regexesOf "formatter.py" "NativeFormatter.insert_includes" = ["sub:search_pattern=[INCLUDE{key:06d}\\s+INCLUDE{key:06d};]"] :=
  regexesOf_of_mem (by simp only [regexTable, List.mem_cons, true_or, or_true])

theorem re_formatter_NativeFormatter_insert_line_comments :
    regexesOf "formatter.py" "NativeFormatter.insert_line_comments" = ["sub:search_pattern=[LINECOMMENT{key:06d}\\s+LINECOMMENT{key:06d};]"] :=
  regexesOf_of_mem (by simp only [regexTable, List.mem_cons, true_or, or_true])

theorem re_formatter_NativeFormatter_make_default_block_comment :
    regexesOf "formatter.py" "NativeFormatter.make_default_block_comment" = ["search:\\s[Cc]\\+{2}\\s"] :=
  regexesOf_of_mem (by simp only [regexTable, List.mem_cons, true_or, or_true])

theorem re_formatter_NativeFormatter_remove_trailing_spaces :
    regexesOf "formatter.py" "NativeFormatter.remove_trailing_spaces" = ["search:[\r\n]*$", "sub:\\s+$"] :=
  regexesOf_of_mem (by simp only [regexTable, List.mem_cons, true_or, or_true])

end DictIO.C12.Re
