/-
  C12 -- the writer on an SDict with comment placeholders: the text it writes, as a layout (`C12write` applies
  this to the SDict read from a commented document, `C12round` reads the text again).

    `fmt_labelled_is_layout`, `lays_entriesX`
          the raw output `fmtEntries .native lvl D` for a dict with comment placeholder entries is an admissible layout
          of `xtoksEs lvl D`; a placeholder entry `PH ↦ PH` is written as the line `<indent>PH<pad>PH;` with
          `pad` = `max 8 (30 - |PH| - 4·lvl)` blanks (`XTok.ph`, `padOf`)
    `subP_lay` (one `re.sub` of a placeholder word on a layout over any kind of token; the include pass of
        `C12wincl` uses it too), `subP_layG`, `insertLine_layG`, `insertBlock_layG`, `block_stage`, `passes_layG`,
        `insert_comments_layout`, `insert_comments_spreadC`
          `insert_block_comments` / `insert_line_comments` replace every placeholder line by its comment, literally.
          The passes leave the raw layout as it is and change what a placeholder line reads as: their state is a
          partial assignment of texts to placeholders (`Asg`, `rd`), one `re.sub` is `Asg.put`, a table a fold of it
          (`Asg.putT`), both passes `asgOf L B`.  The result is `spreadC (ctoksItems (docSD sd)) ([] :: gaps) "\n"`
          with `GapsOKC … ("\n" :: gaps) "\n"`
    `write_commented`   the passes followed by `remove_trailing_spaces` (`removeTrailing_lay` of `C12xtok`), for every
                        SDict with `WOK sd`
    and how the placeholder words fare with the library's own recognisers (`containsPh_*`, `firstSix_ph`, `phOf_*`,
    `isPhTok_ph`): `phWord l i` is `Ph.ph (kindB l) i`, so these are the facts of `Lemmas/Ph` at a kind;
    `hoist_def`: `hoistPlaceholders` in terms of `isBE`, `isIE`.
-/
import DictIO.Props.C12lay
import DictIO.Props.C12hdr
import DictIO.Lemmas.InductSrc

namespace DictIO.C12W
open DictIO

/-! ## 1. what the writer emits for a dict with placeholder entries -/

/-- `fmt_labelled_is_layout` in line form: the writer's raw output for a dict with placeholder entries is a
    sequence of full lines laying out `xtoksEs`: every placeholder entry is the line `PH<pad>PH;` -/
theorem lays_entriesX (d lvl : Nat) (D : Entries) (h : wshEs d D = true) : LaysL (xtoksEs lvl D) (fmtEntries .native lvl D) :=
  (C03c.lays_entriesP (fun _ _ => []) d lvl D h).toL

/-- For a dict whose leaf entries are comment placeholder entries `PH ↦ PH` or lie in
    the value domain (`wshEs`), the raw output of the writer at indentation level `lvl` is an admissible layout
    (`okX .cov`: white-space gaps, adjacent non-delimiter tokens separated, every placeholder line preceded by white
    space — the first gap of the text excepted — and the gap behind it starts with a line feed (line comment) or is not
    empty (block comment)) of the token stream `xtoksEs lvl D`: the tokens of the written document, in which every
    placeholder entry is the single token `PH ++ pad ++ PH ++ ";"`, `pad` = `max 8 (30 - |PH| - 4·lvl)` blanks. -/
theorem fmt_labelled_is_layout (d lvl : Nat) (D : Entries) (h : wshEs d D = true) :
    ∃ lay tail, lay.map Prod.snd = xtoksEs lvl D ∧ fmtEntries .native lvl D = layX lay tail ∧ okX .cov lay = true ∧
      tail.all isWs = true := by
  rcases lays_entriesX d lvl D h with ⟨hx, ht⟩ | ⟨_, lay, hm, htxt, ok, htl⟩
  · exact ⟨[], [], by rw [hx]; rfl, by rw [ht]; rfl, rfl, rfl⟩
  · exact ⟨lay, ['\n'], hm, htxt, ok, htl⟩

/-! ## 2. substituting a comment for its placeholder line, on a layout -/

/-- the text behind a token cannot continue a placeholder word: it is empty, or starts with white space or a delimiter -/
def StopHead (s : Str) : Prop := ∀ c, s.head? = some c → isWs c = true ∨ Gen.delimiters.contains c = true

/-- `substPh` with the fuel hidden -/
def subP (P repl s : Str) : Str × Bool := substPhEntryFuel P repl (s.length + 1) s

theorem subP_skip {P repl : Str} (h s : Str)
    (hp : ∀ h1 h2, h = h1 ++ h2 → h2 ≠ [] → P.isPrefixOf (h2 ++ s) = false) :
    subP P repl (h ++ s) = (h ++ (subP P repl s).1, (subP P repl s).2) := by
  unfold subP
  have e : (h ++ s).length + 1 = (s.length + 1) + h.length := by simp; omega
  rw [e, substFuel_skip' P repl h _ s hp]

theorem subP_hit {P repl : Str} {c : Char} {P' : Str} (hP : P = c :: P') (hc : isWs c = false)
    (pad s : Str) (hne : pad ≠ []) (hws : pad.all isWs = true) :
    subP P repl (P ++ pad ++ P ++ [';'] ++ s) = (repl ++ (subP P repl s).1, true) := by
  unfold subP
  have e : P ++ pad ++ P ++ [';'] ++ s = P ++ (pad ++ (P ++ ';' :: s)) := by simp
  rw [e, substFuel_hit _ (matchPhEntry_hit hP hc pad s hne hws)]
  have hlen : s.length < (P ++ (pad ++ (P ++ ';' :: s))).length := by simp; omega
  rw [substFuel_enough P repl _ (s.length + 1) s hlen (by omega)]

theorem noPrefix_ws {P : Str} {c : Char} {P' : Str} (hP : P = c :: P') (hc : isWs c = false) (g s : Str)
    (hg : g.all isWs = true) : ∀ h1 h2, g = h1 ++ h2 → h2 ≠ [] → P.isPrefixOf (h2 ++ s) = false := by
  intro h1 h2 e hne
  cases h2 with
  | nil => exact absurd rfl hne
  | cons x h2 =>
    have hx : isWs x = true := List.all_eq_true.mp hg x (by rw [e]; simp)
    have : (c == x) = false := by
      simp only [beq_eq_false_iff_ne, ne_eq]; rintro rfl; rw [hx] at hc; cases hc
    simp [hP, List.isPrefixOf, this]

theorem noPrefix_tok {P h s : Str} (hP : ∀ c ∈ P, isWs c = false ∧ Gen.delimiters.contains c = false)
    (hinf : isInfix P h = false)
    (hs : (∃ d, h = [d] ∧ Gen.delimiters.contains d = true) ∨ StopHead s) :
    ∀ h1 h2, h = h1 ++ h2 → h2 ≠ [] → P.isPrefixOf (h2 ++ s) = false := by
  intro h1 h2 e hne
  cases hpre : P.isPrefixOf (h2 ++ s) with
  | false => rfl
  | true =>
    exfalso
    obtain ⟨r, hr⟩ := List.isPrefixOf_iff_prefix.mp hpre
    rcases List.append_eq_append_iff.mp hr with ⟨a', e1, e2⟩ | ⟨c', e1, e2⟩
    · have : isInfix P h = true := isInfix_iff.mpr ⟨h1, a', by rw [e, e1]; simp⟩
      rw [this] at hinf; cases hinf
    · -- `h2` is a prefix of `P`
      cases c' with
      | nil =>
        simp only [List.append_nil] at e1
        have : isInfix P h = true := isInfix_iff.mpr ⟨h1, [], by rw [e, e1]; simp⟩
        rw [this] at hinf; cases hinf
      | cons x c' =>
        rcases hs with ⟨d, hd, hdel⟩ | hs
        · rw [hd] at e
          have h2d : h2 = [d] := by
            cases h1 with
            | nil => exact e.symm
            | cons y h1 =>
              simp only [List.cons_append, List.cons.injEq] at e
              have := e.2
              simp only [List.nil_eq, List.append_eq_nil_iff] at this
              exact absurd this.2 hne
          have hdP : d ∈ P := by rw [e1, h2d]; simp
          rw [(hP d hdP).2] at hdel; cases hdel
        · have hxP : x ∈ P := by rw [e1]; simp
          have := hs x (by rw [e2]; rfl)
          rcases this with h' | h'
          · rw [(hP x hxP).1] at h'; cases h'
          · rw [(hP x hxP).2] at h'; cases h'

section
variable {α : Type}

theorem delimX_text {t : XTok} (h : isDelimX t = true) : ∃ d, t.text = [d] ∧ Gen.delimiters.contains d = true := by
  cases t with
  | tok s =>
    cases s with
    | word w => obtain ⟨d, rfl, hd⟩ := C02.delimTok_inv h; exact ⟨d, rfl, List.contains_iff_mem.mpr hd⟩
    | quoted q b => cases h
  | cmt _ _ => cases h
  | ph _ _ _ => cases h

/-- one `re.sub` of the placeholder word `P` at a token that reads `tx t` before and `tx' t` after -/
def SubOK (P repl : Str) (tx tx' : α → Str) (hit : α → Bool) (t : α) : Prop :=
  (hit t = true ∧ tx' t = repl ∧ ∃ pad, pad ≠ [] ∧ pad.all isWs = true ∧ tx t = P ++ pad ++ P ++ [';']) ∨
  (hit t = false ∧ tx' t = tx t ∧ isInfix P (tx t) = false)

/- In the three lemmas that follow the tokens are of any type: `e` says which writer token one stands for (only its
   class `ctxAfter` matters, through `okX`), `tx` what it reads as; a delimiter reads as itself (`hdel`). -/
variable (e : α → XTok) {tx : α → Str} (hdel : ∀ t, isDelimX (e t) = true → tx t = (e t).text)
include hdel

/-- behind a token that is no delimiter the layout cannot continue a placeholder word -/
theorem stopHead_lay {c : Ctx} (hc : c = .wd ∨ c = .ln ∨ c = .bk) : ∀ (l : List (Str × α)) (tail : Str),
    okX c (l.map fun p => (p.1, e p.2)) = true → tail.all isWs = true → StopHead (layA tx l tail)
  | [], tail, _, ht => by
    intro x hx
    exact Or.inl (List.all_eq_true.mp ht x (List.mem_of_mem_head? hx))
  | (g, t) :: l, tail, ok, _ => by
    simp only [List.map_cons, okX, Bool.and_eq_true] at ok
    intro x hx
    cases g with
    | cons y g =>
      simp only [layA, List.cons_append, List.head?_cons, Option.some.injEq] at hx
      subst hx
      exact Or.inl (List.all_eq_true.mp ok.1.1 y (by simp))
    | nil =>
      have hg := ok.1.2
      rcases hc with rfl | rfl | rfl
      · simp only [gapOK, List.isEmpty_nil, Bool.not_true, Bool.or_false] at hg
        obtain ⟨d, hd, hdd⟩ := delimX_text hg
        simp only [layA, hdel t hg, hd, List.nil_append, List.cons_append, List.head?_cons, Option.some.injEq] at hx
        subst hx
        exact Or.inr hdd
      · simp [gapOK] at hg
      · simp [gapOK] at hg

/-- what follows a token of an admissible layout: the token is a single delimiter, or the rest cannot continue a word -/
theorem stop_after (t : α) (l : List (Str × α)) (tail : Str) (ok : okX (ctxAfter (e t)) (l.map fun p => (p.1, e p.2)) = true)
    (ht : tail.all isWs = true) :
    (∃ d, tx t = [d] ∧ Gen.delimiters.contains d = true) ∨ StopHead (layA tx l tail) := by
  cases hd : isDelimX (e t) with
  | true => rw [hdel t hd]; exact Or.inl (delimX_text hd)
  | false =>
    have hc : ctxAfter (e t) = .wd ∨ ctxAfter (e t) = .ln ∨ ctxAfter (e t) = .bk := by
      cases hx : e t with
      | tok s => rw [hx] at hd; exact Or.inl (by simp only [ctxAfter, show isDelimSTok s = false from hd]; rfl)
      | cmt l f => cases l <;> simp [ctxAfter]
      | ph l i pad => cases l <;> simp [ctxAfter]
    exact Or.inr (stopHead_lay e hdel hc l tail ok ht)

/-- **one `re.sub` of a placeholder word on a layout**, for all three insertion passes: the layout stays, the tokens
    that are hit read as `repl` afterwards; the flag says whether there was one -/
theorem subP_lay {P : Str} (hne : P ≠ []) (hch : ∀ c ∈ P, isWs c = false ∧ Gen.delimiters.contains c = false)
    (repl : Str) (tx' : α → Str) (hit : α → Bool) : ∀ (l : List (Str × α)) (c : Ctx) (tail : Str),
    okX c (l.map fun p => (p.1, e p.2)) = true → tail.all isWs = true → (∀ p ∈ l, SubOK P repl tx tx' hit p.2) →
    subP P repl (layA tx l tail) = (layA tx' l tail, l.any fun p => hit p.2) := by
  obtain ⟨c0, P', hP⟩ : ∃ c0 P', P = c0 :: P' := by
    cases P with
    | nil => exact absurd rfl hne
    | cons c0 P' => exact ⟨c0, P', rfl⟩
  have hc0 : isWs c0 = false := (hch c0 (by rw [hP]; simp)).1
  intro l
  induction l with
  | nil =>
    intro c tail _ ht _
    have := subP_skip (P := P) (repl := repl) tail [] (noPrefix_ws hP hc0 tail [] ht)
    simp only [List.append_nil] at this
    simp only [layA, List.any_nil]
    rw [this]
    simp [subP, substPhEntryFuel]
  | cons p l ih =>
    obtain ⟨g, t⟩ := p
    intro c tail ok ht hs
    simp only [List.map_cons, okX, Bool.and_eq_true] at ok
    have ih := ih (ctxAfter (e t)) tail ok.2 ht (fun p hp => hs p (List.mem_cons_of_mem _ hp))
    simp only [layA, List.append_assoc, List.any_cons]
    rw [subP_skip g _ (noPrefix_ws hP hc0 g _ ok.1.1)]
    rcases hs (g, t) List.mem_cons_self with ⟨hh, e', pad, hpne, hws, etx⟩ | ⟨hh, e', hinf⟩
    · rw [etx, subP_hit hP hc0 pad _ hpne hws, ih, hh, e']
      simp
    · rw [subP_skip (tx t) _ (noPrefix_tok hch hinf (stop_after e hdel t l tail ok.2 ht)), ih, hh, e']
      simp

end

theorem stopHead_layX {c : Ctx} (hc : c = .wd ∨ c = .ln ∨ c = .bk) : ∀ (l : List (Str × XTok)) (tail : Str),
    okX c l = true → tail.all isWs = true → StopHead (layX l tail) := by
  intro l tail ok ht
  rw [← C03c.layG_text, ← layA_layG]
  exact stopHead_lay id (fun _ _ => rfl) hc l tail (by simpa using ok) ht

def kwOf (l : Bool) : Str := if l then kwLine else kwBlock

theorem kwOf_kind (l : Bool) : kwOf l = (kindB l).kw := by cases l <;> rfl

def isPhX (l : Bool) (i : Nat) : XTok → Bool
  | .ph l' j _ => l' == l && j == i
  | _ => false

theorem phWord_head (l : Bool) (i : Nat) : ∃ c P', phWord l i = c :: P' ∧ isWs c = false := by
  cases h : phWord l i with
  | nil => exact absurd h (phWord_ne l i)
  | cons c P' => exact ⟨c, P', rfl, (phWord_chars l i c (by rw [h]; simp)).1⟩

theorem substPh_eq (l : Bool) (i : Nat) (repl s : Str) : substPh (kwOf l) i repl s = subP (phWord l i) repl s := rfl

/-- the text contains no placeholder word -/
def NoPh (s : Str) : Prop := ∀ l i, i ≤ 999999 → isInfix (phWord l i) s = false

def TokInv : XTok → Prop
  | .tok s => NoPh s.text
  | .cmt _ full => NoPh full
  | .ph _ j pad => j ≤ 999999 ∧ pad ≠ [] ∧ pad.all isWs = true

/-- a placeholder word contains no other placeholder word -/
theorem phWord_infix {l l' : Bool} {i j : Nat} (hi : i ≤ 999999) (hj : j ≤ 999999)
    (h : isInfix (phWord l i) (phWord l' j) = true) : l = l' ∧ i = j := by
  rw [phWord_kind, phWord_kind] at h
  obtain ⟨e, rfl⟩ := Ph.ph_infix (Nat.lt_succ_of_le hi) (Nat.lt_succ_of_le hj) h
  exact ⟨kindB_inj e, rfl⟩

theorem infix_guard_left {P a s : Str} (h : ∀ c ∈ a, c ∉ P) (hne : P ≠ []) (hi : isInfix P (a ++ s) = true) :
    isInfix P s = true := by
  cases P with
  | nil => exact absurd rfl hne
  | cons c0 P' => rwa [isInfix_skip c0 P' a s fun hm => h c0 hm List.mem_cons_self] at hi

theorem infix_guard_right {P b s : Str} (h : ∀ c ∈ b, c ∉ P) (hne : P ≠ []) (hi : isInfix P (s ++ b) = true) :
    isInfix P s = true := by
  obtain ⟨c0, P', rfl⟩ : ∃ c0 P', P = c0 :: P' := by
    cases P with
    | nil => exact absurd rfl hne
    | cons c0 P' => exact ⟨c0, P', rfl⟩
  rcases isInfix_append_cases hi with h1 | h1 | ⟨p1, c2, p2, e, _, _, hh⟩
  · exact h1
  · exact absurd (List.mem_cons_self) (h c0 (isInfix_cons_mem h1))
  · exact absurd (by rw [e]; simp) (h c2 (List.mem_of_mem_head? hh))

theorem kwComment_in_ph (l : Bool) (i : Nat) : isInfix C12.kwComment (phWord l i) = true := by
  have h1 : isInfix C12.kwComment (kwOf l) = true := by cases l <;> decide
  obtain ⟨a, b, e⟩ := isInfix_iff.mp h1
  exact isInfix_iff.mpr ⟨a, b ++ padSix i, by simp only [phWord]; rw [show (if l then kwLine else kwBlock) = kwOf l from rfl, e]; simp⟩

/-- a text without the word `COMMENT` contains no placeholder word -/
theorem noPh_of_noComment {s : Str} (h : isInfix C12.kwComment s = false) : NoPh s := by
  intro l i _
  cases hc : isInfix (phWord l i) s with
  | false => rfl
  | true => rw [isInfix_trans (kwComment_in_ph l i) hc] at h; cases h

theorem hdr_noComment : isInfix C12.kwComment C12.hdrComment = false := by decide +kernel

/-- the default header in front of a comment brings in no placeholder word -/
theorem noPh_hdr_append {t : Str} (ht : NoPh t) : NoPh (nativeHeader ++ t) := by
  intro l i hi
  cases hc : isInfix (phWord l i) (nativeHeader ++ t) with
  | false => rfl
  | true =>
    exfalso
    have hnl : ∀ c ∈ ['\n'], c ∉ phWord l i := fun c hc h => by
      rw [List.mem_singleton.mp hc] at h
      exact (phWord_chars l i _ h).2.2.2.2.2.2.1 rfl
    rw [C12.nativeHeader_split, List.append_assoc] at hc
    rcases isInfix_append_cases hc with h | h | ⟨p1, c2, p2, e1, _, _, hh⟩
    · rw [noPh_of_noComment hdr_noComment l i hi] at h; cases h
    · have h := infix_guard_left hnl (phWord_ne l i) h
      rw [ht l i hi] at h; cases h
    · exact hnl c2 (by simpa using hh.symm) (by rw [e1]; simp)

section
open DictIO.C03c

theorem phLine_free {P Q pad : Str} (hne : P ≠ []) (hch : ∀ c ∈ P, isWs c = false ∧ c ≠ ';') (hpne : pad ≠ [])
    (hws : pad.all isWs = true) (hPQ : isInfix P Q = false) : isInfix P (Q ++ pad ++ Q ++ [';']) = false := by
  cases hc : isInfix P (Q ++ pad ++ Q ++ [';']) with
  | false => rfl
  | true =>
    exfalso
    have hsemi : ∀ c ∈ [';'], c ∉ P := by
      intro c hc hm
      rw [List.mem_singleton.mp hc] at hm
      exact (hch ';' hm).2 rfl
    have hpad : ∀ c ∈ pad, c ∉ P := by
      intro c hc hm
      have h1 := (hch c hm).1
      rw [List.all_eq_true.mp hws c hc] at h1; cases h1
    rw [show Q ++ pad ++ Q ++ [';'] = Q ++ (pad ++ (Q ++ [';'])) by simp] at hc
    rcases isInfix_append_cases hc with h1 | h1 | ⟨p1, c2, p2, e1, _, _, hh⟩
    · rw [h1] at hPQ; cases hPQ
    · have h2 := infix_guard_right hsemi hne (infix_guard_left hpad hne h1)
      rw [h2] at hPQ; cases hPQ
    · cases pad with
      | nil => exact absurd rfl hpne
      | cons y pad' =>
        simp only [List.cons_append, List.head?_cons, Option.some.injEq] at hh
        subst hh
        exact hpad y (by simp) (by rw [e1]; simp)

theorem ph_free {l l' : Bool} {i j : Nat} {pad : Str} (hi : i ≤ 999999) (hj : j ≤ 999999) (hne : pad ≠ [])
    (hws : pad.all isWs = true) (hd : ¬(l' = l ∧ j = i)) : isInfix (phWord l i) (XTok.ph l' j pad).text = false := by
  refine phLine_free (phWord_ne l i) (fun c hc => ⟨(phWord_chars l i c hc).1, (phWord_chars l i c hc).2.2.2.2.2.2.2.2.1⟩)
    hne hws ?_
  cases h : isInfix (phWord l i) (phWord l' j) with
  | false => rfl
  | true => obtain ⟨rfl, rfl⟩ := phWord_infix hi hj h; exact absurd ⟨rfl, rfl⟩ hd

/-- `none`: the placeholder line of comment `(l, i)` is still in the text -/
abbrev Asg := Bool → Nat → Option Str

def rd (σ : Asg) : XTok → Str
  | .ph l i pad => (σ l i).getD (XTok.text (.ph l i pad))
  | t => t.text

/-- one `re.sub`: the first text given to a placeholder stays -/
def Asg.put (σ : Asg) (l : Bool) (i : Nat) (repl : Str) : Asg :=
  fun l' j => if l' = l ∧ j = i then (σ l' j).orElse fun _ => some repl else σ l' j

def Asg.putT (σ : Asg) (l : Bool) (T : Tbl Str) : Asg :=
  fun l' j => if l' = l then (σ l' j).orElse fun _ => T.get? j else σ l' j

def asg0 : Asg := fun _ _ => none

def asgOf (L B : Tbl Str) : Asg := fun l i => (if l then L else B).get? i

def AsgOK (σ : Asg) : Prop := ∀ l i txt, σ l i = some txt → NoPh txt

theorem rd_asg0 : rd asg0 = XTok.text := by
  funext t; cases t <;> rfl

theorem AsgOK.put {σ : Asg} (h : AsgOK σ) (l : Bool) (i : Nat) {repl : Str} (hr : NoPh repl) : AsgOK (σ.put l i repl) := by
  intro l' j txt e
  simp only [Asg.put] at e
  split at e
  · cases hs : σ l' j with
    | none => rw [hs] at e; cases e; exact hr
    | some t => rw [hs] at e; cases e; exact h l' j _ hs
  · exact h l' j txt e

theorem Asg.put_ne (σ : Asg) {l : Bool} {i j : Nat} (h : j ≠ i) (repl : Str) : (σ.put l i repl) l j = σ l j := by
  simp [Asg.put, h]

theorem Asg.putT_nil (σ : Asg) (l : Bool) : σ.putT l [] = σ := by
  funext l' j
  simp only [Asg.putT, Tbl.get?]
  split
  · cases σ l' j <;> rfl
  · rfl

theorem foldl_put (l : Bool) : ∀ (T : Tbl Str) (σ : Asg), T.foldl (fun σ e => σ.put l e.1 e.2) σ = σ.putT l T
  | [], σ => (Asg.putT_nil σ l).symm
  | (i, txt) :: T, σ => by
    rw [List.foldl_cons, foldl_put l T]
    funext l' j
    simp only [Asg.putT, Asg.put, Tbl.get?]
    by_cases hl : l' = l
    · by_cases hj : j = i
      · subst hj; cases σ l' j <;> simp [hl]
      · have : ¬ i = j := fun e => hj e.symm
        cases σ l' j <;> simp [hl, hj, this]
    · simp [hl]

theorem asgOf_eq (L B : Tbl Str) : (asg0.putT false B).putT true L = asgOf L B := by
  funext l i
  cases l <;> simp [Asg.putT, asgOf, asg0]

theorem isPhX_ne {l l' : Bool} {i j : Nat} {pad : Str} (hd : ¬(l' = l ∧ j = i)) : isPhX l i (.ph l' j pad) = false := by
  simp only [isPhX, Bool.and_eq_false_iff, beq_eq_false_iff_ne, ne_eq]
  by_cases h1 : l' = l
  · exact Or.inr fun h2 => hd ⟨h1, h2⟩
  · exact Or.inl h1

theorem subOK_rd {σ : Asg} (hσ : AsgOK σ) {t : XTok} (ht : TokInv t) (l : Bool) {i : Nat} (hi : i ≤ 999999) (repl : Str) :
    SubOK (phWord l i) repl (rd σ) (rd (σ.put l i repl)) (fun t => (σ l i).isNone && isPhX l i t) t := by
  cases t with
  | tok s => exact Or.inr ⟨by simp [isPhX], rfl, ht l i hi⟩
  | cmt l' f => exact Or.inr ⟨by simp [isPhX], rfl, ht l i hi⟩
  | ph l' j pad =>
    obtain ⟨hj, hne, hws⟩ := ht
    by_cases hd : l' = l ∧ j = i
    · obtain ⟨rfl, rfl⟩ := hd
      cases hs : σ l' j with
      | none =>
        exact Or.inl ⟨by simp [isPhX], by simp [rd, Asg.put, hs], pad, hne, hws, by simp [rd, hs, XTok.text]⟩
      | some txt =>
        exact Or.inr ⟨by simp, by simp [rd, Asg.put, hs],
          by simp only [rd, hs, Option.getD_some]; exact hσ _ _ txt hs _ _ hi⟩
    · refine Or.inr ⟨by simp [isPhX_ne hd], by simp [rd, Asg.put, hd], ?_⟩
      cases hs : σ l' j with
      | none => simp only [rd, hs, Option.getD_none]; exact ph_free hi hj hne hws hd
      | some txt => simp only [rd, hs, Option.getD_some]; exact hσ l' j txt hs l i hi

theorem subP_layG (l : Bool) (i : Nat) (hi : i ≤ 999999) (repl : Str) (σ : Asg) (hσ : AsgOK σ)
    (lay : List (Str × XTok)) (c : Ctx) (tail : Str) (ok : okX c lay = true) (ht : tail.all isWs = true)
    (hinv : ∀ p ∈ lay, TokInv p.2) :
    subP (phWord l i) repl (layG (rd σ) lay tail) =
      (layG (rd (σ.put l i repl)) lay tail, (σ l i).isNone && lay.any fun p => isPhX l i p.2) := by
  have hch : ∀ c ∈ phWord l i, isWs c = false ∧ Gen.delimiters.contains c = false :=
    fun c hc => ⟨(phWord_chars l i c hc).1, (phWord_chars l i c hc).2.1⟩
  have hdel : ∀ t, isDelimX (id t) = true → rd σ t = (id t).text := fun t h => by cases t <;> first | rfl | cases h
  rw [← layA_layG, subP_lay id hdel (phWord_ne l i) hch repl _ _ lay c tail (by simpa using ok) ht
      (fun p hp => subOK_rd hσ (hinv p hp) l hi repl), layA_layG]
  cases (σ l i).isNone <;> simp

/-! ## 3. the two insertion passes on a layout -/

theorem insertLine_layG (L : Tbl Str) (hL : ∀ e ∈ L, e.1 ≤ 999999 ∧ NoPh e.2) (lay : List (Str × XTok)) (c : Ctx)
    (tail : Str) (ok : okX c lay = true) (ht : tail.all isWs = true) (hinv : ∀ p ∈ lay, TokInv p.2) (σ : Asg)
    (hσ : AsgOK σ) : insertLineComments L (layG (rd σ) lay tail) = layG (rd (σ.putT true L)) lay tail := by
  rw [← foldl_put]
  induction L generalizing σ with
  | nil => rfl
  | cons e L ih =>
    have he := hL e List.mem_cons_self
    have e1 : insertLineComments (e :: L) (layG (rd σ) lay tail) =
        insertLineComments L (subP (phWord true e.1) e.2 (layG (rd σ) lay tail)).1 := rfl
    rw [e1, subP_layG true e.1 he.1 e.2 σ hσ lay c tail ok ht hinv, List.foldl_cons]
    exact ih (fun e' he' => hL e' (List.mem_cons_of_mem _ he')) _ (hσ.put true e.1 he.2)

/-- the step of `insert_block_comments` -/
def blockF (acc : Str × Str × Bool) (e : Nat × Str) : Str × Str × Bool :=
  let bc := if acc.2.2 then makeDefaultBlockComment .native e.2 else e.2
  let bc := if isInfix bc acc.2.1 then [] else bc
  let r := substPh kwBlock e.1 bc acc.1
  if r.2 then (r.1, acc.2.1 ++ bc, false) else (acc.1, acc.2.1, false)

theorem insertBlock_eq (B : Tbl Str) (s : Str) :
    insertBlockComments .native B s =
      (if (B.foldl blockF (s, [], true)).2.1.isEmpty then makeDefaultBlockComment .native [] ++ (B.foldl blockF (s, [], true)).1
       else (B.foldl blockF (s, [], true)).1) := rfl

/-- no text is contained in what has been written before it -/
def indepFrom : Str → List Str → Bool
  | _, [] => true
  | sofar, t :: ts => !isInfix t sofar && indepFrom (sofar ++ t) ts

/-- one step of the block-comment pass on a layout, with the text to insert given -/
theorem blockF_step (σ : Asg) (hσ : AsgOK σ) (lay : List (Str × XTok)) (c : Ctx) (tail sofar : Str) (first : Bool)
    (e : Nat × Str) (bc : Str) (ok : okX c lay = true) (ht : tail.all isWs = true) (hinv : ∀ p ∈ lay, TokInv p.2)
    (hi : e.1 ≤ 999999) (hbc : bc = if first then makeDefaultBlockComment .native e.2 else e.2)
    (hind : isInfix bc sofar = false) (hnone : σ false e.1 = none)
    (hpres : (lay.any fun p => isPhX false e.1 p.2) = true) :
    blockF (layG (rd σ) lay tail, sofar, first) e = (layG (rd (σ.put false e.1 bc)) lay tail, sofar ++ bc, false) := by
  have hsub := subP_layG false e.1 hi bc σ hσ lay c tail ok ht hinv
  have e1 : substPh kwBlock e.1 bc (layG (rd σ) lay tail) = subP (phWord false e.1) bc (layG (rd σ) lay tail) := rfl
  simp only [blockF, ← hbc, hind, Bool.false_eq_true, if_false, e1, hsub, hpres, hnone, Option.isNone_none, Bool.and_self,
    if_true]

theorem blockF_rest (lay : List (Str × XTok)) (c : Ctx) (tail : Str) (ok : okX c lay = true)
    (ht : tail.all isWs = true) (hinv : ∀ p ∈ lay, TokInv p.2) : ∀ (B : Tbl Str) (σ : Asg) (sofar : Str), AsgOK σ →
    (∀ e ∈ B, e.1 ≤ 999999 ∧ NoPh e.2 ∧ σ false e.1 = none ∧ (lay.any fun p => isPhX false e.1 p.2) = true) →
    (B.map (·.1)).Nodup → indepFrom sofar (B.map (·.2)) = true →
    ∃ sofar', B.foldl blockF (layG (rd σ) lay tail, sofar, false) =
      (layG (rd (B.foldl (fun σ e => σ.put false e.1 e.2) σ)) lay tail, sofar ++ sofar', false)
  | [], σ, sofar, _, _, _, _ => ⟨[], by simp⟩
  | e :: B, σ, sofar, hσ, hB, hnd, hind => by
    have he := hB e List.mem_cons_self
    simp only [List.map_cons, indepFrom, Bool.and_eq_true, Bool.not_eq_true'] at hind
    simp only [List.map_cons, List.nodup_cons] at hnd
    simp only [List.foldl_cons]
    rw [blockF_step σ hσ lay c tail sofar false e e.2 ok ht hinv he.1 rfl hind.1 he.2.2.1 he.2.2.2]
    obtain ⟨s', hs'⟩ := blockF_rest lay c tail ok ht hinv B (σ.put false e.1 e.2) (sofar ++ e.2) (hσ.put false e.1 he.2.1)
      (fun e' he' => by
        have h' := hB e' (List.mem_cons_of_mem _ he')
        refine ⟨h'.1, h'.2.1, ?_, h'.2.2.2⟩
        rw [Asg.put_ne σ (fun h => hnd.1 (by rw [← h]; exact List.mem_map_of_mem he'))]
        exact h'.2.2.1)
      hnd.2 hind.2
    exact ⟨e.2 ++ s', by rw [hs']; simp⟩

/-- the texts the block-comment pass inserts: the first one completed by the default header unless it is a header -/
def blockTbl : Tbl Str → Tbl Str
  | [] => []
  | (i, t) :: B => (i, makeDefaultBlockComment .native t) :: B

/-- with at least one block comment nothing is put in front of the text: the first comment is completed to a header
    (`blockTbl`) -/
theorem insertBlock_layG (e : Nat × Str) (B : Tbl Str) (σ : Asg) (hσ : AsgOK σ) (lay : List (Str × XTok)) (c : Ctx)
    (tail : Str) (ok : okX c lay = true) (ht : tail.all isWs = true) (hinv : ∀ p ∈ lay, TokInv p.2)
    (hB : ∀ e' ∈ e :: B, e'.1 ≤ 999999 ∧ NoPh e'.2 ∧ σ false e'.1 = none ∧
      (lay.any fun p => isPhX false e'.1 p.2) = true)
    (hnd : ((e :: B).map (·.1)).Nodup) (hind : indepFrom [] ((blockTbl (e :: B)).map (·.2)) = true) :
    insertBlockComments .native (e :: B) (layG (rd σ) lay tail) =
      layG (rd (σ.putT false (blockTbl (e :: B)))) lay tail := by
  obtain ⟨i, t⟩ := e
  have he := hB (i, t) List.mem_cons_self
  have hhdr : NoPh (makeDefaultBlockComment .native t) := by
    rw [C12.makeDefault_native]
    split
    · exact he.2.1
    · exact noPh_hdr_append he.2.1
  simp only [blockTbl, List.map_cons, indepFrom, Bool.and_eq_true, Bool.not_eq_true'] at hind
  simp only [List.map_cons, List.nodup_cons] at hnd
  have hstep := blockF_step σ hσ lay c tail [] true (i, t) (makeDefaultBlockComment .native t) ok ht hinv he.1
    (if_pos rfl).symm hind.1 he.2.2.1 he.2.2.2
  obtain ⟨s', hs'⟩ := blockF_rest lay c tail ok ht hinv B (σ.put false i (makeDefaultBlockComment .native t))
    ([] ++ makeDefaultBlockComment .native t) (hσ.put false i hhdr)
    (fun e' he' => by
      have h' := hB e' (List.mem_cons_of_mem _ he')
      refine ⟨h'.1, h'.2.1, ?_, h'.2.2.2⟩
      rw [Asg.put_ne σ (fun h => hnd.1 (by rw [← h]; exact List.mem_map_of_mem he'))]
      exact h'.2.2.1)
    hnd.2 hind.2
  have hne : ([] ++ makeDefaultBlockComment .native t ++ s').isEmpty = false := by
    have := C12.makeDefault_native_ne t
    cases hm : makeDefaultBlockComment .native t with
    | nil => exact absurd hm this
    | cons x r => rfl
  rw [insertBlock_eq, List.foldl_cons, hstep, hs']
  simp only [hne, Bool.false_eq_true, if_false]
  rw [← foldl_put false (blockTbl ((i, t) :: B))]
  rfl

end

section
open DictIO.C03c

/-! ## 4. the tokens of the raw output; the document that is written -/

/-- every placeholder entry of the tree has its comment in the table of its kind -/
def phCov (L B : Tbl Str) : Entries → Bool
  | [] => true
  | (_, .dict es) :: r => phCov L B es && phCov L B r
  | (_, .list _) :: r => phCov L B r
  | (k, .leaf x) :: r =>
    (match phOf k x with
     | some (true, i) => (L.get? i).isSome
     | some (false, i) => (B.get? i).isSome
     | none => true) && phCov L B r

/-- what the tokens of the raw output are: admissible source tokens and well-formed placeholder lines with a comment
    in the table -/
def XOK (L B : Tbl Str) : XTok → Prop
  | .tok s => C02.TokOK s
  | .cmt _ _ => False
  | .ph l i pad => i ≤ 999999 ∧ pad ≠ [] ∧ pad.all isWs = true ∧ ((if l then L else B).get? i).isSome = true

theorem tokOK_word {w : Str} (h : isSrcWord w = true) : C02.TokOK (.word w) := Or.inl h

theorem delims_ok : C02.TokOK (.word ['{']) ∧ C02.TokOK (.word ['}']) ∧ C02.TokOK (.word ['(']) ∧
    C02.TokOK (.word [')']) ∧ C02.TokOK (.word [';']) :=
  ⟨C02.tokOK_delim (by decide), C02.tokOK_delim (by decide), C02.tokOK_delim (by decide), C02.tokOK_delim (by decide),
    C02.tokOK_delim (by decide)⟩

theorem xtoks_ok (L B : Tbl Str) : ∀ (d lvl : Nat) (D : Entries), wshEs d D = true → phCov L B D = true →
    ∀ x ∈ xtoksEs lvl D, XOK L B x := by
  intro d lvl D
  induction D using Entries.ind generalizing d lvl with
  | nil => intro _ _ x hx; simp [xtoksEs] at hx
  | leaf k y r ih =>
    intro h hc x hx
    simp only [wshEs, Bool.and_eq_true, Bool.or_eq_true, decide_eq_true_eq] at h
    simp only [phCov, Bool.and_eq_true] at hc
    simp only [xtoksEs, List.mem_append] at hx
    rcases hx with hx | hx
    · cases hp : phOf k y with
      | some li =>
        obtain ⟨l, i⟩ := li
        rw [hp] at hx hc
        simp only [List.mem_singleton] at hx
        subst hx
        refine ⟨(phOf_some hp).2.2, padOf_ne _ _, padOf_ws _ _, ?_⟩
        cases l <;> simpa using hc.1
      | none =>
        rw [hp] at hx h
        simp only [List.mem_cons, List.not_mem_nil, or_false] at hx
        rcases h.1 with h1 | h1
        · cases h1
        · rcases hx with rfl | rfl | rfl
          · exact tokOK_word (C01.domKey_word h1.1.1)
          · exact C02.tokOK_lit (C01.written_ok h1.1.2)
          · exact delims_ok.2.2.2.2
    · exact ih d lvl h.2 hc.2 x hx
  | list k xs r ih =>
    intro h hc x hx
    simp only [wshEs, Bool.and_eq_true] at h
    simp only [phCov] at hc
    simp only [xtoksEs, List.mem_cons, List.mem_append, List.mem_map, List.not_mem_nil, or_false] at hx
    rcases hx with (rfl | (rfl | ⟨t, ht, rfl⟩) | rfl | rfl) | hx
    · exact tokOK_word (C01.domKey_word h.1.1)
    · exact delims_ok.2.2.1
    · exact C02.srcToksXs_ok _ (d + 1) (C01.srcOfXs_wf (d + 1) xs h.1.2) t ht
    · exact delims_ok.2.2.2.1
    · exact delims_ok.2.2.2.2
    · exact ih d lvl h.2 hc x hx
  | dict k es r ihs ih =>
    intro h hc x hx
    simp only [wshEs, Bool.and_eq_true] at h
    simp only [phCov, Bool.and_eq_true] at hc
    simp only [xtoksEs, List.mem_cons, List.mem_append, List.not_mem_nil, or_false] at hx
    rcases hx with ((rfl | rfl | hx) | rfl) | hx
    · exact tokOK_word (C01.domKey_word h.1.1)
    · exact delims_ok.1
    · exact ihs (d + 1) (lvl + 1) h.1.2 hc.1 x hx
    · exact delims_ok.2.1
    · exact ih d lvl h.2 hc.2 x hx

def lineBody (full : Str) : Str := full.drop 2
def blockBody (full : Str) : Str := ((full.drop 2).dropLast).dropLast

/-- **the document that is written** for a tree with placeholder entries and the two comment tables: a placeholder
    entry becomes its comment, every other entry is spelled as the writer spells it -/
def docEs (L B : Tbl Str) : Entries → List CItem
  | [] => []
  | (k, .dict es) :: r => .entry (keyStr k) (.dict (docEs L B es)) :: docEs L B r
  | (k, .list xs) :: r => .entry (keyStr k) (.list (srcOfXs .native xs)) :: docEs L B r
  | (k, .leaf x) :: r =>
    (match phOf k x with
     | some (true, i) => .lineC (lineBody ((L.get? i).getD []))
     | some (false, i) => .blockC (blockBody ((B.get? i).getD []))
     | none => .entry (keyStr k) (.lit (writtenLit .native x))) :: docEs L B r

/-- the token of the written document that a token of the raw layout stands for, under an assignment -/
def cOf (σ : Asg) : XTok → CTok
  | .tok s => .tok s
  | .cmt true f => .lineC (lineBody f)
  | .cmt false f => .blockC (blockBody f)
  | .ph true i _ => .lineC (lineBody ((σ true i).getD []))
  | .ph false i _ => .blockC (blockBody ((σ false i).getD []))

theorem ctoks_doc (L B : Tbl Str) : ∀ (lvl : Nat) (D : Entries),
    ctoksItems (docEs L B D) = (xtoksEs lvl D).map (cOf (asgOf L B)) := by
  intro lvl D
  induction D using Entries.ind generalizing lvl with
  | nil => simp [docEs, xtoksEs, ctoksItems]
  | leaf k x r ih =>
    cases hp : phOf k x with
    | none => simp [docEs, hp, ctoksItems, xtoksEs, ih lvl, cOf]
    | some li =>
      obtain ⟨l, i⟩ := li
      cases l <;> simp [docEs, hp, ctoksItems, xtoksEs, ih lvl, cOf, asgOf]
  | list k xs r ih =>
    simp only [docEs, ctoksItems, xtoksEs, ih lvl, List.map_cons, List.map_append, List.map_map, cOf,
      List.cons_append, List.append_assoc, List.nil_append, List.cons.injEq, true_and]
    congr 1
  | dict k es r ihs ih =>
    simp only [docEs, ctoksItems, xtoksEs, ihs (lvl + 1), ih lvl, List.map_cons, List.map_append, cOf,
      List.cons_append, List.append_assoc, List.nil_append]

/-! ## 5. from the layout to `spreadC` / `GapsOKC` -/

theorem blockBody_eq (x : Str) : blockBody ('/' :: '*' :: x ++ ['*', '/']) = x := by
  have : ∀ x : Str, ((x ++ ['*', '/']).dropLast).dropLast = x := by
    intro x
    rw [show x ++ ['*', '/'] = (x ++ ['*']) ++ ['/'] by simp, List.dropLast_concat, List.dropLast_concat]
  simp [blockBody]

theorem layG_spreadC (c : XTok → CTok) (tx : XTok → Str) : ∀ (l : List (Str × XTok)) (tail : Str),
    (∀ p ∈ l, (c p.2).text = tx p.2) → layG tx l tail = spreadC (l.map fun p => c p.2) (l.map Prod.fst) tail
  | [], _, _ => rfl
  | (g, t) :: l, tail, h => by
    have ih := layG_spreadC c tx l tail (fun p hp => h p (List.mem_cons_of_mem _ hp))
    simp only [spreadC] at ih ⊢
    simp only [layG, List.map_cons, spread, h (g, t) List.mem_cons_self, ih, List.append_assoc]

def KindOK (c : XTok → CTok) (t : XTok) : Prop :=
  (isCommentX t = false ∧ ∃ s, t = .tok s ∧ c t = .tok s) ∨
  (isCommentX t = true ∧ isDelimX t = false ∧ ctxAfter t = .ln ∧ ∃ x, c t = .lineC x) ∨
  (isCommentX t = true ∧ isDelimX t = false ∧ ctxAfter t = .bk ∧ ∃ x, c t = .blockC x)

theorem kind_cOf (σ : Asg) (t : XTok) : KindOK (cOf σ) t := by
  cases t with
  | tok s => exact Or.inl ⟨rfl, s, rfl, rfl⟩
  | cmt l f => cases l; exact Or.inr (Or.inr ⟨rfl, rfl, rfl, _, rfl⟩); exact Or.inr (Or.inl ⟨rfl, rfl, rfl, _, rfl⟩)
  | ph l i pad => cases l; exact Or.inr (Or.inr ⟨rfl, rfl, rfl, _, rfl⟩); exact Or.inr (Or.inl ⟨rfl, rfl, rfl, _, rfl⟩)

theorem gapsOKC_of_okX (c : XTok → CTok) (hk : ∀ t, KindOK c t) (tail : Str) (ht : tail.all isWs = true)
    (hnl : tail.head? = some '\n') :
    ∀ (l : List (Str × XTok)) (cx : Ctx), okX cx l = true →
    (∀ g t r, l = (g, t) :: r → isCommentX t = true → g ≠ []) →
    GapsOKC (l.map fun p => c p.2) (l.map Prod.fst) tail = true
  | [], _, _, _ => rfl
  | [(g, t)], cx, ok, hfirst => by
    simp only [okX, Bool.and_eq_true] at ok
    have hg := hfirst g t [] rfl
    simp only [List.map_cons, List.map_nil, GapsOKC, Bool.and_eq_true, ok.1.1, ht, true_and]
    rcases hk t with ⟨_, s, rfl, e⟩ | ⟨hc, _, _, x, e⟩ | ⟨hc, _, _, x, e⟩
    · rw [e]
    · simp [e, hnl, hg hc]
    · simp [e, hg hc]
  | (g, t) :: (g', u) :: l, cx, ok, hfirst => by
    simp only [okX, Bool.and_eq_true] at ok
    obtain ⟨⟨hgws, _⟩, ⟨⟨hg'ws, hgap⟩, okr⟩⟩ := ok
    have hg := hfirst g t _ rfl
    -- the gap in front of `u` is non-empty when `u` is a comment
    have hu : isCommentX u = true → g' ≠ [] := by
      intro hcu
      rcases hk t with ⟨_, s, rfl, _⟩ | ⟨_, _, hctx, _⟩ | ⟨_, _, hctx, _⟩
      · cases hd : isDelimSTok s
        · simp only [ctxAfter, hd, gapOK, Bool.false_eq_true, if_false, Bool.or_eq_true, Bool.not_eq_true',
            List.isEmpty_eq_false_iff] at hgap
          rcases hgap with h | h
          · rcases hk u with ⟨hn, _⟩ | ⟨_, hd', _⟩ | ⟨_, hd', _⟩
            · rw [hn] at hcu; cases hcu
            · rw [hd'] at h; cases h
            · rw [hd'] at h; cases h
          · exact h
        · simp only [ctxAfter, hd, gapOK, if_true, Bool.or_eq_true, Bool.not_eq_true',
            List.isEmpty_eq_false_iff, hcu] at hgap
          rcases hgap with h | h
          · cases h
          · exact h
      · rw [hctx] at hgap
        simp only [gapOK, beq_iff_eq] at hgap
        intro e; rw [e] at hgap; cases hgap
      · rw [hctx] at hgap
        simpa [gapOK] using hgap
    have ih := gapsOKC_of_okX c hk tail ht hnl ((g', u) :: l) (ctxAfter t) (by simp [okX, hg'ws, hgap, okr])
      (fun g2 t2 r2 e hc2 => by
        simp only [List.cons.injEq, Prod.mk.injEq] at e
        obtain ⟨⟨rfl, rfl⟩, _⟩ := e
        exact hu hc2)
    simp only [List.map_cons] at ih ⊢
    simp only [GapsOKC, Bool.and_eq_true, hgws, ih, and_true, true_and]
    rcases hk t with ⟨_, s, rfl, e⟩ | ⟨hc, _, hctx, x, e⟩ | ⟨hc, _, hctx, x, e⟩
    · rcases hk u with ⟨_, s', rfl, e'⟩ | ⟨hc', _, _, x', e'⟩ | ⟨hc', _, _, x', e'⟩
      · simp only [e, e']
        cases hd : isDelimSTok s
        · simp only [ctxAfter, hd, gapOK, isDelimX, Bool.false_eq_true, if_false] at hgap
          simpa [Bool.or_comm, hd] using hgap
        · simp
      · rw [e, e']; simpa using hu hc'
      · rw [e, e']; simpa using hu hc'
    · rw [hctx] at hgap
      simp only [gapOK, beq_iff_eq] at hgap
      simp [e, hg hc, hgap]
    · rw [hctx] at hgap
      have : g' ≠ [] := by simpa [gapOK] using hgap
      simp [e, hg hc, this]

/-- a layout whose final gap starts with a line feed, as `spreadC` / `GapsOKC`: put a line feed in front and the first
    gap is fine -/
theorem layG_to_spreadC (c : XTok → CTok) (hk : ∀ t, KindOK c t) (tx : XTok → Str) (l : List (Str × XTok)) (g0 : Str)
    (t0 : XTok) (tail : Str) (ht : tail.all isWs = true) (hnl : tail.head? = some '\n')
    (ok : okX .cov ((g0, t0) :: l) = true) (htx : ∀ p ∈ (g0, t0) :: l, (c p.2).text = tx p.2) :
    layG tx ((g0, t0) :: l) tail = spreadC (((g0, t0) :: l).map fun p => c p.2) (g0 :: l.map Prod.fst) tail ∧
    GapsOKC (((g0, t0) :: l).map fun p => c p.2) (('\n' :: g0) :: l.map Prod.fst) tail = true := by
  refine ⟨layG_spreadC c tx _ tail htx, ?_⟩
  have := gapsOKC_of_okX c hk tail ht hnl (('\n' :: g0, t0) :: l) .cov
    (by
      simp only [okX, Bool.and_eq_true, List.all_cons] at ok ⊢
      exact ⟨⟨⟨isWs_nl, ok.1.1⟩, rfl⟩, ok.2⟩)
    (by
      intro g t r e _
      simp only [List.cons.injEq, Prod.mk.injEq] at e
      rw [← e.1.1]; simp)
  simpa using this

/-! ## 6. the texts: source tokens, comment texts, the default header -/

theorem tokGood_of_ok {t : STok} (h : C02.TokOK t) : C01.TokGood t := by
  cases t with
  | word w =>
    rcases h with h | h
    · exact C01.tokGood_srcWord h
    · obtain ⟨c, rfl, hc⟩ := C02.delimTok_inv h
      exact C01.tokGood_word (by simp) (by
        intro x hx
        simp only [List.mem_singleton] at hx
        subst hx
        exact (delim_table x hc).1)
  | quoted q b => exact C01.tokGood_quoted h

/-- a line comment as it stands in the table: `//` + a one-line text that does not end in white space (trailing white
    space would be removed by `remove_trailing_spaces`) and contains no placeholder word -/
def LineFull (full : Str) : Prop :=
  ∃ x, full = '/' :: '/' :: x ∧ isLineCText x = true ∧ (∀ z, x.getLast? = some z → isWs z = false) ∧ NoPh full

/-- a block comment as it stands in the table: `/*` + text + `*/`, no carriage return, no line with trailing white
    space (`remove_trailing_spaces` leaves it alone), no placeholder word -/
def BlockFull (full : Str) : Prop :=
  ∃ x, full = '/' :: '*' :: x ++ ['*', '/'] ∧ isBlockCText x = true ∧ (∀ c ∈ full, c ≠ '\r') ∧ C01.rts full = full ∧
    NoPh full

theorem slash_facts : isWs '/' = false ∧ '/' ≠ '\n' := by decide

theorem lineBreak_nl_cr : isLineBreak '\n' = true ∧ isLineBreak '\r' = true := by decide

theorem solid_line {full : Str} (h : LineFull full) : Solid full := by
  obtain ⟨x, rfl, hx, hlast, _⟩ := h
  simp only [isLineCText, List.all_eq_true, Bool.not_eq_true'] at hx
  have hnl : ∀ c ∈ '/' :: '/' :: x, c ≠ '\n' ∧ c ≠ '\r' := by
    intro c hc
    simp only [List.mem_cons] at hc
    rcases hc with rfl | rfl | hc
    · decide
    · decide
    · have := hx c hc
      constructor
      · rintro rfl; rw [lineBreak_nl_cr.1] at this; cases this
      · rintro rfl; rw [lineBreak_nl_cr.2] at this; cases this
  have hend : ∃ a z, '/' :: '/' :: x = a ++ [z] ∧ isWs z = false := by
    rcases List.eq_nil_or_concat x with rfl | ⟨x', z, rfl⟩
    · exact ⟨['/'], '/', rfl, slash_facts.1⟩
    · exact ⟨'/' :: '/' :: x', z, by simp, hlast z (by simp)⟩
  obtain ⟨a, z, e, hz⟩ := hend
  exact .of_line e hz hnl

theorem solid_block {full : Str} (h : BlockFull full) : Solid full := by
  obtain ⟨x, rfl, _, hcr, hfix, _⟩ := h
  refine ⟨⟨'/' :: '*' :: x ++ ['*'], '/', by simp, slash_facts.1⟩, hcr, hfix, ?_⟩
  rw [List.cons_append, C01.blankHead_cons slash_facts.2, slash_facts.1]
  rfl

theorem noPh_line {full : Str} (h : LineFull full) : NoPh full := by
  obtain ⟨_, _, _, _, hno⟩ := h; exact hno

theorem noPh_block {full : Str} (h : BlockFull full) : NoPh full := by
  obtain ⟨_, _, _, _, _, hno⟩ := h; exact hno

/-! ### the default header as a block comment -/

theorem hdr_noCr : ∀ c ∈ C12.hdrComment, c ≠ '\r' := by decide +kernel
theorem hdr_rts : C01.rts C12.hdrComment = C12.hdrComment := by decide +kernel
theorem hdrBody_text : isBlockCText C12.hdrBody = true := by decide +kernel

theorem hdr_blockFull : BlockFull C12.hdrComment :=
  ⟨C12.hdrBody, C12.hdrComment_shape, hdrBody_text, hdr_noCr, hdr_rts, noPh_of_noComment hdr_noComment⟩

/-! ## 7. the raw layout of the top level: its first gap is empty -/

theorem word_head {w : Str} (h : isSrcWord w = true) : ∃ c s, w = c :: s ∧ isWs c = false := by
  have hw := (C02.Main.srcWord_iff.mp h).1
  simp only [isWordTok, Bool.and_eq_true, Bool.not_eq_true', List.all_eq_true] at hw
  cases w with
  | nil => simp at hw
  | cons c s => exact ⟨c, s, rfl, (hw.1.2 c (by simp)).1⟩

/-- the raw output of the writer starts with a non-blank -/
theorem fmt_head {d : Nat} {e : Key × Val} {r : Entries} (h : wshEs d (e :: r) = true) :
    ∃ c, (fmtEntries .native 0 (e :: r)).head? = some c ∧ isWs c = false := by
  obtain ⟨k, v⟩ := e
  have hsp : spaces (4 * 0) = [] := rfl
  cases v with
  | dict es =>
    simp only [wshEs, Bool.and_eq_true] at h
    obtain ⟨c, s, e, hc⟩ := word_head (C01.domKey_word h.1.1)
    refine ⟨c, ?_, hc⟩
    simp only [fmtEntries, fline, hsp, e, List.nil_append, List.cons_append, List.append_assoc, List.head?_cons]
  | list xs =>
    simp only [wshEs, Bool.and_eq_true] at h
    obtain ⟨c, s, e, hc⟩ := word_head (C01.domKey_word h.1.1)
    refine ⟨c, ?_, hc⟩
    simp only [fmtEntries, fline, hsp, e, List.nil_append, List.cons_append, List.append_assoc, List.head?_cons]
  | leaf x =>
    simp only [wshEs, Bool.and_eq_true, Bool.or_eq_true, decide_eq_true_eq] at h
    cases hp : phOf k x with
    | some li =>
      obtain ⟨l, i⟩ := li
      obtain ⟨rfl, rfl, _⟩ := phOf_some hp
      obtain ⟨c, s, e, hc⟩ := phWord_head l i
      refine ⟨c, ?_, hc⟩
      simp only [fmtEntries, fline, hsp, formatKey, phWord_format, List.nil_append]
      rw [e]
      simp only [List.cons_append, List.append_assoc, List.head?_cons]
    | none =>
      rw [hp] at h
      rcases h.1 with h1 | h1
      · cases h1
      · obtain ⟨c, s, e, hc⟩ := word_head (C01.domKey_word h1.1.1)
        refine ⟨c, ?_, hc⟩
        simp only [fmtEntries, fline, hsp, C01.formatKey_dom h1.1.1, List.nil_append]
        rw [e]
        simp only [List.cons_append, List.append_assoc, List.head?_cons]

theorem xtoks_nil {lvl : Nat} : ∀ {D : Entries}, xtoksEs lvl D = [] → D = []
  | [], _ => rfl
  | (k, .dict es) :: r, h => by simp [xtoksEs] at h
  | (k, .list xs) :: r, h => by simp [xtoksEs] at h
  | (k, .leaf x) :: r, h => by
    simp only [xtoksEs, List.append_eq_nil_iff] at h
    cases hp : phOf k x with
    | some li => obtain ⟨l, i⟩ := li; rw [hp] at h; simp at h
    | none => rw [hp] at h; simp at h

theorem raw_layout (τ : Bool → Nat → Str) {D : Entries} (h : wshEs 1 D = true) (hne : D ≠ []) :
    ∃ t r, t :: r.map Prod.snd = xtoksEs 0 D ∧ fmtEntries .native 0 D = layX (([], t) :: r) ['\n'] ∧
      C03c.fmtT τ 0 D = C03c.layG (C03c.txOf τ) (([], t) :: r) ['\n'] ∧ okX .cov (([], t) :: r) = true := by
  rcases C03c.lays_entriesP τ 1 0 D h with ⟨hx, _⟩ | ⟨_, lay, hm, htxt, hfin, ok, _⟩
  · exact absurd (xtoks_nil hx) hne
  · cases D with
    | nil => exact absurd rfl hne
    | cons e D' =>
      obtain ⟨c, hcs, hc⟩ := fmt_head h
      rw [htxt] at hcs
      cases lay with
      | nil =>
        simp only [layX, List.head?_cons, Option.some.injEq] at hcs
        rw [← hcs] at hc; cases hc
      | cons p lay' =>
        obtain ⟨g, t⟩ := p
        cases g with
        | nil => exact ⟨t, lay', hm, htxt, hfin, ok⟩
        | cons y g' =>
          simp only [layX, List.cons_append, List.head?_cons, Option.some.injEq] at hcs
          simp only [okX, List.all_cons, Bool.and_eq_true] at ok
          rw [← hcs, ok.1.1.1] at hc; cases hc

/-! ## 8. the writer on an SDict with comments -/

def ownHeader (B : Tbl Str) : Bool :=
  match B with
  | (_, t) :: _ => containsCpp t
  | [] => false

/-- the default header, when the first block comment is no header of its own -/
def hdrToks (B : Tbl Str) : List XTok := if ownHeader B then [] else [.cmt false C12.hdrComment]
def hdrItems (B : Tbl Str) : List CItem := if ownHeader B then [] else [.blockC C12.hdrBody]

/-- the first block comment of the table stands first in the (hoisted) top level, and only there -/
def FirstOK (B : Tbl Str) (xs : List XTok) : Prop :=
  match B with
  | [] => True
  | (i0, _) :: _ => ∃ pad r, xs = .ph false i0 pad :: r ∧ ∀ t ∈ r, isPhX false i0 t = false

theorem tokInv_of_xok {L B : Tbl Str} {t : XTok} (h : XOK L B t) : TokInv t := by
  cases t with
  | tok s => exact noPh_of_noComment (C12.tok_noComment h).1
  | cmt l f => exact h.elim
  | ph l i pad => exact ⟨h.1, h.2.1, h.2.2.1⟩

theorem any_map_snd (lay : List (Str × XTok)) (p : XTok → Bool) :
    (lay.any fun q => p q.2) = (lay.map Prod.snd).any p := by
  induction lay with
  | nil => rfl
  | cons q lay ih => simp [ih]

theorem nativeHeader_lay (s : Str) : nativeHeader ++ s = C12.hdrComment ++ ('\n' :: s) := by
  rw [C12.nativeHeader_split]; simp

/-- the default header as a token of its own in front of a layout, unless the first block comment is a header -/
def withHdr (B : Tbl Str) : List (Str × XTok) → List (Str × XTok)
  | [] => []
  | (g, t) :: r => if ownHeader B then (g, t) :: r else ([], .cmt false C12.hdrComment) :: ('\n' :: g, t) :: r

theorem withHdr_toks (B : Tbl Str) (p : Str × XTok) (r : List (Str × XTok)) :
    (withHdr B (p :: r)).map Prod.snd = hdrToks B ++ (p :: r).map Prod.snd := by
  simp only [withHdr, hdrToks]
  split <;> rfl

theorem withHdr_text (tx : XTok → Str) (B : Tbl Str) (p : Str × XTok) (r : List (Str × XTok)) (tail : Str) :
    C03c.layG tx (withHdr B (p :: r)) tail =
      (if ownHeader B then [] else tx (.cmt false C12.hdrComment) ++ ['\n']) ++ C03c.layG tx (p :: r) tail := by
  simp only [withHdr]
  split <;> simp [C03c.layG]

theorem withHdr_ok (B : Tbl Str) {p : Str × XTok} {r : List (Str × XTok)} (ok : okX .cov (p :: r) = true) :
    okX .cov (withHdr B (p :: r)) = true := by
  simp only [withHdr]
  split
  · exact ok
  · simp only [okX, Bool.and_eq_true, List.all_cons] at ok ⊢
    exact ⟨⟨rfl, rfl⟩, ⟨⟨isWs_nl, ok.1.1⟩, gapOK_nl _ _ _⟩, ok.2⟩

/-- **the block-comment pass on the raw layout** (first gap empty, the placeholder line of the first block comment of
    the table first, and only there): the tokens stay, every block-comment placeholder line reads as the table has it;
    the default header stands in front as a token of its own, unless the first comment is a header -/
theorem block_stage (B : Tbl Str) (t0 : XTok) (r0 : List (Str × XTok)) (tail : Str)
    (ok : okX .cov (([], t0) :: r0) = true) (ht : tail.all isWs = true) (hinv : ∀ p ∈ (([] : Str), t0) :: r0, TokInv p.2)
    (hB : ∀ e ∈ B, e.1 ≤ 999999 ∧ BlockFull e.2) (hnd : (B.map (·.1)).Nodup)
    (hpres : ∀ e ∈ B, ((t0 :: r0.map Prod.snd).any fun t => isPhX false e.1 t) = true)
    (hfirst : FirstOK B (t0 :: r0.map Prod.snd)) (hind : indepFrom [] ((blockTbl B).map (·.2)) = true) :
    insertBlockComments .native B (layX (([], t0) :: r0) tail) =
      layG (rd (asg0.putT false B)) (withHdr B (([], t0) :: r0)) tail := by
  rw [← layG_text, ← rd_asg0]
  cases B with
  | nil =>
    rw [C12.C12_header_default, nativeHeader_lay, Asg.putT_nil]
    simp [withHdr, ownHeader, layG, rd, XTok.text]
  | cons e B' =>
    obtain ⟨i0, t0'⟩ := e
    obtain ⟨pad, rx, hxs, huniq⟩ := hfirst
    simp only [List.cons.injEq] at hxs
    obtain ⟨rfl, hr0⟩ := hxs
    have hno : ∀ e' ∈ (i0, t0') :: B', NoPh e'.2 := fun e' he' => noPh_block (hB e' he').2
    rw [insertBlock_layG (i0, t0') B' asg0 (fun _ _ _ h => by cases h) (([], XTok.ph false i0 pad) :: r0) .cov tail ok ht hinv
      (fun e' he' => ⟨(hB e' he').1, hno e' he', rfl, by rw [any_map_snd]; exact hpres e' he'⟩) hnd hind]
    -- the completed first comment is read at the first token only; there it is split into header and comment
    have hrest : layG (rd (asg0.putT false (blockTbl ((i0, t0') :: B')))) r0 tail =
        layG (rd (asg0.putT false ((i0, t0') :: B'))) r0 tail := by
      rw [← layA_layG, ← layA_layG]
      refine layA_congr r0 tail fun p hp => ?_
      have := huniq p.2 (by rw [← hr0]; exact List.mem_map_of_mem hp)
      cases hp2 : p.2 with
      | tok s => rfl
      | cmt l f => rfl
      | ph l j pad' =>
        rw [hp2] at this
        cases l with
        | true => simp [rd, Asg.putT, asg0]
        | false =>
          have hj : ¬ i0 = j := by
            have : ¬ j = i0 := by simpa [isPhX] using this
            exact fun e => this e.symm
          simp [rd, Asg.putT, blockTbl, Tbl.get?, hj, asg0]
    simp only [layG, hrest, withHdr, ownHeader]
    rw [show rd (asg0.putT false (blockTbl ((i0, t0') :: B'))) (.ph false i0 pad) =
        makeDefaultBlockComment .native t0' by simp [rd, Asg.putT, blockTbl, Tbl.get?, asg0], C12.makeDefault_native]
    by_cases hcpp : containsCpp t0' = true
    · simp [hcpp, layG, rd, Asg.putT, Tbl.get?, asg0]
    · simp [hcpp, layG, rd, Asg.putT, Tbl.get?, nativeHeader_lay, XTok.text, asg0]

theorem mem_withHdr {B : Tbl Str} {lay : List (Str × XTok)} {p : Str × XTok} (hp : p ∈ withHdr B lay) :
    p.2 = .cmt false C12.hdrComment ∨ ∃ q ∈ lay, q.2 = p.2 := by
  cases lay with
  | nil => cases hp
  | cons q r =>
    simp only [withHdr] at hp
    split at hp
    · exact Or.inr ⟨p, hp, rfl⟩
    · rcases List.mem_cons.mp hp with rfl | hp
      · exact Or.inl rfl
      · rcases List.mem_cons.mp hp with rfl | hp
        · exact Or.inr ⟨q, List.mem_cons_self, rfl⟩
        · exact Or.inr ⟨p, List.mem_cons_of_mem _ hp, rfl⟩

/-- the hypotheses of the writer theorem on an SDict -/
structure WOK (sd : SD) : Prop where
  shape : wshEs 1 (hoistPlaceholders sd.data) = true
  cov : phCov sd.lineC sd.blockC (hoistPlaceholders sd.data) = true
  lineT : ∀ e ∈ sd.lineC, e.1 ≤ 999999 ∧ LineFull e.2
  blockT : ∀ e ∈ sd.blockC, e.1 ≤ 999999 ∧ BlockFull e.2
  bNodup : (sd.blockC.map (·.1)).Nodup
  bPres : ∀ e ∈ sd.blockC, ((xtoksEs 0 (hoistPlaceholders sd.data)).any fun t => isPhX false e.1 t) = true
  first : FirstOK sd.blockC (xtoksEs 0 (hoistPlaceholders sd.data))
  indep : indepFrom [] ((blockTbl sd.blockC).map (·.2)) = true
  incl : sd.incl = []

/-- the commented document the writer writes for an SDict: the default header unless the first block comment is a
    header, then the (hoisted) top level with every placeholder entry replaced by its comment -/
def docSD (sd : SD) : List CItem :=
  hdrItems sd.blockC ++ docEs sd.lineC sd.blockC (hoistPlaceholders sd.data)

theorem rd_facts {L B : Tbl Str} (hL : ∀ e ∈ L, e.1 ≤ 999999 ∧ LineFull e.2) (hB : ∀ e ∈ B, e.1 ≤ 999999 ∧ BlockFull e.2)
    {x : XTok} (hx : XOK L B x) :
    Solid (rd (asgOf L B) x) ∧ (cOf (asgOf L B) x).text = rd (asgOf L B) x := by
  cases x with
  | tok s => exact ⟨C01.solid_of_good (tokGood_of_ok hx), rfl⟩
  | cmt l f => exact hx.elim
  | ph l i pad =>
    obtain ⟨txt, ht⟩ := Option.isSome_iff_exists.mp hx.2.2.2
    cases l with
    | true =>
      simp only [if_true] at ht
      have hf := (hL _ (tbl_get_mem ht)).2
      have e : rd (asgOf L B) (.ph true i pad) = txt := by simp [rd, asgOf, ht]
      rw [e]
      refine ⟨solid_line hf, ?_⟩
      obtain ⟨y, rfl, _⟩ := hf
      simp [cOf, asgOf, ht, lineBody, CTok.text]
    | false =>
      simp only [Bool.false_eq_true, if_false] at ht
      have hf := (hB _ (tbl_get_mem ht)).2
      have e : rd (asgOf L B) (.ph false i pad) = txt := by simp [rd, asgOf, ht]
      rw [e]
      refine ⟨solid_block hf, ?_⟩
      obtain ⟨y, rfl, _⟩ := hf
      simp only [cOf, asgOf, Bool.false_eq_true, if_false, ht, Option.getD_some, blockBody_eq, CTok.text]

theorem hdr_facts (σ : Asg) : Solid (rd σ (.cmt false C12.hdrComment)) ∧
    (cOf σ (.cmt false C12.hdrComment)).text = rd σ (.cmt false C12.hdrComment) := by
  refine ⟨solid_block hdr_blockFull, ?_⟩
  have : C12.hdrComment = '/' :: '*' :: C12.hdrBody ++ ['*', '/'] := C12.hdrComment_shape
  simp only [cOf, rd, XTok.text, CTok.text]
  rw [this, blockBody_eq]

theorem ctoks_hdr (σ : Asg) (B : Tbl Str) (doc : List CItem) :
    ctoksItems (hdrItems B ++ doc) = (hdrToks B).map (cOf σ) ++ ctoksItems doc := by
  simp only [hdrItems, hdrToks]
  split
  · rfl
  · have : C12.hdrComment = '/' :: '*' :: C12.hdrBody ++ ['*', '/'] := C12.hdrComment_shape
    simp only [List.singleton_append, ctoksItems, List.map_cons, List.map_nil, cOf]
    rw [this, blockBody_eq]

section
variable (sd : SD) (h : WOK sd)
include h

theorem passes_nil (hD : hoistPlaceholders sd.data = []) :
    insertLineComments sd.lineC (insertBlockComments .native sd.blockC (fmtEntries .native 0 (hoistPlaceholders sd.data))) =
      nativeHeader ∧ sd.blockC = [] := by
  have hB : sd.blockC = [] := by
    cases hBc : sd.blockC with
    | nil => rfl
    | cons e B' =>
      have := h.bPres e (by rw [hBc]; exact List.mem_cons_self)
      rw [hD] at this
      simp [xtoksEs] at this
  refine ⟨?_, hB⟩
  have hlay : nativeHeader = layG (rd asg0) [([], XTok.cmt false C12.hdrComment)] ['\n'] := by
    simp [layG, rd, XTok.text, C12.nativeHeader_split]
  rw [hD, hB, C12.C12_header_default, fmtEntries, List.append_nil, hlay,
    insertLine_layG sd.lineC (fun e he => ⟨(h.lineT e he).1, noPh_line (h.lineT e he).2⟩) _ .cov ['\n']
      (by simp [okX, gapOK]) (by decide)
      (fun p hp => by
        simp only [List.mem_singleton] at hp
        subst hp
        exact noPh_of_noComment hdr_noComment)
      asg0 (fun _ _ _ h => by cases h)]
  simp [layG, rd]

theorem passes_layG (t0 : XTok) (r0 : List (Str × XTok))
    (hm : t0 :: r0.map Prod.snd = xtoksEs 0 (hoistPlaceholders sd.data)) (ok : okX .cov (([], t0) :: r0) = true) :
    insertLineComments sd.lineC (insertBlockComments .native sd.blockC (layX (([], t0) :: r0) ['\n'])) =
      layG (rd (asgOf sd.lineC sd.blockC)) (withHdr sd.blockC (([], t0) :: r0)) ['\n'] := by
  have hraw : ∀ p ∈ (([] : Str), t0) :: r0, TokInv p.2 := fun p hp =>
    tokInv_of_xok (xtoks_ok sd.lineC sd.blockC 1 0 _ h.shape h.cov p.2 (hm ▸ List.mem_map_of_mem (f := Prod.snd) hp))
  rw [block_stage sd.blockC t0 r0 ['\n'] ok (by decide) hraw h.blockT h.bNodup
    (by rw [hm]; exact h.bPres) (by rw [hm]; exact h.first) h.indep,
    insertLine_layG sd.lineC (fun e he => ⟨(h.lineT e he).1, noPh_line (h.lineT e he).2⟩)
      _ .cov ['\n'] (withHdr_ok _ ok) (by decide)
      (fun p hp => by
        rcases mem_withHdr hp with e | ⟨q, hq, e⟩
        · rw [e]; exact noPh_of_noComment hdr_noComment
        · rw [← e]; exact hraw q hq)
      _ (fun l i txt e => by
        cases l <;> simp only [Asg.putT, asg0, if_true, Bool.true_eq_false, if_false, Option.orElse] at e
        · exact noPh_block (h.blockT _ (tbl_get_mem e)).2
        · cases e),
    asgOf_eq]

end

theorem rd_tx {L B : Tbl Str} {t : XTok} (h : XOK L B t) : rd (asgOf L B) t = txOf (tauOf L B) t := by
  cases t with
  | tok s => rfl
  | cmt l f => rfl
  | ph l i pad =>
    obtain ⟨txt, ht⟩ := Option.isSome_iff_exists.mp h.2.2.2
    cases l <;> simp only [if_true, Bool.false_eq_true, if_false] at ht <;> simp [rd, asgOf, ht, txOf, tauOf]

/-- After `insert_block_comments` and `insert_line_comments` the text is the raw layout in which
    every placeholder line `PH<pad>PH;` reads as its comment (the first block comment completed by the default header,
    written as a block comment of its own in front, unless it is a header itself; with no block comment at all the
    default header stands first): first gap empty, final gap one line feed, admissible, every token read as something
    solid, namely as the text of its token in `docSD sd`.  As a text it is the raw output with the comments in the place
    of the placeholder lines (`fmtT`), behind the default header if that is added. -/
theorem insert_comments_layout (sd : SD) (h : WOK sd) :
    ∃ t r, ((([] : Str), t) :: r).map (fun p => cOf (asgOf sd.lineC sd.blockC) p.2) = ctoksItems (docSD sd) ∧
      insertLineComments sd.lineC (insertBlockComments .native sd.blockC
        (fmtEntries .native 0 (hoistPlaceholders sd.data))) = layG (rd (asgOf sd.lineC sd.blockC)) (([], t) :: r) ['\n'] ∧
      okX .cov (([], t) :: r) = true ∧
      (∀ p ∈ (([] : Str), t) :: r, Solid (rd (asgOf sd.lineC sd.blockC) p.2) ∧
        (cOf (asgOf sd.lineC sd.blockC) p.2).text = rd (asgOf sd.lineC sd.blockC) p.2) ∧
      layG (rd (asgOf sd.lineC sd.blockC)) (([], t) :: r) ['\n'] =
        (if ownHeader sd.blockC then [] else (XTok.cmt false C12.hdrComment).text ++ ['\n']) ++
          fmtT (tauOf sd.lineC sd.blockC) 0 (hoistPlaceholders sd.data) := by
  by_cases hD : hoistPlaceholders sd.data = []
  · obtain ⟨e, hB⟩ := passes_nil sd h hD
    refine ⟨.cmt false C12.hdrComment, [], ?_, ?_, by simp [okX, gapOK], ?_, ?_⟩
    · rw [docSD, ctoks_hdr (asgOf sd.lineC sd.blockC), hD]
      simp [hdrToks, ownHeader, hB, docEs, ctoksItems]
    · rw [e]; simp [layG, rd, XTok.text, C12.nativeHeader_split]
    · intro p hp
      simp only [List.mem_singleton] at hp
      subst hp
      exact hdr_facts _
    · simp [hD, hB, ownHeader, fmtT, layG, rd]
  · obtain ⟨t0, r0, hm, hraw, hfin, ok⟩ := raw_layout (tauOf sd.lineC sd.blockC) h.shape hD
    have hxok := xtoks_ok sd.lineC sd.blockC 1 0 _ h.shape h.cov
    have htext : layG (rd (asgOf sd.lineC sd.blockC)) (withHdr sd.blockC (([], t0) :: r0)) ['\n'] =
        (if ownHeader sd.blockC then [] else (XTok.cmt false C12.hdrComment).text ++ ['\n']) ++
          fmtT (tauOf sd.lineC sd.blockC) 0 (hoistPlaceholders sd.data) := by
      rw [hfin, withHdr_text, ← layA_layG, ← layA_layG,
        layA_congr (([], t0) :: r0) _ fun p hp => rd_tx (hxok p.2 (hm ▸ List.mem_map_of_mem (f := Prod.snd) hp))]
      rfl
    have hpass := passes_layG sd h t0 r0 hm ok
    rw [← hraw] at hpass
    have htoks : (withHdr sd.blockC (([], t0) :: r0)).map (fun p => cOf (asgOf sd.lineC sd.blockC) p.2) =
        ctoksItems (docSD sd) := by
      have := congrArg (List.map (cOf (asgOf sd.lineC sd.blockC))) (withHdr_toks sd.blockC (([] : Str), t0) r0)
      rw [List.map_map] at this
      rw [docSD, ctoks_hdr (asgOf sd.lineC sd.blockC), ctoks_doc sd.lineC sd.blockC 0, ← hm]
      simpa [Function.comp_def] using this
    have hmem : ∀ p ∈ withHdr sd.blockC (([], t0) :: r0), Solid (rd (asgOf sd.lineC sd.blockC) p.2) ∧
        (cOf (asgOf sd.lineC sd.blockC) p.2).text = rd (asgOf sd.lineC sd.blockC) p.2 := by
      intro p hp
      rcases mem_withHdr hp with e | ⟨q, hq, e⟩
      · rw [e]; exact hdr_facts _
      · rw [← e]; exact rd_facts h.lineT h.blockT (hxok q.2 (hm ▸ List.mem_map_of_mem (f := Prod.snd) hq))
    have hok := withHdr_ok sd.blockC ok
    cases hown : ownHeader sd.blockC with
    | true =>
      simp only [withHdr, hown, if_true] at hpass htoks hok hmem htext
      exact ⟨_, _, htoks, hpass, hok, hmem, htext⟩
    | false =>
      simp only [withHdr, hown, Bool.false_eq_true, if_false] at hpass htoks hok hmem htext
      exact ⟨_, _, htoks, hpass, hok, hmem, htext⟩

end

/-- The text after both insertion passes is a layout of the document `docSD sd`
    (`spreadC (ctoksItems …)`), admissible (`GapsOKC`) once a line feed is put in front. -/
theorem insert_comments_spreadC (sd : SD) (h : WOK sd) :
    ∃ gaps, insertLineComments sd.lineC (insertBlockComments .native sd.blockC
        (fmtEntries .native 0 (hoistPlaceholders sd.data))) = spreadC (ctoksItems (docSD sd)) ([] :: gaps) ['\n'] ∧
      GapsOKC (ctoksItems (docSD sd)) (['\n'] :: gaps) ['\n'] = true := by
  obtain ⟨t, r, hm, htxt, ok, hs, _⟩ := insert_comments_layout sd h
  obtain ⟨h1, h2⟩ := layG_to_spreadC _ (kind_cOf _) _ r [] t ['\n'] (by decide) rfl ok (fun p hp => (hs p hp).2)
  rw [hm] at h1 h2
  exact ⟨r.map Prod.fst, htxt.trans h1, h2⟩

theorem fmtSD_noIncl (sd : SD) (h : sd.incl = []) :
    fmtSD .native sd = some (removeTrailingSpaces (insertLineComments sd.lineC
      (insertBlockComments .native sd.blockC (fmtEntries .native 0 (hoistPlaceholders sd.data))))) := by
  simp only [fmtSD, h, insertIncludes, List.foldl_nil]

/-- **the writer on an SDict with comments** (`C12_write_commented2` of `C12write` applies it to `denC c items`): the
    text is a layout of the document `docSD sd` that starts with its first token; with a line feed put in front, the
    layout is admissible (`GapsOKC`) -/
theorem write_commented (sd : SD) (h : WOK sd) :
    ∃ gaps, fmtSD .native sd = some (spreadC (ctoksItems (docSD sd)) ([] :: gaps) ['\n']) ∧
      GapsOKC (ctoksItems (docSD sd)) (['\n'] :: gaps) ['\n'] = true := by
  obtain ⟨t, r, hm, htxt, ok, hs, _⟩ := insert_comments_layout sd h
  obtain ⟨l', hrts, hm', ok', hfirst'⟩ := removeTrailing_lay _ _ .cov ['\n'] ok (fun p hp => (hs p hp).1)
  obtain ⟨rf, rfl⟩ := hfirst' t r rfl
  have hmem : ∀ p ∈ (([] : Str), t) :: rf,
      (cOf (asgOf sd.lineC sd.blockC) p.2).text = rd (asgOf sd.lineC sd.blockC) p.2 := by
    intro p hp
    have : p.2 ∈ ((([] : Str), t) :: r).map Prod.snd := by rw [← hm']; exact List.mem_map_of_mem hp
    obtain ⟨q, hq, e⟩ := List.mem_map.mp this
    rw [← e]; exact (hs q hq).2
  obtain ⟨h1, h2⟩ := layG_to_spreadC _ (kind_cOf _) _ rf [] t ['\n'] (by decide) rfl ok' hmem
  have e : ((([] : Str), t) :: rf).map (fun p => cOf (asgOf sd.lineC sd.blockC) p.2) = ctoksItems (docSD sd) := by
    have := congrArg (List.map (cOf (asgOf sd.lineC sd.blockC))) hm'
    simpa only [List.map_map, Function.comp_def, hm] using this
  rw [e] at h1 h2
  refine ⟨rf.map Prod.fst, ?_, h2⟩
  rw [fmtSD_noIncl sd h.incl, htxt, hrts, show removeTrailingSpaces ['\n'] = ['\n'] by decide, h1]

/-! ## 9. placeholder words and the library's own recognisers -/

/-- `int(re.findall(r"\d{6}", ph)[0])` is the id -/
theorem firstSix_ph (l : Bool) {i : Nat} (hi : i ≤ 999999) : firstSixDigits (phWord l i) = some i := by
  rw [phWord_kind]; exact Ph.firstSix_ph _ (Nat.lt_succ_of_le hi)

theorem containsPh_own (l : Bool) {i : Nat} (hi : i ≤ 999999) : containsPh (kwOf l) (phWord l i) = true := by
  rw [phWord_kind, kwOf_kind]; exact Ph.containsPh_own _ (Nat.lt_succ_of_le hi)

/-- a placeholder word holds no include placeholder -/
theorem containsPh_incl_ph (l : Bool) (i : Nat) : containsPh kwIncl (phWord l i) = false := by
  rw [phWord_kind]; exact Ph.containsPh_other (a := .incl) (by cases l <;> decide) i

theorem linePh_no_B (i : Nat) : 'B' ∉ phWord true i := Ph.sep_notin (a := .block) (b := .line) (by decide) i

/-- a line-comment placeholder word holds no block-comment placeholder -/
theorem containsPh_block_line (i : Nat) : containsPh kwBlock (phWord true i) = false :=
  Ph.containsPh_other (a := .block) (b := .line) (by decide) i

/-- a block-comment placeholder word holds no line-comment placeholder -/
theorem containsPh_line_block (i : Nat) : containsPh kwLine (phWord false i) = false := by
  exact Ph.containsPh_other (a := .line) (b := .block) (by decide) i

/-- `C12W.phOf` on a placeholder entry -/
theorem phOf_ph (l : Bool) {i : Nat} (hi : i ≤ 999999) :
    phOf (.str (phWord l i)) (.str (phWord l i)) = some (l, i) := by
  cases l with
  | false =>
    have : phIdOf kwBlock (phWord false i) = some i := phIdOf_ph kwBlock hi
    simp [phOf, this]
  | true =>
    have h1 : phIdOf kwBlock (phWord true i) = none := by
      cases h : phIdOf kwBlock (phWord true i) with
      | none => rfl
      | some j => exact absurd (phIdOf_some h).1 (Ph.ph_ne (a := .line) (b := .block) (by decide) i j)
    have h2 : phIdOf kwLine (phWord true i) = some i := phIdOf_ph kwLine hi
    simp [phOf, h1, h2]

/-- a key of the value domain is no placeholder entry -/
theorem phOf_dom {k : Key} (h : isDomKey k = true) (x : Scalar) : phOf k x = none := by
  cases hp : phOf k x with
  | none => rfl
  | some li =>
    obtain ⟨l, i⟩ := li
    exfalso
    obtain ⟨rfl, _, _⟩ := phOf_some hp
    simp only [isDomKey, Bool.and_eq_true] at h
    have := (C02.Main.srcWord_iff.mp h.1.1).2.1
    have h2 : isInfix "COMMENT".toList (phWord l i) = true := kwComment_in_ph l i
    rw [h2] at this; cases this

theorem isPhTok_ph (l : Bool) (i : Nat) : isPhTok (phWord l i) = true := by
  cases l
  · exact (C12.blockPh_tok i).2
  · exact (C12.linePh_tok i).2

/-! ## 10. `hoistPlaceholders` with its two local tests named -/

/- by `rfl`, `isBE e = C06.selB e.1 = C12WI.pB e.1` and `isIE e = C12WI.pI e.1` (C12top); `!isBE e && isIE e = C06.selI e.1` is `C12WI.selI_eq` -/
def isBE (e : Key × Val) : Bool := match e.1 with | .str k => containsPh kwBlock k | _ => false
def isIE (e : Key × Val) : Bool := match e.1 with | .str k => containsPh kwIncl k | _ => false

theorem hoist_def (D : Entries) : hoistPlaceholders D =
    D.filter isBE ++ D.filter (fun e => !isBE e && isIE e) ++ D.filter (fun e => !isBE e && !isIE e) := rfl

end DictIO.C12W
