/-
  C02 (headline) — the native reader is layout tolerant and agrees with the documented grammar, on the *text*.

    `C02_layout_tolerant`   for a well-formed source document `es` (quoted strings included; no comments, includes,
                            `$`) and ANY admissible layout `spreadS (srcToksEs es) gaps tail` of its tokens,
                            `parseNative` returns exactly the documented meaning `denSrcEs es []`, all side tables
                            empty.  `C02_layout_tolerant_counter` also names the counter afterwards;
                            `C02_layout_tolerant_gen` states the documentation-key condition on the meaning.
    `C02_layout_independent_text'`, `C02_never_fails`      corollaries

  The proof (`parseNative_plain`): on an admissible layout of a well-formed document the comment stages are the identity
  (`noMarkup_of_wf`, `commentStages_id` of C02front); the rest of the reader is `parseRest_labelled_counter` (C02ins:
  the reader on labelled documents, from any lexer state) at the fresh state and a document without comment entries;
  `_clean` and the removal of the documentation keys are identities on the meaning, by

    1  `noMarkup_of_wf`     an admissible layout of a well-formed document contains no `//`, no `/*` (also not across a
                            token boundary) and none of its lines starts with `#` (`noMarkup_spread` of C02front:
                            for any tokens with `FrontOK`, which is all these stages need of a token)
    2  `den_noPh`           the meaning has no placeholder key
    3  `den_nodup`          the meaning has unique keys at every level (`denSrcEs` builds with `setKey`): no hypothesis
                            on the document is needed (the theorem has no unique-keys hypothesis)
                            (`ex_native_dup`: `a 1;a 2;` is read as `{a: 2}`); `C12.denP_nodup`: for labelled documents
    4  `den_docKeys`        a key that is not written at the top level is not in the meaning (`denP_keys`,
                            `denP_lookup_none`: for labelled documents)
                            (`C02_needs_docKeys`: the hypothesis `DocKeysAbsent` cannot be dropped)

  Non-vacuity: `ex_native_glued`, `ex_native_loose` (the document and the two layouts of C02lex).  Helper lemmas live
  in `DictIO.C02.Main` (those about the characters of a layout: C02front, 7).
-/
import DictIO.Props.C02lex
import DictIO.Props.C02ins
import DictIO.Props.C02front

namespace DictIO.C02
open DictIO

/-- no top-level key is spelled `_variables` or `_includes` (the reader's `_clean` deletes these two) -/
def DocKeysAbsent (es : SrcEntries) : Prop :=
  ∀ e ∈ es, e.1 ≠ "_variables".toList ∧ e.1 ≠ "_includes".toList

instance (es : SrcEntries) : Decidable (DocKeysAbsent es) := by unfold DocKeysAbsent; infer_instance

namespace Main

theorem typedKey_cases {k : Str} {key : Key} (hk : isSrcWord k = true) (h : keyOfScalar (parseKey k) = some key) :
    (∃ z, key = .int z) ∨ key = .str k := by
  have hq : ∀ c ∈ k, isQuote c = false := fun c hc => ((srcWord_iff.mp hk).2.2.2.2.2.1 c hc).1
  unfold parseKey at h
  cases hp : parseValue k with
  | int z => rw [hp] at h; simp only [keyOfScalar, Option.some.injEq] at h; exact Or.inl ⟨z, h.symm⟩
  | str s =>
    rw [hp] at h; simp only [keyOfScalar, Option.some.injEq] at h
    rw [C04.C04_idem hp hq] at h
    exact Or.inr h.symm
  | float l => rw [hp] at h; simp [keyOfScalar] at h
  | bool b => rw [hp] at h; simp [keyOfScalar] at h
  | none => rw [hp] at h; simp [keyOfScalar] at h

theorem typedKey_noPh {k : Str} {key : Key} (hk : isSrcWord k = true) (h : keyOfScalar (parseKey k) = some key) :
    C07.isPhKey key = false := by
  rcases typedKey_cases hk h with ⟨z, rfl⟩ | rfl
  · rfl
  · obtain ⟨_, hc, hi, _⟩ := srcWord_iff.mp hk
    obtain ⟨e1, e2, e3⟩ := noPh_of_noMarks hc hi
    simp only [C07.isPhKey, e1, e2, e3, Bool.or_self]

mutual
  theorem den_noPhV : ∀ (v : Src) (d : Nat), SrcWFV d v = true → C07.NoPhV (denSrcV v)
    | .lit l, _, _ => by simp only [denSrcV, C07.NoPhV]
    | .list xs, _, _ => by simp only [denSrcV, C07.NoPhV]
    | .dict es, d, h => by
      simp only [SrcWFV] at h
      simp only [denSrcV, C07.NoPhV]
      exact den_noPhEs es (d + 1) [] h (by simp only [C07.NoPhEs])
  theorem den_noPhEs : ∀ (es : SrcEntries) (d : Nat) (acc : Entries), SrcWFEs d es = true → C07.NoPhEs acc →
      C07.NoPhEs (denSrcEs es acc)
    | [], _, _, _, hacc => by simpa only [denSrcEs] using hacc
    | (k, v) :: es, d, acc, h, hacc => by
      simp only [SrcWFEs, Bool.and_eq_true] at h
      obtain ⟨⟨⟨hk, hkey⟩, hv⟩, hes⟩ := h
      cases hko : keyOfScalar (parseKey k) with
      | none => rw [hko] at hkey; cases hkey
      | some key =>
        simp only [denSrcEs, hko]
        exact den_noPhEs es d _ hes (C07.noPhEs_setKey hacc (typedKey_noPh hk hko) (den_noPhV v d hv))
end

mutual
  theorem den_nodupV : ∀ (v : Src), NodupKeysV (denSrcV v)
    | .lit l => by simp only [denSrcV, NodupKeysV]
    | .list xs => by simp only [denSrcV, NodupKeysV]; exact den_nodupXs xs
    | .dict es => by simp only [denSrcV]; exact den_nodupEs es [] C07.nodupV_nil
  theorem den_nodupEs : ∀ (es : SrcEntries) (acc : Entries), NodupKeysV (.dict acc) →
      NodupKeysV (.dict (denSrcEs es acc))
    | [], _, hacc => by simpa only [denSrcEs] using hacc
    | (k, v) :: es, acc, hacc => by
      cases hko : keyOfScalar (parseKey k) with
      | none => simp only [denSrcEs, hko]; exact den_nodupEs es acc hacc
      | some key =>
        simp only [denSrcEs, hko]
        exact den_nodupEs es _ (nodupV_setKey hacc (den_nodupV v))
  theorem den_nodupXs : ∀ (xs : List Src), NodupKeysXs (denSrcXs xs)
    | [] => by simp only [denSrcXs, NodupKeysXs]
    | v :: xs => by simp only [denSrcXs, NodupKeysXs]; exact ⟨den_nodupV v, den_nodupXs xs⟩
end

theorem srcWF_keys {d : Nat} : ∀ {es : SrcEntries}, SrcWFEs d es = true → ∀ e ∈ es, isSrcWord e.1 = true
  | [], _, e, he => by cases he
  | (k, v) :: es, h, e, he => by
    simp only [SrcWFEs, Bool.and_eq_true] at h
    rcases List.mem_cons.mp he with rfl | he
    · exact h.1.1.1
    · exact srcWF_keys h.2 e he

/-- every key of the meaning of a labelled document was there, is a comment placeholder word, or the typed form of
    a written key -/
theorem denP_keys (key : Key) : ∀ (es : SrcEntries) (acc : Entries), key ∈ keys (denPEs es acc) →
    key ∈ keys acc ∨ ∃ e ∈ es, (isPhTok e.1 = true ∧ key = .str e.1) ∨
      (isPhTok e.1 = false ∧ keyOfScalar (parseKey e.1) = some key)
  | [], acc, h => Or.inl (by simpa only [denPEs] using h)
  | (k, v) :: es, acc, h => by
    have lift : (∃ e ∈ es, (isPhTok e.1 = true ∧ key = .str e.1) ∨
        (isPhTok e.1 = false ∧ keyOfScalar (parseKey e.1) = some key)) →
        ∃ e ∈ (k, v) :: es, (isPhTok e.1 = true ∧ key = .str e.1) ∨
          (isPhTok e.1 = false ∧ keyOfScalar (parseKey e.1) = some key) :=
      fun ⟨e, he, hk⟩ => ⟨e, List.mem_cons_of_mem _ he, hk⟩
    cases hp : isPhTok k with
    | true =>
      rw [C12.denPEs_cons_ph hp] at h
      rcases denP_keys key es _ h with h | h
      · rcases keys_setKey_sub h with rfl | h
        · exact Or.inr ⟨(k, v), List.mem_cons_self, Or.inl ⟨hp, rfl⟩⟩
        · exact Or.inl h
      · exact Or.inr (lift h)
    | false =>
      cases hko : keyOfScalar (parseKey k) with
      | none =>
        simp only [denPEs, hp, Bool.false_eq_true, if_false, hko] at h
        rcases denP_keys key es acc h with h | h
        · exact Or.inl h
        · exact Or.inr (lift h)
      | some key' =>
        rw [C12.denPEs_cons hp hko] at h
        rcases denP_keys key es _ h with h | h
        · rcases keys_setKey_sub h with rfl | h
          · exact Or.inr ⟨(k, v), List.mem_cons_self, Or.inr ⟨hp, hko⟩⟩
          · exact Or.inl h
        · exact Or.inr (lift h)

theorem pwf_keys {d : Nat} : ∀ {es : SrcEntries}, SrcPWFEs d es = true → ∀ e ∈ es, isPhTok e.1 = false →
    isSrcWord e.1 = true
  | [], _, e, he, _ => by cases he
  | (k, v) :: es, h, e, he, hp => by
    obtain ⟨h1, hes⟩ := C12.pwf_cons h
    rcases List.mem_cons.mp he with rfl | he
    · rcases h1 with ⟨hp', _⟩ | ⟨_, hk, _⟩
      · rw [hp'] at hp; cases hp
      · exact hk
    · exact pwf_keys hes e he hp

theorem denP_lookup_none {d : Nat} {es : SrcEntries} (h : SrcPWFEs d es = true) {s : Str} (hs : ∀ e ∈ es, e.1 ≠ s) :
    lookup (.str s) (denPEs es []) = none := by
  rw [lookup_eq_none_iff]
  intro hm
  rcases denP_keys _ es [] hm with hm | ⟨e, he, ⟨_, hk⟩ | ⟨hp, hk⟩⟩
  · simp [keys] at hm
  · cases hk; exact hs e he rfl
  · rcases typedKey_cases (pwf_keys h e he hp) hk with ⟨z, hz⟩ | hz
    · cases hz
    · cases hz; exact hs e he rfl

theorem den_lookup_none {d : Nat} {es : SrcEntries} (h : SrcWFEs d es = true) {s : Str} (hs : ∀ e ∈ es, e.1 ≠ s) :
    lookup (.str s) (denSrcEs es []) = none := by
  rw [← C12.denPEs_plain es d [] h]
  exact denP_lookup_none (C12.srcPWF_plain es d h) hs

end Main

open Main

/-- **1.** An admissible layout of a well-formed source document contains no `//`, no `/*` — also not across a token
    boundary: two tokens are glued only if one of them is a delimiter — and none of its lines starts (after white
    space) with `#`: a line starts at a gap or at a token, never inside a quoted string. -/
theorem noMarkup_of_wf {d : Nat} {es : SrcEntries} {gaps : List Str} {tail : Str} (h : SrcWFEs d es = true)
    (hg : GapsOKS (srcToksEs es) gaps = true) (ht : tail.all isWs = true) :
    NoMarkup (spreadS (srcToksEs es) gaps tail) :=
  noMarkup_spread _ gaps tail (fun t ht => .of_ok (srcToks_ok d es h t ht)) hg ht

/-- **2.** The meaning of a well-formed source document has no placeholder key. -/
theorem den_noPh {d : Nat} {es : SrcEntries} (h : SrcWFEs d es = true) : C07.NoPhEs (denSrcEs es []) :=
  den_noPhEs es d [] h (by simp only [C07.NoPhEs])

/-- **3.** The meaning of any source document has unique keys at every dict level (it is built with `d[key] = value`).
    This is why the headline theorem needs no uniqueness hypothesis on the written keys: a key written twice simply
    denotes its last value (at its first position), for the grammar and for the reader alike. -/
theorem den_nodup (es : SrcEntries) : NodupKeysV (.dict (denSrcEs es [])) := den_nodupEs es [] C07.nodupV_nil

/-- **4.** Without the two documentation keys in the text there are none in the meaning. -/
theorem den_docKeys {d : Nat} {es : SrcEntries} (h : SrcWFEs d es = true) (hd : DocKeysAbsent es) :
    lookup (.str "_variables".toList) (denSrcEs es []) = none ∧
    lookup (.str "_includes".toList) (denSrcEs es []) = none :=
  ⟨den_lookup_none h fun e he => (hd e he).1, den_lookup_none h fun e he => (hd e he).2⟩

/-- the reader on any admissible layout of a well-formed source document: the comment stages are the identity
    (`commentStages_id`), the rest is the reader on labelled documents (`parseRest_labelled_counter`) from the fresh
    state, at a document without comment entries -/
theorem parseNative_plain {es : SrcEntries} {gaps : List Str} {tail : Str} {c : Counter} (comments : Bool) (dir : Str)
    (hwf : SrcWFEs 1 es = true) (hg : GapsOKS (srcToksEs es) gaps = true) (ht : tail.all isWs = true)
    (hc : C13.ValidCounter Gen.counterLimit c) (hn : countQuotedEs es ≤ Gen.counterLimit + 1) :
    parseNative comments dir c (spreadS (srcToksEs es) gaps tail) =
      .ok ((C12.finishSD (denSrcEs es []) { counter := c }).1, (labelEs { counter := c } es).1.counter) := by
  rw [parseNative_stages, commentStages_id comments dir c (noMarkup_of_wf hwf hg ht)]
  rw [← C12.srcToksPEs_plain es 1 hwf] at hg ⊢
  rw [parseRest_labelled_counter (C12.srcPWF_plain es 1 hwf) hg ht rfl hc hn, C12.denPEs_plain es 1 [] hwf,
    (labelEs_state es { counter := c }).2.2]

/-- C02 with the condition on the documentation keys stated on the meaning instead of the text -/
theorem C02_layout_tolerant_gen {es : SrcEntries} {gaps : List Str} {tail : Str} {c : Counter}
    (comments : Bool) (dir : Str)
    (hwf : SrcWFEs 1 es = true) (hg : GapsOKS (srcToksEs es) gaps = true) (ht : tail.all isWs = true)
    (hc : C13.ValidCounter Gen.counterLimit c) (hn : countQuotedEs es ≤ Gen.counterLimit + 1)
    (h1 : lookup (.str "_variables".toList) (denSrcEs es []) = none)
    (h2 : lookup (.str "_includes".toList) (denSrcEs es []) = none) :
    parseNative comments dir c (spreadS (srcToksEs es) gaps tail) =
      .ok ({ data := denSrcEs es [] }, (labelEs { counter := c } es).1.counter) := by
  rw [parseNative_plain comments dir hwf hg ht hc hn, finishSD_noPh _ (den_noPh hwf) (den_nodup es) h1 h2]

/-- **C02, with the counter spelled out.** -/
theorem C02_layout_tolerant_counter {es : SrcEntries} {gaps : List Str} {tail : Str} {c : Counter}
    (comments : Bool) (dir : Str)
    (hwf : SrcWFEs 1 es = true) (hg : GapsOKS (srcToksEs es) gaps = true) (ht : tail.all isWs = true)
    (hc : C13.ValidCounter Gen.counterLimit c) (hn : countQuotedEs es ≤ Gen.counterLimit + 1)
    (hd : DocKeysAbsent es) :
    parseNative comments dir c (spreadS (srcToksEs es) gaps tail) =
      .ok ({ data := denSrcEs es [] }, (labelEs { counter := c } es).1.counter) :=
  C02_layout_tolerant_gen comments dir hwf hg ht hc hn (den_docKeys hwf hd).1 (den_docKeys hwf hd).2

/-- **C02 — the reader is layout tolerant and agrees with the documented grammar.**  For a well-formed source
    document `es` (keys and bare scalars are words, strings may be quoted; no comments, includes, `$`; leaf paths no
    longer than 10) and ANY admissible layout of its tokens — every gap white space of any kind (blanks, tabs, line
    feeds, CR LF, any `\s` character), two tokens glued only if one of them is a delimiter, white space in front and
    behind — the reader `parse_string`, with `comments` on or off, returns exactly the meaning `denSrcEs es []` the
    documentation gives the document, with all side tables empty.

    Hypotheses beyond the layout: the counter state is one that can occur; the document has at most
    `counterLimit + 1` quoted strings (else the wrapping counter hands out an id twice); the two documentation keys
    `_variables`, `_includes`, which the reader deletes, are not written at the top level.  No uniqueness hypothesis on
    the keys is needed (`den_nodup`). -/
theorem C02_layout_tolerant {es : SrcEntries} {gaps : List Str} {tail : Str} {c : Counter}
    (comments : Bool) (dir : Str) :
    SrcWFEs 1 es = true → GapsOKS (srcToksEs es) gaps = true → tail.all isWs = true →
    C13.ValidCounter Gen.counterLimit c → countQuotedEs es ≤ Gen.counterLimit + 1 →
    DocKeysAbsent es →
    ∃ c', parseNative comments dir c (spreadS (srcToksEs es) gaps tail) = .ok ({ data := denSrcEs es [] }, c') :=
  fun hwf hg ht hc hn hd => ⟨_, C02_layout_tolerant_counter comments dir hwf hg ht hc hn hd⟩

/-- two admissible layouts of the same document are read to the same data (and leave the same counter) -/
theorem C02_layout_independent_text' {es : SrcEntries} {gaps₁ gaps₂ : List Str} {tail₁ tail₂ : Str} {c : Counter}
    (comments : Bool) (dir : Str) (hwf : SrcWFEs 1 es = true)
    (hg₁ : GapsOKS (srcToksEs es) gaps₁ = true) (ht₁ : tail₁.all isWs = true)
    (hg₂ : GapsOKS (srcToksEs es) gaps₂ = true) (ht₂ : tail₂.all isWs = true)
    (hc : C13.ValidCounter Gen.counterLimit c) (hn : countQuotedEs es ≤ Gen.counterLimit + 1)
    (hd : DocKeysAbsent es) :
    parseNative comments dir c (spreadS (srcToksEs es) gaps₁ tail₁) =
      parseNative comments dir c (spreadS (srcToksEs es) gaps₂ tail₂) := by
  rw [C02_layout_tolerant_counter comments dir hwf hg₁ ht₁ hc hn hd,
    C02_layout_tolerant_counter comments dir hwf hg₂ ht₂ hc hn hd]

/-- the reader does not fail on an admissible layout of a well-formed document -/
theorem C02_never_fails {es : SrcEntries} {gaps : List Str} {tail : Str} {c : Counter}
    (comments : Bool) (dir : Str)
    (hwf : SrcWFEs 1 es = true) (hg : GapsOKS (srcToksEs es) gaps = true) (ht : tail.all isWs = true)
    (hc : C13.ValidCounter Gen.counterLimit c) (hn : countQuotedEs es ≤ Gen.counterLimit + 1)
    (hd : DocKeysAbsent es) :
    ∃ r, parseNative comments dir c (spreadS (srcToksEs es) gaps tail) = .ok r :=
  ⟨_, C02_layout_tolerant_counter comments dir hwf hg ht hc hn hd⟩

/-! ## non-vacuity of C02: the example document of `C02lex` (three quoted strings, a list, a nested dict) -/

def exData : Entries :=
  [ (.str ['k'], .leaf (.str "a; {b}".toList)),
    (.str ['l'], .list [.leaf (.str "it's".toList), .leaf (.int 1)]),
    (.str "sub".toList, .dict [(.str ['p'], .leaf (.str "x y".toList))]) ]

theorem exSrc_den : denSrcEs exSrc [] = exData := by decide +kernel

theorem exSrc_docKeys : DocKeysAbsent exSrc := by decide +kernel

theorem exSrc_count : countQuotedEs exSrc = 3 := by decide

/-- the whole reader on the glued layout -/
theorem ex_native_glued (comments : Bool) (dir : Str) :
    parseNative comments dir none "k 'a; {b}';l(\"it's\" 1);sub{p 'x y';}".toList =
      .ok ({ data := exData }, some 2) := by
  have h := C02_layout_tolerant_counter (c := none) (tail := []) comments dir exSrc_wf exSGapsGlued_ok rfl
    (Or.inl rfl) (by rw [exSrc_count]; decide) exSrc_docKeys
  rw [exSGlued_text, exSrc_den, exSrc_label_st.1] at h
  exact h

/-- … and on the layout with tabs, CR LF, a no-break space, a leading tab and a trailing CR LF -/
theorem ex_native_loose (comments : Bool) (dir : Str) :
    parseNative comments dir none
        "\tk  'a; {b}' ;\r\nl (\t\"it's\"\u00a01 );\r\n\r\nsub\n{\n  p\t\t'x y';\n}\r\n".toList =
      .ok ({ data := exData }, some 2) := by
  have h := C02_layout_tolerant_counter (c := none) (tail := ['\r', '\n']) comments dir exSrc_wf exSGapsLoose_ok
    (by decide) (Or.inl rfl) (by rw [exSrc_count]; decide) exSrc_docKeys
  rw [exSLoose_text, exSrc_den, exSrc_label_st.1] at h
  exact h

/-! ### a key written twice: no uniqueness hypothesis is needed -/

/-- `a 1;a 2;` -/
def exDup : SrcEntries := [(['a'], .lit (.bare ['1'])), (['a'], .lit (.bare ['2']))]

/-- the document means `{a: 2}` and that is what the reader returns -/
theorem ex_native_dup (comments : Bool) (dir : Str) :
    parseNative comments dir none "a 1;a 2;".toList = .ok ({ data := [(.str ['a'], .leaf (.int 2))] }, none) := by
  have h := C02_layout_tolerant_counter (es := exDup) (gaps := [[], [' '], [], [], [' '], []]) (c := none) (tail := [])
    comments dir (by decide +kernel) (by decide +kernel) rfl (Or.inl rfl) (by decide +kernel) (by decide +kernel)
  have e1 : spreadS (srcToksEs exDup) [[], [' '], [], [], [' '], []] [] = "a 1;a 2;".toList := by
    literal_chars; decide +kernel
  have e2 : denSrcEs exDup [] = [(.str ['a'], .leaf (.int 2))] := by decide +kernel
  rw [e1, e2] at h
  exact h

/-! ### the hypothesis on the documentation keys is needed -/

/-- `_variables 1;` -/
def exVars : SrcEntries := [("_variables".toList, .lit (.bare ['1']))]

/-- the document is well formed and means `{_variables: 1}`, but the reader's `_clean` deletes the entry -/
theorem C02_needs_docKeys :
    SrcWFEs 1 exVars = true ∧ GapsOKS (srcToksEs exVars) [[], [' '], []] = true ∧
    ¬ ∃ c', parseNative true [] none (spreadS (srcToksEs exVars) [[], [' '], []] []) =
      .ok ({ data := denSrcEs exVars [] }, c') := by
  have hwf : SrcWFEs 1 exVars = true := by decide +kernel
  have hg : GapsOKS (srcToksEs exVars) [[], [' '], []] = true := by decide +kernel
  refine ⟨hwf, hg, ?_⟩
  have ht : ([] : Str).all isWs = true := rfl
  rw [parseNative_plain true [] hwf hg ht (Or.inl rfl) (by decide +kernel)]
  simp only [C12.finishSD, clean_plain (den_noPh hwf) (den_nodup _)]
  rintro ⟨c', h⟩
  have h' : dropDocKeys (denSrcEs exVars []) = denSrcEs exVars [] :=
    congrArg (fun r => match r with | .ok x => x.1.data | .error _ => []) h
  revert h'
  decide +kernel

end DictIO.C02

namespace DictIO.C12
open DictIO

/-- `den_nodup` for labelled documents -/
theorem denP_nodup (es : SrcEntries) : ∀ (acc : Entries), NodupKeysV (.dict acc) →
    NodupKeysV (.dict (denPEs es acc)) := by
  -- an entry sets a key to its own word, to the meaning of its value, or is skipped
  have step : ∀ {k : Str} {v : Src} {es : SrcEntries}, NodupKeysV (denPV v) →
      (∀ acc, NodupKeysV (.dict acc) → NodupKeysV (.dict (denPEs es acc))) →
      ∀ acc, NodupKeysV (.dict acc) → NodupKeysV (.dict (denPEs ((k, v) :: es) acc)) := by
    intro k v es hv ih acc hacc
    simp only [denPEs]
    split
    · exact ih _ (nodupV_setKey hacc (by simp only [NodupKeysV]))
    · split
      · exact ih _ (nodupV_setKey hacc hv)
      · exact ih _ hacc
  induction es using SrcEntries.ind with
  | nil => intro acc hacc; simpa only [denPEs] using hacc
  | lit k l es ih => exact step (by simp only [denPV, NodupKeysV]) ih
  | list k xs es ih => exact step (by simp only [denPV, NodupKeysV]; exact C02.Main.den_nodupXs xs) ih
  | dict k dd es ihd ih => exact step (by simp only [denPV]; exact ihd [] C07.nodupV_nil) ih

end DictIO.C12
