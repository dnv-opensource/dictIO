/-
  C13 (names) -- `create_target_file_name` on file names, and the placeholder counter.
  Model: `stemOf`/`suffixOf`/`targetName` (Model/Path.lean), `Counter.next`/`alloc`/`rankCanon` (Model/Counter.lean).
-/
import DictIO.Model.Path
import DictIO.Model.Counter
import DictIO.Lemmas.Literal
import DictIO.Lemmas.Counter
import DictIO.Lemmas.List

namespace DictIO.C13
open DictIO

/-! #### specification vocabulary -/

/-- the stem is `parsed` or the prefix itself: the suffix is then kept as part of the file name -/
def specialOf (name : Str) (pfx : Option Str) : Bool :=
  stemOf name == "parsed".toList || (match pfx with | some p => stemOf name == p | none => false)

/-- the file name before the prefix is applied -/
def baseOf (name : Str) (pfx : Option Str) (scope : List Str) : Str :=
  let f := if specialOf name pfx then stemOf name ++ suffixOf name else stemOf name
  if scope.isEmpty then f else f ++ ('_' :: ['_'].intercalate scope)

/-- the file name with the prefix applied (a prefix that is already there is not repeated) -/
def fileNameOf (name : Str) (pfx : Option Str) (scope : List Str) : Str :=
  match pfx with
  | some p => if p.isEmpty then baseOf name pfx scope else
      (removeSuffixDot p ++ ['.']) ++ stripPrefix (removeSuffixDot p ++ ['.']) (baseOf name pfx scope)
  | none => baseOf name pfx scope

/-- the extension -/
def endingOf (special : Bool) (suf : Str) (output : Option Str) : Str :=
  match output with
  | some o => if o.isEmpty then (if special then [] else suf) else
      let o' := if o == "cpp".toList || o == "foam".toList || o == "json".toList || o == "xml".toList then o else "cpp".toList
      if o' == "cpp".toList then [] else '.' :: o'
  | none => if special then [] else suf

/-- the target name is a file name followed by an extension … -/
theorem targetName_shape (n : Str) (pfx : Option Str) (scope : List Str) (out : Option Str) :
    targetName n pfx scope out = fileNameOf n pfx scope ++ endingOf (specialOf n pfx) (suffixOf n) out := by
  cases pfx <;> cases out <;> rfl


theorem stem_suffix (n : Str) : stemOf n ++ suffixOf n = n := by
  simp only [stemOf, suffixOf]
  cases rfindDot n with
  | none => simp
  | some i => simp only; split <;> simp

theorem findIdx?_skip {p : Char → Bool} {y : Char} (hy : p y = true) (r : Str) (l : Str) (h : ∀ x ∈ l, p x = false) :
    (l ++ y :: r).findIdx? p = some l.length := by
  rw [List.findIdx?_append, List.findIdx?_eq_none_iff.mpr h, List.findIdx?_cons, hy]
  simp

theorem dot_split : ∀ s : Str, '.' ∉ s ∨ ∃ a b, s = a ++ '.' :: b ∧ '.' ∉ b
  | [] => Or.inl (by simp)
  | c :: s => by
    rcases dot_split s with h | ⟨a, b, rfl, hb⟩
    · by_cases hc : c = '.'
      · subst hc; exact Or.inr ⟨[], s, rfl, h⟩
      · refine Or.inl ?_
        simp only [List.mem_cons, not_or]
        exact ⟨fun e => hc e.symm, h⟩
    · exact Or.inr ⟨c :: a, b, rfl, hb⟩

theorem rfindDot_none {s : Str} (h : '.' ∉ s) : rfindDot s = none := by
  have : s.reverse.findIdx? (· == '.') = none := by
    rw [List.findIdx?_eq_none_iff]
    intro x hx
    have hx' : x ∈ s := List.mem_reverse.mp hx
    simp only [beq_eq_false_iff_ne, ne_eq]
    intro e; subst e; exact h hx'
  simp [rfindDot, this]

theorem rfindDot_split (a : Str) {b : Str} (hb : '.' ∉ b) : rfindDot (a ++ '.' :: b) = some a.length := by
  have : (a ++ '.' :: b).reverse.findIdx? (· == '.') = some b.length := by
    have := findIdx?_skip (p := (· == '.')) (y := '.') (by simp) a.reverse b.reverse (by
      intro x hx
      have hx' : x ∈ b := List.mem_reverse.mp hx
      simp only [beq_eq_false_iff_ne, ne_eq]
      intro e; subst e; exact hb hx')
    simpa using this
  simp only [rfindDot, this, List.length_append, List.length_cons]
  congr 1
  omega

theorem suffixOf_no_dot {s : Str} (h : '.' ∉ s) : suffixOf s = [] := by simp [suffixOf, rfindDot_none h]
theorem stemOf_no_dot {s : Str} (h : '.' ∉ s) : stemOf s = s := by simp [stemOf, rfindDot_none h]

theorem suffixOf_split (a : Str) {b : Str} (hb : '.' ∉ b) :
    suffixOf (a ++ '.' :: b) = if a ≠ [] ∧ b ≠ [] then '.' :: b else [] := by
  simp only [suffixOf, rfindDot_split a hb, List.drop_left, List.length_append, List.length_cons]
  have : (0 < a.length ∧ a.length < a.length + (b.length + 1) - 1) ↔ (a ≠ [] ∧ b ≠ []) := by
    rw [← List.length_pos_iff, ← List.length_pos_iff]; omega
  simp only [this]

theorem stemOf_split (a : Str) {b : Str} (hb : '.' ∉ b) :
    stemOf (a ++ '.' :: b) = if a ≠ [] ∧ b ≠ [] then a else a ++ '.' :: b := by
  have h := stem_suffix (a ++ '.' :: b)
  rw [suffixOf_split a hb] at h
  split at h
  · rw [if_pos ‹_›]; exact List.append_cancel_right h
  · rw [if_neg ‹_›]; rwa [List.append_nil] at h

/-- the two shapes of a file name: no (pathlib) suffix, or `stem ++ '.' :: ext` with a dot-free non-empty `ext` -/
theorem suffix_cases (n : Str) : (stemOf n = n ∧ suffixOf n = []) ∨
    ∃ a b, n = a ++ '.' :: b ∧ a ≠ [] ∧ b ≠ [] ∧ '.' ∉ b ∧ stemOf n = a ∧ suffixOf n = '.' :: b := by
  rcases dot_split n with h | ⟨a, b, rfl, hb⟩
  · exact Or.inl ⟨stemOf_no_dot h, suffixOf_no_dot h⟩
  · by_cases hab : a ≠ [] ∧ b ≠ []
    · exact Or.inr ⟨a, b, rfl, hab.1, hab.2, hb, by rw [stemOf_split a hb, if_pos hab], by rw [suffixOf_split a hb, if_pos hab]⟩
    · exact Or.inl ⟨by rw [stemOf_split a hb, if_neg hab], by rw [suffixOf_split a hb, if_neg hab]⟩

theorem stemOf_dot_prefix (a x : Str) : stemOf (a ++ '.' :: x) = a ∨ (a ++ ['.']) <+: stemOf (a ++ '.' :: x) := by
  rcases dot_split x with h | ⟨x1, b, rfl, hb⟩
  · rw [stemOf_split a h]
    split
    · exact Or.inl rfl
    · exact Or.inr ⟨x, by simp⟩
  · have e : a ++ '.' :: (x1 ++ '.' :: b) = (a ++ '.' :: x1) ++ '.' :: b := by simp
    rw [e, stemOf_split _ hb]
    split
    · exact Or.inr ⟨x1, by simp⟩
    · exact Or.inr ⟨x1 ++ '.' :: b, by simp⟩

theorem getLast?_append_cons_of_ne_nil {a : Str} (c : Char) {b : Str} (hb : b ≠ []) : (a ++ c :: b).getLast? = b.getLast? := by
  obtain ⟨d, b, rfl⟩ := List.exists_cons_of_ne_nil hb
  rw [getLast?_append_cons, List.getLast?_cons_cons]

theorem stripPrefix_append (p x : Str) : stripPrefix p (p ++ x) = x := by
  have : p.isPrefixOf (p ++ x) = true := List.isPrefixOf_iff_prefix.mpr (List.prefix_append _ _)
  simp [stripPrefix, this]

theorem append_stripPrefix {p s : Str} (h : p <+: s) : p ++ stripPrefix p s = s := by
  obtain ⟨x, rfl⟩ := h
  rw [stripPrefix_append]

theorem stripPrefix_of_not_prefix {p s : Str} (h : ¬ p <+: s) : stripPrefix p s = s := by
  have : p.isPrefixOf s = false := by
    rw [Bool.eq_false_iff]; intro e; exact h (List.isPrefixOf_iff_prefix.mp e)
  simp [stripPrefix, this]

/-- `"parsed"` -/
abbrev P : Str := ['p', 'a', 'r', 's', 'e', 'd']
/-- `"parsed."` -/
abbrev PD : Str := ['p', 'a', 'r', 's', 'e', 'd', '.']

theorem parsed_lit : "parsed".toList = P := by literal_chars
theorem cpp_lit : "cpp".toList = ['c', 'p', 'p'] := by literal_chars
theorem foam_lit : "foam".toList = ['f', 'o', 'a', 'm'] := by literal_chars
theorem json_lit : "json".toList = ['j', 's', 'o', 'n'] := by literal_chars
theorem xml_lit : "xml".toList = ['x', 'm', 'l'] := by literal_chars

theorem PD_eq : PD = P ++ ['.'] := rfl

theorem fileNameOf_parsed (n : Str) :
    fileNameOf n (some P) [] = PD ++ stripPrefix PD (if stemOf n = P then n else stemOf n) := by
  have hs := stem_suffix n
  simp only [fileNameOf, baseOf, specialOf, parsed_lit, Bool.or_self, beq_iff_eq, List.isEmpty_nil, if_true, hs]
  rfl

theorem specialOf_parsed (n : Str) : specialOf n (some P) = decide (stemOf n = P) := by
  simp only [specialOf, parsed_lit, Bool.or_self]
  by_cases h : stemOf n = P <;> simp [h]

theorem PD_prefix_stem {r : Str} (h : PD <+: r) (hs : stemOf r ≠ P) : PD <+: stemOf r := by
  obtain ⟨x, rfl⟩ := h
  have e : PD ++ x = P ++ '.' :: x := rfl
  rw [e] at hs ⊢
  rcases stemOf_dot_prefix P x with h1 | h1
  · exact absurd h1 hs
  · exact h1

theorem fileNameOf_parsed_fixed {r : Str} (h : PD <+: r) :
    fileNameOf r (some P) [] ++ (if stemOf r = P then [] else suffixOf r) = r := by
  have hs := stem_suffix r
  rw [fileNameOf_parsed]
  by_cases hp : stemOf r = P
  · simp only [hp, if_true, List.append_nil]
    exact append_stripPrefix h
  · simp only [hp, if_false]
    rw [append_stripPrefix (PD_prefix_stem h hp), hs]


theorem endingOf_none (sp : Bool) (suf : Str) : endingOf sp suf none = if sp then [] else suf := rfl

theorem endingOf_cpp (sp : Bool) (suf : Str) : endingOf sp suf (some "cpp".toList) = [] := by
  simp [endingOf, cpp_lit]

theorem endingOf_ext (sp : Bool) (suf : Str) {o : Str} (ho : o ∈ ["json".toList, "foam".toList, "xml".toList]) :
    endingOf sp suf (some o) = '.' :: o := by
  simp only [json_lit, foam_lit, xml_lit, List.mem_cons, List.not_mem_nil, or_false] at ho
  rcases ho with rfl | rfl | rfl <;> simp [endingOf, cpp_lit, foam_lit, json_lit, xml_lit]

theorem ext_facts {o : Str} (ho : o ∈ ["json".toList, "foam".toList, "xml".toList]) : o ≠ [] ∧ '.' ∉ o := by
  simp only [json_lit, foam_lit, xml_lit, List.mem_cons, List.not_mem_nil, or_false] at ho
  rcases ho with rfl | rfl | rfl <;> decide

theorem removeSuffixDot_P : removeSuffixDot P ++ ['.'] = PD := by decide

theorem idxOf_map_injOn {f : Nat → Nat} (i : Nat) : ∀ (l : List Nat), (∀ a ∈ i :: l, ∀ b ∈ i :: l, f a = f b → a = b) →
    (l.map f).idxOf (f i) = l.idxOf i
  | [], _ => rfl
  | x :: l, h => by
    have hsub : ∀ a ∈ i :: l, a ∈ i :: x :: l := fun a ha =>
      (List.mem_cons.mp ha).elim (fun e => e ▸ List.mem_cons_self) fun ha => List.mem_cons_of_mem _ (List.mem_cons_of_mem _ ha)
    have ih := idxOf_map_injOn i l fun a ha b hb => h a (hsub a ha) b (hsub b hb)
    rw [List.map_cons, List.idxOf_cons, List.idxOf_cons, ih]
    by_cases e : x = i
    · subst e; rw [beq_self_eq_true, beq_self_eq_true]
    · have : f x ≠ f i := fun e' => e (h x (List.mem_cons_of_mem _ List.mem_cons_self) i List.mem_cons_self e')
      rw [beq_eq_false_iff_ne.mpr e, beq_eq_false_iff_ne.mpr this]

theorem eraseDups_map_injOn {f : Nat → Nat} : ∀ (n : Nat) (l : List Nat), l.length ≤ n →
    (∀ a ∈ l, ∀ b ∈ l, f a = f b → a = b) → (l.map f).eraseDups = l.eraseDups.map f
  | _, [], _, _ => by simp
  | 0, _ :: _, hl, _ => by simp at hl
  | n + 1, x :: l, hl, h => by
    rw [List.map_cons, List.eraseDups_cons, List.eraseDups_cons, List.map_cons, List.filter_map]
    have hf : List.filter ((fun b => !b == f x) ∘ f) l = List.filter (fun b => !b == x) l := by
      apply List.filter_congr
      intro y hy
      simp only [Function.comp]
      by_cases e : y = x
      · subst e; rw [beq_self_eq_true, beq_self_eq_true]
      · have : f y ≠ f x := fun e' => e (h y (List.mem_cons_of_mem _ hy) x List.mem_cons_self e')
        rw [beq_eq_false_iff_ne.mpr e, beq_eq_false_iff_ne.mpr this]
    rw [hf]
    congr 1
    apply eraseDups_map_injOn n
    · have := List.length_filter_le (fun b => !b == x) l
      simp only [List.length_cons] at hl
      omega
    · intro a ha b hb
      exact h a (List.mem_cons_of_mem _ (List.mem_filter.mp ha).1) b (List.mem_cons_of_mem _ (List.mem_filter.mp hb).1)

theorem eraseDups_of_nodup : ∀ {l : List Nat}, l.Nodup → l.eraseDups = l
  | [], _ => by simp
  | a :: l, h => by
    have ⟨ha, hl⟩ := List.nodup_cons.mp h
    rw [List.eraseDups_cons, List.filter_eq_self.mpr, eraseDups_of_nodup hl]
    intro b hb
    have : b ≠ a := fun e => ha (e ▸ hb)
    simp [this]

theorem idxOf_range' (k s i : Nat) (h1 : s ≤ i) (h2 : i < s + k) : (List.range' s k).idxOf i = i - s := by
  have hlt : i - s < (List.range' s k).length := by rw [List.length_range']; omega
  have := (List.nodup_range' (s := s) (n := k)).idxOf_getElem (i - s) hlt
  rwa [List.getElem_range', Nat.one_mul, Nat.add_sub_cancel' h1] at this

/-! #### (1) stem and suffix make up the name (`stem_suffix`, above); the shape of a suffix -/

/-- a suffix, when there is one, is a dot followed by a non-empty dot-free extension, and the stem is not empty -/
theorem suffix_shape (n : Str) : suffixOf n = [] ∨ ∃ b, suffixOf n = '.' :: b ∧ b ≠ [] ∧ '.' ∉ b ∧ stemOf n ≠ [] := by
  rcases suffix_cases n with ⟨_, h⟩ | ⟨a, b, _, ha, hb, hd, hs, hx⟩
  · exact Or.inl h
  · exact Or.inr ⟨b, hx, hb, hd, by rw [hs]; exact ha⟩

/-! #### (2), (4) the shape of the target name -/

/-- (2) the target name (`targetName_shape`) starts with the prefix and a dot (a trailing dot of the prefix is not doubled) -/
theorem targetName_prefix {pfx : Str} (h : pfx ≠ []) (n : Str) (scope : List Str) (out : Option Str) :
    (removeSuffixDot pfx ++ ['.']) <+: targetName n (some pfx) scope out := by
  have he : pfx.isEmpty = false := by cases pfx <;> simp_all
  rw [targetName_shape]
  simp only [fileNameOf, he, Bool.false_eq_true, if_false]
  exact (List.prefix_append _ _).trans (List.prefix_append _ _)

/-- without a prefix nothing is prepended -/
theorem targetName_no_prefix (n : Str) (scope : List Str) (out : Option Str) :
    targetName n none scope out = baseOf n none scope ++ endingOf (specialOf n none) (suffixOf n) out :=
  targetName_shape n none scope out

/-- (4) output `json`, `foam`, `xml`: the name ends with that extension -/
theorem targetName_ext_eq {o : Str} (ho : o ∈ ["json".toList, "foam".toList, "xml".toList]) (n : Str) (pfx : Option Str)
    (scope : List Str) : targetName n pfx scope (some o) = fileNameOf n pfx scope ++ '.' :: o := by
  rw [targetName_shape, endingOf_ext _ _ ho]

theorem targetName_ext {o : Str} {out : Option Str} (hout : out = some o) (ho : o ∈ ["json".toList, "foam".toList, "xml".toList])
    (n : Str) (pfx : Option Str) (scope : List Str) : ('.' :: o) <:+ targetName n pfx scope out := by
  subst hout
  rw [targetName_ext_eq ho]
  exact List.suffix_append _ _

/-- (4) output `cpp`: no extension at all … -/
theorem targetName_cpp (n : Str) (pfx : Option Str) (scope : List Str) :
    targetName n pfx scope (some "cpp".toList) = fileNameOf n pfx scope := by
  rw [targetName_shape, endingOf_cpp, List.append_nil]

/-- … no output given: the source's suffix is kept (unless it already is part of the file name) -/
theorem targetName_none (n : Str) (pfx : Option Str) (scope : List Str) :
    targetName n pfx scope none = fileNameOf n pfx scope ++ (if specialOf n pfx then [] else suffixOf n) := by
  rw [targetName_shape, endingOf_none]

/-- so the `cpp` name is the default name without the kept suffix -/
theorem targetName_cpp_prefix_none (n : Str) (pfx : Option Str) (scope : List Str) :
    targetName n pfx scope (some "cpp".toList) <+: targetName n pfx scope none := by
  rw [targetName_cpp, targetName_none]
  exact List.prefix_append _ _

/-- an unknown output format is treated as `cpp` -/
theorem targetName_unknown_output {o : Str} (hne : o ≠ [])
    (ho : o ∉ ["cpp".toList, "foam".toList, "json".toList, "xml".toList]) (n : Str) (pfx : Option Str) (scope : List Str) :
    targetName n pfx scope (some o) = fileNameOf n pfx scope := by
  have he : o.isEmpty = false := by cases o <;> simp_all
  simp only [List.mem_cons, List.not_mem_nil, or_false, not_or, cpp_lit, foam_lit, json_lit, xml_lit] at ho
  rw [targetName_shape]
  simp [endingOf, he, cpp_lit, foam_lit, json_lit, xml_lit, ho.1, ho.2.1, ho.2.2.1, ho.2.2.2]

/-! #### (5) the prefix is matched literally -/

/-- the prefix `parsed.` is matched literally (`stripPrefix`): its `.` does not match the `X` of `parsedXfoo` -/
theorem targetName_literal_prefix :
    targetName "parsedXfoo".toList (some "parsed".toList) [] none = "parsed.parsedXfoo".toList := by
  literal_chars
  decide +kernel

/-! #### (3) parsing a parsed file targets the same name -/

/-- a name that carries the prefix is a fixed point exactly when the extension written is what the file name left out -/
theorem targetName_fixed_iff {r : Str} (h : PD <+: r) (out : Option Str) :
    targetName r (some P) [] out = r ↔
      endingOf (specialOf r (some P)) (suffixOf r) out = if stemOf r = P then [] else suffixOf r := by
  conv => lhs; rhs; rw [← fileNameOf_parsed_fixed h]
  rw [targetName_shape, List.append_right_inj]

theorem targetName_fixed_none {r : Str} (h : PD <+: r) : targetName r (some P) [] none = r := by
  rw [targetName_fixed_iff h, endingOf_none, specialOf_parsed]
  simp only [decide_eq_true_eq]

theorem targetName_idem_none (n : Str) :
    targetName (targetName n (some "parsed".toList) [] none) (some "parsed".toList) [] none
      = targetName n (some "parsed".toList) [] none := by
  rw [parsed_lit]
  apply targetName_fixed_none
  rw [← removeSuffixDot_P]
  exact targetName_prefix (by decide) n [] none

theorem targetName_fixed_ext {o : Str} (ho : o ∈ ["json".toList, "foam".toList, "xml".toList]) (y : Str) :
    targetName (PD ++ y ++ '.' :: o) (some P) [] (some o) = PD ++ y ++ '.' :: o := by
  obtain ⟨hne, hdot⟩ := ext_facts ho
  have hab : (PD ++ y) ≠ [] ∧ o ≠ [] := ⟨by simp, hne⟩
  have hstem : stemOf (PD ++ y ++ '.' :: o) = PD ++ y := by rw [stemOf_split _ hdot, if_pos hab]
  have hnp : PD ++ y ≠ P := by
    intro e
    have := congrArg List.length e
    simp at this
  rw [targetName_ext_eq ho, fileNameOf_parsed, hstem, if_neg hnp, stripPrefix_append]

theorem targetName_idem_ext {o : Str} (ho : o ∈ ["json".toList, "foam".toList, "xml".toList]) (n : Str) :
    targetName (targetName n (some "parsed".toList) [] (some o)) (some "parsed".toList) [] (some o)
      = targetName n (some "parsed".toList) [] (some o) := by
  rw [parsed_lit, targetName_ext_eq ho n, fileNameOf_parsed]
  exact targetName_fixed_ext ho _

/-- what follows `parsed.` in the `cpp` target name: the name without its suffix (with it, when the stem is
    `parsed`) and without a leading `parsed.` -/
def cppRest (n : Str) : Str := stripPrefix PD (if stemOf n = P then n else stemOf n)

/-- the names for which the `cpp` target name is stable: what follows `parsed.` has no dot, or ends in a dot
    (then pathlib sees no suffix in the target name, and a second pass has nothing to cut off) -/
def cppIdemDom (n : Str) : Bool := !(cppRest n).contains '.' || (cppRest n).getLast? == some '.'

theorem targetName_cpp_parsed (n : Str) : targetName n (some P) [] (some "cpp".toList) = PD ++ cppRest n := by
  rw [targetName_cpp, fileNameOf_parsed]; rfl

/-- `cpp`: a name `parsed.x` is a fixed point exactly when `x` has no dot or ends in a dot -/
theorem targetName_fixed_cpp_iff (x : Str) :
    targetName (PD ++ x) (some P) [] (some "cpp".toList) = PD ++ x ↔ ('.' ∉ x ∨ x.getLast? = some '.') := by
  have h1 : targetName (PD ++ x) (some P) [] (some "cpp".toList) = PD ++ x ↔
      (stemOf (PD ++ x) = P ∨ suffixOf (PD ++ x) = []) := by
    rw [targetName_fixed_iff (List.prefix_append _ _), endingOf_cpp]
    by_cases hp : stemOf (PD ++ x) = P
    · simp only [hp, if_true, true_or]
    · simp only [hp, if_false, false_or, eq_comm]
  rw [h1]
  have e0 : PD ++ x = P ++ '.' :: x := rfl
  rcases dot_split x with h | ⟨a, b, rfl, hb⟩
  · refine iff_of_true ?_ (Or.inl h)
    rw [e0, stemOf_split P h, suffixOf_split P h]
    by_cases hx : x = []
    · right; simp [hx]
    · left; simp [hx]
  · have e1 : PD ++ (a ++ '.' :: b) = (PD ++ a) ++ '.' :: b := by simp
    rw [e1, stemOf_split _ hb, suffixOf_split _ hb]
    by_cases hbe : b = []
    · subst hbe
      refine iff_of_true (Or.inr (by simp)) (Or.inr (by simp))
    · have hab : (PD ++ a) ≠ [] ∧ b ≠ [] := ⟨by simp, hbe⟩
      rw [if_pos hab, if_pos hab]
      refine iff_of_false ?_ ?_
      · rintro (e | e)
        · have := congrArg List.length e
          simp at this
        · cases e
      · rintro (e | e)
        · exact e (by simp)
        · rw [getLast?_append_cons_of_ne_nil '.' hbe] at e
          exact hb (List.mem_of_getLast? e)


/-- (3, `cpp`) the second pass reproduces the `cpp` target name exactly for the names in `cppIdemDom` -/
theorem targetName_idem_cpp_iff (n : Str) :
    targetName (targetName n (some "parsed".toList) [] (some "cpp".toList)) (some "parsed".toList) [] (some "cpp".toList)
      = targetName n (some "parsed".toList) [] (some "cpp".toList) ↔ cppIdemDom n = true := by
  rw [parsed_lit, targetName_cpp_parsed n, targetName_fixed_cpp_iff]
  simp [cppIdemDom]

/-- a sufficient condition on the source name alone: its stem has no dot (`foo`, `foo.x`, `parsed.x`, `foo.`;
    not `a.b.c`, not the hidden file `.foo`) -/
theorem cppIdemDom_of_plain_stem {n : Str} (h : '.' ∉ stemOf n) : cppIdemDom n = true := by
  have hnp : ¬ PD <+: stemOf n := by
    rintro ⟨x, e⟩
    exact h (by rw [← e]; simp)
  have : '.' ∉ cppRest n := by
    unfold cppRest
    by_cases hp : stemOf n = P
    · rw [if_pos hp]
      rcases suffix_cases n with ⟨hs, _⟩ | ⟨a, b, hn, _, _, hb, hs, _⟩
      · rw [← hs, stripPrefix_of_not_prefix hnp]; exact h
      · rw [hp] at hs
        subst hs
        rw [hn, show P ++ '.' :: b = PD ++ b from rfl, stripPrefix_append]
        exact hb
    · rw [if_neg hp, stripPrefix_of_not_prefix hnp]; exact h
  simp [cppIdemDom, this]

/-- the output formats of `create_target_file_name` -/
def outputs : List (Option Str) := [none, some "cpp".toList, some "foam".toList, some "json".toList, some "xml".toList]

/-- (3) as first stated: for every name and every output format, the target name of a target name is itself -/
def targetName_idem_statement : Prop :=
  ∀ (n : Str) (out : Option Str), out ∈ outputs →
    targetName (targetName n (some "parsed".toList) [] out) (some "parsed".toList) [] out
      = targetName n (some "parsed".toList) [] out

/-- (3) holds for every name without output format and for `foam`/`json`/`xml`; for `cpp` (no extension is
    written) it needs `cppIdemDom n`.  Added hypothesis (decidable), needed by `targetName_idem_cex`. -/
theorem targetName_idem_partial (n : Str) {out : Option Str} (hout : out ∈ outputs)
    (hcpp : out = some "cpp".toList → cppIdemDom n = true) :
    targetName (targetName n (some "parsed".toList) [] out) (some "parsed".toList) [] out
      = targetName n (some "parsed".toList) [] out := by
  simp only [outputs, List.mem_cons, List.not_mem_nil, or_false] at hout
  rcases hout with rfl | rfl | rfl | rfl | rfl
  · exact targetName_idem_none n
  · exact (targetName_idem_cpp_iff n).mpr (hcpp rfl)
  · exact targetName_idem_ext (by simp) n
  · exact targetName_idem_ext (by simp) n
  · exact targetName_idem_ext (by simp) n

/-- with output `cpp`, `a.b.c` ↦ `parsed.a.b` ↦ `parsed.a`: every pass cuts off what pathlib takes for a suffix -/
theorem targetName_idem_cex :
    targetName "a.b.c".toList (some "parsed".toList) [] (some "cpp".toList) = "parsed.a.b".toList ∧
    targetName "parsed.a.b".toList (some "parsed".toList) [] (some "cpp".toList) = "parsed.a".toList := by
  literal_chars
  decide +kernel

/-- the same for a hidden file: `.foo` ↦ `parsed..foo` ↦ `parsed.` -/
theorem targetName_idem_cex_hidden :
    targetName ".foo".toList (some "parsed".toList) [] (some "cpp".toList) = "parsed..foo".toList ∧
    targetName "parsed..foo".toList (some "parsed".toList) [] (some "cpp".toList) = "parsed.".toList := by
  literal_chars
  decide +kernel

theorem targetName_idem_statement_false : ¬ targetName_idem_statement := by
  intro h
  have := h "a.b.c".toList (some "cpp".toList) (by simp [outputs])
  rw [targetName_idem_cex.1, targetName_idem_cex.2] at this
  revert this
  literal_chars
  decide +kernel

/-! ### counter -/

section counter

/-- (6c) up to `limit + 1` successive ids are pairwise distinct, even across the wrap-around -/
theorem alloc_nodup {limit k : Nat} {c : Counter} (hk : k ≤ limit + 1) (hc : c = none ∨ ∃ n, c = some n ∧ n ≤ limit) :
    (alloc limit k c).Nodup := by
  rw [alloc_eq_range hc, List.Nodup, List.pairwise_map]
  refine List.Pairwise.imp_of_mem ?_ List.pairwise_lt_range
  intro a b _ hb hab
  exact mod_window_inj hab (by have := List.mem_range.mp hb; omega)

/-- the bound is sharp: one id more and the first one comes back -/
example : ¬ (alloc 2 4 none).Nodup := by decide

/-- the rank of first appearance of `i` in a list is invariant under a renaming that is injective on the list -/
theorem rank_map_injOn {f : Nat → Nat} {l : List Nat} (h : ∀ a ∈ l, ∀ b ∈ l, f a = f b → a = b) {i : Nat} (hi : i ∈ l) :
    (l.map f).eraseDups.idxOf (f i) = l.eraseDups.idxOf i := by
  rw [eraseDups_map_injOn l.length l (Nat.le_refl _) h]
  apply idxOf_map_injOn
  have hmem : ∀ x ∈ i :: l.eraseDups, x ∈ l := by
    intro x hx
    rcases List.mem_cons.mp hx with rfl | hx
    · exact hi
    · exact List.mem_eraseDups.mp hx
  exact fun a ha b hb => h a (hmem a ha) b (hmem b hb)

/-- (6d) renaming the ids by a function that is injective on them does not change the canonical form -/
theorem rankCanon_map_injOn {f : Nat → Nat} {ids : List Nat} (h : ∀ a ∈ ids, ∀ b ∈ ids, f a = f b → a = b) :
    rankCanon (ids.map f) = rankCanon ids := by
  simp only [rankCanon, List.map_map]
  exact List.map_congr_left fun i hi => rank_map_injOn h hi

/-- (6d) placeholder ids enter the canonical form only through equality -/
theorem rankCanon_map_injective {f : Nat → Nat} (hf : Function.Injective f) (ids : List Nat) :
    rankCanon (ids.map f) = rankCanon ids :=
  rankCanon_map_injOn fun _ _ _ _ e => hf e

theorem rankCanon_alloc {limit k : Nat} {c : Counter} (hk : k ≤ limit + 1) (hc : ValidCounter limit c) :
    rankCanon (alloc limit k c) = rankCanon (List.range k) := by
  rw [alloc_eq_range hc]
  apply rankCanon_map_injOn
  intro a ha b hb e
  have ha' := List.mem_range.mp ha
  have hb' := List.mem_range.mp hb
  rcases Nat.lt_trichotomy a b with h | h | h
  · exact absurd e (mod_window_inj h (by omega))
  · exact h
  · exact absurd e.symm (mod_window_inj h (by omega))

/-- the canonical form of distinct ids is `0, 1, …` -/
theorem rankCanon_range (k : Nat) : rankCanon (List.range k) = List.range k := by
  simp only [rankCanon, eraseDups_of_nodup List.nodup_range]
  rw [List.range_eq_range']
  conv => rhs; rw [← List.map_id (List.range' 0 k)]
  apply List.map_congr_left
  intro i hi
  have := List.mem_range'_1.mp hi
  rw [idxOf_range' k 0 i (by omega) (by omega)]; simp

/-- (6e) the canonical form of freshly drawn placeholders does not depend on where the counter stands -/
theorem rankCanon_alloc_indep {limit k : Nat} {c c' : Counter} (hk : k ≤ limit + 1)
    (hc : ValidCounter limit c) (hc' : ValidCounter limit c') :
    rankCanon (alloc limit k c) = rankCanon (alloc limit k c') := by
  rw [rankCanon_alloc hk hc, rankCanon_alloc hk hc']

end counter

/-! #### non-vacuity -/

section Examples

/-- stem and suffix as pathlib sees them: hidden files and trailing dots have no suffix -/
example : (stemOf "a.b.c".toList, suffixOf "a.b.c".toList) = ("a.b".toList, ".c".toList) := by
  literal_chars
  decide +kernel
example : (stemOf ".foo".toList, suffixOf ".foo".toList) = (".foo".toList, []) := by
  literal_chars
  decide +kernel
example : (stemOf "foo.".toList, suffixOf "foo.".toList) = ("foo.".toList, []) := by
  literal_chars
  decide +kernel

/-- target names: prefix once, scope appended, extension by output -/
example : targetName "test.dict".toList (some "parsed".toList) [] none = "parsed.test.dict".toList := by
  literal_chars
  decide +kernel
example : targetName "parsed.test.dict".toList (some "parsed".toList) [] none = "parsed.test.dict".toList := by
  literal_chars
  decide +kernel
example : targetName "test.dict".toList (some "parsed".toList) ["a".toList, "1".toList] (some "json".toList)
    = "parsed.test_a_1.json".toList := by
  literal_chars
  decide +kernel
example : targetName "test.dict".toList (some "pre.".toList) [] (some "cpp".toList) = "pre.test".toList := by
  literal_chars
  decide +kernel
example : targetName "test.dict".toList none [] (some "yaml".toList) = "test".toList := by
  literal_chars
  decide +kernel

/-- (3) instantiated -/
example : cppIdemDom "test.dict".toList = true := by
  literal_chars
  decide +kernel
example : targetName (targetName "test.dict".toList (some "parsed".toList) [] (some "cpp".toList)) (some "parsed".toList) []
    (some "cpp".toList) = targetName "test.dict".toList (some "parsed".toList) [] (some "cpp".toList) :=
  targetName_idem_partial _ (by simp [outputs]) fun _ => by decide
example : cppIdemDom "a.b.c".toList = false ∧ cppIdemDom ".foo".toList = false ∧ cppIdemDom "a..b".toList = true := by
  literal_chars
  decide +kernel

/-- the counter wraps to 0 after the limit … -/
example : alloc 2 3 (some 1) = [2, 0, 1] := by decide
example : Counter.next Gen.counterLimit (some 999999) = (0, some 0) := by decide
/-- … (6c), (6e) instantiated at the generated limit, across the wrap-around -/
example : (alloc Gen.counterLimit 3 (some 999998)).Nodup := alloc_nodup (by decide) (Or.inr ⟨_, rfl, by decide⟩)
example : alloc Gen.counterLimit 3 (some 999998) = [999999, 0, 1] := by decide
example : rankCanon (alloc Gen.counterLimit 3 (some 999998)) = rankCanon (alloc Gen.counterLimit 3 none) :=
  rankCanon_alloc_indep (by decide) (Or.inr ⟨_, rfl, by decide⟩) (Or.inl rfl)
/-- ranks of first appearance -/
example : rankCanon [7, 3, 7, 9] = [0, 1, 0, 2] := by decide

end Examples

end DictIO.C13
