/-
  C10, the `SDict` route in OpenFOAM flavour -- `DictWriter.write(SDict(d), 'x.foam')` / `SDict(d).dump('x.foam')`, then
  `DictReader.read('x.foam')`: what is written, what comes back, and that a second write does not add a second header.

  What is proved (model: `fmtSD .foam`, `insertBlockComments`, `parseNative`, `readFile`, `writeStep`, `writeText`, `apiRun`):

    `C10_sd_text`                 for EVERY dict `d`: `fmtSD .foam { data := d } = some (foamHeaderText ++ fmtPlain .foam d)`;
                                  `foamHeaderText` = `banner ++ "\n" ++ foamFileText ++ sepLine ++ "\n"`, the three parts spelled
                                  out as string literals (`banner_str`, `foamFileText_str`, `sepLine_str`) and equal to the
                                  generated header of the model (`foamHeaderText_eq`)
    `C10_sd_starts_with_banner`   EVERY SDict none of whose block comments has its placeholder entry in the data (in
                                  particular `blockC = []`: `C10_sd_starts_with_banner'`), any line comments / includes / data:
                                  if `fmtSD .foam` succeeds the text is `foamHeaderText ++ r` (banner first, then the
                                  `FoamFile` block, then the separator line); `insertBlock_none`
    `C10_roundtrip_sd`            hypotheses `Hyp d c target` = those of `C10.C10_roundtrip_file` + `NoFoamFileKey d`:
                                  the text written is `sdText d`; `readFile` on it succeeds and returns EXACTLY `foamSD i D'`
                                  (`D' = normEs (dropUnderscoreEs .foam d)`, `i` = first id the counter hands out):
                                    data   = `BLOCKCOMMENT000000 ↦ BLOCKCOMMENT000000`,
                                             `FoamFile ↦ {version: 2.0 (float), format: 'ascii', class: 'dictionary', object: 'foamDict'}`,
                                             `LINECOMMENT<i> ↦ LINECOMMENT<i>`, then the entries of `D'` in order
                                    blockC = `[(0, banner)]`, lineC = `[(i, sepLine)]`, no includes, no expressions;
                                  `dropHeaderEntries` (placeholder entries and `FoamFile` out) gives `D'`; `D'` has no `_` key
    `C10_sd_header_once`          writing the SDict read gives the same bytes (fixed point); `C10_sd_header_once'`:
                                  `fmtSD .foam (foamSD i D) = fmtSD .foam { data := D }` when the public part of `D` lies
                                  in the Foam domain (`write_foamSD`)
    `C10_sd_writeStep_append`     the same through `writeStep` (append mode, nothing merged): the file keeps its bytes
    `C10_sd_writeText`, `C10_sd_api`   through Model/Api.lean: `writeText` on a fresh `.foam` target; `apiRun [dump, read]`
    `read_foam_parse`             the reader (`parseNative`, comments on) on `foamHeader ++ fmtPlain .foam D`

  Where `C10_roundtrip_sd` differs from the wording of property C10 (both with machine-checked witnesses, replayed on the real code):
    * `C10_roundtrip_sd_statement_false`: removing "the block-comment placeholder entry and the `FoamFile` entry" does NOT
      leave the data: the separator line `// * * * … //` of the header is a line comment, read back as a THIRD entry
      `LINECOMMENT%06d` (it draws an id from the global counter).  Witness `SDict({})`.
    * `NoFoamFileKey d` is needed for the statement in this form: `exFF_text`, `exFF_read`, `exFF_lost` — for
      `SDict({'FoamFile': {'x': 'y'}})` the file holds two `FoamFile` blocks, the reader keeps the later one at the place of
      the first; taking the header entries out leaves `{}` although the dict was not empty.  (Not a defect: C10 itself excepts
      "the FoamFile header entry".)
    * the write is `fmtSD .foam { data := normEs d }` (= `writeText` / `SDict.dump` on a fresh target: `_retype_values`, then
      `to_string`); `writeStep` with a fresh target models builtin-dict sources only (`fmtPlain`), its SDict route is the
      append mode, covered by `C10_sd_writeStep_append`.

  Assumed: `DomC01 .foam D'` (no `"` in strings, …), at most `counterLimit + 1` quoted strings, a counter state that can
  occur, a target that is no `.json`/`.xml`/`.ssd` path and is normalised (`C10.foamPath_dispatch`: `.foam` is fine).
  NOT covered: SDicts with own block/line comments or includes beyond `C10_sd_starts_with_banner` (a first block comment
  without ` C++ ` marker gets the header put in front of the comment, wherever its placeholder stands: `C10.C10_banner_first_comment`,
  finding D28); a file system with other files (single-file `FS`, as in `C10.C10_roundtrip_file`); `order = true`.

  Route: the written text is an admissible layout (`foam_layout`, `GapsOKC`) of the commented document `foamDoc es`
  (`.blockC bannerBody`, entry `FoamFile`, `.lineC sepBody`, then the lifted plain document `liftEs es`), so
  `C12.C12_read_commented` applies (with `C12W.parseNative_nl` for the missing gap in front of the banner);
  `denC_foamDoc` computes its meaning, `foamSD_clean` (via `C07.clean_of_top`) shows `_clean` does nothing.
  Technical: the kernel must never be made to evaluate `foamHeader` (`String.toList` on a long literal): `sd_text_aux`.

  Non-vacuity: `exD` = `{'a': 1, 's': {'_x': 2, 'y': '2'}, '_top': 'q', 'k': 'x y'}` (`exHyp`, `exD_text`, `exD_roundtrip`).
-/
import DictIO.Props.C10file
import DictIO.Props.C12wtext
import DictIO.Props.C12read
import DictIO.Props.C16
import DictIO.Props.C13api
import DictIO.Lemmas.Writer

namespace DictIO.C10sd
open DictIO

/-! ### the Foam header, piece by piece -/

/-- the OpenFOAM banner: the block comment `/*-----…*- C++ -*…  …*/` (seven lines, no final line feed) -/
def banner : Str := C10.foamHeaderChars.take 559

/-- what stands between `/*` and `*/` in the banner -/
def bannerBody : Str := ((banner.drop 2).dropLast).dropLast

/-- the `FoamFile { … }` block as the header spells it (seven lines, with the final line feed) -/
def foamFileText : Str := (C10.foamHeaderChars.drop 560).take 167

/-- the separator line `// * * * … * //` (no final line feed) -/
def sepLine : Str := (C10.foamHeaderChars.drop 727).take 79

/-- the separator line without its leading `//` -/
def sepBody : Str := sepLine.drop 2

/-- **the Foam header text**: banner, line feed, `FoamFile` block, separator line, line feed -/
def foamHeaderText : Str := banner ++ ['\n'] ++ foamFileText ++ sepLine ++ ['\n']

set_option maxRecDepth 100000 in
theorem banner_str : banner =
    "/*--------------------------------*- C++ -*----------------------------------*\\\n| =========                 |                                                 |\n| \\\\      /  F ield         | OpenFOAM: The Open Source CFD Toolbox           |\n|  \\\\    /   O peration     | Version:  dev                                   |\n|   \\\\  /    A nd           | Web:      www.OpenFOAM.com                      |\n|    \\\\/     M anipulation  |                                                 |\n\\*---------------------------------------------------------------------------*/".toList :=
  (String.toList_ofList (l := banner)).symm.trans (congrArg String.toList (by rfl : String.ofList banner = _))

set_option maxRecDepth 100000 in
theorem foamFileText_str : foamFileText =
    "FoamFile\n{\n    version                   2.0;\n    format                    ascii;\n    class                     dictionary;\n    object                    foamDict;\n}\n".toList :=
  (String.toList_ofList (l := foamFileText)).symm.trans (congrArg String.toList (by rfl : String.ofList foamFileText = _))

set_option maxRecDepth 100000 in
theorem sepLine_str : sepLine =
    "// * * * * * * * * * * * * * * * * * * * * * * * * * * * * * * * * * * * * * //".toList :=
  (String.toList_ofList (l := sepLine)).symm.trans (congrArg String.toList (by rfl : String.ofList sepLine = _))

theorem foamHeaderText_chars : foamHeaderText = C10.foamHeaderChars := by decide +kernel

/-- the explicit header text is the header of the model (`Gen.foamHeader`, generated from formatter.py) -/
theorem foamHeaderText_eq : foamHeaderText = foamHeader := by
  rw [C10.foamHeader_eq]; exact foamHeaderText_chars

theorem banner_shape : banner = '/' :: '*' :: (bannerBody ++ ['*', '/']) := by decide +kernel
theorem sepLine_shape : sepLine = '/' :: '/' :: sepBody := by decide +kernel
theorem bannerBody_ok : isBlockCText bannerBody = true := by decide +kernel
theorem sepBody_ok : isLineCText sepBody = true := by decide +kernel


attribute [local irreducible] foamHeader

/-! ### trailing-space removal leaves the header alone -/

def hdrLines : List Str := (splitNl C10.foamHeaderChars).dropLast

theorem hdrLines_join : hdrLines.flatMap (· ++ ['\n']) = C10.foamHeaderChars := by decide +kernel
theorem hdrLines_good : ∀ l ∈ hdrLines, C12.goodLineB l = true ∧ ∀ c ∈ l, c ≠ '\r' := by decide +kernel

/-- `remove_trailing_spaces` leaves the Foam header as it is -/
theorem rts_header (t : Str) : removeTrailingSpaces (foamHeader ++ t) = foamHeader ++ removeTrailingSpaces t := by
  rw [C10.foamHeader_eq, ← hdrLines_join]; exact C12.rts_lines' _ hdrLines_good t

/-! ### a comment-free document as a commented document -/

mutual
  def liftV : Src → CSrc
    | .lit l => .lit l
    | .dict es => .dict (liftEs es)
    | .list xs => .list xs
  def liftEs : SrcEntries → List CItem
    | [] => []
    | (k, v) :: es => .entry k (liftV v) :: liftEs es
end

theorem ctoks_lift : ∀ es : SrcEntries, ctoksItems (liftEs es) = (srcToksEs es).map .tok
  | [] => by simp only [liftEs, ctoksItems, srcToksEs, List.map_nil]
  | (k, .lit l) :: es => by
    simp only [liftEs, liftV, ctoksItems, srcToksEs, List.map_cons, ctoks_lift es]
  | (k, .dict d) :: es => by
    simp only [liftEs, liftV, ctoksItems, srcToksEs, List.map_cons, List.map_append, ctoks_lift es,
      ctoks_lift d, List.cons_append, List.nil_append, List.append_assoc]
  | (k, .list xs) :: es => by
    simp only [liftEs, liftV, ctoksItems, srcToksEs, List.map_cons, List.map_append, ctoks_lift es,
      List.cons_append, List.nil_append, List.append_assoc]

mutual
  theorem wf_liftV : ∀ (v : Src) (d : Nat), CSrcWFV d (liftV v) = SrcWFV d v
    | .lit l, _ => by simp only [liftV, CSrcWFV, SrcWFV]
    | .dict es, d => by simp only [liftV, CSrcWFV, SrcWFV, wf_lift es (d + 1)]
    | .list xs, _ => by simp only [liftV, CSrcWFV, SrcWFV]
  theorem wf_lift : ∀ (es : SrcEntries) (d : Nat), CSrcWFItems d (liftEs es) = SrcWFEs d es
    | [], _ => by simp only [liftEs, CSrcWFItems, SrcWFEs]
    | (k, v) :: es, d => by simp only [liftEs, CSrcWFItems, SrcWFEs, wf_liftV v d, wf_lift es d]
end

mutual
  theorem plain_liftV : ∀ v : Src, plainV (liftV v) = v
    | .lit l => by simp only [liftV, plainV]
    | .dict es => by simp only [liftV, plainV, plain_lift es]
    | .list xs => by simp only [liftV, plainV]
  theorem plain_lift : ∀ es : SrcEntries, plainItems (liftEs es) = es
    | [] => by simp only [liftEs, plainItems]
    | (k, v) :: es => by simp only [liftEs, plainItems, plain_liftV v, plain_lift es]
end

mutual
  theorem label_liftV : ∀ (v : Src) (st : CLabelSt), labelCV st (liftV v) = (st, v)
    | .lit l, _ => by simp only [liftV, labelCV]
    | .dict es, st => by simp only [liftV, labelCV, label_lift es st]
    | .list xs, _ => by simp only [liftV, labelCV]
  theorem label_lift : ∀ (es : SrcEntries) (st : CLabelSt), labelCItems st (liftEs es) = (st, es)
    | [], _ => by simp only [liftEs, labelCItems]
    | (k, v) :: es, st => by simp only [liftEs, labelCItems, label_liftV v st, label_lift es st]
end


/-! ### the written file as a commented document -/

/-- the `FoamFile` sub-dict as the header spells it -/
def foamFileSrc : SrcEntries :=
  [("version".toList, .lit (.bare "2.0".toList)), ("format".toList, .lit (.bare "ascii".toList)),
   ("class".toList, .lit (.bare "dictionary".toList)), ("object".toList, .lit (.bare "foamDict".toList))]

/-- the file `fmtSD .foam` writes, as a commented document: banner, `FoamFile` block, separator line, the entries -/
def foamDoc (es : SrcEntries) : List CItem :=
  .blockC bannerBody :: .entry "FoamFile".toList (.dict (liftEs foamFileSrc)) :: .lineC sepBody :: liftEs es

/-- the tokens of the header up to the closing brace of the `FoamFile` block -/
def hdrToksA : List CTok :=
  .blockC bannerBody :: .tok (.word "FoamFile".toList) :: .tok (.word ['{']) ::
    ((srcToksEs foamFileSrc).map .tok ++ [.tok (.word ['}'])])

/-- the gaps in front of these tokens (a line feed is put in front of the whole text) -/
def hdrGapsA : List Str :=
  [['\n'], ['\n'], ['\n'],
   "\n    ".toList, spaces 19, [], "\n    ".toList, spaces 20, [], "\n    ".toList, spaces 21, [],
   "\n    ".toList, spaces 20, [], ['\n']]

theorem ctoks_foamDoc (es : SrcEntries) :
    ctoksItems (foamDoc es) = hdrToksA ++ .lineC sepBody :: (srcToksEs es).map .tok := by
  simp only [foamDoc, ctoksItems, ctoks_lift, hdrToksA, List.cons_append, List.append_assoc, List.nil_append]

theorem hdr_spread : spread (hdrToksA.map CTok.text) hdrGapsA [] ++ '\n' :: sepLine = '\n' :: C10.foamHeaderChars.dropLast := by
  decide +kernel

theorem hdrA_len : hdrGapsA.length = hdrToksA.length := by decide +kernel

theorem hdrA_ok : GapsOKC (hdrToksA ++ [.lineC sepBody]) (hdrGapsA ++ [['\n']]) [] = true := by decide +kernel

theorem spread_append : ∀ (a ga : List Str) (b gb : List Str) (tail : Str), ga.length = a.length →
    spread (a ++ b) (ga ++ gb) tail = spread a ga [] ++ spread b gb tail
  | [], [], _, _, _, _ => by simp [spread]
  | [], _ :: _, _, _, _, h => by simp at h
  | _ :: _, [], _, _, _, h => by simp at h
  | x :: a, g :: ga, b, gb, tail, h => by
    simp only [List.length_cons, Nat.add_right_cancel_iff] at h
    simp only [List.cons_append, spread, spread_append a ga b gb tail h, List.append_assoc]

/-- an admissible layout of `a ++ [t]` and one of `t :: rest` that agree on the gap in front of `t` glue together -/
theorem gapsOKC_glue (t : CTok) (g : Str) (rest : List CTok) (grest : List Str) (tail : Str) :
    ∀ (a : List CTok) (ga : List Str), ga.length = a.length →
    GapsOKC (a ++ [t]) (ga ++ [g]) [] = true → GapsOKC (t :: rest) (g :: grest) tail = true →
    GapsOKC (a ++ t :: rest) (ga ++ g :: grest) tail = true
  | [], [], _, _, h2 => h2
  | [], _ :: _, h, _, _ => by simp at h
  | _ :: _, [], h, _, _ => by simp at h
  | [x], [gx], _, h1, h2 => by
    simp only [List.cons_append, List.nil_append, GapsOKC, Bool.and_eq_true] at h1 ⊢
    exact ⟨⟨h1.1.1, h1.1.2⟩, h2⟩
  | [x], _ :: _ :: _, h, _, _ => by simp at h
  | x :: y :: a, [_], h, _, _ => by simp at h
  | x :: y :: a, gx :: gy :: ga, h, h1, h2 => by
    simp only [List.length_cons, Nat.add_right_cancel_iff] at h
    simp only [List.cons_append, GapsOKC, Bool.and_eq_true] at h1 ⊢
    exact ⟨⟨h1.1.1, h1.1.2⟩, gapsOKC_glue t g rest grest tail (y :: a) (gy :: ga) (by simpa using h) h1.2 h2⟩

/-- **the written file is an admissible layout of `foamDoc`** (with one line feed in front) -/
theorem foam_layout (X : List STok) (gaps : List Str) (tail : Str) (hg : GapsOKS X gaps = true)
    (ht : tail.all isWs = true) :
    ∃ G T, '\n' :: (foamHeader ++ spreadS X gaps tail) = spreadC (hdrToksA ++ .lineC sepBody :: X.map .tok) G T ∧
      GapsOKC (hdrToksA ++ .lineC sepBody :: X.map .tok) G T = true := by
  have hsplit : foamHeader = C10.foamHeaderChars.dropLast ++ ['\n'] := by
    rw [← C10.foamHeader_eq]; exact C10.foamHeader_chars.2.2.2
  have hnl : isWs '\n' = true := by decide
  have hspread : ∀ (rest : List CTok) (grest : List Str) (T : Str),
      spreadC (hdrToksA ++ .lineC sepBody :: rest) (hdrGapsA ++ ['\n'] :: grest) T =
        '\n' :: (C10.foamHeaderChars.dropLast ++ spreadC rest grest T) := by
    intro rest grest T
    unfold spreadC
    rw [List.map_append, spread_append _ _ _ _ _ (by rw [List.length_map]; exact hdrA_len)]
    simp only [List.map_cons, spread, CTok.text, ← sepLine_shape]
    have := hdr_spread
    rw [← List.cons_append, ← this]
    simp only [List.append_assoc, List.cons_append, List.nil_append]
  cases X with
  | nil =>
    refine ⟨hdrGapsA ++ [['\n']], '\n' :: tail, ?_, ?_⟩
    · rw [List.map_nil, hspread [] [] ('\n' :: tail), hsplit]
      simp [spreadS, spreadC, spread]
    · refine gapsOKC_glue _ _ [] [] _ hdrToksA hdrGapsA hdrA_len hdrA_ok ?_
      simp [GapsOKC, ht, hnl]
  | cons t ts =>
    have hpad := C09.gapsOKC_padG tail ht (t :: ts) gaps hg
    have hsp := C09.spreadC_padG (t :: ts) gaps tail
    cases hp : C09.padG (t :: ts) gaps with
    | nil => cases gaps <;> simp [C09.padG] at hp
    | cons g0 gs =>
      rw [hp] at hpad hsp
      refine ⟨hdrGapsA ++ ['\n'] :: ('\n' :: g0) :: gs, tail, ?_, ?_⟩
      · rw [hspread, hsplit, ← hsp]
        simp only [List.map_cons, C12.Stages.spreadC_cons, List.append_assoc, List.cons_append, List.nil_append]
      · refine gapsOKC_glue _ _ _ _ _ hdrToksA hdrGapsA hdrA_len hdrA_ok ?_
        have h2 := C12.Incl.gapsOKC_nl hpad
        simp only [List.map_cons] at h2 ⊢
        simp only [GapsOKC, Bool.and_eq_true]
        exact ⟨⟨by decide, by simp⟩, h2⟩


/-! ### what the reader returns for the written file -/

/-- the sub-dict of the `FoamFile` entry: `{version: 2.0, format: 'ascii', class: 'dictionary', object: 'foamDict'}` -/
def foamFileDict : Entries :=
  [(.str "version".toList, .leaf (.float "2.0".toList)), (.str "format".toList, .leaf (.str "ascii".toList)),
   (.str "class".toList, .leaf (.str "dictionary".toList)), (.str "object".toList, .leaf (.str "foamDict".toList))]

/-- the `FoamFile` entry -/
def foamFileEntry : Key × Val := (.str "FoamFile".toList, .dict foamFileDict)

/-- the placeholder entry of line comment number `i` -/
def lineEntry (i : Nat) : Key × Val := (.str (linePh i), .leaf (.str (linePh i)))

/-- the SDict the reader returns for a written file: placeholder entry of the banner (`BLOCKCOMMENT000000`), the
    `FoamFile` entry, the placeholder entry of the separator line (`LINECOMMENT%06d`, id `i` drawn from the counter),
    then the data; the banner under id 0 in the block-comment table, the separator line under id `i` in the
    line-comment table -/
def foamSD (i : Nat) (D : Entries) : SD :=
  { data := C12.hdrEntry :: foamFileEntry :: lineEntry i :: D, lineC := [(i, sepLine)], blockC := [(0, banner)] }

/-- an entry in front whose key no entry of the document types to is left alone by the document's meaning -/
theorem denSrc_cons_ne (k0 : Key) (v0 : Val) : ∀ (es : SrcEntries) (acc : Entries),
    (∀ e ∈ es, keyOfScalar (parseKey e.1) ≠ some k0) →
    denSrcEs es ((k0, v0) :: acc) = (k0, v0) :: denSrcEs es acc
  | [], _, _ => by simp only [denSrcEs]
  | (k, v) :: es, acc, h => by
    have hk := h (k, v) List.mem_cons_self
    have hes : ∀ e ∈ es, keyOfScalar (parseKey e.1) ≠ some k0 := fun e he => h e (List.mem_cons_of_mem _ he)
    simp only [denSrcEs]
    cases hkey : keyOfScalar (parseKey k) with
    | none => simp only []; exact denSrc_cons_ne k0 v0 es acc hes
    | some key =>
      have hne : k0 ≠ key := fun e => hk (by rw [hkey, e])
      simp only []
      rw [setKey_cons_ne hne]
      exact denSrc_cons_ne k0 v0 es _ hes

/-- no key of a well-formed document types to a placeholder word -/
theorem wf_ne_ph {d : Nat} {es : SrcEntries} (h : SrcWFEs d es = true) {w : Str} (hw : isPhTok w = true) :
    ∀ e ∈ es, keyOfScalar (parseKey e.1) ≠ some (.str w) := by
  intro e he hkey
  have hk := C02.Main.srcWF_keys h e he
  rcases C02.Main.typedKey_cases hk hkey with ⟨z, hz⟩ | hz
  · cases hz
  · have e' : w = e.1 := by injection hz
    have := (C02.srcWord_facts hk).2.1
    rw [← e', hw] at this
    cases this

theorem foamFile_facts :
    isPhTok "FoamFile".toList = false ∧
    keyOfScalar (parseKey "FoamFile".toList) = some (.str "FoamFile".toList) ∧
    denPV (.dict foamFileSrc) = .dict foamFileDict ∧
    C07.isPhKey (.str "FoamFile".toList) = false ∧
    Key.str "FoamFile".toList ≠ .str C12.hdrPh := by
  refine ⟨by decide +kernel, by decide +kernel, by decide +kernel, by decide +kernel, ?_⟩
  rw [C12.hdrPh_eq]; decide

theorem linePh_isPh {i : Nat} (hi : i ≤ 999999) : C07.isPhKey (.str (linePh i)) = true :=
  Ph.isPhKey_ph .line (Nat.lt_succ_of_le hi)

theorem linePh_ne (i : Nat) : Key.str (linePh i) ≠ .str C12.hdrPh ∧ Key.str (linePh i) ≠ .str "FoamFile".toList := by
  have e : linePh i = 'L' :: ("INECOMMENT".toList ++ padSix i) := rfl
  rw [e, C12.hdrPh_eq]
  constructor <;> (intro h; injection h with h; injection h with h _; cases h)

theorem foamFileDict_ok : C07.NoPhEs foamFileDict ∧ NodupKeysV (.dict foamFileDict) := by
  refine ⟨?_, by decide, ?_⟩
  · simp only [foamFileDict, C07.NoPhEs, C07.NoPhV, and_true]
    decide +kernel
  · simp only [foamFileDict, NodupKeysEs, NodupKeysV, and_true]

theorem line_sel {i : Nat} (hi : i ≤ 999999) :
    C06.selB (.str (linePh i)) = false ∧ C06.selI (.str (linePh i)) = false ∧ C06.selL (.str (linePh i)) = true :=
  have hi := Nat.lt_succ_of_le hi
  ⟨Ph.selK_ph .block .line hi, Ph.selK_ph .incl .line hi, Ph.selK_ph .line .line hi⟩

theorem foamKeys (i : Nat) (D : Entries) :
    keys (foamSD i D).data = .str C12.hdrPh :: .str "FoamFile".toList :: .str (linePh i) :: keys D := rfl

/-- the three header keys are distinct and none of them is a key of the data -/
theorem foamKeys_nodup {i : Nat} (hi : i ≤ 999999) {D : Entries} (hp : C07.NoPhEs D) (hn : (keys D).Nodup)
    (hff : Key.str "FoamFile".toList ∉ keys D) : (keys (foamSD i D).data).Nodup := by
  have h3 : Key.str (linePh i) ∉ keys D := fun hm => by
    have := C07.noPhEs_keys hp _ hm
    rw [linePh_isPh hi] at this
    cases this
  rw [foamKeys]
  refine List.nodup_cons.mpr ⟨?_, List.nodup_cons.mpr ⟨?_, List.nodup_cons.mpr ⟨h3, hn⟩⟩⟩
  · simp only [List.mem_cons, not_or]
    exact ⟨fun e => foamFile_facts.2.2.2.2 e.symm, fun e => (linePh_ne i).1 e.symm, C12.hdr_not_mem hp⟩
  · simp only [List.mem_cons, not_or]
    exact ⟨fun e => (linePh_ne i).2 e.symm, hff⟩

/-- `_clean` leaves the SDict of a written file alone: on the top level each class of placeholder keys has at most one
    key, the nested dicts have none -/
theorem foamSD_clean {i : Nat} (hi : i ≤ 999999) {D : Entries} (hp : C07.NoPhEs D) (hn : NodupKeysV (.dict D))
    (hff : Key.str "FoamFile".toList ∉ keys D) : (foamSD i D).clean = foamSD i D := by
  obtain ⟨dB, dI, dL⟩ := filter_sel_noPh (C07.noPhEs_keys hp)
  obtain ⟨fB, fI, fL⟩ := filter_sel_noPh (ks := [.str "FoamFile".toList]) fun k hk => by
    rw [List.mem_singleton.mp hk]; exact foamFile_facts.2.2.2.1
  simp only [List.filter_cons, List.filter_nil] at fB fI fL
  have hB : ((keys (foamSD i D).data).filter C06.selB).length ≤ 1 := by
    rw [foamKeys]
    simp only [List.filter_cons, C12.hdr_sel.1, (line_sel hi).1, fB, dB, if_true, Bool.false_eq_true, if_false]
    exact Nat.le_refl 1
  have hI : (keys (foamSD i D).data).filter C06.selI = [] := by
    rw [foamKeys]
    simp only [List.filter_cons, C12.hdr_sel.2.1, (line_sel hi).2.1, fI, dI, Bool.false_eq_true, if_false]
  have hL : ((keys (foamSD i D).data).filter C06.selL).length ≤ 1 := by
    rw [foamKeys]
    simp only [List.filter_cons, C12.hdr_sel.2.2, (line_sel hi).2.2, dL, if_true, Bool.false_eq_true, if_false]
    exact Nat.le_refl 1
  refine C07.clean_of_top _ ?_ (foamKeys_nodup hi hp hn.1 hff) ?_
  · rw [cleanLevel_eq, cleanStep_le1 C06.selB (foamSD i D).data _ hB, cleanStep_nil_sel hI,
      cleanStep_le1 C06.selL (foamSD i D).data _ hL]
  · intro k sub hm
    rcases List.mem_cons.mp hm with h | hm
    · cases h
    · rcases List.mem_cons.mp hm with h | hm
      · cases h; exact foamFileDict_ok
      · rcases List.mem_cons.mp hm with h | hm
        · cases h
        · exact ⟨(C07.noPhEs_iff.mp hp _ hm).2, nodupKeysEs_iff.mp hn.2 _ hm⟩

theorem hdrPh_isPhTok : isPhTok C12.hdrPh = true := C12W.isPhTok_ph false 0


/-- **the meaning of `foamDoc es`**: the three header entries in front of the meaning of `es`, the two comments in
    the tables -/
theorem denC_foamDoc {c : Counter} {es : SrcEntries} {Dn : Entries}
    (hwf : SrcWFEs 1 es = true) (hden : denSrcEs es [] = Dn)
    (hffs : ∀ e ∈ es, keyOfScalar (parseKey e.1) ≠ some (.str "FoamFile".toList))
    (hp : C07.NoPhEs Dn) (hn : NodupKeysV (.dict Dn)) (hff : Key.str "FoamFile".toList ∉ keys Dn) :
    denC c (foamDoc es) = foamSD (Counter.next Gen.counterLimit c).1 Dn := by
  have hi : (Counter.next Gen.counterLimit c).1 ≤ 999999 := next_le _ _
  simp only [denC, foamDoc, labelCItems, labelCV, label_lift]
  generalize (Counter.next Gen.counterLimit c).1 = i at hi ⊢
  obtain ⟨f1, f2, f3, _, f5⟩ := foamFile_facts
  have hb : isPhTok (blockPh ([] : Tbl Str).length) = true := C12W.isPhTok_ph false 0
  have hl : isPhTok (linePh i) = true := C12W.isPhTok_ph true i
  have hdata : denPEs ((blockPh ([] : Tbl Str).length, Src.lit (Lit.bare (blockPh ([] : Tbl Str).length))) ::
      ("FoamFile".toList, Src.dict foamFileSrc) :: (linePh i, Src.lit (Lit.bare (linePh i))) :: es) [] =
      C12.hdrEntry :: foamFileEntry :: lineEntry i :: Dn := by
    rw [C12.denPEs_cons_ph hb, C12.denPEs_cons f1 f2, C12.denPEs_cons_ph hl, C12.denPEs_plain es 1 _ hwf, f3]
    have e : setKey (Key.str (linePh i)) (Val.leaf (Scalar.str (linePh i)))
        (setKey (Key.str "FoamFile".toList) (Val.dict foamFileDict)
          (setKey (Key.str (blockPh ([] : Tbl Str).length)) (Val.leaf (Scalar.str (blockPh ([] : Tbl Str).length))) [])) =
        [C12.hdrEntry, foamFileEntry, lineEntry i] := by
      have e0 : blockPh ([] : Tbl Str).length = C12.hdrPh := rfl
      rw [e0]
      simp only [setKey, (linePh_ne i).1.symm, (linePh_ne i).2.symm, f5.symm, if_false]
      rfl
    rw [e]
    simp only [C12.hdrEntry, foamFileEntry, lineEntry]
    rw [denSrc_cons_ne _ _ es _ (wf_ne_ph hwf hdrPh_isPhTok), denSrc_cons_ne _ _ es _ hffs,
      denSrc_cons_ne _ _ es _ (wf_ne_ph hwf hl), hden]
  rw [hdata]
  have htab : (SD.mk (C12.hdrEntry :: foamFileEntry :: lineEntry i :: Dn) []
      (Tbl.set i ('/' :: '/' :: sepBody) []) ([] ++ [(([] : Tbl Str).length, '/' :: '*' :: bannerBody ++ ['*', '/'])]) []) =
      foamSD i Dn := by
    simp only [foamSD, Tbl.set, List.nil_append, List.length_nil, ← sepLine_shape]
    rw [banner_shape]
    rfl
  rw [htab]
  exact foamSD_clean hi hp hn hff


theorem wf_foamDoc {es : SrcEntries} (h : SrcWFEs 1 es = true) : CSrcWFItems 1 (foamDoc es) = true := by
  simp only [foamDoc, CSrcWFItems, CSrcWFV, wf_lift, h, bannerBody_ok, sepBody_ok, Bool.and_true, Bool.true_and]
  decide +kernel

theorem plain_foamDoc (es : SrcEntries) :
    plainItems (foamDoc es) = ("FoamFile".toList, .dict foamFileSrc) :: es := by
  simp only [foamDoc, plainItems, plainV, plain_lift]

theorem count_foamDoc (es : SrcEntries) :
    C02.countQuotedEs (plainItems (foamDoc es)) = C02.countQuotedEs es := by
  rw [plain_foamDoc]
  simp only [C02.countQuotedEs, C02.countQuotedV, foamFileSrc, Nat.zero_add, Nat.add_zero]

/-- the dict has no top-level key `FoamFile` (the writer's own `FoamFile` block would be overwritten by it on reading) -/
def NoFoamFileKey (d : Entries) : Prop := ∀ e ∈ d, e.1 ≠ .str "FoamFile".toList

instance (d : Entries) : Decidable (NoFoamFileKey d) := by unfold NoFoamFileKey; infer_instance

theorem mem_srcOfEs (fl : Flavor) : ∀ {D : Entries} {e : Str × Src}, e ∈ srcOfEs fl D → ∃ p ∈ D, e.1 = keyStr p.1
  | [], _, h => by simp [srcOfEs] at h
  | (k, v) :: D, e, h => by
    simp only [srcOfEs, List.mem_cons] at h
    rcases h with rfl | h
    · exact ⟨(k, v), List.mem_cons_self, rfl⟩
    · obtain ⟨p, hp, he⟩ := mem_srcOfEs fl h
      exact ⟨p, List.mem_cons_of_mem _ hp, he⟩

/-- the facts about a dict of the Foam value domain the reader theorem needs -/
theorem dom_facts {D : Entries} (hdom : DomC01 .foam D = true) (hu : C10.NoUnderscoreEs D) (hff : NoFoamFileKey D) :
    SrcWFEs 1 (srcOfEs .foam D) = true ∧ denSrcEs (srcOfEs .foam D) [] = normEs D ∧
    (∀ e ∈ srcOfEs .foam D, keyOfScalar (parseKey e.1) ≠ some (.str "FoamFile".toList)) ∧
    C07.NoPhEs (normEs D) ∧ NodupKeysV (.dict (normEs D)) ∧ Key.str "FoamFile".toList ∉ keys (normEs D) ∧
    C02.DocKeysAbsent (plainItems (foamDoc (srcOfEs .foam D))) := by
  have hd : domEs .foam 1 D = true := by
    simp only [DomC01, Bool.and_eq_true] at hdom; exact hdom.1
  have hk := C01.domEs_keys hd
  obtain ⟨hp, hn⟩ := C10.norm_invariants_foam hdom
  refine ⟨C10.Foam.srcOf_wf_f 1 D hd, C10.Foam.den_written_f hdom, ?_, hp, hn, ?_, ?_⟩
  · intro e he hkey
    obtain ⟨p, hpD, hek⟩ := mem_srcOfEs .foam he
    rw [hek, C01.domKey_types_back (hk p hpD)] at hkey
    exact hff p hpD (by injection hkey)
  · rw [C01.keys_normEs]
    intro hm
    obtain ⟨p, hpD, hpk⟩ := List.mem_map.mp hm
    exact hff p hpD hpk
  · rw [plain_foamDoc]
    intro e he
    rcases List.mem_cons.mp he with rfl | he
    · exact ⟨by decide, by decide⟩
    · obtain ⟨p, hpD, hek⟩ := mem_srcOfEs .foam he
      have h1 := C10.mem_noUnderscore hu p hpD
      rw [C01.formatKey_dom (hk p hpD), ← hek] at h1
      exact ⟨fun e' => h1 (by rw [e']; rfl), fun e' => h1 (by rw [e']; rfl)⟩

/-- **the reader on the written text.**  For a dict `D` of the Foam value domain without private keys and without a
    top-level key `FoamFile`: the text `foamHeader ++ fmtPlain .foam D` is read (comments on) as `foamSD i (normEs D)`,
    `i` the id the counter hands out first (it goes to the separator line; the string literals of `D` follow). -/
theorem read_foam_parse {D : Entries} {c : Counter} (dir : Str)
    (hdom : DomC01 .foam D = true) (hu : C10.NoUnderscoreEs D) (hff : NoFoamFileKey D)
    (hn : C02.countQuotedEs (srcOfEs .foam D) ≤ Gen.counterLimit + 1) (hc : C13.ValidCounter Gen.counterLimit c) :
    ∃ c', C13.ValidCounter Gen.counterLimit c' ∧
      parseNative true dir c (foamHeader ++ fmtPlain .foam D) =
        .ok (foamSD (Counter.next Gen.counterLimit c).1 (normEs D), c') := by
  obtain ⟨hwf, hden, hffs, hp, hnd, hffk, hdk⟩ := dom_facts hdom hu hff
  obtain ⟨gaps, tail, e, hg, ht⟩ := C10.Foam.fmtPlain_is_layout_f hdom hu
  obtain ⟨G, T, etext, hG⟩ := foam_layout _ gaps tail hg ht
  rw [← ctoks_foamDoc] at etext hG
  have hread := C12.C12_read_commented (items := foamDoc (srcOfEs .foam D)) dir c (wf_foamDoc hwf) hG
    (fun h => by simp [foamDoc] at h) hc (by rw [count_foamDoc]; exact hn) hdk
  rw [← etext, C12W.parseNative_nl, ← e, denC_foamDoc hwf hden hffs hp hnd hffk] at hread
  exact ⟨_, parseNative_valid hread hc, hread⟩


/-! ### the writer on the SDict the reader returns -/

theorem fmtEntries_cons (fl : Flavor) (lvl : Nat) (e : Key × Val) (r : Entries) :
    fmtEntries fl lvl (e :: r) = fmtEntries fl lvl [e] ++ fmtEntries fl lvl r := by
  obtain ⟨k, v⟩ := e
  cases v <;> simp [fmtEntries]

/-- a placeholder entry is written as one line -/
theorem fmt_ph_entry (l : Bool) {i : Nat} (hi : i ≤ 999999) :
    fmtEntries .foam 0 [(.str (C12W.phWord l i), .leaf (.str (C12W.phWord l i)))] =
      C12W.phWord l i ++ spaces (if l then 13 else 12) ++ C12W.phWord l i ++ [';', '\n'] := by
  simp only [fmtEntries, fline, formatKey, formatScalar, C12W.phWord_format_fl, C12W.phWord_length l hi]
  cases l <;> simp [spaces, List.replicate]

/-- the `FoamFile` entry is written as the `FoamFile` block of the header -/
theorem fmt_foamFile : fmtEntries .foam 0 [foamFileEntry] = foamFileText := by
  simp only [foamFileEntry, foamFileDict, fmtEntries, formatKey, keyStr, formatScalar]
  decide +kernel

/-- the raw text of the data of `foamSD n M`: the two placeholder lines, the `FoamFile` block between them, the data -/
theorem fmt_foamSD {n : Nat} (hn : n ≤ 999999) (M : Entries) :
    fmtEntries .foam 0 (C12.hdrEntry :: foamFileEntry :: lineEntry n :: M) =
      [] ++ (kwBlock ++ padSix 0) ++ spaces 12 ++ (kwBlock ++ padSix 0) ++ [';'] ++
        (('\n' :: foamFileText) ++ (kwLine ++ padSix n) ++ spaces 13 ++ (kwLine ++ padSix n) ++ [';'] ++
          ('\n' :: fmtEntries .foam 0 M)) := by
  rw [fmtEntries_cons, fmtEntries_cons _ _ foamFileEntry, fmtEntries_cons _ _ (lineEntry n), fmt_foamFile]
  have e1 := fmt_ph_entry false (i := 0) (by omega)
  have e2 := fmt_ph_entry true hn
  simp only [Bool.false_eq_true, if_false, if_true] at e1 e2
  rw [show C12.hdrEntry = (.str (C12W.phWord false 0), .leaf (.str (C12W.phWord false 0))) from rfl, e1,
    show lineEntry n = (.str (C12W.phWord true n), .leaf (.str (C12W.phWord true n))) from rfl, e2]
  simp [C12W.phWord]

theorem banner_facts : containsCpp banner = true ∧ isInfix "OpenFOAM".toList banner = true ∧ banner ≠ [] ∧
    'L' ∉ banner ++ '\n' :: foamFileText ∧ 'B' ∉ '\n' :: foamFileText := by decide +kernel

theorem makeDefault_banner : makeDefaultBlockComment .foam banner = banner := by
  rw [C10.makeDefault_foam_of_cpp banner_facts.1, banner_facts.2.1]; rfl

/-- the raw text of a dict of the Foam domain contains no `COMMENT` -/
theorem dom_noComment {D : Entries} (h : DomC01 .foam D = true) :
    isInfix C12.kwComment (fmtEntries .foam 0 D) = false := by
  obtain ⟨gaps, tail, e, hg, ht⟩ := C01.Fl.fmt_is_layout h
  have hd : domEs .foam 1 D = true := by
    simp only [DomC01, Bool.and_eq_true] at h; exact h.1
  rw [e]
  exact C12.noComment_spread _ gaps tail (C02.srcToks_ok 1 _ (C10.Foam.srcOf_wf_f 1 D hd)) hg ht

/-- none of the three header keys is written with a leading underscore, and the `FoamFile` dict has no such key:
    the removal of private keys passes over the header entries -/
theorem drop_foamSD (n : Nat) (M : Entries) :
    dropUnderscoreEs .foam (C12.hdrEntry :: foamFileEntry :: lineEntry n :: M) =
      C12.hdrEntry :: foamFileEntry :: lineEntry n :: dropUnderscoreEs .foam M := by
  have hph : ∀ l j, ((formatKey .foam (.str (C12W.phWord l j))).head? == some '_') = false := by
    intro l j
    show ((formatString .foam (C12W.phWord l j)).head? == some '_') = false
    rw [C12W.phWord_format_fl]
    cases l <;> rfl
  have hff : ((formatKey .foam foamFileEntry.1).head? == some '_') = false ∧
      dropUnderscoreV .foam foamFileEntry.2 = foamFileEntry.2 := by decide +kernel
  show dropUnderscoreEs .foam ((.str (C12W.phWord false 0), C12.hdrEntry.2) :: (foamFileEntry.1, foamFileEntry.2) ::
    (.str (C12W.phWord true n), (lineEntry n).2) :: M) = _
  simp only [dropUnderscoreEs, hph, hff.1, Bool.false_eq_true, if_false, hff.2]
  rfl

theorem foamSD_hoist {i : Nat} {D : Entries} (hk : ∀ k ∈ keys D, C07.isPhKey k = false) :
    hoistPlaceholders (foamSD i D).data = (foamSD i D).data := by
  have hR : ∀ e ∈ foamFileEntry :: lineEntry i :: D, C06.selB e.1 = false ∧ C06.selI e.1 = false := by
    intro e he
    rcases List.mem_cons.mp he with rfl | he
    · exact ⟨Ph.selK_noPh .block foamFile_facts.2.2.2.1, Ph.selK_noPh .incl foamFile_facts.2.2.2.1⟩
    · rcases List.mem_cons.mp he with rfl | he
      · have hB : containsPh kwBlock (linePh i) = false := Ph.containsPh_other (a := .block) (b := .line) (by decide) i
        have hI : containsPh kwIncl (linePh i) = false := Ph.containsPh_other (a := .incl) (b := .line) (by decide) i
        exact ⟨hB, by simp [lineEntry, C06.selI, hI]⟩
      · exact ⟨Ph.selK_noPh .block (hk e.1 (List.mem_map_of_mem he)), Ph.selK_noPh .incl (hk e.1 (List.mem_map_of_mem he))⟩
  show hoistPlaceholders (C12.hdrEntry :: foamFileEntry :: lineEntry i :: D) = C12.hdrEntry :: foamFileEntry :: lineEntry i :: D
  rw [hoistPlaceholders_cons (e := C12.hdrEntry) C12.hdrPh_block, hoistPlaceholders_id hR]

/-- the block-comment pass on the raw text: the banner is an own ` C++ ` header that names OpenFOAM, so it is put back
    where its placeholder line stands and nothing is put in front -/
theorem block_foamSD {i : Nat} (hi : i ≤ 999999) {M : Entries} (hno : C12W.NoPh (fmtEntries .foam 0 M)) :
    insertBlockComments .foam [(0, banner)] (fmtEntries .foam 0 (C12.hdrEntry :: foamFileEntry :: lineEntry i :: M)) =
      (banner ++ '\n' :: foamFileText) ++ (kwLine ++ padSix i) ++ spaces 13 ++ (kwLine ++ padSix i) ++ [';'] ++
          ('\n' :: fmtEntries .foam 0 M) := by
  obtain ⟨_, _, bne, _, bB⟩ := banner_facts
  have hpost : isInfix (kwBlock ++ padSix 0) (('\n' :: foamFileText) ++ (kwLine ++ padSix i) ++ spaces 13 ++
      (kwLine ++ padSix i) ++ [';'] ++ ('\n' :: fmtEntries .foam 0 M)) = false := by
    have hB : 'B' ∉ ('\n' :: foamFileText) ++ (kwLine ++ padSix i) ++ spaces 13 ++ (kwLine ++ padSix i) ++ [';', '\n'] := by
      have hl : 'B' ∉ kwLine ++ padSix i := C12W.linePh_no_B i
      have hs : 'B' ∉ spaces 13 := by decide
      generalize kwLine ++ padSix i = P at hl ⊢
      simp only [List.mem_append, not_or]
      exact ⟨⟨⟨⟨bB, hl⟩, hs⟩, hl⟩, by decide⟩
    have e : ('\n' :: foamFileText) ++ (kwLine ++ padSix i) ++ spaces 13 ++ (kwLine ++ padSix i) ++ [';'] ++
        ('\n' :: fmtEntries .foam 0 M) =
        (('\n' :: foamFileText) ++ (kwLine ++ padSix i) ++ spaces 13 ++ (kwLine ++ padSix i) ++ [';', '\n']) ++
          fmtEntries .foam 0 M := by simp only [List.append_assoc, List.cons_append, List.nil_append]
    obtain ⟨x, _, hx, _⟩ := C12.hdrPh_shape
    rw [e, show kwBlock ++ padSix 0 = C12.hdrPh from rfl, hx, isInfix_skip 'B' x _ _ hB, ← hx]
    exact hno false 0 (by omega)
  have hsub := fun repl => C12.substPh_once (kw := kwBlock) (c := 'B') (kw' := "LOCKCOMMENT".toList) (by decide) (by decide) 0
    repl [] (spaces 12) _ (List.not_mem_nil) (by decide) (C01.spaces_ws 12) hpost
  rw [fmt_foamSD hi, insertBlock_single .foam 0 banner _ (by rw [hsub]) (by rw [makeDefault_banner]; exact bne),
    makeDefault_banner, hsub]
  simp only [List.nil_append, List.append_assoc]

theorem insertLine_single (i : Nat) (t s : Str) : insertLineComments [(i, t)] s = (substPh kwLine i t s).1 := rfl

/-- the line-comment pass: the separator line is put back where its placeholder line stands -/
theorem line_foamSD {i : Nat} (hi : i ≤ 999999) {M : Entries} (hno : C12W.NoPh (fmtEntries .foam 0 M)) :
    insertLineComments [(i, sepLine)] ((banner ++ '\n' :: foamFileText) ++ (kwLine ++ padSix i) ++ spaces 13 ++
      (kwLine ++ padSix i) ++ [';'] ++ ('\n' :: fmtEntries .foam 0 M)) = foamHeader ++ fmtEntries .foam 0 M := by
  have hpost : isInfix (kwLine ++ padSix i) ('\n' :: fmtEntries .foam 0 M) = false := by
    rw [isInfix_cons, show kwLine ++ padSix i = C12W.phWord true i from rfl, hno true i hi]
    rfl
  rw [insertLine_single, C12.substPh_once (kw := kwLine) (c := 'L') (kw' := "INECOMMENT".toList) (by decide) (by decide) i sepLine _ (spaces 13) _
    banner_facts.2.2.2.1 (by decide) (C01.spaces_ws 13) hpost, ← foamHeaderText_eq]
  simp only [foamHeaderText, List.append_assoc, List.cons_append, List.nil_append]

/-- **the second write**: the SDict read from a written file is written as the header followed by the plain text of
    its data (private keys dropped); the `FoamFile` entry is written as the `FoamFile` block -/
theorem write_foamSD {i : Nat} (hi : i ≤ 999999) {M : Entries} (hdom : DomC01 .foam (dropUnderscoreEs .foam M) = true) :
    fmtSD .foam (foamSD i M) = some (foamHeader ++ fmtPlain .foam M) := by
  have hno := C12W.noPh_of_noComment (dom_noComment hdom)
  have hkM : ∀ k ∈ keys (dropUnderscoreEs .foam M), C07.isPhKey k = false := by
    have := C07.noPhEs_keys (C10.norm_invariants_foam hdom).1
    rwa [C01.keys_normEs] at this
  have hdrop : dropUnderscoreEs .foam (foamSD i M).data = (foamSD i (dropUnderscoreEs .foam M)).data := drop_foamSD i M
  have hplain : fmtPlain .foam M = removeTrailingSpaces (fmtEntries .foam 0 (dropUnderscoreEs .foam M)) := by
    rw [C10.C10_input_unchanged, C12.hoist_noPh hkM]
  simp only [fmtSD, hdrop, foamSD_hoist hkM]
  show (match insertIncludes .foam [] (insertBlockComments .foam [(0, banner)]
      (fmtEntries .foam 0 (C12.hdrEntry :: foamFileEntry :: lineEntry i :: dropUnderscoreEs .foam M))) with
    | none => none
    | some t => some (removeTrailingSpaces (insertLineComments [(i, sepLine)] t))) = _
  rw [block_foamSD hi hno]
  simp only [insertIncludes, List.foldl_nil, line_foamSD hi hno, rts_header, hplain]

/-- the SDict of a written file has unique keys at every level -/
theorem foamSD_nodup {i : Nat} (hi : i ≤ 999999) {D : Entries} (hp : C07.NoPhEs D) (hn : NodupKeysV (.dict D))
    (hff : Key.str "FoamFile".toList ∉ keys D) : NodupKeysV (.dict (foamSD i D).data) :=
  ⟨foamKeys_nodup hi hp hn.1 hff, trivial, foamFileDict_ok.2, trivial, hn.2⟩

/-- `DictReader.read` (default options) of a file whose text parses to the SDict of a written file: the stages above
    the parser change nothing -/
theorem readFile_of_parse_foam {i : Nat} {D : Entries} {c c' : Counter} (ev : Str → EvalResult) (p : Comps) (text : Str)
    (hi : i ≤ 999999) (hparse : parseNative true (pathStr p.dropLast) c text = .ok (foamSD i D, c'))
    (hp : C07.NoPhEs D) (hn : NodupKeysV (.dict D)) (hff : Key.str "FoamFile".toList ∉ keys D)
    (hj : isJsonPath p = false) (hx : isXmlPath p = false) (hr : resolveSpelled p = p) :
    readFile ev [(p, .native text)] {} c p = .ok (.ok (foamSD i D) c') :=
  C01.readFile_clean (o := {}) (by rw [hr]; exact C01.fs_get_single _ _) hx hj hparse rfl rfl
    (foamSD_clean hi hp hn hff) (foamSD_nodup hi hp hn hff)

/-- what is left of the data read when the entries the header accounts for are taken out: the two comment
    placeholder entries and the `FoamFile` entry -/
def dropHeaderEntries (es : Entries) : Entries :=
  es.filter fun e => !C07.isPhKey e.1 && !decide (e.1 = .str "FoamFile".toList)

theorem dropHeader_foamSD {i : Nat} (hi : i ≤ 999999) {D : Entries} (hp : C07.NoPhEs D)
    (hff : Key.str "FoamFile".toList ∉ keys D) : dropHeaderEntries (foamSD i D).data = D := by
  have hk := C07.noPhEs_keys hp
  have e1 : C07.isPhKey C12.hdrEntry.1 = true := C12.hdrPh_isPh
  have e3 : C07.isPhKey (lineEntry i).1 = true := linePh_isPh hi
  have e2 : decide (foamFileEntry.1 = Key.str "FoamFile".toList) = true := decide_eq_true rfl
  unfold dropHeaderEntries
  show List.filter _ (C12.hdrEntry :: foamFileEntry :: lineEntry i :: D) = D
  rw [List.filter_cons_of_neg (by rw [e1]; simp), List.filter_cons_of_neg (by rw [e2]; simp),
    List.filter_cons_of_neg (by rw [e3]; simp)]
  refine List.filter_eq_self.mpr fun e he => ?_
  have h1 := hk e.1 (List.mem_map_of_mem he)
  have h2 : e.1 ≠ Key.str "FoamFile".toList := fun h => hff (by rw [← h]; exact List.mem_map_of_mem he)
  rw [h1, decide_eq_false h2]
  rfl

theorem noFoamFile_iff {d : Entries} : NoFoamFileKey d ↔ Key.str "FoamFile".toList ∉ keys d := by
  simp only [NoFoamFileKey, keys, List.mem_map, not_exists, not_and]

theorem noFoamFile_dropped {d : Entries} (h : NoFoamFileKey d) : NoFoamFileKey (normEs (dropUnderscoreEs .foam d)) := by
  intro e he hk
  exact noFoamFile_iff.mp h (C10.keys_drop_sub (by rw [← C01.keys_normEs, ← hk]; exact List.mem_map_of_mem he))

theorem rts_foamHeader : removeTrailingSpaces foamHeader = foamHeader := by
  have := rts_header []
  rwa [List.append_nil, (by decide : removeTrailingSpaces [] = []), List.append_nil] at this

/-- no block comment of the table has its placeholder entry in the text: the text gets the Foam header in front -/
theorem insertBlock_none (txt : Str) : ∀ (tbl : Tbl Str), (∀ e ∈ tbl, (substPh kwBlock e.1 [] txt).2 = false) →
    insertBlockComments .foam tbl txt = foamHeader ++ txt := by
  intro tbl h
  have key : ∀ (tbl : Tbl Str) (first : Bool), (∀ e ∈ tbl, (substPh kwBlock e.1 [] txt).2 = false) →
      ∃ f', tbl.foldl (fun (acc : Str × Str × Bool) e =>
        let (s, sofar, first) := acc
        let bc := if first then makeDefaultBlockComment .foam e.2 else e.2
        let bc := if isInfix bc sofar then [] else bc
        let (s', found) := substPh kwBlock e.1 bc s
        if found then (s', sofar ++ bc, false) else (s, sofar, false)) (txt, [], first) = (txt, [], f') := by
    intro tbl
    induction tbl with
    | nil => intro first _; exact ⟨first, rfl⟩
    | cons e tbl ih =>
      intro first hh
      have he := hh e List.mem_cons_self
      simp only [List.foldl_cons]
      have hf : ∀ r, (substPh kwBlock e.1 r txt).2 = false := fun r => by rw [substPh_flag kwBlock e.1 r [] txt]; exact he
      rcases hs : substPh kwBlock e.1 (if isInfix (if first then makeDefaultBlockComment .foam e.2 else e.2) [] then []
        else (if first then makeDefaultBlockComment .foam e.2 else e.2)) txt with ⟨s', found⟩
      have := hf (if isInfix (if first then makeDefaultBlockComment .foam e.2 else e.2) [] then []
        else (if first then makeDefaultBlockComment .foam e.2 else e.2))
      rw [hs] at this
      simp only [] at this
      subst this
      simp only [Bool.false_eq_true, if_false]
      exact ih false fun e' he' => hh e' (List.mem_cons_of_mem _ he')
  obtain ⟨f', hf'⟩ := key tbl true h
  simp only [insertBlockComments]
  rw [hf']
  simp [C10.makeDefault_foam_nil]


/-- `C10_sd_text` with the header abstract (the kernel must never be asked to evaluate `foamHeader`: `String.toList`
    on a long literal is slow) -/
theorem sd_text_aux (H : Str) (d : Entries) (hraw : ∀ txt, insertBlockComments .foam [] txt = H ++ txt)
    (hrts : ∀ t, removeTrailingSpaces (H ++ t) = H ++ removeTrailingSpaces t) :
    fmtSD .foam { data := d } = some (H ++ fmtPlain .foam d) := by
  simp only [fmtSD, hraw, insertIncludes, insertLineComments, List.foldl_nil, hrts]
  rfl

/-- **C10_sd_text.**  The text the Foam writer produces for an `SDict` without own comments / includes — for EVERY
    data `d`, no domain hypothesis — is the Foam header (banner, `FoamFile` block, separator line; `foamHeaderText`,
    spelled out in `banner_str`, `foamFileText_str`, `sepLine_str`) followed by the text the plain-dict writer
    produces for `d` (private keys dropped at every level: `C10.C10_underscore`). -/
theorem C10_sd_text (d : Entries) : fmtSD .foam { data := d } = some (foamHeaderText ++ fmtPlain .foam d) := by
  rw [foamHeaderText_eq]
  exact sd_text_aux foamHeader d C10.C10_banner_raw rts_header

/-- the raw text of the data of an SDict, before the comment / include insertion passes -/
def rawText (s : SD) : Str := fmtEntries .foam 0 (hoistPlaceholders (dropUnderscoreEs .foam s.data))

/-- **C10_sd_starts_with_banner.**  Whenever `fmtSD .foam` succeeds on an SDict none of whose block comments has its
    placeholder entry in the data (in particular: an SDict without block comments), the text starts with the Foam
    header: the banner, then the `FoamFile` block, then the separator line. -/
theorem C10_sd_starts_with_banner (s : SD) (t : Str)
    (hno : ∀ e ∈ s.blockC, (substPh kwBlock e.1 [] (rawText s)).2 = false) (h : fmtSD .foam s = some t) :
    ∃ r, t = foamHeaderText ++ r := by
  obtain ⟨hI, hL, hr, hlast⟩ := C10.foamHeader_chars
  rw [foamHeaderText_eq]
  have hb := insertBlock_none (rawText s) s.blockC hno
  simp only [fmtSD] at h
  rw [show fmtEntries .foam 0 (hoistPlaceholders (dropUnderscoreEs .foam s.data)) = rawText s from rfl, hb] at h
  split at h
  · cases h
  · next t1 h1 =>
    obtain ⟨r1, rfl⟩ := C10.insertIncludes_skip foamHeader hI _ _ _ h1
    obtain ⟨r2, e2⟩ := C10.insertLineComments_skip foamHeader hL s.lineC r1
    simp only [Option.some.injEq] at h
    rw [e2, rts_header] at h
    exact ⟨_, h.symm⟩

/-- the special case "no block comment at all", with the three parts of the header named -/
theorem C10_sd_starts_with_banner' (s : SD) (t : Str) (hb : s.blockC = []) (h : fmtSD .foam s = some t) :
    ∃ r, t = banner ++ ['\n'] ++ foamFileText ++ sepLine ++ ['\n'] ++ r :=
  C10_sd_starts_with_banner s t (by rw [hb]; intro e he; cases he) h

/-- the hypotheses of the round trip on a dict `d` (those of `C10.C10_roundtrip_file`, plus: no top-level key
    `FoamFile`) -/
structure Hyp (d : Entries) (c : Counter) (target : Comps) : Prop where
  dom : DomC01 .foam (normEs (dropUnderscoreEs .foam d)) = true
  cnt : C02.countQuotedEs (srcOfEs .foam (normEs (dropUnderscoreEs .foam d))) ≤ Gen.counterLimit + 1
  noFF : NoFoamFileKey d
  hc : C13.ValidCounter Gen.counterLimit c
  hj : isJsonPath target = false
  hx : isXmlPath target = false
  hr : resolveSpelled target = target

/-- the text written for `SDict(d)` -/
def sdText (d : Entries) : Str := foamHeaderText ++ fmtPlain .foam (normEs d)

theorem sdText_dropped (d : Entries) :
    sdText d = foamHeader ++ fmtPlain .foam (normEs (dropUnderscoreEs .foam d)) := by
  rw [sdText, foamHeaderText_eq, C10.normEs_drop, C10.C10_fmtPlain_drop]

/-- reading the written file -/
theorem readFile_sd {d : Entries} {c : Counter} {target : Comps} (ev : Str → EvalResult) (H : Hyp d c target) :
    ∃ c', C13.ValidCounter Gen.counterLimit c' ∧
      readFile ev [(target, .native (sdText d))] {} c target =
        .ok (.ok (foamSD (Counter.next Gen.counterLimit c).1 (normEs (dropUnderscoreEs .foam d))) c') := by
  have hu : C10.NoUnderscoreEs (normEs (dropUnderscoreEs .foam d)) := by rw [C10.normEs_drop]; exact C10.C10_underscore _
  have hff := noFoamFile_dropped H.noFF
  obtain ⟨c', hv, hparse⟩ := read_foam_parse (c := c) (pathStr target.dropLast) H.dom hu hff H.cnt H.hc
  rw [C01.normEs_idem, ← sdText_dropped] at hparse
  obtain ⟨hp, hn⟩ := C10.norm_invariants_foam H.dom
  rw [C01.normEs_idem] at hp hn
  exact ⟨c', hv, readFile_of_parse_foam ev target _ (next_le _ _) hparse hp hn (noFoamFile_iff.mp hff) H.hj H.hx H.hr⟩

/-- **C10_roundtrip_sd** (DictWriter + DictReader, OpenFOAM flavour, `SDict` source).  For a dict `d` — private `_`
    keys allowed at every level — whose normalised private-key-free copy `D' = normEs (dropUnderscoreEs .foam d)` lies
    in the Foam value domain and that has no top-level key `FoamFile`:

    * writing `SDict(d)` (`_retype_values` first: `normEs`) gives the Foam header followed by the plain Foam text;
    * reading that file with the default options succeeds and returns exactly `foamSD i D'`: the data is
      `BLOCKCOMMENT000000 ↦ BLOCKCOMMENT000000`, `FoamFile ↦ {version: 2.0, format: 'ascii', class: 'dictionary',
      object: 'foamDict'}`, `LINECOMMENT<i> ↦ LINECOMMENT<i>` (`i` = the id the counter hands out first), then the
      entries of `D'` in order; the banner is block comment 0, the separator line is line comment `i`;
    * taking out the two placeholder entries and the `FoamFile` entry leaves `D'`; no key with a leading `_` is left. -/
theorem C10_roundtrip_sd {d : Entries} {c : Counter} {target : Comps} (ev : Str → EvalResult) (H : Hyp d c target) :
    fmtSD .foam { data := normEs d } = some (sdText d) ∧
    (∃ c', C13.ValidCounter Gen.counterLimit c' ∧
      readFile ev [(target, .native (sdText d))] {} c target =
        .ok (.ok { data := (.str C12.hdrPh, .leaf (.str C12.hdrPh)) ::
                            (.str "FoamFile".toList, .dict foamFileDict) ::
                            (.str (linePh (Counter.next Gen.counterLimit c).1),
                              .leaf (.str (linePh (Counter.next Gen.counterLimit c).1))) ::
                            normEs (dropUnderscoreEs .foam d),
                   lineC := [((Counter.next Gen.counterLimit c).1, sepLine)],
                   blockC := [(0, banner)] } c')) ∧
    dropHeaderEntries (foamSD (Counter.next Gen.counterLimit c).1 (normEs (dropUnderscoreEs .foam d))).data =
      normEs (dropUnderscoreEs .foam d) ∧
    C10.NoUnderscoreEs (normEs (dropUnderscoreEs .foam d)) := by
  obtain ⟨hp, hn⟩ := C10.norm_invariants_foam H.dom
  rw [C01.normEs_idem] at hp
  refine ⟨C10_sd_text _, readFile_sd ev H, dropHeader_foamSD (next_le _ _) hp
    (noFoamFile_iff.mp (noFoamFile_dropped H.noFF)), ?_⟩
  rw [C10.normEs_drop]; exact C10.C10_underscore _

/-- **C10_sd_header_once.**  Writing the SDict that was read from a written file gives the same text, byte for byte:
    the banner it carries as block comment 0 is an own ` C++ ` header naming OpenFOAM, so no second header is put in
    front; the `FoamFile` entry is written where the header's `FoamFile` block stood. -/
theorem C10_sd_header_once {d : Entries} {c : Counter} {target : Comps} (ev : Str → EvalResult) (H : Hyp d c target) :
    ∃ sd c', fmtSD .foam { data := normEs d } = some (sdText d) ∧
      readFile ev [(target, .native (sdText d))] {} c target = .ok (.ok sd c') ∧
      fmtSD .foam sd = some (sdText d) := by
  obtain ⟨c', _, hread⟩ := readFile_sd ev H
  have hu : C10.NoUnderscoreEs (normEs (dropUnderscoreEs .foam d)) := by rw [C10.normEs_drop]; exact C10.C10_underscore _
  obtain ⟨hp, _⟩ := C10.norm_invariants_foam H.dom
  rw [C01.normEs_idem] at hp
  refine ⟨_, c', C10_sd_text _, hread, ?_⟩
  exact (write_foamSD (next_le _ _) (by rw [C10.C10_drop_id _ hu]; exact H.dom)).trans (by rw [sdText_dropped])

/-- the fixed point without the file system: when the public part of `D` lies in the Foam domain, the SDict with the
    three header entries and the two comments is written exactly as the SDict with the bare data -/
theorem C10_sd_header_once' {i : Nat} (hi : i ≤ 999999) {D : Entries}
    (hdom : DomC01 .foam (dropUnderscoreEs .foam D) = true) : fmtSD .foam (foamSD i D) = fmtSD .foam { data := D } := by
  rw [write_foamSD hi hdom, C10_sd_text, foamHeaderText_eq]

/-- **through `writeStep`** (Model/Writer.lean; its `SDict` route is the append mode): `DictWriter.write({}, target,
    mode='a')` on a file that holds the text written for `SDict(d)` re-reads the file, merges nothing into it and
    writes the SDict read — the file keeps its bytes (one banner, one `FoamFile` block). -/
theorem C10_sd_writeStep_append {d : Entries} {c : Counter} {target : Comps} (ev : Str → EvalResult)
    (H : Hyp d c target) :
    ∃ c', writeStep ev .foam target (some (sdText d)) ['a'] false [] c = .ok (sdText d, c') := by
  obtain ⟨c', _, hread⟩ := readFile_sd ev H
  have hu : C10.NoUnderscoreEs (normEs (dropUnderscoreEs .foam d)) := by rw [C10.normEs_drop]; exact C10.C10_underscore _
  obtain ⟨hp, hn⟩ := C10.norm_invariants_foam H.dom
  rw [C01.normEs_idem] at hp hn
  have hff := noFoamFile_iff.mp (noFoamFile_dropped H.noFF)
  have hi := next_le Gen.counterLimit c
  have hmerge : (foamSD (Counter.next Gen.counterLimit c).1 (normEs (dropUnderscoreEs .foam d))).merge (.plain (normEs [])) =
      foamSD (Counter.next Gen.counterLimit c).1 (normEs (dropUnderscoreEs .foam d)) := by
    have e : normEs [] = [] := by simp only [normEs]
    rw [e]
    unfold SD.merge
    simp only [Arg.data, C07.mergeD_nil, SD.postMerge]
    exact foamSD_clean hi hp hn hff
  have hwrite : fmtSD .foam (foamSD (Counter.next Gen.counterLimit c).1 (normEs (dropUnderscoreEs .foam d))) =
      some (sdText d) := (write_foamSD hi (by rw [C10.C10_drop_id _ hu]; exact H.dom)).trans (by rw [sdText_dropped])
  refine ⟨c', ?_⟩
  have hread' : readFile ev [(target, .native (sdText d))] { order := false } c target =
      .ok (.ok (foamSD (Counter.next Gen.counterLimit c).1 (normEs (dropUnderscoreEs .foam d))) c') := hread
  rw [C16.C16_append_data ev .foam target _ false [] c c' _ hread']
  simp only [hmerge, Bool.false_eq_true, if_false, hwrite]

/-! ### the same through the API model (`writeText`, `apiRun`: Model/Api.lean) -/

theorem flavor_foam {p : Comps} (h : C10.isFoamPath p = true) : flavorOfPath p = some .foam := by
  obtain ⟨hj, hx⟩ := C10.foamPath_dispatch h
  unfold C10.isFoamPath at h
  unfold flavorOfPath
  simp only [hj, hx, Bool.or_self, Bool.false_eq_true, if_false]
  cases hl : p.getLast? with
  | none => rw [hl] at h; cases h
  | some n => rw [hl] at h; simp only [h, if_true]

/-- `DictWriter.write(SDict(d), 'x.foam')` on a target that does not exist: the text of `C10_sd_text` -/
theorem C10_sd_writeText (ev : Str → EvalResult) (fs : FS) (target : Comps) (mode : Str) (d : Entries) (c : Counter)
    (hf : C10.isFoamPath target = true) (hnew : fs.get (resolveSpelled target) = none) :
    writeText ev fs target mode false (.sd { data := d }) c = .ok (sdText d, c) := by
  rw [writeText_eq_core _ _ _ c (flavor_foam hf), writeCore_fresh false _ c (.inr hnew)]
  simp only [Arg.retype, Bool.false_eq_true, if_false, fmtArg, C10_sd_text, sdText]

/-- `SDict(d).dump('x.foam')` into an empty file system, then `DictReader.read('x.foam')`: the file holds the text
    of `C10_sd_text`, the caller sees `None` and then the SDict of `C10_roundtrip_sd` -/
theorem C10_sd_api {d : Entries} {c : Counter} {target : Comps} (ev : Str → EvalResult) (H : Hyp d c target)
    (hf : C10.isFoamPath target = true) :
    ∃ c', C13.ValidCounter Gen.counterLimit c' ∧
      apiRun ev { fs := [], c := c } [.dump { data := d } target, .read target {}] =
        ({ fs := [(target, .native (sdText d))], c := c' },
         [.done, .data (foamSD (Counter.next Gen.counterLimit c).1 (normEs (dropUnderscoreEs .foam d)))]) := by
  obtain ⟨c', hv, hread⟩ := readFile_sd ev H
  have hw := C10_sd_writeText ev [] target ['a'] d c hf (by rfl)
  have hrun := C16sd.dump_read_run ev { fs := [], c := c } _ target hw (by rw [H.hr]; exact hread)
  rw [H.hr] at hrun
  exact ⟨c', hv, hrun⟩


/-! ## non-vacuity -/

/-- `{'a': 1, 's': {'_x': 2, 'y': '2'}, '_top': 'q', 'k': 'x y'}`: a private key nested in a sub-dict, one on the top
    level, a string leaf that spells a number, a string that needs quotes -/
def exD : Entries :=
  [(.str "a".toList, .leaf (.int 1)),
   (.str "s".toList, .dict [(.str "_x".toList, .leaf (.int 2)), (.str "y".toList, .leaf (.str "2".toList))]),
   (.str "_top".toList, .leaf (.str "q".toList)),
   (.str "k".toList, .leaf (.str "x y".toList))]

/-- what comes back: `{'a': 1, 's': {'y': 2}, 'k': 'x y'}` -/
def exBack : Entries :=
  [(.str "a".toList, .leaf (.int 1)), (.str "s".toList, .dict [(.str "y".toList, .leaf (.int 2))]),
   (.str "k".toList, .leaf (.str "x y".toList))]

theorem exD_back : normEs (dropUnderscoreEs .foam exD) = exBack := by decide +kernel
theorem exBack_dom : DomC01 .foam exBack = true := by decide +kernel
theorem exBack_count : C02.countQuotedEs (srcOfEs .foam exBack) = 1 := by decide +kernel
theorem exD_private : ¬ C10.NoUnderscoreEs exD := by
  simp only [exD, C10.NoUnderscoreEs, C10.NoUnderscoreV]
  intro h
  exact h.2.2.2.1.1 (by decide +kernel)

theorem exHyp : Hyp exD none C10.exTarget where
  dom := by rw [exD_back]; exact exBack_dom
  cnt := by rw [exD_back, exBack_count]; decide
  noFF := by decide
  hc := Or.inl rfl
  hj := (C10.foamPath_dispatch C10.exTarget_foam.1).1
  hx := (C10.foamPath_dispatch C10.exTarget_foam.1).2
  hr := C10.exTarget_foam.2

theorem exBack_raw : fmtEntries .foam 0 exBack = C01.unlines
    ["a                             1;",
     "s",
     "{",
     "    y                         2;",
     "}",
     "k                             \"x y\";"] := by
  simp only [C01.unlines, List.flatMap_cons, List.flatMap_nil]
  literal_chars
  simp only [exBack, fmtEntries, formatKey, keyStr, formatScalar]
  decide +kernel

/-- the file written for the example: banner, `FoamFile` block, separator line, then the data without the private
    keys, `'2'` re-typed to `2`, double quotes only -/
theorem exD_text : sdText exD = foamHeaderText ++ C01.unlines
    ["a                             1;",
     "s",
     "{",
     "    y                         2;",
     "}",
     "k                             \"x y\";"] := by
  have hu : C10.NoUnderscoreEs exBack := by rw [← exD_back, C10.normEs_drop]; exact C10.C10_underscore _
  rw [sdText, ← C10.C10_fmtPlain_drop, ← C10.normEs_drop, exD_back, C10.C10_input_unchanged, C10.C10_drop_id _ hu,
    C10.Foam.hoist_id_f exBack_dom, exBack_raw]
  exact congrArg (foamHeaderText ++ ·) (by decide +kernel)

/-- the example written to `/w/dict.foam` and read back -/
theorem exD_roundtrip (ev : Str → EvalResult) :
    fmtSD .foam { data := normEs exD } = some (sdText exD) ∧
    ∃ c', readFile ev [(C10.exTarget, .native (sdText exD))] {} none C10.exTarget = .ok (.ok (foamSD 0 exBack) c') ∧
      fmtSD .foam (foamSD 0 exBack) = some (sdText exD) ∧ dropHeaderEntries (foamSD 0 exBack).data = exBack := by
  obtain ⟨h1, ⟨c', _, h2⟩, h3, _⟩ := C10_roundtrip_sd ev exHyp
  rw [exD_back] at h2 h3
  have hu : C10.NoUnderscoreEs exBack := by rw [← exD_back, C10.normEs_drop]; exact C10.C10_underscore _
  refine ⟨h1, c', h2, ?_, h3⟩
  rw [C10_sd_header_once' (by decide) (by rw [C10.C10_drop_id _ hu]; exact exBack_dom), C10_sd_text, sdText_dropped,
    exD_back, foamHeaderText_eq]

/-! ### removing two header entries is not enough, there is a third: `C10_roundtrip_sd_statement_false` -/

/-- remove the block-comment placeholder entries and the `FoamFile` entry only -/
def dropBlockAndFoamFile (es : Entries) : Entries :=
  es.filter fun e => !(match e.1 with | .str k => containsPh kwBlock k | _ => false) &&
    !decide (e.1 = .str "FoamFile".toList)

/-- "after removing the block-comment placeholder entry and the `FoamFile` entry the data read equals the normalised
    private-key-free dict" is FALSE: the separator line `// * * * … //` of the header is a line comment; the reader
    (comments on) turns it into a third entry `LINECOMMENTnnnnnn`.  Witness: the empty dict, `SDict({})` written to
    `/w/dict.foam` — the data read is `{BLOCKCOMMENT000000: …, FoamFile: {…}, LINECOMMENT000000: …}`. -/
theorem C10_roundtrip_sd_statement_false :
    ¬ ∀ (ev : Str → EvalResult) (d : Entries) (c : Counter) (target : Comps), Hyp d c target →
      ∃ sd c', readFile ev [(target, .native (sdText d))] {} c target = .ok (.ok sd c') ∧
        dropBlockAndFoamFile sd.data = normEs (dropUnderscoreEs .foam d) := by
  intro h
  have H : Hyp [] none C10.exTarget :=
    { dom := (by decide +kernel), cnt := (by decide +kernel), noFF := (by intro e he; cases he), hc := Or.inl rfl,
      hj := (C10.foamPath_dispatch C10.exTarget_foam.1).1, hx := (C10.foamPath_dispatch C10.exTarget_foam.1).2,
      hr := C10.exTarget_foam.2 }
  obtain ⟨sd, c', h1, h2⟩ := h (fun _ => .unsupported) [] none C10.exTarget H
  obtain ⟨c'', _, h3⟩ := readFile_sd (fun _ => .unsupported) H
  rw [h3] at h1
  have h1' := (ReadOut.ok.inj (Except.ok.inj h1)).1
  rw [← h1'] at h2
  have e : dropBlockAndFoamFile (foamSD 0 []).data = [lineEntry 0] := by
    show List.filter _ (C12.hdrEntry :: foamFileEntry :: lineEntry 0 :: []) = _
    have b1 : containsPh kwBlock C12.hdrPh = true := C12.hdrPh_block
    have b3 : containsPh kwBlock (linePh 0) = false := C12W.containsPh_block_line 0
    simp only [List.filter_cons, C12.hdrEntry, foamFileEntry, lineEntry, b1, b3, List.filter_nil]
    decide +kernel
  have e2 : foamSD (Counter.next Gen.counterLimit none).1 (normEs (dropUnderscoreEs .foam [])) = foamSD 0 [] := rfl
  rw [e2, e] at h2
  cases h2

/-! ### the hypothesis `NoFoamFileKey` cannot be dropped -/

/-- `{'FoamFile': {'x': 'y'}}` -/
def exFF : Entries := [(.str "FoamFile".toList, .dict [(.str "x".toList, .leaf (.str "y".toList))])]

/-- the text written for `SDict({'FoamFile': {'x': 'y'}})`: the header, then a second `FoamFile` block -/
def exFFText : Str :=
  foamHeaderText ++ (['F', 'o', 'a', 'm', 'F', 'i', 'l', 'e', '\n', '{', '\n', ' ', ' ', ' ', ' ', 'x'] ++ spaces 25 ++
    ['y', ';', '\n', '}', '\n'])

theorem exFF_text : fmtSD .foam { data := normEs exFF } = some exFFText := by
  have e1 : hoistPlaceholders (dropUnderscoreEs .foam (normEs exFF)) = exFF := by decide +kernel
  have e2 : fmtEntries .foam 0 exFF = ['F', 'o', 'a', 'm', 'F', 'i', 'l', 'e', '\n', '{', '\n', ' ', ' ', ' ', ' ', 'x'] ++
      spaces 25 ++ ['y', ';', '\n', '}', '\n'] := by
    simp only [exFF, fmtEntries, formatKey, keyStr, formatScalar]
    decide +kernel
  rw [C10_sd_text, C10.C10_input_unchanged, e1, e2]
  exact congrArg (fun t => some (foamHeaderText ++ t)) (by decide +kernel)

/-- reading it: the dict's own `FoamFile` entry has overwritten the header's (same key, written later), at the
    header's place — nothing is left when the header entries are taken out, although the dict was not empty -/
theorem exFF_read : (parseNative true [] none exFFText).toOption.map (fun r => r.1.data) =
    some [C12.hdrEntry, (.str "FoamFile".toList, .dict [(.str "x".toList, .leaf (.str "y".toList))]), lineEntry 0] := by
  decide +kernel

theorem exFF_lost : dropHeaderEntries [C12.hdrEntry,
    (.str "FoamFile".toList, .dict [(.str "x".toList, .leaf (.str "y".toList))]), lineEntry 0] = [] ∧
    normEs (dropUnderscoreEs .foam exFF) = exFF ∧ ¬ NoFoamFileKey exFF := by
  refine ⟨by decide +kernel, by decide +kernel, by decide⟩

/-
#print axioms C10_sd_text                        -- [propext, Classical.choice, Quot.sound]
#print axioms C10_sd_starts_with_banner          -- [propext, Classical.choice, Quot.sound]
#print axioms C10_roundtrip_sd                   -- [propext, Classical.choice, Quot.sound]
#print axioms C10_sd_header_once                 -- [propext, Classical.choice, Quot.sound]
#print axioms C10_sd_header_once'                -- [propext, Classical.choice, Quot.sound]
#print axioms C10_sd_writeStep_append            -- [propext, Classical.choice, Quot.sound]
#print axioms C10_sd_writeText                   -- [propext, Classical.choice, Quot.sound]
#print axioms C10_sd_api                         -- [propext, Classical.choice, Quot.sound]
#print axioms read_foam_parse                    -- [propext, Classical.choice, Quot.sound]
#print axioms exD_roundtrip                      -- [propext, Classical.choice, Quot.sound]
#print axioms exD_text                           -- [propext, Classical.choice, Quot.sound]
#print axioms C10_roundtrip_sd_statement_false   -- [propext, Classical.choice, Quot.sound]
#print axioms exFF_text                          -- [propext, Classical.choice, Quot.sound]
#print axioms exFF_read                          -- [propext, Classical.choice, Quot.sound]
#print axioms exFF_lost                          -- [propext, Classical.choice, Quot.sound]
-/

end DictIO.C10sd
