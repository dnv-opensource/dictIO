/-
  C12 -- the WRITER side of the comment round trip (composed with the reader side, `C12read`, in `C12round`).

  Property C12: "every line comment and block comment of a native source appears in the written output with its exact
  text, line comments in their original relative order and at their original nesting level; the output always begins
  with a header block comment: the source's own if it has one, otherwise the default".

  Main statements (all for the native flavour; the text the writer writes for an SDict with comment placeholders is a
  layout of its document: `fmt_labelled_is_layout`, `insert_comments_spreadC` and `write_commented` of `C12wtext`):

    `fmt_labelled_items`   the raw output for the data of a labelled document is an admissible layout of `xtoksEs`
    `C12_write_commented` `fmtSD .native (denC c items) = some (spreadC (ctoksItems (writtenDoc items)) ([] :: gaps) "\n")`
          under `HW c items`; `writtenDoc items` = default header (unless the document has its own) ++ `canonItems items`
    for the round trip (`C12round`: reading the written text gives `denC c₂ (writtenDoc items)`):
        `cnorm_wfI`, `writtenDoc2_wf`   the written document is well formed
        `skel_cnormI`, `writtenDoc_top`   every comment of every level is there, at its place among the entries of
          its level; at top level the block comments stand first, in their order (the writer hoists them)
    `exW_hw`, `exW_written`, `exW_layout`   non-vacuity, the written text by evaluation
    negative witnesses: `trailing_ws_lost` (finding: trailing white space of a comment is not written),
        `placeholder_in_comment_rewritten`; `C12.D28_header_inside_subdict`, `C12.D32_second_comment_lost`

  How it goes: `denC c items` is `_clean` of an SDict whose data is the tree `dTreeI` (`den_treeI`: one entry per item,
  a placeholder entry per comment) and whose tables hold the comments under the ids drawn.  `_clean` on such a tree is
  known exactly (`cleanRec_gen`: it returns `cleanT` and deletes the ids of the dropped entries; `part_count`: every id
  is kept or deleted, once).  What the tree looks like is the relation `Tr` (`tr_tree`), and `cleanT` maps a `Tr` of
  `items` to a `Tr` of `dedupI items` under the tables that are left (`Tr.clean`, `tr_clean2`); so shape, covered
  placeholders and written document of `denC c items` (`sdOf2_facts`: the hypothesis `WOK` of `write_commented`) are
  the facts about `Tr` once more.

  The canonical rule (by evaluation of the model, `docEs` / `hoistPlaceholders`, and `cleanRec_gen`): per dict level
  the entries and comments keep their order, except that at the TOP level all block comments are moved in front (in
  their order); keys and scalars are respelled by the writer (`cnormI`).  `_clean` (part of `denC`) removes, per level
  and per kind, every comment entry whose text equals that of an earlier one of the level (`cleanT`, `dedupLvl`,
  `lvl_dedup`: each text once, at its first place).

  Two layers of statements:
    * comments may repeat (`HW2 c items`; `denC_closed2`, `kept_blocks`):
        `C12_write_commented2` with `writtenDoc2 items` = header ++ `canonItems (dedupI items)`,
        example `exDup…` (the SDict by evaluation: the repeated comments are gone from data and tables);
    * no level repeats a comment (`HW c items`): the case `dedupI items = items` of the above (`HW.toHW2`, `HW.dedup`,
        `HW.writtenDoc2_eq`): `C12_write_commented`, example `exW…`; here `_clean` changes nothing (`clean_fix` of
        `Lemmas/Clean` for any SDict with `levelFix` at every level; `subsFix_treeV`: the tree has it).

  Hypotheses `HW c items` / `HW2 c items` (all decidable but the counter's validity):
    `wf`     `CSrcWFItems 1 items` (hypothesis of the reader side)
    `ok`     keys and scalars in the value domain of C01 (`isDomKey`, `isDomScalar`, `domXs`), and for every comment:
             `lineTextOK` / `blockTextOK`: no trailing white space on any line and no carriage return (otherwise
             `remove_trailing_spaces` changes the text: `trailing_ws_lost`), no word `LINECOMMENTdddddd` /
             `BLOCKCOMMENTdddddd` inside (otherwise a later insertion pass rewrites it: `placeholder_in_comment_rewritten`)
    `lev`, `levs` (HW) / `keys`, `keysAll` (HW2)  at every level the typed keys are pairwise distinct (a later duplicate
             key overwrites the earlier entry and the comments inside it); HW only: no line comment twice, no block
             comment twice at one level
    `nLine`, `nBlock`, `hc`  at most `counterLimit + 1` line comments (ids distinct), at most 10^6 block comments,
             a counter state that can occur
    `first`  the first block comment of the document stands at the top level (else D28)
    `indep`  no block comment text (of the document without repetitions) occurs inside the concatenation of the block
             comments written before it (the first one completed by the default header) — exactly the test
             `bc in sofar` of `insert_block_comments` (else D32)
-/
import DictIO.Props.C12wtext
import DictIO.Lemmas.Fold

namespace DictIO.C12W
open DictIO

/-! ## 1. the meaning of a commented document, in closed form -/

mutual
  /-- the line comments (with `//`) in document order -/
  def lineFullsV : CSrc → List Str
    | .lit _ => []
    | .dict items => lineFullsI items
    | .list _ => []
  def lineFullsI : List CItem → List Str
    | [] => []
    | .entry _ v :: r => lineFullsV v ++ lineFullsI r
    | .lineC x :: r => ('/' :: '/' :: x) :: lineFullsI r
    | .blockC _ :: r => lineFullsI r
end

mutual
  /-- the block comments (with `/*` `*/`) in document order -/
  def blockFullsV : CSrc → List Str
    | .lit _ => []
    | .dict items => blockFullsI items
    | .list _ => []
  def blockFullsI : List CItem → List Str
    | [] => []
    | .entry _ v :: r => blockFullsV v ++ blockFullsI r
    | .lineC _ :: r => blockFullsI r
    | .blockC x :: r => ('/' :: '*' :: x ++ ['*', '/']) :: blockFullsI r
end

/-- the state of the labelling after a stretch with the given line and block comments -/
def stAfter (st : CLabelSt) (lf bf : List Str) : CLabelSt :=
  { counter := C02.adv Gen.counterLimit lf.length st.counter,
    lineC := C02.setAll st.lineC ((alloc Gen.counterLimit lf.length st.counter).zip lf),
    blockC := st.blockC ++ (List.range' st.blockC.length bf.length).zip bf }

theorem stAfter_nil (st : CLabelSt) : stAfter st [] [] = st := by
  cases st
  simp [stAfter, C02.adv, alloc, C02.setAll]

theorem stAfter_append (st : CLabelSt) (a b a' b' : List Str) :
    stAfter (stAfter st a b) a' b' = stAfter st (a ++ a') (b ++ b') := by
  have hz : (alloc Gen.counterLimit (a.length + a'.length) st.counter).zip (a ++ a') =
      (alloc Gen.counterLimit a.length st.counter).zip a ++
        (alloc Gen.counterLimit a'.length (C02.adv Gen.counterLimit a.length st.counter)).zip a' := by
    rw [C02.alloc_add, List.zip_append (by rw [alloc_length])]
  have hr : (List.range' st.blockC.length (b.length + b'.length)).zip (b ++ b') =
      (List.range' st.blockC.length b.length).zip b ++
        (List.range' (st.blockC.length + b.length) b'.length).zip b' := by
    rw [← List.range'_append_1, List.zip_append (by simp)]
  simp only [stAfter, List.length_append, C02.adv_add, hz, C02.setAll_append, List.length_zip, List.length_range',
    Nat.min_self, hr, List.append_assoc]

mutual
  theorem label_stateV : ∀ (v : CSrc) (st : CLabelSt), (labelCV st v).1 = stAfter st (lineFullsV v) (blockFullsV v)
    | .lit l, st => by simp only [labelCV, lineFullsV, blockFullsV, stAfter_nil]
    | .dict items, st => by simp only [labelCV, lineFullsV, blockFullsV]; exact label_stateI items st
    | .list xs, st => by simp only [labelCV, lineFullsV, blockFullsV, stAfter_nil]
  /-- the state after labelling: the counter advanced by the number of line comments, their texts under the ids
      drawn, the block comments numbered on -/
  theorem label_stateI : ∀ (items : List CItem) (st : CLabelSt),
      (labelCItems st items).1 = stAfter st (lineFullsI items) (blockFullsI items)
    | [], st => by simp only [labelCItems, lineFullsI, blockFullsI, stAfter_nil]
    | .entry k v :: r, st => by
      simp only [labelCItems, lineFullsI, blockFullsI]
      rw [label_stateI r, label_stateV v, stAfter_append]
    | .lineC x :: r, st => by
      simp only [labelCItems, lineFullsI, blockFullsI]
      rw [label_stateI r]
      have : ({ st with counter := (Counter.next Gen.counterLimit st.counter).2,
                        lineC := st.lineC.set (Counter.next Gen.counterLimit st.counter).1 ('/' :: '/' :: x) } : CLabelSt) =
          stAfter st ['/' :: '/' :: x] [] := by
        cases st
        simp [stAfter, C02.adv, alloc, C02.setAll]
      rw [this, stAfter_append]
      rfl
    | .blockC x :: r, st => by
      simp only [labelCItems, lineFullsI, blockFullsI]
      rw [label_stateI r]
      have : ({ st with blockC := st.blockC ++ [(st.blockC.length, '/' :: '*' :: x ++ ['*', '/'])] } : CLabelSt) =
          stAfter st [] ['/' :: '*' :: x ++ ['*', '/']] := by
        cases st
        simp [stAfter, C02.adv, alloc, C02.setAll]
      rw [this, stAfter_append]
      rfl
end

/-- the typed form of a written key -/
def keyOfStr (k : Str) : Key := (keyOfScalar (parseKey k)).getD (.str k)

def phEntry (l : Bool) (i : Nat) : Key × Val := (.str (phWord l i), .leaf (.str (phWord l i)))

mutual
  /-- the data of the SDict the reader returns for the document, given the ids the line comments draw (`ls`, in
      document order) and the number of the next block comment -/
  def dTreeV (ls : List Nat) (n : Nat) : CSrc → Val
    | .lit l => .leaf l.den
    | .dict items => .dict (dTreeI ls n items)
    | .list xs => .list (denSrcXs xs)
  def dTreeI (ls : List Nat) (n : Nat) : List CItem → Entries
    | [] => []
    | .entry k v :: r =>
      (keyOfStr k, dTreeV ls n v) :: dTreeI (ls.drop (lineFullsV v).length) (n + (blockFullsV v).length) r
    | .lineC _ :: r => phEntry true (ls.headD 0) :: dTreeI ls.tail n r
    | .blockC _ :: r => phEntry false n :: dTreeI ls (n + 1) r
end

def KNodup (D : Entries) : Prop := (keys D).Nodup

theorem linePh_eq (i : Nat) : linePh i = phWord true i := rfl
theorem blockPh_eq (i : Nat) : blockPh i = phWord false i := rfl

theorem denPEs_append_fresh {k : Str} {v : Src} (key : Key) (val : Val) (es : SrcEntries) (acc : Entries)
    (hstep : ∀ acc', denPEs ((k, v) :: es) acc' = denPEs es (setKey key val acc'))
    (hfresh : key ∉ keys acc) (rest : Entries) (ih : denPEs es (acc ++ [(key, val)]) = (acc ++ [(key, val)]) ++ rest) :
    denPEs ((k, v) :: es) acc = acc ++ (key, val) :: rest := by
  rw [hstep, setKey_of_not_mem key val acc hfresh, ih]
  simp

theorem keys_clear_snoc {e : Key × Val} {T acc : Entries} (hn : e.1 ∉ keys T) (hdis : ∀ k ∈ keys (e :: T), k ∉ keys acc) :
    ∀ k ∈ keys T, k ∉ keys (acc ++ [e]) := by
  intro k' hk' hmem
  simp only [keys, List.map_append, List.map_cons, List.map_nil, List.mem_append, List.mem_singleton] at hmem
  rcases hmem with hmem | rfl
  · exact hdis k' (by simp only [keys, List.map_cons, List.mem_cons]; exact Or.inr hk') hmem
  · exact hn hk'

mutual
  theorem den_treeV : ∀ (v : CSrc) (st : CLabelSt) (ext : List Nat) (d : Nat), CSrcWFV d v = true →
      (match v with
       | .dict items =>
         KNodup (dTreeI (alloc Gen.counterLimit (lineFullsV v).length st.counter ++ ext) st.blockC.length items) ∧
         allLevels KNodup (dTreeI (alloc Gen.counterLimit (lineFullsV v).length st.counter ++ ext) st.blockC.length items)
       | _ => True) →
      denPV (labelCV st v).2 = dTreeV (alloc Gen.counterLimit (lineFullsV v).length st.counter ++ ext) st.blockC.length v
    | .lit l, st, ext, d, _, _ => by simp only [labelCV, denPV, dTreeV]
    | .list xs, st, ext, d, _, _ => by simp only [labelCV, denPV, dTreeV]
    | .dict items, st, ext, d, hwf, hn => by
      simp only [CSrcWFV] at hwf
      simp only [labelCV, denPV, dTreeV, lineFullsV] at hn ⊢
      have := den_treeI items st ext (d + 1) [] hwf hn.1 hn.2 (by simp)
      rw [this]; rfl
  /-- **the data the reader returns**, when the keys of every level are pairwise distinct: one entry per item, in order -/
  theorem den_treeI : ∀ (items : List CItem) (st : CLabelSt) (ext : List Nat) (d : Nat) (acc : Entries),
      CSrcWFItems d items = true →
      KNodup (dTreeI (alloc Gen.counterLimit (lineFullsI items).length st.counter ++ ext) st.blockC.length items) →
      allLevels KNodup (dTreeI (alloc Gen.counterLimit (lineFullsI items).length st.counter ++ ext) st.blockC.length items) →
      (∀ k ∈ keys (dTreeI (alloc Gen.counterLimit (lineFullsI items).length st.counter ++ ext) st.blockC.length items),
        k ∉ keys acc) →
      denPEs (labelCItems st items).2 acc =
        acc ++ dTreeI (alloc Gen.counterLimit (lineFullsI items).length st.counter ++ ext) st.blockC.length items
    | [], st, ext, d, acc, _, _, _, _ => by simp [labelCItems, denPEs, dTreeI]
    | .entry k v :: r, st, ext, d, acc, hwf, hn, hall, hdis => by
      simp only [CSrcWFItems, Bool.and_eq_true] at hwf
      obtain ⟨⟨⟨hk, hkey⟩, hv⟩, hr⟩ := hwf
      obtain ⟨key, hkey⟩ := Option.isSome_iff_exists.mp hkey
      have hks : keyOfStr k = key := by simp [keyOfStr, hkey]
      have hnph : isPhTok k = false := (C02.srcWord_facts hk).2.1
      -- the supplies split
      have hsplit : alloc Gen.counterLimit (lineFullsI (.entry k v :: r)).length st.counter ++ ext =
          alloc Gen.counterLimit (lineFullsV v).length st.counter ++
            (alloc Gen.counterLimit (lineFullsI r).length (C02.adv Gen.counterLimit (lineFullsV v).length st.counter) ++ ext) := by
        simp only [lineFullsI, List.length_append, C02.alloc_add, List.append_assoc]
      rw [hsplit] at hn hall hdis ⊢
      simp only [dTreeI, hks] at hn hall hdis ⊢
      have hdrop : (alloc Gen.counterLimit (lineFullsV v).length st.counter ++
            (alloc Gen.counterLimit (lineFullsI r).length (C02.adv Gen.counterLimit (lineFullsV v).length st.counter) ++ ext)).drop
              (lineFullsV v).length =
          alloc Gen.counterLimit (lineFullsI r).length (C02.adv Gen.counterLimit (lineFullsV v).length st.counter) ++ ext := by
        rw [List.drop_left' (alloc_length _ _ _)]
      rw [hdrop] at hn hall hdis ⊢
      have hst1 := label_stateV v st
      have hc1 : (labelCV st v).1.counter = C02.adv Gen.counterLimit (lineFullsV v).length st.counter := by rw [hst1]; rfl
      have hb1 : (labelCV st v).1.blockC.length = st.blockC.length + (blockFullsV v).length := by
        rw [hst1]; simp [stAfter]
      simp only [KNodup, keys, List.map_cons, List.nodup_cons] at hn
      have hvden : denPV (labelCV st v).2 = dTreeV (alloc Gen.counterLimit (lineFullsV v).length st.counter ++
            (alloc Gen.counterLimit (lineFullsI r).length (C02.adv Gen.counterLimit (lineFullsV v).length st.counter) ++ ext))
            st.blockC.length v := by
        apply den_treeV v st _ d hv
        cases v with
        | lit l => trivial
        | list xs => trivial
        | dict items =>
          simp only [dTreeV, allLevels] at hall
          exact hall.1
      have hallr : allLevels KNodup (dTreeI (alloc Gen.counterLimit (lineFullsI r).length
          (C02.adv Gen.counterLimit (lineFullsV v).length st.counter) ++ ext) (st.blockC.length + (blockFullsV v).length) r) := by
        cases v with
        | lit l => simpa only [dTreeV, allLevels] using hall
        | list xs => simpa only [dTreeV, allLevels] using hall
        | dict items => simp only [dTreeV, allLevels] at hall; exact hall.2
      simp only [labelCItems]
      have ih := den_treeI r (labelCV st v).1 ext d (acc ++ [(key, denPV (labelCV st v).2)]) hr
        (by rw [hc1, hb1]; exact hn.2) (by rw [hc1, hb1]; exact hallr)
        (by rw [hc1, hb1]; exact keys_clear_snoc hn.1 hdis)
      rw [hc1, hb1] at ih
      rw [← hvden]
      exact denPEs_append_fresh key _ _ acc (fun _ => C12.denPEs_cons hnph hkey _ _ _) (hdis key (by simp [keys])) _ ih
    | .lineC x :: r, st, ext, d, acc, hwf, hn, hall, hdis => by
      simp only [CSrcWFItems, Bool.and_eq_true] at hwf
      have hal : alloc Gen.counterLimit (lineFullsI (.lineC x :: r)).length st.counter ++ ext =
          (Counter.next Gen.counterLimit st.counter).1 ::
            (alloc Gen.counterLimit (lineFullsI r).length (Counter.next Gen.counterLimit st.counter).2 ++ ext) := by
        simp only [lineFullsI, List.length_cons, alloc_succ, List.cons_append]
      rw [hal] at hn hall hdis ⊢
      simp only [dTreeI, List.headD_cons, List.tail_cons, phEntry] at hn hall hdis ⊢
      simp only [KNodup, keys, List.map_cons, List.nodup_cons] at hn
      simp only [allLevels] at hall
      simp only [labelCItems, linePh_eq]
      have ih := den_treeI r (⟨(Counter.next Gen.counterLimit st.counter).2,
          st.lineC.set (Counter.next Gen.counterLimit st.counter).1 ('/' :: '/' :: x), st.blockC⟩ : CLabelSt) ext d
        (acc ++ [(.str (phWord true (Counter.next Gen.counterLimit st.counter).1),
          .leaf (.str (phWord true (Counter.next Gen.counterLimit st.counter).1)))]) hwf.2 hn.2 hall
        (keys_clear_snoc hn.1 hdis)
      exact denPEs_append_fresh _ _ _ acc (fun _ => C12.denPEs_cons_ph (isPhTok_ph true _) _ _ _) (hdis _ (by simp [keys])) _ ih
    | .blockC x :: r, st, ext, d, acc, hwf, hn, hall, hdis => by
      simp only [CSrcWFItems, Bool.and_eq_true] at hwf
      simp only [lineFullsI, dTreeI, phEntry] at hn hall hdis ⊢
      simp only [KNodup, keys, List.map_cons, List.nodup_cons] at hn
      simp only [allLevels] at hall
      simp only [labelCItems, blockPh_eq]
      have ih := den_treeI r (⟨st.counter, st.lineC, st.blockC ++ [(st.blockC.length, '/' :: '*' :: x ++ ['*', '/'])]⟩ : CLabelSt) ext d
        (acc ++ [(.str (phWord false st.blockC.length), .leaf (.str (phWord false st.blockC.length)))]) hwf.2
        (by simpa [KNodup] using hn.2) (by simpa using hall)
        (by simpa using keys_clear_snoc hn.1 hdis)
      exact denPEs_append_fresh _ _ _ acc (fun _ => C12.denPEs_cons_ph (isPhTok_ph false _) _ _ _) (hdis _ (by simp [keys])) _
        (by rw [ih]; simp)
end

/-! ## 2. hypotheses on the items; the document that is written, in terms of the items -/

/-- no word `LINECOMMENTdddddd` / `BLOCKCOMMENTdddddd` in the text -/
def noPhB (s : Str) : Bool := !containsPh kwLine s && !containsPh kwBlock s

theorem noPh_of_B {s : Str} (h : noPhB s = true) : NoPh s := by
  intro l i hi
  cases hc : isInfix (phWord l i) s with
  | false => rfl
  | true =>
    exfalso
    obtain ⟨a, b, rfl⟩ := isInfix_iff.mp hc
    have hcp : containsPh (kwOf l) (a ++ phWord l i ++ b) = true := by
      simp only [containsPh, List.any_eq_true, Bool.and_eq_true]
      refine ⟨phWord l i ++ b, mem_tails.mpr ⟨a, by simp⟩, ?_, ?_⟩
      · rw [show phWord l i = kwOf l ++ padSix i from rfl, List.append_assoc, List.isPrefixOf_iff_prefix]
        exact List.prefix_append _ _
      · rw [show phWord l i = kwOf l ++ padSix i from rfl, List.append_assoc, List.drop_left, digitRun_padSix (Nat.lt_succ_of_le hi)]
        rfl
    simp only [noPhB, Bool.and_eq_true, Bool.not_eq_true'] at h
    cases l
    · rw [show kwOf false = kwBlock from rfl, h.2] at hcp; cases hcp
    · rw [show kwOf true = kwLine from rfl, h.1] at hcp; cases hcp

/-- a line-comment text the writer reproduces: no trailing white space, no placeholder word -/
def lineTextOK (x : Str) : Bool :=
  (match x.getLast? with | some z => !isWs z | none => true) && noPhB ('/' :: '/' :: x)

/-- a block-comment text the writer reproduces: no carriage return, no line with trailing white space, no
    placeholder word -/
def blockTextOK (x : Str) : Bool :=
  !('/' :: '*' :: x ++ ['*', '/']).contains '\r' &&
  (C01.rts ('/' :: '*' :: x ++ ['*', '/']) == '/' :: '*' :: x ++ ['*', '/']) &&
  noPhB ('/' :: '*' :: x ++ ['*', '/'])

theorem lineFull_of_ok {x : Str} (h1 : isLineCText x = true) (h2 : lineTextOK x = true) : LineFull ('/' :: '/' :: x) := by
  simp only [lineTextOK, Bool.and_eq_true] at h2
  refine ⟨x, rfl, h1, ?_, noPh_of_B h2.2⟩
  intro z hz
  rw [hz] at h2
  simpa using h2.1

theorem blockFull_of_ok {x : Str} (h1 : isBlockCText x = true) (h2 : blockTextOK x = true) :
    BlockFull ('/' :: '*' :: x ++ ['*', '/']) := by
  simp only [blockTextOK, Bool.and_eq_true, Bool.not_eq_true', beq_iff_eq] at h2
  refine ⟨x, rfl, h1, ?_, h2.1.2, noPh_of_B h2.2⟩
  intro c hc e
  subst e
  have := List.contains_iff_mem.mpr hc
  rw [h2.1.1] at this; cases this

mutual
  /-- value-domain and comment-text conditions on a commented document (on top of `CSrcWFItems`) -/
  def okV (d : Nat) : CSrc → Bool
    | .lit l => isDomScalar .native l.den && decide (d ≤ 10)
    | .dict items => okI (d + 1) items
    | .list xs => domXs .native (d + 1) (denSrcXs xs)
  def okI (d : Nat) : List CItem → Bool
    | [] => true
    | .entry k v :: r => isDomKey (keyOfStr k) && okV d v && okI d r
    | .lineC x :: r => lineTextOK x && okI d r
    | .blockC x :: r => blockTextOK x && okI d r
end

mutual
  /-- the document as the writer spells it: keys and scalars in the writer's spelling, comments as they are -/
  def cnormV : CSrc → CSrc
    | .lit l => .lit (writtenLit .native l.den)
    | .dict items => .dict (cnormI items)
    | .list xs => .list (srcOfXs .native (denSrcXs xs))
  def cnormI : List CItem → List CItem
    | [] => []
    | .entry k v :: r => .entry (keyStr (keyOfStr k)) (cnormV v) :: cnormI r
    | .lineC x :: r => .lineC x :: cnormI r
    | .blockC x :: r => .blockC x :: cnormI r
end

/-- the tables hold the comments of a stretch under the ids it draws -/
def LkL (L : Tbl Str) (ls : List Nat) (lf : List Str) : Prop := ∀ p ∈ ls.zip lf, L.get? p.1 = some p.2
def LkB (B : Tbl Str) (n : Nat) (bf : List Str) : Prop := ∀ p ∈ (List.range' n bf.length).zip bf, B.get? p.1 = some p.2

theorem lineBody_eq (x : Str) : lineBody ('/' :: '/' :: x) = x := rfl

/-- what the inductions over `dTreeI (ls ++ ext) n items` assume -/
structure Supply (d : Nat) (ls : List Nat) (n : Nat) (items : List CItem) : Prop where
  len : ls.length = (lineFullsI items).length
  le : ∀ i ∈ ls, i ≤ 999999
  blk : n + (blockFullsI items).length ≤ 1000000
  ok : okI d items = true

/-- Induction over the tree of a commented document: `P d ls n items T` for `T = dTreeI (ls ++ ext) n items`.  An entry
    with a dict value splits the ids into those of the dict and those of the rest. -/
theorem Supply.ind {P : Nat → List Nat → Nat → List CItem → Entries → Prop}
    (nil : ∀ d n, P d [] n [] [])
    (lineC : ∀ {d i ls ext n x r}, i ≤ 999999 → lineTextOK x = true → Supply d ls n r →
      P d ls n r (dTreeI (ls ++ ext) n r) → P d (i :: ls) n (.lineC x :: r) (phEntry true i :: dTreeI (ls ++ ext) n r))
    (blockC : ∀ {d ls ext n x r}, n ≤ 999999 → blockTextOK x = true → Supply d ls (n + 1) r →
      P d ls (n + 1) r (dTreeI (ls ++ ext) (n + 1) r) →
      P d ls n (.blockC x :: r) (phEntry false n :: dTreeI (ls ++ ext) (n + 1) r))
    (lit : ∀ {d ls ext n k l r}, isDomKey (keyOfStr k) = true → okV d (.lit l) = true → Supply d ls n r →
      P d ls n r (dTreeI (ls ++ ext) n r) →
      P d ls n (.entry k (.lit l) :: r) ((keyOfStr k, .leaf l.den) :: dTreeI (ls ++ ext) n r))
    (list : ∀ {d ls ext n k xs r}, isDomKey (keyOfStr k) = true → okV d (.list xs) = true → Supply d ls n r →
      P d ls n r (dTreeI (ls ++ ext) n r) →
      P d ls n (.entry k (.list xs) :: r) ((keyOfStr k, .list (denSrcXs xs)) :: dTreeI (ls ++ ext) n r))
    (dict : ∀ {d la lb ext n k its r}, isDomKey (keyOfStr k) = true → Supply (d + 1) la n its →
      Supply d lb (n + (blockFullsI its).length) r →
      P (d + 1) la n its (dTreeI (la ++ (lb ++ ext)) n its) →
      P d lb (n + (blockFullsI its).length) r (dTreeI (lb ++ ext) (n + (blockFullsI its).length) r) →
      P d (la ++ lb) n (.entry k (.dict its) :: r)
        ((keyOfStr k, .dict (dTreeI (la ++ (lb ++ ext)) n its)) :: dTreeI (lb ++ ext) (n + (blockFullsI its).length) r))
    {items : List CItem} : ∀ {d ls n}, Supply d ls n items → ∀ ext, P d ls n items (dTreeI (ls ++ ext) n items) := by
  induction items using CItems.ind with
  | nil =>
    intro d ls n S ext
    cases List.eq_nil_of_length_eq_zero S.len
    exact nil d n
  | lineC x r ih =>
    intro d ls n ⟨hl, hi, hn, hok⟩ ext
    simp only [lineFullsI, blockFullsI, List.length_cons, okI, Bool.and_eq_true] at hl hn hok
    cases ls with
    | nil => simp at hl
    | cons i ls =>
      have S : Supply d ls n r := ⟨Nat.succ.inj hl, fun j h => hi j (List.mem_cons_of_mem _ h), hn, hok.2⟩
      exact lineC (hi i List.mem_cons_self) hok.1 S (ih S ext)
  | blockC x r ih =>
    intro d ls n ⟨hl, hi, hn, hok⟩ ext
    simp only [lineFullsI, blockFullsI, List.length_cons, okI, Bool.and_eq_true] at hl hn hok
    have S : Supply d ls (n + 1) r := ⟨hl, hi, by omega, hok.2⟩
    exact blockC (by omega) hok.1 S (ih S ext)
  | lit k l r ih =>
    intro d ls n ⟨hl, hi, hn, hok⟩ ext
    simp only [lineFullsI, lineFullsV, blockFullsI, blockFullsV, List.nil_append, okI, Bool.and_eq_true] at hl hn hok
    have S : Supply d ls n r := ⟨hl, hi, hn, hok.2⟩
    exact lit hok.1.1 hok.1.2 S (ih S ext)
  | list k xs r ih =>
    intro d ls n ⟨hl, hi, hn, hok⟩ ext
    simp only [lineFullsI, lineFullsV, blockFullsI, blockFullsV, List.nil_append, okI, Bool.and_eq_true] at hl hn hok
    have S : Supply d ls n r := ⟨hl, hi, hn, hok.2⟩
    exact list hok.1.1 hok.1.2 S (ih S ext)
  | dict k its r ihv ihr =>
    intro d ls n ⟨hl, hi, hn, hok⟩ ext
    simp only [lineFullsI, lineFullsV, blockFullsI, blockFullsV, List.length_append, okI, okV, Bool.and_eq_true] at hl hn hok
    obtain ⟨la, lb, rfl, hla⟩ : ∃ la lb, ls = la ++ lb ∧ la.length = (lineFullsI its).length :=
      ⟨ls.take (lineFullsI its).length, ls.drop (lineFullsI its).length, (List.take_append_drop _ _).symm,
        by rw [List.length_take]; omega⟩
    have Sa : Supply (d + 1) la n its := ⟨hla, fun i h => hi i (List.mem_append_left _ h), by omega, hok.1.2⟩
    have Sb : Supply d lb (n + (blockFullsI its).length) r :=
      ⟨by simp only [List.length_append] at hl; omega, fun i h => hi i (List.mem_append_right _ h), by omega, hok.2⟩
    have e : dTreeI (la ++ lb ++ ext) n (.entry k (.dict its) :: r) =
        (keyOfStr k, .dict (dTreeI (la ++ (lb ++ ext)) n its)) :: dTreeI (lb ++ ext) (n + (blockFullsI its).length) r := by
      simp only [dTreeI, dTreeV, lineFullsV, blockFullsV, List.append_assoc, List.drop_left' hla]
    rw [e]
    exact dict hok.1.1 Sa Sb (ihv Sa _) (ihr Sb ext)

/-- the typed keys of the entries of one level -/
def levelKeys : List CItem → List Key
  | [] => []
  | .entry k _ :: r => keyOfStr k :: levelKeys r
  | .lineC _ :: r => levelKeys r
  | .blockC _ :: r => levelKeys r

/-- the line / block comments of one level (not of the levels below) -/
def lvlLines : List CItem → List Str
  | [] => []
  | .lineC x :: r => x :: lvlLines r
  | .entry _ _ :: r => lvlLines r
  | .blockC _ :: r => lvlLines r

def lvlBlocks : List CItem → List Str
  | [] => []
  | .blockC x :: r => x :: lvlBlocks r
  | .entry _ _ :: r => lvlBlocks r
  | .lineC _ :: r => lvlBlocks r

/-- at one level: no key twice, no line comment twice, no block comment twice -/
def levelOK (items : List CItem) : Bool :=
  decide (levelKeys items).Nodup && decide (lvlLines items).Nodup && decide (lvlBlocks items).Nodup

mutual
  def lvlV : CSrc → Bool
    | .dict items => levelOK items && lvlI items
    | _ => true
  /-- … at every level below -/
  def lvlI : List CItem → Bool
    | [] => true
    | .entry _ v :: r => lvlV v && lvlI r
    | .lineC _ :: r => lvlI r
    | .blockC _ :: r => lvlI r
end

theorem dom_ne_ph {k : Key} (h : isDomKey k = true) (l : Bool) {i : Nat} (hi : i ≤ 999999) : k ≠ .str (phWord l i) := by
  intro e
  have h1 := phOf_dom h (.str (phWord l i))
  rw [e, phOf_ph l hi] at h1
  cases h1

mutual
  def klvV : CSrc → Bool
    | .dict items => decide (levelKeys items).Nodup && klvI items
    | _ => true
  /-- the typed keys of every level below are pairwise distinct -/
  def klvI : List CItem → Bool
    | [] => true
    | .entry _ v :: r => klvV v && klvI r
    | .lineC _ :: r => klvI r
    | .blockC _ :: r => klvI r
end

/-! ### the three classes of keys `_clean_data` looks at -/

/-- `selB`, `selI`, `selL` are `Ph.selK` at the three kinds; the words are `Ph.ph .line i`, `Ph.ph .block i` -/
theorem sel_line {i : Nat} (hi : i ≤ 999999) :
    selB (.str (phWord true i)) = false ∧ selI (.str (phWord true i)) = false ∧ selL (.str (phWord true i)) = true :=
  have h := fun a => Ph.selK_ph a .line (Nat.lt_succ_of_le hi)
  ⟨h .block, h .incl, h .line⟩

theorem sel_block {i : Nat} (hi : i ≤ 999999) :
    selB (.str (phWord false i)) = true ∧ selI (.str (phWord false i)) = false ∧ selL (.str (phWord false i)) = false :=
  have h := fun a => Ph.selK_ph a .block (Nat.lt_succ_of_le hi)
  ⟨h .block, h .incl, h .line⟩

theorem look_ph (T : Tbl Str) (l : Bool) {i : Nat} (hi : i ≤ 999999) : look T (.str (phWord l i)) = T.get? i := by
  simp [look, firstSix_ph l hi]

/-- the hypotheses on the document that make `denC` one-to-one -/
structure HDoc (c : Counter) (items : List CItem) : Prop where
  wf : CSrcWFItems 1 items = true
  ok : okI 1 items = true
  lev : levelOK items = true
  levs : lvlI items = true
  nLine : (lineFullsI items).length ≤ Gen.counterLimit + 1
  nBlock : (blockFullsI items).length ≤ 1000000
  hc : C13.ValidCounter Gen.counterLimit c

/-! ## 3. the hoisted top level -/

/-- without include entries the reordering puts the block-comment entries first and keeps the rest in order -/
theorem hoist_eq {D : Entries} (h : ∀ e ∈ D, isIE e = false) :
    hoistPlaceholders D = D.filter isBE ++ D.filter (fun e => !isBE e) := by
  rw [hoist_def]
  have e2 : D.filter (fun e => !isBE e && isIE e) = [] := List.filter_eq_nil_iff.mpr fun e he => by simp [h e he]
  have e3 : D.filter (fun e => !isBE e && !isIE e) = D.filter (fun e => !isBE e) :=
    List.filter_congr fun e he => by simp [h e he]
  rw [e2, e3, List.append_nil]

theorem xtoks_flatMap (lvl : Nat) : ∀ (D : Entries), xtoksEs lvl D = D.flatMap fun e => xtoksEs lvl [e] :=
  flatMap_of_cons (f := xtoksEs lvl) (by simp [xtoksEs]) fun (k, v) D => by cases v <;> simp [xtoksEs]

theorem wshEs_all (d : Nat) : ∀ (D : Entries), wshEs d D = D.all fun e => wshEs d [e] :=
  all_of_cons (f := wshEs d) (by simp [wshEs]) fun (k, v) D => by cases v <;> simp [wshEs]

theorem phCov_all (L B : Tbl Str) : ∀ (D : Entries), phCov L B D = D.all fun e => phCov L B [e] :=
  all_of_cons (f := phCov L B) (by simp [phCov]) fun (k, v) D => by cases v <;> simp [phCov]

theorem docEs_flatMap (L B : Tbl Str) : ∀ (D : Entries), docEs L B D = D.flatMap fun e => docEs L B [e] :=
  flatMap_of_cons (f := docEs L B) (by simp [docEs]) fun (k, v) D => by cases v <;> simp [docEs]

theorem wshEs_filter (d : Nat) (p : Key × Val → Bool) (D : Entries) (h : wshEs d D = true) :
    wshEs d (D.filter p) = true := by
  rw [wshEs_all] at h ⊢
  exact all_filter_of_all h p

theorem wsh_cases {d : Nat} {e : Key × Val} (h : wshEs d [e] = true) :
    (∃ l i, i ≤ 999999 ∧ e = phEntry l i) ∨ (isDomKey e.1 = true ∧ ∀ x, e.2 = .leaf x → phOf e.1 x = none) := by
  obtain ⟨k, v⟩ := e
  cases v with
  | dict es => simp only [wshEs, Bool.and_eq_true] at h; exact Or.inr ⟨h.1.1, fun x hx => by cases hx⟩
  | list xs => simp only [wshEs, Bool.and_eq_true] at h; exact Or.inr ⟨h.1.1, fun x hx => by cases hx⟩
  | leaf x =>
    simp only [wshEs, Bool.and_eq_true, Bool.or_eq_true, decide_eq_true_eq, Bool.and_true] at h
    rcases h with h | h
    · obtain ⟨⟨l, i⟩, hp⟩ := Option.isSome_iff_exists.1 h
      obtain ⟨rfl, rfl, hi⟩ := phOf_some hp
      exact Or.inl ⟨l, i, hi, rfl⟩
    · exact Or.inr ⟨h.1.1, fun y hy => by cases hy; exact phOf_dom h.1.1 x⟩

def isBlockItem : CItem → Bool
  | .blockC _ => true
  | _ => false

/-- block-comment entries of the data are the block comments of the written document -/
theorem docEs_filter (L B : Tbl Str) (d : Nat) (D : Entries) (h : wshEs d D = true) :
    docEs L B (D.filter isBE) = (docEs L B D).filter isBlockItem ∧
    docEs L B (D.filter fun e => !isBE e) = (docEs L B D).filter fun it => !isBlockItem it := by
  rw [wshEs_all] at h
  rw [docEs_flatMap L B (D.filter _), docEs_flatMap L B (D.filter _), docEs_flatMap L B D]
  -- every entry becomes one item, a block comment exactly if the entry is a block-comment entry
  have key : ∀ e ∈ D, (isBE e = false ∧ ∃ it, docEs L B [e] = [it] ∧ isBlockItem it = false) ∨
      (isBE e = true ∧ ∃ it, docEs L B [e] = [it] ∧ isBlockItem it = true) := by
    intro (k, v) he
    rcases wsh_cases (List.all_eq_true.1 h _ he) with ⟨l, i, hi, e⟩ | ⟨hk, hp⟩
    · cases e
      cases l
      · exact Or.inr ⟨(sel_block hi).1, _, by simp only [docEs, phOf_ph false hi]; rfl, rfl⟩
      · exact Or.inl ⟨(sel_line hi).1, _, by simp only [docEs, phOf_ph true hi]; rfl, rfl⟩
    · refine Or.inl ⟨(C01.domKey_sel hk).1, ?_⟩
      cases v with
      | dict es => exact ⟨_, by simp only [docEs]; rfl, rfl⟩
      | list xs => exact ⟨_, by simp only [docEs]; rfl, rfl⟩
      | leaf x => exact ⟨_, by simp only [docEs, hp x rfl]; rfl, rfl⟩
  constructor <;> refine flatMap_filter_of fun e he => ?_
  all_goals rcases key e he with ⟨hb, it, e1, e2⟩ | ⟨hb, it, e1, e2⟩ <;> simp [hb, e1, e2]

theorem wsh_noIncl (d : Nat) (D : Entries) (h : wshEs d D = true) : ∀ e ∈ D, isIE e = false := by
  rw [wshEs_all] at h
  intro (k, v) he
  rcases wsh_cases (List.all_eq_true.1 h _ he) with ⟨l, i, _, e⟩ | ⟨hk, _⟩
  · cases e
    exact containsPh_incl_ph l i
  · cases k with
    | int z => rfl
    | str s => exact (C01.domKey_not_ph hk).2.1

/-! ### the block-comment ids of the raw output -/

def bIdOf : XTok → Option Nat
  | .ph false i _ => some i
  | _ => none

def bIds (xs : List XTok) : List Nat := xs.filterMap bIdOf

theorem bIds_append (a b : List XTok) : bIds (a ++ b) = bIds a ++ bIds b := List.filterMap_append

theorem bIds_tok (s : STok) (xs : List XTok) : bIds (.tok s :: xs) = bIds xs := rfl
theorem bIds_phT (i : Nat) (pad : Str) (xs : List XTok) : bIds (.ph true i pad :: xs) = bIds xs := rfl
theorem bIds_phF (i : Nat) (pad : Str) (xs : List XTok) : bIds (.ph false i pad :: xs) = i :: bIds xs := rfl
theorem bIds_nil : bIds [] = [] := rfl

theorem bIds_toks (ts : List STok) : bIds (ts.map XTok.tok) = [] := by
  induction ts with
  | nil => rfl
  | cons t ts ih => rw [List.map_cons, bIds_tok, ih]

theorem bIds_perm (lvl : Nat) {D D' : Entries} (h : D'.Perm D) : (bIds (xtoksEs lvl D')).Perm (bIds (xtoksEs lvl D)) := by
  rw [xtoks_flatMap lvl D', xtoks_flatMap lvl D]
  exact (List.Perm.flatMap_right _ h).filterMap _

theorem mem_bIds {xs : List XTok} {j : Nat} : j ∈ bIds xs ↔ ∃ pad, XTok.ph false j pad ∈ xs := by
  simp only [bIds, List.mem_filterMap]
  constructor
  · rintro ⟨t, ht, e⟩
    cases t with
    | tok s => cases e
    | cmt l f => cases e
    | ph l i pad =>
      cases l with
      | true => cases e
      | false => simp only [bIdOf, Option.some.injEq] at e; subst e; exact ⟨pad, ht⟩
  · rintro ⟨pad, h⟩
    exact ⟨_, h, rfl⟩


theorem any_of_mem_bIds {xs : List XTok} {j : Nat} (h : j ∈ bIds xs) : (xs.any fun t => isPhX false j t) = true := by
  obtain ⟨pad, hp⟩ := mem_bIds.mp h
  exact List.any_eq_true.mpr ⟨_, hp, by simp [isPhX]⟩

theorem not_mem_bIds {xs : List XTok} {j : Nat} (h : j ∉ bIds xs) : ∀ t ∈ xs, isPhX false j t = false := by
  intro t ht
  cases hp : isPhX false j t with
  | false => rfl
  | true =>
    exfalso
    cases t with
    | tok s => cases hp
    | cmt l f => cases hp
    | ph l i pad =>
      simp only [isPhX, Bool.and_eq_true, beq_iff_eq] at hp
      obtain ⟨rfl, rfl⟩ := hp
      exact h (mem_bIds.mpr ⟨pad, ht⟩)

/-! ## 4. the writer theorem applies to `denC c items` -/

/-- the first block comment of the document (if there is one) stands at the top level (finding D28 otherwise) -/
def firstBlockTop : List CItem → Bool
  | [] => true
  | .blockC _ :: _ => true
  | .entry _ v :: r => (blockFullsV v).isEmpty && firstBlockTop r
  | .lineC _ :: r => firstBlockTop r

/-- the block comments as they are written: the first one completed to a header -/
def writtenBlocks (items : List CItem) : List Str :=
  match blockFullsI items with
  | [] => []
  | t :: r => makeDefaultBlockComment .native t :: r

theorem first_block : ∀ (items : List CItem) (ls : List Nat) (n d : Nat), okI d items = true →
    firstBlockTop items = true → blockFullsI items ≠ [] → n ≤ 999999 →
    ∃ rest, (dTreeI ls n items).filter isBE = phEntry false n :: rest
  | [], _, _, _, _, _, hne, _ => by simp [blockFullsI] at hne
  | .blockC x :: r, ls, n, d, _, _, _, hn => by
    have hb : isBE (phEntry false n) = true := (sel_block hn).1
    exact ⟨(dTreeI ls (n + 1) r).filter isBE, by simp only [dTreeI, List.filter_cons, hb, if_true]⟩
  | .entry k v :: r, ls, n, d, hok, hf, hne, hn => by
    simp only [okI, Bool.and_eq_true] at hok
    simp only [firstBlockTop, Bool.and_eq_true, List.isEmpty_iff] at hf
    simp only [blockFullsI, hf.1, List.nil_append] at hne
    obtain ⟨rest, hr⟩ := first_block r (ls.drop (lineFullsV v).length) n d hok.2 hf.2 hne hn
    have hb : isBE (keyOfStr k, dTreeV ls n v) = false := (C01.domKey_sel hok.1.1).1
    refine ⟨rest, ?_⟩
    simp only [dTreeI, List.filter_cons, hb, Bool.false_eq_true, if_false, hf.1, List.length_nil, Nat.add_zero]
    exact hr
  | .lineC x :: r, ls, n, d, hok, hf, hne, hn => by
    simp only [okI, Bool.and_eq_true] at hok
    simp only [firstBlockTop] at hf
    simp only [blockFullsI] at hne
    obtain ⟨rest, hr⟩ := first_block r ls.tail n d hok.2 hf hne hn
    have hb : isBE (phEntry true (ls.headD 0)) = false := containsPh_block_line _
    refine ⟨rest, ?_⟩
    simp only [dTreeI, List.filter_cons, hb, Bool.false_eq_true, if_false]
    exact hr

mutual
  theorem fulls_okV : ∀ (v : CSrc) (d d' : Nat), CSrcWFV d v = true → okV d' v = true →
      (∀ f ∈ lineFullsV v, LineFull f) ∧ (∀ f ∈ blockFullsV v, BlockFull f)
    | .lit l, _, _, _, _ => by simp [lineFullsV, blockFullsV]
    | .list xs, _, _, _, _ => by simp [lineFullsV, blockFullsV]
    | .dict items, d, d', hwf, hok => by
      simp only [CSrcWFV, okV] at hwf hok
      simpa only [lineFullsV, blockFullsV] using fulls_okI items (d + 1) (d' + 1) hwf hok
  /-- every comment of the document is one the writer reproduces -/
  theorem fulls_okI : ∀ (items : List CItem) (d d' : Nat), CSrcWFItems d items = true → okI d' items = true →
      (∀ f ∈ lineFullsI items, LineFull f) ∧ (∀ f ∈ blockFullsI items, BlockFull f)
    | [], _, _, _, _ => by simp [lineFullsI, blockFullsI]
    | .entry k v :: r, d, d', hwf, hok => by
      simp only [CSrcWFItems, okI, Bool.and_eq_true] at hwf hok
      obtain ⟨v1, v2⟩ := fulls_okV v d d' hwf.1.2 hok.1.2
      obtain ⟨r1, r2⟩ := fulls_okI r d d' hwf.2 hok.2
      simp only [lineFullsI, blockFullsI, List.mem_append]
      exact ⟨fun f hf => hf.elim (v1 f) (r1 f), fun f hf => hf.elim (v2 f) (r2 f)⟩
    | .lineC x :: r, d, d', hwf, hok => by
      simp only [CSrcWFItems, okI, Bool.and_eq_true] at hwf hok
      obtain ⟨r1, r2⟩ := fulls_okI r d d' hwf.2 hok.2
      simp only [lineFullsI, blockFullsI, List.mem_cons]
      refine ⟨fun f hf => ?_, r2⟩
      rcases hf with rfl | hf
      · exact lineFull_of_ok hwf.1 hok.1
      · exact r1 f hf
    | .blockC x :: r, d, d', hwf, hok => by
      simp only [CSrcWFItems, okI, Bool.and_eq_true] at hwf hok
      obtain ⟨r1, r2⟩ := fulls_okI r d d' hwf.2 hok.2
      simp only [lineFullsI, blockFullsI, List.mem_cons]
      refine ⟨r1, fun f hf => ?_⟩
      rcases hf with rfl | hf
      · exact blockFull_of_ok hwf.1 hok.1
      · exact r2 f hf
end

/-- the hypotheses of the writer side of the round trip -/
structure HW (c : Counter) (items : List CItem) : Prop extends HDoc c items where
  first : firstBlockTop items = true
  indep : indepFrom [] (writtenBlocks items) = true

theorem fmt_phEntry (lvl : Nat) (l : Bool) (i : Nat) (r : Entries) :
    fmtEntries .native lvl (phEntry l i :: r) =
      fline lvl (XTok.ph l i (padOf lvl (phWord l i))).text ++ fmtEntries .native lvl r := by
  simp only [phEntry, fmtEntries, formatKey, formatScalar, phWord_format, padOf, XTok.text]

theorem xtoks_phEntry (lvl : Nat) (l : Bool) {i : Nat} (hi : i ≤ 999999) (R : Entries) :
    xtoksEs lvl (phEntry l i :: R) = .ph l i (padOf lvl (phWord l i)) :: xtoksEs lvl R := by
  simp only [phEntry, xtoksEs, phOf_ph l hi, List.singleton_append]

/-! ## 5. the document that is written -/

/-- the canonical document: entries in the writer's spelling, the top-level block comments first (in their order),
    everything else in its order; nested levels keep their order -/
def canonItems (items : List CItem) : List CItem :=
  (cnormI items).filter isBlockItem ++ (cnormI items).filter fun it => !isBlockItem it

/-- the document has a header of its own: its first block comment contains ` C++ ` -/
def ownHeaderI (items : List CItem) : Bool :=
  match blockFullsI items with
  | t :: _ => containsCpp t
  | [] => false

/-- **the document that is written**: the default header as one more top-level block comment unless the document has
    its own header, then the canonical document -/
def writtenDoc (items : List CItem) : List CItem :=
  (if ownHeaderI items then [] else [.blockC C12.hdrBody]) ++ canonItems items

/-! ## 6. for `C12round`: the written document is well formed; where its comments stand -/

theorem wfI_all (d : Nat) : ∀ (X : List CItem), CSrcWFItems d X = X.all fun it => CSrcWFItems d [it] :=
  all_of_cons (f := CSrcWFItems d) (by simp [CSrcWFItems]) fun it X => by cases it <;> simp [CSrcWFItems]

theorem wfI_append (d : Nat) (a b : List CItem) : CSrcWFItems d (a ++ b) = (CSrcWFItems d a && CSrcWFItems d b) := by
  rw [wfI_all, List.all_append, ← wfI_all, ← wfI_all]

mutual
  theorem cnorm_wfV : ∀ (v : CSrc) (d : Nat), CSrcWFV d v = true → okV d v = true → CSrcWFV d (cnormV v) = true
    | .lit l, d, _, hok => by
      simp only [okV, Bool.and_eq_true, decide_eq_true_eq] at hok
      simp only [cnormV, CSrcWFV, Bool.and_eq_true, decide_eq_true_eq]
      exact ⟨C01.written_ok hok.1, hok.2⟩
    | .dict items, d, hwf, hok => by
      simp only [CSrcWFV, okV] at hwf hok
      simp only [cnormV, CSrcWFV]
      exact cnorm_wfI items (d + 1) hwf hok
    | .list xs, d, _, hok => by
      simp only [okV] at hok
      simp only [cnormV, CSrcWFV]
      exact C01.srcOfXs_wf (d + 1) _ hok
  /-- the document in the writer's spelling is well formed -/
  theorem cnorm_wfI : ∀ (items : List CItem) (d : Nat), CSrcWFItems d items = true → okI d items = true →
      CSrcWFItems d (cnormI items) = true
    | [], _, _, _ => by simp [cnormI, CSrcWFItems]
    | .entry k v :: r, d, hwf, hok => by
      simp only [CSrcWFItems, okI, Bool.and_eq_true] at hwf hok
      simp only [cnormI, CSrcWFItems, Bool.and_eq_true]
      exact ⟨⟨⟨C01.domKey_word hok.1.1, by rw [C01.domKey_types_back hok.1.1]; rfl⟩, cnorm_wfV v d hwf.1.2 hok.1.2⟩,
        cnorm_wfI r d hwf.2 hok.2⟩
    | .lineC x :: r, d, hwf, hok => by
      simp only [CSrcWFItems, okI, Bool.and_eq_true] at hwf hok
      simp only [cnormI, CSrcWFItems, Bool.and_eq_true]
      exact ⟨hwf.1, cnorm_wfI r d hwf.2 hok.2⟩
    | .blockC x :: r, d, hwf, hok => by
      simp only [CSrcWFItems, okI, Bool.and_eq_true] at hwf hok
      simp only [cnormI, CSrcWFItems, Bool.and_eq_true]
      exact ⟨hwf.1, cnorm_wfI r d hwf.2 hok.2⟩
end

theorem canon_wf (own : Bool) {X : List CItem} (h : CSrcWFItems 1 X = true) :
    CSrcWFItems 1 ((if own then [] else [CItem.blockC C12.hdrBody]) ++
      (X.filter isBlockItem ++ X.filter fun it => !isBlockItem it)) = true := by
  rw [wfI_append, wfI_all 1 (_ ++ _), (List.filter_append_perm _ _).all_eq, ← wfI_all, h]
  cases own <;> simp [CSrcWFItems, hdrBody_text]

mutual
  /-- the comments of a document with the dict structure around them: entries lose key and scalar -/
  def skelV : CSrc → CSrc
    | .dict items => .dict (skelI items)
    | .lit _ => .lit (.bare [])
    | .list _ => .lit (.bare [])
  def skelI : List CItem → List CItem
    | [] => []
    | .entry _ v :: r => .entry [] (skelV v) :: skelI r
    | .lineC x :: r => .lineC x :: skelI r
    | .blockC x :: r => .blockC x :: skelI r
end

mutual
  theorem skel_cnormV : ∀ (v : CSrc), skelV (cnormV v) = skelV v
    | .lit l => by simp only [cnormV, skelV]
    | .list xs => by simp only [cnormV, skelV]
    | .dict items => by simp only [cnormV, skelV, skel_cnormI items]
  /-- the writer's spelling keeps every comment of every level, at its place among the entries -/
  theorem skel_cnormI : ∀ (items : List CItem), skelI (cnormI items) = skelI items
    | [] => by simp only [cnormI]
    | .entry k v :: r => by simp only [cnormI, skelI, skel_cnormV v, skel_cnormI r]
    | .lineC x :: r => by simp only [cnormI, skelI, skel_cnormI r]
    | .blockC x :: r => by simp only [cnormI, skelI, skel_cnormI r]
end

theorem filter_filter_self {α} (p : α → Bool) (l : List α) : (l.filter p).filter p = l.filter p := by
  simp [List.filter_filter]

/-- the top level of a canonical document under its header: everything but the block comments in the original order;
    the block comments in their original order, after the default header if that was added -/
theorem canon_top (own : Bool) (X : List CItem) :
    ((if own then [] else [CItem.blockC C12.hdrBody]) ++
        (X.filter isBlockItem ++ X.filter fun it => !isBlockItem it)).filter (fun it => !isBlockItem it) =
      X.filter (fun it => !isBlockItem it) ∧
    ((if own then [] else [CItem.blockC C12.hdrBody]) ++
        (X.filter isBlockItem ++ X.filter fun it => !isBlockItem it)).filter isBlockItem =
      (if own then [] else [.blockC C12.hdrBody]) ++ X.filter isBlockItem := by
  have h1 : (X.filter isBlockItem).filter (fun it => !isBlockItem it) = [] := by simp [List.filter_filter]
  have h2 : (X.filter (fun it => !isBlockItem it)).filter isBlockItem = [] := by simp [List.filter_filter]
  have hB : isBlockItem (.blockC C12.hdrBody) = true := rfl
  simp only [List.filter_append, h1, h2, List.filter_filter, Bool.and_self, List.nil_append, List.append_nil]
  cases own
  · simp only [Bool.false_eq_true, if_false, List.filter_cons, hB, Bool.not_true, if_true, List.filter_nil, List.nil_append]
    exact ⟨trivial, trivial⟩
  · exact ⟨rfl, rfl⟩

theorem writtenDoc_top (items : List CItem) :
    (writtenDoc items).filter (fun it => !isBlockItem it) = (cnormI items).filter (fun it => !isBlockItem it) ∧
    (writtenDoc items).filter isBlockItem =
      (if ownHeaderI items then [] else [.blockC C12.hdrBody]) ++ (cnormI items).filter isBlockItem :=
  canon_top (ownHeaderI items) (cnormI items)

/-! ## 7. why the hypotheses on the comment texts are there (negative witnesses, by evaluation)

  `first` / `indep` of `HW`: the proved findings `C12.D28_header_inside_subdict` (first block comment not at top level:
  the default header is glued in front of it, inside the sub-dict) and `C12.D32_second_comment_lost` (a block comment
  contained in what was written before it is written as the empty text). -/

/-- `// note␣␣⏎ a 1;` — a line comment with trailing blanks -/
def exT : List CItem := [.lineC " note  ".toList, .entry "a".toList (.lit (.bare "1".toList))]

/-- **finding (trailing white space of a comment is not written).**  The reader keeps the comment text `// note␣␣`
    as it is; the writer's `remove_trailing_spaces` runs over the text *after* the comments have been inserted and
    cuts the two blanks: the comment is written as `// note`.  Hence `lineTextOK` (and, for the lines of a block
    comment, `blockTextOK`). -/
theorem trailing_ws_lost :
    (denC none exT).lineC = [(0, "// note  ".toList)] ∧
    fmtSD .native (denC none exT) = some (nativeHeader ++ "// note\na                             1;\n".toList) := by
  have h : hoistPlaceholders (denC none exT).data =
        [(.str "LINECOMMENT000000".toList, .leaf (.str "LINECOMMENT000000".toList)), (.str "a".toList, .leaf (.int 1))] ∧
      (denC none exT).lineC = [(0, "// note  ".toList)] ∧ (denC none exT).blockC = [] ∧ (denC none exT).incl = [] := by
    unfold exT
    literal_chars
    decide +kernel
  refine ⟨h.2.1, ?_⟩
  rw [fmtSD_noIncl _ h.2.2.2, h.1, h.2.1, h.2.2.1, C12.C12_header_default]
  have hraw : fmtEntries .native 0
      [(.str "LINECOMMENT000000".toList, .leaf (.str "LINECOMMENT000000".toList)), (.str "a".toList, .leaf (.int 1))] =
      "LINECOMMENT000000             LINECOMMENT000000;\na                             1;\n".toList := by
    literal_chars
    simp only [fmtEntries]
    decide +kernel
  rw [hraw, C12.nativeHeader_eq]
  literal_chars
  decide +kernel

/-- `// LINECOMMENT000001  LINECOMMENT000001;⏎ // two⏎` — a comment that spells the placeholder entry of the next one -/
def exP : List CItem := [.lineC " LINECOMMENT000001  LINECOMMENT000001;".toList, .lineC " two".toList]

/-- **why comment texts must not contain placeholder words** (`noPhB`): the insertion passes work on the whole text,
    comments already inserted included; here the first comment is rewritten by the insertion of the second. -/
theorem placeholder_in_comment_rewritten :
    fmtSD .native (denC none exP) = some (nativeHeader ++ "// // two\n// two\n".toList) := by
  have h : hoistPlaceholders (denC none exP).data =
        [(.str "LINECOMMENT000000".toList, .leaf (.str "LINECOMMENT000000".toList)),
         (.str "LINECOMMENT000001".toList, .leaf (.str "LINECOMMENT000001".toList))] ∧
      (denC none exP).lineC = [(0, "// LINECOMMENT000001  LINECOMMENT000001;".toList), (1, "// two".toList)] ∧
      (denC none exP).blockC = [] ∧ (denC none exP).incl = [] := by
    unfold exP
    literal_chars
    decide +kernel
  rw [fmtSD_noIncl _ h.2.2.2, h.1, h.2.1, h.2.2.1, C12.C12_header_default]
  have hraw : fmtEntries .native 0
      [(.str "LINECOMMENT000000".toList, .leaf (.str "LINECOMMENT000000".toList)),
       (.str "LINECOMMENT000001".toList, .leaf (.str "LINECOMMENT000001".toList))] =
      "LINECOMMENT000000             LINECOMMENT000000;\nLINECOMMENT000001             LINECOMMENT000001;\n".toList := by
    literal_chars
    simp only [fmtEntries]
    decide +kernel
  rw [hraw, C12.nativeHeader_eq]
  literal_chars
  decide +kernel

/-! ## 8. `_clean` in general: repeated comments of one level are removed -/

/-- delete the ids one after the other -/
def delIds (ids : List Nat) (T : Tbl Str) : Tbl Str := ids.foldl (fun t i => Tbl.del i t) T

def delKeys (ks : List Key) (D : Entries) : Entries := ks.foldl (fun d k => delKey k d) D

theorem get_delIds {i : Nat} : ∀ (ids : List Nat) (T : Tbl Str), i ∉ ids → (delIds ids T).get? i = T.get? i
  | [], _, _ => rfl
  | j :: ids, T, h => by
    simp only [List.mem_cons, not_or] at h
    simp only [delIds, List.foldl_cons]
    have := get_delIds ids (Tbl.del j T) h.2
    simp only [delIds] at this
    rw [this, tbl_get_del_ne h.1]

theorem delIds_sublist : ∀ (ids : List Nat) (T : Tbl Str), (delIds ids T).Sublist T
  | [], _ => List.Sublist.refl _
  | j :: ids, T => by
    simp only [delIds, List.foldl_cons]
    exact (delIds_sublist ids (Tbl.del j T)).trans (tbl_del_sublist j T)

theorem mem_delIds {e : Nat × Str} : ∀ (ids : List Nat) {T : Tbl Str}, e ∈ T → e.1 ∉ ids → e ∈ delIds ids T
  | [], _, hm, _ => hm
  | j :: ids, T, hm, h => by
    simp only [List.mem_cons, not_or] at h
    simp only [delIds, List.foldl_cons]
    exact mem_delIds ids (tbl_mem_del_of_ne h.1 hm) h.2

theorem delIds_append (a b : List Nat) (T : Tbl Str) : delIds (a ++ b) T = delIds b (delIds a T) := by
  simp [delIds, List.foldl_append]

theorem keys_filter_nodup {D : Entries} (p : Key × Val → Bool) (h : (keys D).Nodup) : (keys (D.filter p)).Nodup :=
  ((List.filter_sublist).map _).nodup h

/-- the ids (of a candidate list) whose text was seen before -/
def dupFrom (T : Tbl Str) : List Str → List Nat → List Nat
  | _, [] => []
  | seen, i :: is =>
    match T.get? i with
    | none => dupFrom T seen is
    | some txt => if seen.contains txt then i :: dupFrom T seen is else dupFrom T (seen ++ [txt]) is

theorem dupFrom_congr {T T' : Tbl Str} : ∀ (ids : List Nat) (seen : List Str), (∀ i ∈ ids, T'.get? i = T.get? i) →
    dupFrom T' seen ids = dupFrom T seen ids
  | [], _, _ => rfl
  | i :: is, seen, h => by
    have hi := h i List.mem_cons_self
    have hr : ∀ s, dupFrom T' s is = dupFrom T s is := fun s => dupFrom_congr is s fun j hj => h j (List.mem_cons_of_mem _ hj)
    simp only [dupFrom, hi, hr]

theorem dupFrom_sub (T : Tbl Str) : ∀ (ids : List Nat) (seen : List Str), ∀ i ∈ dupFrom T seen ids, i ∈ ids
  | [], _, i, h => by simp [dupFrom] at h
  | j :: is, seen, i, h => by
    simp only [dupFrom] at h
    split at h
    · exact List.mem_cons_of_mem _ (dupFrom_sub T is seen i h)
    · split at h
      · rcases List.mem_cons.mp h with rfl | h
        · exact List.mem_cons_self
        · exact List.mem_cons_of_mem _ (dupFrom_sub T is seen i h)
      · exact List.mem_cons_of_mem _ (dupFrom_sub T is _ i h)

def phKey (l : Bool) (i : Nat) : Key := .str (phWord l i)

theorem look_phKey (T : Tbl Str) (l : Bool) {i : Nat} (hi : i ≤ 999999) : look T (phKey l i) = T.get? i := look_ph T l hi

/-- one pass of `_clean_data` over its candidates: the candidates whose text was seen before are deleted, from the
    level and from the table -/
theorem cstepF_del (l : Bool) : ∀ (ids : List Nat) (d : Entries) (t : Tbl Str) (seen : List Str), ids.Nodup →
    (∀ i ∈ ids, i ≤ 999999) →
    ∃ seen', (ids.map (phKey l)).foldl cleanStepF (d, t, seen) =
      (delKeys ((dupFrom t seen ids).map (phKey l)) d, delIds (dupFrom t seen ids) t, seen')
  | [], d, t, seen, _, _ => ⟨seen, rfl⟩
  | i :: is, d, t, seen, hnd, hi => by
    simp only [List.nodup_cons] at hnd
    have hii := hi i List.mem_cons_self
    have his : ∀ j ∈ is, j ≤ 999999 := fun j hj => hi j (List.mem_cons_of_mem _ hj)
    simp only [List.map_cons, List.foldl_cons]
    have hf : firstSixDigits (phWord l i) = some i := firstSix_ph l hii
    cases hg : t.get? i with
    | none =>
      have e2 : cleanStepF (d, t, seen) (phKey l i) = (d, t, seen) := by simp [cleanStepF, phKey, hf, hg]
      rw [e2]
      simp only [dupFrom, hg]
      exact cstepF_del l is d t seen hnd.2 his
    | some txt =>
      by_cases hc : seen.contains txt = true
      · have hm : txt ∈ seen := List.contains_iff_mem.mp hc
        have e2 : cleanStepF (d, t, seen) (phKey l i) = (delKey (phKey l i) d, Tbl.del i t, seen) := by
          simp [cleanStepF, phKey, hf, hg, hm]
        rw [e2]
        obtain ⟨seen', ih⟩ := cstepF_del l is (delKey (phKey l i) d) (Tbl.del i t) seen hnd.2 his
        have hcg : dupFrom (Tbl.del i t) seen is = dupFrom t seen is :=
          dupFrom_congr is seen fun j hj => tbl_get_del_ne (i := j) (j := i) (fun e => hnd.1 (by rw [← e]; exact hj)) t
        rw [hcg] at ih
        refine ⟨seen', ?_⟩
        rw [ih]
        simp only [dupFrom, hg, hc, if_true, List.map_cons, delKeys, List.foldl_cons, delIds]
      · have hc' : seen.contains txt = false := by simpa using hc
        have hm : txt ∉ seen := fun hm => hc (List.contains_iff_mem.mpr hm)
        have e2 : cleanStepF (d, t, seen) (phKey l i) = (d, t, seen ++ [txt]) := by
          simp [cleanStepF, phKey, hf, hg, hm]
        rw [e2]
        simp only [dupFrom, hg, hc', Bool.false_eq_true, if_false]
        exact cstepF_del l is d t (seen ++ [txt]) hnd.2 his

/-- the ids of the comment entries of kind `l` at the top of a level -/
def topIds (l : Bool) : Entries → List Nat
  | [] => []
  | (k, .leaf x) :: r =>
    (match phOf k x with
     | some (l', i) => if l' = l then [i] else []
     | none => []) ++ topIds l r
  | (_, .dict _) :: r => topIds l r
  | (_, .list _) :: r => topIds l r

theorem topIds_flatMap (l : Bool) : ∀ (D : Entries), topIds l D = D.flatMap fun e => topIds l [e] :=
  flatMap_of_cons (f := topIds l) (by simp [topIds]) fun (k, v) D => by cases v <;> simp [topIds]

theorem mem_topIds {l : Bool} {D : Entries} {i : Nat} :
    i ∈ topIds l D ↔ ∃ k x, (k, Val.leaf x) ∈ D ∧ phOf k x = some (l, i) := by
  rw [topIds_flatMap, List.mem_flatMap]
  constructor
  · rintro ⟨⟨k, v⟩, he, hi⟩
    cases v with
    | leaf x =>
      cases hp : phOf k x with
      | none => simp [topIds, hp] at hi
      | some li =>
        obtain ⟨l', j⟩ := li
        simp only [topIds, hp, List.append_nil] at hi
        split at hi
        · next e => cases e; cases List.mem_singleton.1 hi; exact ⟨k, x, he, hp⟩
        · cases hi
    | _ => simp [topIds] at hi
  · rintro ⟨k, x, he, hp⟩
    exact ⟨_, he, by simp [topIds, hp]⟩

theorem topIds_le (l : Bool) (D : Entries) : ∀ i ∈ topIds l D, i ≤ 999999 := fun i h => by
  obtain ⟨k, x, _, hp⟩ := mem_topIds.1 h
  exact (phOf_some hp).2.2

theorem topIds_cons_ph (l' : Bool) {k : Key} {x : Scalar} {l : Bool} {i : Nat} (hp : phOf k x = some (l, i)) (r : Entries) :
    topIds l' ((k, .leaf x) :: r) = (if l = l' then [i] else []) ++ topIds l' r := by
  simp only [topIds, hp]

theorem topIds_cons_dom (l : Bool) {k : Key} {v : Val} (h : ∀ x, v = .leaf x → phOf k x = none) (r : Entries) :
    topIds l ((k, v) :: r) = topIds l r := by
  cases v with
  | leaf x => simp only [topIds, h x rfl, List.nil_append]
  | _ => simp only [topIds]

theorem topIds_nodup_ph {k : Key} {x : Scalar} {l : Bool} {i : Nat} (hp : phOf k x = some (l, i)) {r : Entries}
    (hnd : ∀ l', (topIds l' ((k, .leaf x) :: r)).Nodup) : i ∉ topIds l r ∧ ∀ l', (topIds l' r).Nodup := by
  refine ⟨?_, fun l' => (hnd l').sublist (by rw [topIds_cons_ph l' hp]; exact List.sublist_append_right _ _)⟩
  have := hnd l
  rw [topIds_cons_ph l hp, if_pos rfl, List.singleton_append, List.nodup_cons] at this
  exact this.1

/-- the candidates of the three passes of `_clean_data` on a level of the shape `wshEs` -/
theorem cands_level (d : Nat) (D : Entries) (h : wshEs d D = true) :
    (keys D).filter selB = (topIds false D).map (phKey false) ∧ (keys D).filter selI = [] ∧
    (keys D).filter selL = (topIds true D).map (phKey true) := by
  rw [wshEs_all] at h
  have key : ∀ e ∈ D, (if selB e.1 then [e.1] else []) = (topIds false [e]).map (phKey false) ∧ selI e.1 = false ∧
      (if selL e.1 then [e.1] else []) = (topIds true [e]).map (phKey true) := by
    intro (k, v) he
    rcases wsh_cases (List.all_eq_true.1 h _ he) with ⟨l, i, hi, e⟩ | ⟨hdom, hnone⟩
    · cases e
      cases l
      · obtain ⟨s1, s2, s3⟩ := sel_block hi
        simp [s1, s2, s3, topIds, phOf_ph false hi, phKey]
      · obtain ⟨s1, s2, s3⟩ := sel_line hi
        simp [s1, s2, s3, topIds, phOf_ph true hi, phKey]
    · obtain ⟨s1, s2, s3⟩ : selB k = false ∧ selI k = false ∧ selL k = false := C01.domKey_sel hdom
      cases v with
      | leaf x => simp [s1, s2, s3, topIds, hnone x rfl]
      | _ => simp [s1, s2, s3, topIds]
  simp only [topIds_flatMap _ D, List.map_flatMap]
  exact ⟨map_filter_of fun e he => (key e he).1,
    List.filter_eq_nil_iff.2 fun k hk => by
      obtain ⟨e, he, rfl⟩ := List.mem_map.1 hk
      simp [(key e he).2.1],
    map_filter_of fun e he => (key e he).2.2⟩

/-- dropping entries whose keys are block-comment placeholder keys does not change the line-comment ids -/
theorem topIds_filter_block (kb : List Nat) (D : Entries) :
    topIds true (D.filter fun e => e.1 ∉ kb.map (phKey false)) = topIds true D := by
  rw [topIds_flatMap, topIds_flatMap true D]
  refine flatMap_filter_self fun (k, v) _ hnot => ?_
  -- a block-comment key is no line-comment key
  simp only [decide_eq_false_iff_not, Decidable.not_not, List.mem_map] at hnot
  obtain ⟨j, _, e⟩ := hnot
  cases v with
  | leaf x =>
    cases hp : phOf k x with
    | none => simp [topIds, hp]
    | some li =>
      obtain ⟨l, i⟩ := li
      obtain ⟨hk, _, hi⟩ := phOf_some hp
      cases l with
      | false => simp [topIds, hp]
      | true =>
        exfalso
        rw [hk, phKey] at e
        simp only [Key.str.injEq] at e
        exact Ph.ph_ne (a := .block) (b := .line) (by decide) j i e
  | _ => simp [topIds]

/-- the comment entries `_clean_data` removes from the top of a level: those whose text equals that of an earlier
    entry of the same kind -/
def topDup (l : Bool) (T : Tbl Str) (D : Entries) : List Nat := dupFrom T [] (topIds l D)

def topKeys (s : SD) (D : Entries) : List Key :=
  (topDup false s.blockC D).map (phKey false) ++ (topDup true s.lineC D).map (phKey true)

theorem cstep_del (l : Bool) (sel : Key → Bool) (D : Entries) (T : Tbl Str) (ids : List Nat)
    (hc : (keys D).filter sel = ids.map (phKey l)) (hk : (keys D).Nodup) (hnd : ids.Nodup) (hi : ∀ i ∈ ids, i ≤ 999999) :
    cleanStep sel D T = (D.filter (fun e => e.1 ∉ (dupFrom T [] ids).map (phKey l)), delIds (dupFrom T [] ids) T) := by
  obtain ⟨seen', h⟩ := cstepF_del l ids D T [] hnd hi
  simp only [cleanStep, hc, h, delKeys, delKey_eq, AL.foldl_del_filter _ hk]

/-- **`_clean_data` on one level** of the shape `wshEs` with pairwise distinct keys and ids -/
theorem cleanLevel_gen (s : SD) (d : Nat) (D : Entries) (hw : wshEs d D = true) (hk : (keys D).Nodup)
    (hb : (topIds false D).Nodup) (hl : (topIds true D).Nodup) :
    cleanLevel s D =
      ({ s with blockC := delIds (topDup false s.blockC D) s.blockC, lineC := delIds (topDup true s.lineC D) s.lineC },
       D.filter fun e => e.1 ∉ topKeys s D) := by
  obtain ⟨c1, c2, c3⟩ := cands_level d D hw
  have hB := cstep_del false selB D s.blockC (topIds false D) c1 hk hb (topIds_le false D)
  -- the level after the block pass
  have hw' : wshEs d (D.filter fun e => e.1 ∉ (dupFrom s.blockC [] (topIds false D)).map (phKey false)) = true :=
    wshEs_filter d _ D hw
  have hk' := keys_filter_nodup (fun e => decide (e.1 ∉ (dupFrom s.blockC [] (topIds false D)).map (phKey false))) hk
  obtain ⟨c1', c2', c3'⟩ := cands_level d _ hw'
  rw [topIds_filter_block] at c3'
  have hI := cleanStep_nil_sel c2' s.incl
  have hL := cstep_del true selL _ s.lineC (topIds true D) c3' hk' hl (topIds_le true D)
  rw [cleanLevel_eq, hB]
  simp only [hI, hL]
  cases s
  simp only [topDup, topKeys, List.filter_filter, Prod.mk.injEq, true_and]
  apply List.filter_congr
  intro e _
  simp only [List.mem_append, not_or, Bool.decide_and]
  exact Bool.and_comm _ _

/-- the ids of the comment entries of kind `l` in the whole tree, in document order -/
def idsT (l : Bool) : Entries → List Nat
  | [] => []
  | (_, .dict es) :: r => idsT l es ++ idsT l r
  | (_, .list _) :: r => idsT l r
  | (k, .leaf x) :: r =>
    (match phOf k x with
     | some (l', i) => if l' = l then [i] else []
     | none => []) ++ idsT l r

/-- **what `_clean` leaves of a tree** (specification): at every level, a comment entry whose text (looked up in the
    table of its kind) equals that of an earlier comment entry of the same kind and level is dropped -/
def cleanT (L B : Tbl Str) : List Str → List Str → Entries → Entries
  | _, _, [] => []
  | sl, sb, (k, .dict es) :: r => (k, .dict (cleanT L B [] [] es)) :: cleanT L B sl sb r
  | sl, sb, (k, .list xs) :: r => (k, .list xs) :: cleanT L B sl sb r
  | sl, sb, (k, .leaf x) :: r =>
    match phOf k x with
    | some (true, i) =>
      (match L.get? i with
       | none => (k, .leaf x) :: cleanT L B sl sb r
       | some t => if sl.contains t then cleanT L B sl sb r else (k, .leaf x) :: cleanT L B (sl ++ [t]) sb r)
    | some (false, i) =>
      (match B.get? i with
       | none => (k, .leaf x) :: cleanT L B sl sb r
       | some t => if sb.contains t then cleanT L B sl sb r else (k, .leaf x) :: cleanT L B sl (sb ++ [t]) r)
    | none => (k, .leaf x) :: cleanT L B sl sb r

def mapSubs (f : Entries → Entries) : Entries → Entries
  | [] => []
  | (k, .dict sub) :: r => (k, .dict (f sub)) :: mapSubs f r
  | (k, .leaf x) :: r => (k, .leaf x) :: mapSubs f r
  | (k, .list xs) :: r => (k, .list xs) :: mapSubs f r

theorem cleanT_ph (L B : Tbl Str) (sl sb : List Str) {k : Key} {x : Scalar} {l : Bool} {i : Nat} (r : Entries)
    (hp : phOf k x = some (l, i)) :
    cleanT L B sl sb ((k, .leaf x) :: r) =
      match (if l then L else B).get? i with
      | none => (k, .leaf x) :: cleanT L B sl sb r
      | some t =>
        if (if l then sl else sb).contains t then cleanT L B sl sb r
        else (k, .leaf x) :: cleanT L B (if l then sl ++ [t] else sl) (if l then sb else sb ++ [t]) r := by
  cases l <;> simp only [cleanT, hp, if_true, Bool.false_eq_true, if_false] <;> rfl

theorem dom_notMem_phKeys {k : Key} (h : isDomKey k = true) (l : Bool) {ids : List Nat} (hi : ∀ i ∈ ids, i ≤ 999999) :
    k ∉ ids.map (phKey l) := by
  intro hm
  obtain ⟨i, hi', e⟩ := List.mem_map.mp hm
  exact dom_ne_ph h l (hi i hi') e.symm

theorem phKey_inj {l l' : Bool} {i j : Nat} (hi : i ≤ 999999) (hj : j ≤ 999999) (h : phKey l i = phKey l' j) :
    l = l' ∧ i = j := by
  simp only [phKey, Key.str.injEq] at h
  exact phWord_infix hi hj (h ▸ isInfix_self _)

theorem dupFrom_le (T : Tbl Str) {ids : List Nat} (h : ∀ i ∈ ids, i ≤ 999999) (seen : List Str) :
    ∀ i ∈ dupFrom T seen ids, i ≤ 999999 := fun i hi => h i (dupFrom_sub T ids seen i hi)

theorem filt_keep (ks : List Key) (e : Key × Val) (r : Entries) (h : e.1 ∉ ks) :
    ((e :: r).filter fun e => e.1 ∉ ks) = e :: r.filter fun e => e.1 ∉ ks := by
  simp [h]

theorem filt_drop (ks : List Key) (e : Key × Val) (r : Entries) (h : e.1 ∈ ks) :
    ((e :: r).filter fun e => e.1 ∉ ks) = r.filter fun e => e.1 ∉ ks := by
  simp [h]

theorem mapSubs_filter (L B : Tbl Str) (d : Nat) (D : Entries) : ∀ (sl sb : List Str) (ks : List Key), wshEs d D = true →
    (keys D).Nodup → (∀ l, (topIds l D).Nodup) →
    (∀ k ∈ keys D, (k ∈ ks ↔ ∃ l, ∃ i ∈ dupFrom (if l then L else B) (if l then sl else sb) (topIds l D), k = phKey l i)) →
    mapSubs (cleanT L B [] []) (D.filter fun e => e.1 ∉ ks) = cleanT L B sl sb D := by
  induction D with
  | nil => intros; simp [mapSubs, cleanT]
  | cons e r ih =>
    intro sl sb ks hw hk hnd hks
    obtain ⟨k, v⟩ := e
    rw [wshEs_all, List.all_cons, Bool.and_eq_true, ← wshEs_all] at hw
    simp only [keys, List.map_cons, List.nodup_cons] at hk
    rcases wsh_cases hw.1 with ⟨l, i, hi, e⟩ | ⟨hdom, hnone⟩
    · cases e
      have hp := phOf_ph l hi
      have ht := fun l' => topIds_cons_ph l' hp r
      obtain ⟨hir, hndr⟩ := topIds_nodup_ph hp hnd
      -- the head is removed iff it repeats an earlier text
      have hhead : phKey l i ∈ ks ↔
          i ∈ dupFrom (if l then L else B) (if l then sl else sb) (i :: topIds l r) := by
        refine (hks (phKey l i) List.mem_cons_self).trans ⟨?_, ?_⟩
        · rintro ⟨l', j, hj, e⟩
          obtain ⟨rfl, rfl⟩ := phKey_inj hi (topIds_le l' _ j (dupFrom_sub _ _ _ j hj)) e
          rwa [ht, if_pos rfl] at hj
        · intro h
          exact ⟨l, i, by rwa [ht, if_pos rfl], rfl⟩
      -- the rest of the level, with what has been seen of the kind `l` after the head
      have ihk : ∀ sl' sb', (∀ l', l' ≠ l → (if l' then sl' else sb') = (if l' then sl else sb)) →
          (∀ j, j ≠ i → (j ∈ dupFrom (if l then L else B) (if l then sl else sb) (i :: topIds l r) ↔
            j ∈ dupFrom (if l then L else B) (if l then sl' else sb') (topIds l r))) →
          mapSubs (cleanT L B [] []) (r.filter fun e => e.1 ∉ ks) = cleanT L B sl' sb' r := by
        intro sl' sb' hS hd
        refine ih sl' sb' ks hw.2 hk.2 hndr fun k' hk' => ?_
        have hne : ∀ j, k' = phKey l j → j ≠ i := fun j e h => hk.1 (show phKey l i ∈ keys r from h ▸ e ▸ hk')
        rw [hks k' (List.mem_cons_of_mem _ hk')]
        constructor
        · rintro ⟨l', j, hj, e⟩
          by_cases hl : l' = l
          · subst hl
            rw [ht, if_pos rfl, List.singleton_append] at hj
            exact ⟨l', j, (hd j (hne j e)).1 hj, e⟩
          · rw [ht, if_neg (Ne.symm hl), List.nil_append, ← hS l' hl] at hj
            exact ⟨l', j, hj, e⟩
        · rintro ⟨l', j, hj, e⟩
          by_cases hl : l' = l
          · subst hl
            exact ⟨l', j, by rw [ht, if_pos rfl, List.singleton_append]; exact (hd j (hne j e)).2 hj, e⟩
          · exact ⟨l', j, by rw [ht, if_neg (Ne.symm hl), List.nil_append, ← hS l' hl]; exact hj, e⟩
      have hsub : ∀ s', i ∉ dupFrom (if l then L else B) s' (topIds l r) := fun s' h => hir (dupFrom_sub _ _ _ i h)
      rw [cleanT_ph L B sl sb r hp]
      cases hg : (if l then L else B).get? i with
      | none =>
        have ed : dupFrom (if l then L else B) (if l then sl else sb) (i :: topIds l r) =
            dupFrom (if l then L else B) (if l then sl else sb) (topIds l r) := by simp only [dupFrom, hg]
        rw [ed] at hhead
        rw [filt_keep _ _ _ (fun h => hsub _ (hhead.1 h))]
        simp only [mapSubs]
        rw [ihk sl sb (fun _ _ => rfl) (fun j _ => by rw [ed])]
      | some t =>
        simp only []
        by_cases hc : (if l then sl else sb).contains t = true
        · have ed : dupFrom (if l then L else B) (if l then sl else sb) (i :: topIds l r) =
              i :: dupFrom (if l then L else B) (if l then sl else sb) (topIds l r) := by simp only [dupFrom, hg, hc, if_true]
          rw [ed] at hhead
          rw [if_pos hc, filt_drop _ _ _ (hhead.2 List.mem_cons_self)]
          exact ihk sl sb (fun _ _ => rfl) (fun j hj => by rw [ed, List.mem_cons]; simp [hj])
        · have hs : (if l then (if l then sl ++ [t] else sl) else (if l then sb else sb ++ [t])) =
              (if l then sl else sb) ++ [t] := by cases l <;> rfl
          have ed : dupFrom (if l then L else B) (if l then sl else sb) (i :: topIds l r) =
              dupFrom (if l then L else B) ((if l then sl else sb) ++ [t]) (topIds l r) := by
            have hc' : (if l then sl else sb).contains t = false := by simpa using hc
            simp only [dupFrom, hg, hc', Bool.false_eq_true, if_false]
          rw [ed] at hhead
          rw [if_neg hc, filt_keep _ _ _ (fun h => hsub _ (hhead.1 h))]
          simp only [mapSubs]
          rw [ihk (if l then sl ++ [t] else sl) (if l then sb else sb ++ [t]) (fun l' hl' => by cases l <;> cases l' <;> simp at hl' ⊢) (fun j _ => by rw [ed, hs])]
    · have ht := fun l => topIds_cons_dom l hnone r
      have hnot : k ∉ ks := fun h => by
        obtain ⟨l, i, hi, e⟩ := (hks k List.mem_cons_self).1 h
        exact dom_ne_ph hdom l (topIds_le l _ i (dupFrom_sub _ _ _ i hi)) e
      have := ih sl sb ks hw.2 hk.2 (fun l => ht l ▸ hnd l) fun k' hk' => by
        rw [hks k' (List.mem_cons_of_mem _ hk')]; simp only [ht]
      rw [filt_keep _ _ _ hnot]
      cases v with
      | leaf x => simp only [mapSubs, cleanT, hnone x rfl, this]
      | _ => simp only [mapSubs, cleanT, this]
/-- the ids `_clean` removes below a level (in the order in which it removes them) -/
def remSubs (l : Bool) (T : Tbl Str) : Entries → List Nat
  | [] => []
  | (_, .dict sub) :: r => (topDup l T sub ++ remSubs l T sub) ++ remSubs l T r
  | (_, .leaf _) :: r => remSubs l T r
  | (_, .list _) :: r => remSubs l T r

/-- … at and below a level -/
def remT (l : Bool) (T : Tbl Str) (D : Entries) : List Nat := topDup l T D ++ remSubs l T D

/-- the SDict with comment entries removed from the two tables -/
def afterDel (s : SD) (rb rl : List Nat) : SD := { s with blockC := delIds rb s.blockC, lineC := delIds rl s.lineC }

theorem afterDel_afterDel (s : SD) (a b c d : List Nat) : afterDel (afterDel s a b) c d = afterDel s (a ++ c) (b ++ d) := by
  simp only [afterDel, delIds_append]

theorem idsT_flatMap (l : Bool) : ∀ (D : Entries), idsT l D = D.flatMap fun e => idsT l [e] :=
  flatMap_of_cons (f := idsT l) (by simp [idsT]) fun (k, v) D => by cases v <;> simp [idsT]

theorem idsT_tail (l : Bool) (e : Key × Val) (D : Entries) : (idsT l D).Sublist (idsT l (e :: D)) := by
  rw [idsT_flatMap l (e :: D), List.flatMap_cons, ← idsT_flatMap]
  exact List.sublist_append_right _ _

theorem topIds_sublist (l : Bool) (D : Entries) : (topIds l D).Sublist (idsT l D) := by
  induction D with
  | nil => simp [topIds]
  | cons e D ih =>
    obtain ⟨k, v⟩ := e
    cases v with
    | leaf x => simp only [topIds, idsT]; exact (List.Sublist.refl _).append ih
    | dict es => simp only [topIds, idsT]; exact ih.trans (List.sublist_append_right _ _)
    | list xs => simp only [topIds, idsT]; exact ih

/-- every id of the tree is kept by `cleanT` or is among the removed ones, exactly once (no `Nodup` needed) -/
theorem part_count (L B : Tbl Str) (l : Bool) (D : Entries) : ∀ (sl sb : List Str) (a : Nat),
    (idsT l (cleanT L B sl sb D)).count a +
      (dupFrom (if l then L else B) (if l then sl else sb) (topIds l D) ++ remSubs l (if l then L else B) D).count a =
    (idsT l D).count a := by
  induction D using Entries.ind with
  | nil => intro _ _ _; simp only [cleanT, idsT, topIds, remSubs, dupFrom, List.count_append, List.count_nil]
  | leaf k x r ih =>
    intro sl sb a
    cases hp : phOf k x with
    | none =>
      have := ih sl sb a
      simp only [cleanT, hp, idsT, topIds, remSubs, List.nil_append] at this ⊢
      exact this
    | some li =>
      obtain ⟨l', j⟩ := li
      rw [cleanT_ph L B sl sb r hp]
      by_cases hl : l' = l
      · subst hl
        have hs : ∀ t, (if l' then (if l' then sl ++ [t] else sl) else (if l' then sb else sb ++ [t])) =
            (if l' then sl else sb) ++ [t] := by intro t; cases l' <;> rfl
        simp only [topIds, hp, remSubs, if_true, List.singleton_append]
        cases hg : (if l' then L else B).get? j with
        | none =>
          have := ih sl sb a
          simp only [dupFrom, hg, idsT, hp, if_true, List.singleton_append, List.count_append, List.count_cons] at this ⊢
          omega
        | some t =>
          by_cases hc : (if l' then sl else sb).contains t = true
          · have := ih sl sb a
            simp only [dupFrom, hg, hc, idsT, hp, if_true, List.singleton_append, List.count_append, List.count_cons] at this ⊢
            omega
          · have hc' : (if l' then sl else sb).contains t = false := by simpa using hc
            have := ih (if l' then sl ++ [t] else sl) (if l' then sb else sb ++ [t]) a
            rw [hs] at this
            simp only [dupFrom, hg, hc', Bool.false_eq_true, if_false, idsT, hp, if_true, List.singleton_append,
              List.count_append, List.count_cons] at this ⊢
            omega
      · have hs : ∀ t, (if l then (if l' then sl ++ [t] else sl) else (if l' then sb else sb ++ [t])) =
            (if l then sl else sb) := by
          intro t; cases l <;> cases l' <;> first | rfl | exact absurd rfl hl
        simp only [topIds, hp, hl, if_false, remSubs, List.nil_append]
        cases hg : (if l' then L else B).get? j with
        | none => simp only [idsT, hp, hl, if_false, List.nil_append]; exact ih sl sb a
        | some t =>
          simp only []
          by_cases hc : (if l' then sl else sb).contains t = true
          · rw [if_pos hc]; simp only [idsT, hp, hl, if_false, List.nil_append]; exact ih sl sb a
          · rw [if_neg hc]
            simp only [idsT, hp, hl, if_false, List.nil_append]
            have := ih (if l' then sl ++ [t] else sl) (if l' then sb else sb ++ [t]) a
            rw [hs] at this
            exact this
  | list k xs r ih =>
    intro sl sb a
    simp only [cleanT, idsT, topIds, remSubs]
    exact ih sl sb a
  | dict k es r ihs ih =>
    intro sl sb a
    have h1 := ihs [] [] a
    have h2 := ih sl sb a
    simp only [cleanT, idsT, topIds, remSubs, topDup, ite_self, List.count_append] at h1 h2 ⊢
    omega

theorem part_top (L B : Tbl Str) (l : Bool) (D : Entries) (hnd : (idsT l D).Nodup) (i : Nat) :
    i ∈ idsT l (cleanT L B [] [] D) ↔ i ∈ idsT l D ∧ i ∉ remT l (if l then L else B) D := by
  have h := part_count L B l D [] [] i
  rw [ite_self] at h
  have h1 := List.nodup_iff_count.mp hnd i
  rw [← List.count_pos_iff, ← List.count_pos_iff, ← List.count_eq_zero, remT, topDup]
  omega

theorem remT_sub (l : Bool) (T : Tbl Str) (D : Entries) : ∀ i ∈ remT l T D, i ∈ idsT l D := by
  intro i hi
  have h := part_count T T l D [] [] i
  rw [ite_self, ite_self] at h
  have := List.count_pos_iff.mpr hi
  rw [remT, topDup] at this
  exact List.count_pos_iff.mp (by omega)

theorem depth_filter (p : Key × Val → Bool) : ∀ (D : Entries), depthV.depthEs (D.filter p) ≤ depthV.depthEs D
  | [] => by simp [depthV.depthEs]
  | (k, v) :: r => by
    have ih := depth_filter p r
    simp only [List.filter_cons]
    split
    · simp only [depthV.depthEs]; omega
    · simp only [depthV.depthEs]; omega

theorem allLevels_all {P : Entries → Prop} : ∀ (D : Entries), allLevels P D ↔ ∀ e ∈ D, allLevels P [e] :=
  forall_of_cons (f := allLevels P) (by simp [allLevels]) fun (k, v) D => by cases v <;> simp [allLevels]

theorem allLevels_filter {P : Entries → Prop} (p : Key × Val → Bool) (D : Entries) (h : allLevels P D) :
    allLevels P (D.filter p) :=
  (allLevels_all _).2 fun e he => (allLevels_all D).1 h e (List.mem_filter.1 he).1

theorem idsT_filter_sublist (l : Bool) (p : Key × Val → Bool) (D : Entries) : (idsT l (D.filter p)).Sublist (idsT l D) := by
  rw [idsT_flatMap, idsT_flatMap l D]
  exact sublist_flatMap _ List.filter_sublist

theorem remSubs_flatMap (l : Bool) (T : Tbl Str) : ∀ (D : Entries), remSubs l T D = D.flatMap fun e => remSubs l T [e] :=
  flatMap_of_cons (f := remSubs l T) (by simp [remSubs]) fun (k, v) D => by cases v <;> simp [remSubs]

/-- dropping comment entries of the level does not touch its sub-dicts -/
theorem remSubs_filter (l : Bool) (T : Tbl Str) (d : Nat) (ks : List Key)
    (hks : ∀ k, isDomKey k = true → k ∉ ks) (D : Entries) (h : wshEs d D = true) :
    remSubs l T (D.filter fun e => e.1 ∉ ks) = remSubs l T D := by
  rw [wshEs_all] at h
  rw [remSubs_flatMap, remSubs_flatMap l T D]
  refine flatMap_filter_self fun (k, v) he hnot => ?_
  rcases wsh_cases (List.all_eq_true.1 h _ he) with ⟨l', i, _, e⟩ | ⟨hdom, _⟩
  · cases e; simp [remSubs]
  · exact absurd (by simpa using hnot) (hks k hdom)

/-- an id whose entry is dropped at the top of the level does not occur in what is left -/
theorem idsT_dropped (l : Bool) (ks : List Key) {i : Nat} (hin : phKey l i ∈ ks) (D : Entries)
    (hnd : (idsT l D).Nodup) (h : i ∈ topIds l D) : i ∉ idsT l (D.filter fun e => e.1 ∉ ks) := by
  intro hm
  rw [idsT_flatMap] at hm hnd
  obtain ⟨k, x, he₀, hp⟩ := mem_topIds.1 h
  obtain ⟨e₁, he₁, hi₁⟩ := List.mem_flatMap.1 hm
  obtain ⟨he₁, hk₁⟩ := List.mem_filter.1 he₁
  -- the entry that holds `i` at the top is the only one that holds it at all, and its key is in `ks`
  cases nodup_flatMap_mem hnd he₀ he₁ (by simp [idsT, hp]) hi₁
  rw [(phOf_some hp).1] at hk₁
  exact absurd hin (by simpa [phKey] using hk₁)

theorem afterDel_nil (s : SD) : afterDel s [] [] = s := by cases s; rfl

theorem subsRec_gen (fuel : Nat) (L0 B0 : Tbl Str)
    (IH : ∀ (s : SD) (D : Entries) (d : Nat), depthV.depthEs D < fuel → wshEs d D = true → KNodup D →
      allLevels KNodup D → (idsT false D).Nodup → (idsT true D).Nodup →
      (∀ i ∈ idsT false D, s.blockC.get? i = B0.get? i) → (∀ i ∈ idsT true D, s.lineC.get? i = L0.get? i) →
      cleanRec fuel s D = (afterDel s (remT false B0 D) (remT true L0 D), cleanT L0 B0 [] [] D)) :
    ∀ (E : Entries) (t : SD) (d : Nat), depthV.depthEs E ≤ fuel → wshEs d E = true →
      allLevels KNodup E → (idsT false E).Nodup → (idsT true E).Nodup →
      (∀ i ∈ idsT false E, t.blockC.get? i = B0.get? i) → (∀ i ∈ idsT true E, t.lineC.get? i = L0.get? i) →
      subsRec fuel t E = (afterDel t (remSubs false B0 E) (remSubs true L0 E), mapSubs (cleanT L0 B0 [] []) E)
  | [], t, _, _, _, _, _, _, _, _ => by simp [subsRec, remSubs, mapSubs, afterDel_nil]
  | (k, .leaf x) :: r, t, d, hd, hw, hal, hb, hl, hB, hL => by
    simp only [wshEs, Bool.and_eq_true] at hw
    simp only [depthV.depthEs] at hd
    simp only [allLevels] at hal
    simp only [idsT] at hb hl hB hL
    have ih := subsRec_gen fuel L0 B0 IH r t d (by omega) hw.2 hal (List.nodup_append.mp hb).2.1
      (List.nodup_append.mp hl).2.1 (fun i hi => hB i (List.mem_append_right _ hi))
      (fun i hi => hL i (List.mem_append_right _ hi))
    simp only [subsRec, ih, remSubs, mapSubs]
  | (k, .list xs) :: r, t, d, hd, hw, hal, hb, hl, hB, hL => by
    simp only [wshEs, Bool.and_eq_true] at hw
    simp only [depthV.depthEs] at hd
    simp only [allLevels] at hal
    simp only [idsT] at hb hl hB hL
    have ih := subsRec_gen fuel L0 B0 IH r t d (by omega) hw.2 hal hb hl hB hL
    simp only [subsRec, ih, remSubs, mapSubs]
  | (k, .dict sub) :: r, t, d, hd, hw, hal, hb, hl, hB, hL => by
    simp only [wshEs, Bool.and_eq_true] at hw
    simp only [depthV.depthEs, depthV] at hd
    simp only [allLevels] at hal
    simp only [idsT] at hb hl hB hL
    have hb' := List.nodup_append.mp hb
    have hl' := List.nodup_append.mp hl
    have hsub := IH t sub (d + 1) (by omega) hw.1.2 hal.1.1 hal.1.2 hb'.1 hl'.1
      (fun i hi => hB i (List.mem_append_left _ hi)) (fun i hi => hL i (List.mem_append_left _ hi))
    have ih := subsRec_gen fuel L0 B0 IH r (afterDel t (remT false B0 sub) (remT true L0 sub)) d (by omega) hw.2 hal.2
      hb'.2.1 hl'.2.1
      (by
        intro i hi
        show (delIds (remT false B0 sub) t.blockC).get? i = _
        rw [get_delIds _ _ (fun hm => hb'.2.2 i (remT_sub false B0 sub i hm) i hi rfl)]
        exact hB i (List.mem_append_right _ hi))
      (by
        intro i hi
        show (delIds (remT true L0 sub) t.lineC).get? i = _
        rw [get_delIds _ _ (fun hm => hl'.2.2 i (remT_sub true L0 sub i hm) i hi rfl)]
        exact hL i (List.mem_append_right _ hi))
    have e1 : subsRec fuel t ((k, Val.dict sub) :: r) =
        ((subsRec fuel (cleanRec fuel t sub).1 r).1,
          (k, .dict (cleanRec fuel t sub).2) :: (subsRec fuel (cleanRec fuel t sub).1 r).2) := by
      simp only [subsRec]
    rw [e1, hsub]
    simp only []
    rw [ih, afterDel_afterDel]
    simp only [remSubs, mapSubs, remT]

/-- **`_clean` in general**, relative to reference tables that agree with the current ones on the ids of the tree -/
theorem cleanRec_gen0 : ∀ (fuel : Nat) (L0 B0 : Tbl Str) (s : SD) (D : Entries) (d : Nat), depthV.depthEs D < fuel →
    wshEs d D = true → KNodup D → allLevels KNodup D → (idsT false D).Nodup → (idsT true D).Nodup →
    (∀ i ∈ idsT false D, s.blockC.get? i = B0.get? i) → (∀ i ∈ idsT true D, s.lineC.get? i = L0.get? i) →
    cleanRec fuel s D = (afterDel s (remT false B0 D) (remT true L0 D), cleanT L0 B0 [] [] D)
  | 0, _, _, _, _, _, h, _, _, _, _, _, _, _ => by omega
  | fuel + 1, L0, B0, s, D, d, hd, hw, hk, hal, hb, hl, hB, hL => by
    have htb : (topIds false D).Nodup := (topIds_sublist false D).nodup hb
    have htl : (topIds true D).Nodup := (topIds_sublist true D).nodup hl
    have eB : topDup false s.blockC D = topDup false B0 D :=
      dupFrom_congr _ _ fun i hi => hB i ((topIds_sublist false D).subset hi)
    have eL : topDup true s.lineC D = topDup true L0 D :=
      dupFrom_congr _ _ fun i hi => hL i ((topIds_sublist true D).subset hi)
    have hlev := cleanLevel_gen s d D hw hk htb htl
    have hks : ∀ k, isDomKey k = true → k ∉ topKeys s D := by
      intro k hkd
      simp only [topKeys, List.mem_append, not_or]
      exact ⟨dom_notMem_phKeys hkd false (dupFrom_le _ (topIds_le false D) _),
        dom_notMem_phKeys hkd true (dupFrom_le _ (topIds_le true D) _)⟩
    rw [cleanRec_subsRec fuel s D (by rw [hlev]; exact keys_filter_nodup _ hk), hlev]
    have hsubs := subsRec_gen fuel L0 B0 (fun s D d => cleanRec_gen0 fuel L0 B0 s D d)
      (D.filter fun e => e.1 ∉ topKeys s D)
      ({ s with blockC := delIds (topDup false s.blockC D) s.blockC, lineC := delIds (topDup true s.lineC D) s.lineC }) d
      (by have := depth_filter (fun e => decide (e.1 ∉ topKeys s D)) D; omega)
      (wshEs_filter d _ D hw) (allLevels_filter _ D hal)
      ((idsT_filter_sublist false _ D).nodup hb) ((idsT_filter_sublist true _ D).nodup hl)
      (by
        intro i hi
        refine (get_delIds (topDup false s.blockC D) s.blockC fun hm => ?_).trans
          (hB i ((idsT_filter_sublist false _ D).subset hi))
        exact idsT_dropped false (topKeys s D)
          (by simp only [topKeys, List.mem_append]; exact Or.inl (List.mem_map_of_mem hm)) D hb
          (dupFrom_sub _ _ _ _ hm) hi)
      (by
        intro i hi
        refine (get_delIds (topDup true s.lineC D) s.lineC fun hm => ?_).trans
          (hL i ((idsT_filter_sublist true _ D).subset hi))
        exact idsT_dropped true (topKeys s D)
          (by simp only [topKeys, List.mem_append]; exact Or.inr (List.mem_map_of_mem hm)) D hl
          (dupFrom_sub _ _ _ _ hm) hi)
    rw [hsubs, remSubs_filter false _ d _ hks D hw, remSubs_filter true _ d _ hks D hw]
    have hm : mapSubs (cleanT L0 B0 [] []) (D.filter fun e => e.1 ∉ topKeys s D) = cleanT L0 B0 [] [] D :=
      mapSubs_filter L0 B0 d D [] [] _ hw hk (fun l => match l with | true => htl | false => htb) fun k _ => by
        simp only [topKeys, eB, eL]
        simp only [topDup, List.mem_append, List.mem_map, Bool.exists_bool, Bool.false_eq_true, if_false, if_true,
          eq_comm]
    rw [hm]
    show (afterDel (afterDel s _ _) _ _, _) = _
    rw [afterDel_afterDel, eB, eL]
    rfl

/-- **`_clean` in general.**  On a tree of the shape `wshEs` whose keys are pairwise distinct at every level and whose
    comment ids are pairwise distinct, `_clean` returns the specification `cleanT` and deletes the ids of the dropped
    entries from the two tables (enough fuel: more than the depth of the tree) -/
theorem cleanRec_gen : ∀ (fuel : Nat) (s : SD) (D : Entries) (d : Nat), depthV.depthEs D < fuel → wshEs d D = true →
    KNodup D → allLevels KNodup D → (idsT false D).Nodup → (idsT true D).Nodup →
    cleanRec fuel s D = (afterDel s (remT false s.blockC D) (remT true s.lineC D), cleanT s.lineC s.blockC [] [] D)
  | fuel, s, D, d, hd, hw, hk, hal, hb, hl =>
    cleanRec_gen0 fuel s.lineC s.blockC s D d hd hw hk hal hb hl (fun _ _ => rfl) (fun _ _ => rfl)

/-! ### what is left after `_clean` -/

theorem ids_cleanT_sublist (L B : Tbl Str) (l : Bool) (D : Entries) : ∀ (sl sb : List Str),
    (idsT l (cleanT L B sl sb D)).Sublist (idsT l D) := by
  induction D using Entries.ind with
  | nil => intro _ _; simp [cleanT, idsT]
  | leaf k x r ih =>
    intro sl sb
    have keep : ∀ sl sb, (idsT l ((k, .leaf x) :: cleanT L B sl sb r)).Sublist (idsT l ((k, .leaf x) :: r)) := by
      intro sl sb
      simp only [idsT]
      exact (List.Sublist.refl _).append (ih sl sb)
    have drop : ∀ sl sb, (idsT l (cleanT L B sl sb r)).Sublist (idsT l ((k, .leaf x) :: r)) := by
      intro sl sb
      simp only [idsT]
      exact (ih sl sb).trans (List.sublist_append_right _ _)
    simp only [cleanT]
    split
    · split
      · exact keep _ _
      · split
        · exact drop _ _
        · exact keep _ _
    · split
      · exact keep _ _
      · split
        · exact drop _ _
        · exact keep _ _
    · exact keep _ _
  | list k xs r ih =>
    intro sl sb
    simp only [cleanT, idsT]
    exact ih sl sb
  | dict k es r ihs ih =>
    intro sl sb
    simp only [cleanT, idsT]
    exact (ihs [] []).append (ih sl sb)

/-- the block-comment ids of the raw output are the block-comment ids of the tree -/
theorem bIds_xtoks : ∀ (d lvl : Nat) (D : Entries), wshEs d D = true → bIds (xtoksEs lvl D) = idsT false D := by
  intro d lvl D
  induction D using Entries.ind generalizing d lvl with
  | nil => intro _; simp [xtoksEs, idsT, bIds]
  | leaf k x r ih =>
    intro h
    simp only [wshEs, Bool.and_eq_true] at h
    have ih := ih d lvl h.2
    cases hp : phOf k x with
    | none => simp only [xtoksEs, idsT, hp, List.cons_append, List.nil_append, bIds_tok, ih]
    | some li =>
      obtain ⟨l, i⟩ := li
      cases l with
      | true => simp only [xtoksEs, idsT, hp, List.singleton_append, bIds_phT, ih, Bool.true_eq_false, if_false,
          List.nil_append]
      | false => simp only [xtoksEs, idsT, hp, List.singleton_append, bIds_phF, ih, if_true]
  | list k xs r ih =>
    intro h
    simp only [wshEs, Bool.and_eq_true] at h
    simp only [xtoksEs, idsT]
    rw [show ∀ (a b : XTok) (m q z : List XTok), a :: (b :: m ++ q) ++ z = [a, b] ++ m ++ q ++ z from by intros; simp,
      bIds_append, bIds_append, bIds_append, bIds_toks, ih d lvl h.2]
    simp only [bIds_tok, bIds_nil, List.nil_append]
  | dict k es r ihs ih =>
    intro h
    simp only [wshEs, Bool.and_eq_true] at h
    simp only [xtoksEs, idsT]
    rw [show ∀ (a b : XTok) (m q z : List XTok), a :: b :: m ++ q ++ z = [a, b] ++ m ++ q ++ z from by intros; simp,
      bIds_append, bIds_append, bIds_append, ihs (d + 1) (lvl + 1) h.1.2, ih d lvl h.2]
    simp only [bIds_tok, bIds_nil, List.nil_append, List.append_nil]

/-- the first block-comment entry of a level survives `_clean` (nothing was seen before it) -/
theorem first_block_kept (L B : Tbl Str) (d : Nat) {n : Nat} (D : Entries) : ∀ (sl : List Str) (rest : Entries),
    wshEs d D = true → D.filter isBE = phEntry false n :: rest →
    ∃ rest', (cleanT L B sl [] D).filter isBE = phEntry false n :: rest' := by
  induction D with
  | nil => intro _ _ _ h; simp at h
  | cons e r ih =>
    intro sl rest hw h
    obtain ⟨k, v⟩ := e
    rw [wshEs_all, List.all_cons, Bool.and_eq_true, ← wshEs_all] at hw
    -- an entry that is no block-comment entry is kept or dropped; the first block-comment entry comes after it
    have skip : ∀ {v' : Val}, isBE (k, v) = false → isBE (k, v') = false →
        (∀ sl', ∃ rest', (cleanT L B sl' [] r).filter isBE = phEntry false n :: rest') ∧
        ∀ sl', ∃ rest', ((k, v') :: cleanT L B sl' [] r).filter isBE = phEntry false n :: rest' := by
      intro v' hb hb'
      simp only [List.filter_cons, hb, Bool.false_eq_true, if_false] at h
      refine ⟨fun sl' => ih sl' rest hw.2 h, fun sl' => ?_⟩
      simp only [List.filter_cons, hb', Bool.false_eq_true, if_false]
      exact ih sl' rest hw.2 h
    rcases wsh_cases hw.1 with ⟨l, i, hi, e⟩ | ⟨hdom, hnone⟩
    · cases e
      cases l with
      | true =>
        simp only [cleanT, phOf_ph true hi]
        obtain ⟨h1, h2⟩ := skip (v' := .leaf (.str (phWord true i))) (sel_line hi).1 (sel_line hi).1
        cases L.get? i with
        | none => exact h2 sl
        | some t =>
          simp only []
          split
          · exact h1 sl
          · exact h2 _
      | false =>
        have hb : isBE (Key.str (phWord false i), Val.leaf (.str (phWord false i))) = true := (sel_block hi).1
        simp only [List.filter_cons, hb, if_true, List.cons.injEq] at h
        simp only [cleanT, phOf_ph false hi]
        cases B.get? i with
        | none => exact ⟨_, by rw [List.filter_cons, hb, if_pos rfl, h.1]⟩
        | some t =>
          simp only [List.contains_nil, Bool.false_eq_true, if_false]
          exact ⟨_, by rw [List.filter_cons, hb, if_pos rfl, h.1]⟩
    · have hb : ∀ v', isBE (k, v') = false := fun _ => (C01.domKey_sel hdom).1
      have h2 := fun v' => (skip (v' := v') (hb v) (hb v')).2 sl
      cases v with
      | leaf x => simp only [cleanT, hnone x rfl]; exact h2 _
      | list xs => simp only [cleanT]; exact h2 _
      | dict es => simp only [cleanT]; exact h2 _

/-! ### the document without the repeated comments -/

mutual
  def dedupV : CSrc → CSrc
    | .dict items => .dict (dedupLvl [] [] items)
    | .lit l => .lit l
    | .list xs => .list xs
  /-- drop, at every level, a line (block) comment whose text equals that of an earlier line (block) comment of the
      level -/
  def dedupLvl : List Str → List Str → List CItem → List CItem
    | _, _, [] => []
    | sl, sb, .entry k v :: r => .entry k (dedupV v) :: dedupLvl sl sb r
    | sl, sb, .lineC x :: r => if sl.contains x then dedupLvl sl sb r else .lineC x :: dedupLvl (sl ++ [x]) sb r
    | sl, sb, .blockC x :: r => if sb.contains x then dedupLvl sl sb r else .blockC x :: dedupLvl sl (sb ++ [x]) r
end

def dedupI (items : List CItem) : List CItem := dedupLvl [] [] items

def lineFull (x : Str) : Str := '/' :: '/' :: x
def blockFull (x : Str) : Str := '/' :: '*' :: x ++ ['*', '/']

theorem lineFull_inj {a b : Str} (h : lineFull a = lineFull b) : a = b := by simpa [lineFull] using h
theorem blockFull_inj {a b : Str} (h : blockFull a = blockFull b) : a = b := by
  simp only [blockFull, List.cons_append, List.cons.injEq, true_and] at h
  exact List.append_cancel_right h

theorem contains_map_inj {f : Str → Str} (hf : ∀ a b, f a = f b → a = b) (l : List Str) (x : Str) :
    (l.map f).contains (f x) = l.contains x := by
  rw [Bool.eq_iff_iff]
  simp only [List.contains_iff_mem, List.mem_map]
  constructor
  · rintro ⟨a, ha, e⟩; rw [← hf a x e]; exact ha
  · exact fun h => ⟨x, h, rfl⟩

end DictIO.C12W

namespace DictIO.C03c
open DictIO DictIO.C12W

/-! ### no comment twice at one level -/

def levelNR (items : List CItem) : Prop := (lvlLines items).Nodup ∧ (lvlBlocks items).Nodup

mutual
  def vNR : CSrc → Prop
    | .dict items => levelNR items ∧ subsNR items
    | .lit _ => True
    | .list _ => True
  def subsNR : List CItem → Prop
    | [] => True
    | .entry _ v :: r => vNR v ∧ subsNR r
    | .lineC _ :: r => subsNR r
    | .blockC _ :: r => subsNR r
end

mutual
  theorem dedup_fixV : ∀ (v : CSrc), vNR v → dedupV v = v
    | .lit l, _ => by simp only [dedupV]
    | .list xs, _ => by simp only [dedupV]
    | .dict items, h => by
      simp only [vNR, levelNR] at h
      simp only [dedupV, dedup_fixI items [] [] (by simp) h.1.1 (by simp) h.1.2 h.2]
  theorem dedup_fixI : ∀ (items : List CItem) (sl sb : List Str), (∀ x ∈ lvlLines items, x ∉ sl) →
      (lvlLines items).Nodup → (∀ x ∈ lvlBlocks items, x ∉ sb) → (lvlBlocks items).Nodup → subsNR items →
      dedupLvl sl sb items = items
    | [], _, _, _, _, _, _, _ => by simp only [dedupLvl]
    | .entry k v :: r, sl, sb, h1, h2, h3, h4, h5 => by
      simp only [lvlLines, lvlBlocks] at h1 h2 h3 h4
      simp only [subsNR] at h5
      simp only [dedupLvl, dedup_fixV v h5.1, dedup_fixI r sl sb h1 h2 h3 h4 h5.2]
    | .lineC x :: r, sl, sb, h1, h2, h3, h4, h5 => by
      simp only [lvlLines, List.mem_cons, List.nodup_cons] at h1 h2
      simp only [lvlBlocks] at h3 h4
      simp only [subsNR] at h5
      have hx : sl.contains x = false := by
        cases hc : sl.contains x with
        | false => rfl
        | true => exact absurd (List.contains_iff_mem.mp hc) (h1 x (Or.inl rfl))
      simp only [dedupLvl, hx, Bool.false_eq_true, if_false]
      rw [dedup_fixI r (sl ++ [x]) sb (by
        intro y hy hm
        rcases List.mem_append.mp hm with hm | hm
        · exact h1 y (Or.inr hy) hm
        · simp only [List.mem_singleton] at hm; subst hm; exact h2.1 hy) h2.2 h3 h4 h5]
    | .blockC x :: r, sl, sb, h1, h2, h3, h4, h5 => by
      simp only [lvlBlocks, List.mem_cons, List.nodup_cons] at h3 h4
      simp only [lvlLines] at h1 h2
      simp only [subsNR] at h5
      have hx : sb.contains x = false := by
        cases hc : sb.contains x with
        | false => rfl
        | true => exact absurd (List.contains_iff_mem.mp hc) (h3 x (Or.inl rfl))
      simp only [dedupLvl, hx, Bool.false_eq_true, if_false]
      rw [dedup_fixI r sl (sb ++ [x]) h1 h2 (by
        intro y hy hm
        rcases List.mem_append.mp hm with hm | hm
        · exact h3 y (Or.inr hy) hm
        · simp only [List.mem_singleton] at hm; subst hm; exact h4.1 hy) h4.2 h5]
end

mutual
  theorem lvl_klvV : ∀ (v : CSrc), lvlV v = true → klvV v = true ∧ vNR v
    | .lit l, _ => ⟨by simp only [klvV], by simp only [vNR]⟩
    | .list xs, _ => ⟨by simp only [klvV], by simp only [vNR]⟩
    | .dict items, h => by
      simp only [lvlV, levelOK, Bool.and_eq_true, decide_eq_true_eq] at h
      obtain ⟨h1, h2⟩ := lvl_klvI items h.2
      simp only [klvV, vNR, levelNR, Bool.and_eq_true, decide_eq_true_eq]
      exact ⟨⟨h.1.1.1, h1⟩, ⟨h.1.1.2, h.1.2⟩, h2⟩
  theorem lvl_klvI : ∀ (items : List CItem), lvlI items = true → klvI items = true ∧ subsNR items
    | [], _ => ⟨by simp only [klvI], by simp only [subsNR]⟩
    | .entry k v :: r, h => by
      simp only [lvlI, Bool.and_eq_true] at h
      obtain ⟨a1, a2⟩ := lvl_klvV v h.1
      obtain ⟨b1, b2⟩ := lvl_klvI r h.2
      simp only [klvI, subsNR, Bool.and_eq_true]
      exact ⟨⟨a1, b1⟩, a2, b2⟩
    | .lineC x :: r, h => by
      simp only [lvlI] at h
      simpa only [klvI, subsNR] using lvl_klvI r h
    | .blockC x :: r, h => by
      simp only [lvlI] at h
      simpa only [klvI, subsNR] using lvl_klvI r h
end

end DictIO.C03c

namespace DictIO.C12W
open DictIO

/-! ## 9. the tree of a commented document -/

def getR (T : Tbl Str) : Nat → Str → Prop := fun i t => T.get? i = some t

/-- `T` is a tree of the commented document `items`: one entry per item in order; a comment item is a placeholder entry
    whose id is related to the comment (with its delimiters) by the relation of its kind -/
inductive Tr (RL RB : Nat → Str → Prop) : Nat → List CItem → Entries → Prop
  | nil {d} : Tr RL RB d [] []
  | lineC {d i x r T} : i ≤ 999999 → lineTextOK x = true → RL i (lineFull x) → Tr RL RB d r T →
      Tr RL RB d (.lineC x :: r) (phEntry true i :: T)
  | blockC {d i x r T} : i ≤ 999999 → blockTextOK x = true → RB i (blockFull x) → Tr RL RB d r T →
      Tr RL RB d (.blockC x :: r) (phEntry false i :: T)
  | lit {d k l r T} : isDomKey (keyOfStr k) = true → okV d (.lit l) = true → Tr RL RB d r T →
      Tr RL RB d (.entry k (.lit l) :: r) ((keyOfStr k, .leaf l.den) :: T)
  | list {d k xs r T} : isDomKey (keyOfStr k) = true → okV d (.list xs) = true → Tr RL RB d r T →
      Tr RL RB d (.entry k (.list xs) :: r) ((keyOfStr k, .list (denSrcXs xs)) :: T)
  | dict {d k its r Ts T} : isDomKey (keyOfStr k) = true → Tr RL RB (d + 1) its Ts → Tr RL RB d r T →
      Tr RL RB d (.entry k (.dict its) :: r) ((keyOfStr k, .dict Ts) :: T)

/-- the relation holds between the ids and the texts of a stretch: `LkL L ls lf` is `LkR (getR L) ls lf`, `LkB B n bf` is
    `LkR (getR B) (List.range' n bf.length) bf` -/
def LkR (R : Nat → Str → Prop) (ids : List Nat) (fs : List Str) : Prop := ∀ p ∈ ids.zip fs, R p.1 p.2

theorem LkR_cons {R : Nat → Str → Prop} {i : Nat} {ids : List Nat} {t : Str} {fs : List Str}
    (h : LkR R (i :: ids) (t :: fs)) : R i t ∧ LkR R ids fs :=
  ⟨h (i, t) (by simp), fun p hp => h p (by simp [hp])⟩

theorem LkR_split {R : Nat → Str → Prop} {la lb : List Nat} {a b : List Str} (hl : la.length = a.length)
    (h : LkR R (la ++ lb) (a ++ b)) : LkR R la a ∧ LkR R lb b := by
  rw [LkR, List.zip_append hl] at h
  exact ⟨fun p hp => h p (List.mem_append_left _ hp), fun p hp => h p (List.mem_append_right _ hp)⟩

theorem tr_tree {RL RB : Nat → Str → Prop} {d : Nat} {ls : List Nat} {n : Nat} {items : List CItem}
    (S : Supply d ls n items) (ext : List Nat) (hL : LkR RL ls (lineFullsI items))
    (hB : LkR RB (List.range' n (blockFullsI items).length) (blockFullsI items)) :
    Tr RL RB d items (dTreeI (ls ++ ext) n items) := by
  refine Supply.ind (P := fun d ls n items T => LkR RL ls (lineFullsI items) →
    LkR RB (List.range' n (blockFullsI items).length) (blockFullsI items) → Tr RL RB d items T) ?_ ?_ ?_ ?_ ?_ ?_ S ext hL hB
  · intros; exact .nil
  · intro d i ls ext n x r hi hx _ ih hL hB
    obtain ⟨hL0, hLr⟩ := LkR_cons hL
    exact .lineC hi hx hL0 (ih hLr hB)
  · intro d ls ext n x r hn hx _ ih hL hB
    obtain ⟨hB0, hBr⟩ := LkR_cons (i := n) (ids := List.range' (n + 1) (blockFullsI r).length) hB
    exact .blockC hn hx hB0 (ih hL hBr)
  · intro d ls ext n k l r hk hv _ ih hL hB
    exact .lit hk hv (ih hL hB)
  · intro d ls ext n k xs r hk hv _ ih hL hB
    exact .list hk hv (ih hL hB)
  · intro d la lb ext n k its r hk Sa _ ihv ihr hL hB
    obtain ⟨hLa, hLb⟩ := LkR_split Sa.len hL
    simp only [blockFullsI, blockFullsV, List.length_append, ← List.range'_append_1] at hB
    obtain ⟨hBa, hBb⟩ := LkR_split (by simp) hB
    exact .dict hk (ihv hLa hBa) (ihr hLb hBb)

theorem tr_tree0 {d : Nat} {ls : List Nat} {n : Nat} {items : List CItem} (S : Supply d ls n items) (ext : List Nat) :
    Tr (fun _ _ => True) (fun _ _ => True) d items (dTreeI (ls ++ ext) n items) :=
  tr_tree S ext (fun _ _ => trivial) (fun _ _ => trivial)

theorem Tr.shape {RL RB : Nat → Str → Prop} {d : Nat} {items : List CItem} {T : Entries} (h : Tr RL RB d items T) :
    wshEs d T = true := by
  induction h with
  | nil => simp [wshEs]
  | lineC hi _ _ _ ih => simp only [phEntry, wshEs, phOf_ph true hi, Option.isSome_some, Bool.true_or, ih, Bool.and_self]
  | blockC hi _ _ _ ih => simp only [phEntry, wshEs, phOf_ph false hi, Option.isSome_some, Bool.true_or, ih, Bool.and_self]
  | lit hk hv _ ih =>
    simp only [okV, Bool.and_eq_true] at hv
    simp only [wshEs, hk, hv.1, hv.2, ih, Bool.and_self, Bool.or_true]
  | list hk hv _ ih =>
    simp only [okV] at hv
    simp only [wshEs, hk, hv, ih, Bool.and_self]
  | dict hk _ _ ihv ihr => simp only [wshEs, hk, ihv, ihr, Bool.and_self]

theorem Tr.content {RL RB : Nat → Str → Prop} {L B : Tbl Str} {d : Nat} {items : List CItem} {T : Entries}
    (h : Tr RL RB d items T) (gL : ∀ i t, RL i t → L.get? i = some t) (gB : ∀ i t, RB i t → B.get? i = some t) :
    phCov L B T = true ∧ docEs L B T = cnormI items := by
  induction h with
  | nil => simp [phCov, docEs, cnormI]
  | lineC hi _ hg _ ih =>
    simp only [phEntry, phCov, docEs, phOf_ph true hi, gL _ _ hg, Option.isSome_some, Option.getD_some, lineFull,
      lineBody_eq, cnormI, ih.1, ih.2, Bool.and_self]
    exact ⟨trivial, trivial⟩
  | blockC hi _ hg _ ih =>
    simp only [phEntry, phCov, docEs, phOf_ph false hi, gB _ _ hg, Option.isSome_some, Option.getD_some, blockFull,
      blockBody_eq, cnormI, ih.1, ih.2, Bool.and_self]
    exact ⟨trivial, trivial⟩
  | lit hk _ _ ih =>
    simp only [phCov, docEs, phOf_dom hk, cnormI, cnormV, ih.1, ih.2, Bool.and_self]
    exact ⟨trivial, trivial⟩
  | list hk _ _ ih =>
    simp only [phCov, docEs, cnormI, cnormV, ih.1, ih.2]
    exact ⟨trivial, trivial⟩
  | dict hk _ _ ihv ihr =>
    simp only [phCov, docEs, cnormI, cnormV, ihv.1, ihv.2, ihr.1, ihr.2, Bool.and_self]
    exact ⟨trivial, trivial⟩

/-- **the cleaned tree is a tree of the document without its repeated comments**, under any tables that still hold
    the comments of the entries that are left -/
theorem Tr.clean {L B L' B' : Tbl Str} {d : Nat} {items : List CItem} {T : Entries} (h : Tr (getR L) (getR B) d items T) :
    ∀ (sl sb : List Str),
    (∀ l, ∀ i ∈ idsT l (cleanT L B (sl.map lineFull) (sb.map blockFull) T),
      (if l then L' else B').get? i = (if l then L else B).get? i) →
    Tr (getR L') (getR B') d (dedupLvl sl sb items) (cleanT L B (sl.map lineFull) (sb.map blockFull) T) := by
  induction h with
  | nil => intro sl sb _; simp only [cleanT, dedupLvl]; exact .nil
  | @lineC d i x r T hi hx hg _ ih =>
    intro sl sb hT
    have hg : L.get? i = some (lineFull x) := hg
    have hc := contains_map_inj (fun a b => lineFull_inj) sl x
    simp only [phEntry, cleanT, phOf_ph true hi, hg, hc, dedupLvl] at hT ⊢
    by_cases hcs : sl.contains x = true
    · simp only [if_pos hcs] at hT ⊢
      exact ih sl sb hT
    · simp only [if_neg hcs] at hT ⊢
      have e : sl.map lineFull ++ [lineFull x] = (sl ++ [x]).map lineFull := by simp
      rw [e] at hT ⊢
      refine .lineC hi hx ?_ (ih _ sb fun l j h => hT l j ?_)
      · exact (hT true i (by simp [idsT, phOf_ph true hi])).trans hg
      · simp only [idsT, phOf_ph true hi]; exact List.mem_append_right _ h
  | @blockC d i x r T hi hx hg _ ih =>
    intro sl sb hT
    have hg : B.get? i = some (blockFull x) := hg
    have hc := contains_map_inj (fun a b => blockFull_inj) sb x
    simp only [phEntry, cleanT, phOf_ph false hi, hg, hc, dedupLvl] at hT ⊢
    by_cases hcs : sb.contains x = true
    · simp only [if_pos hcs] at hT ⊢
      exact ih sl sb hT
    · simp only [if_neg hcs] at hT ⊢
      have e : sb.map blockFull ++ [blockFull x] = (sb ++ [x]).map blockFull := by simp
      rw [e] at hT ⊢
      refine .blockC hi hx ?_ (ih sl _ fun l j h => hT l j ?_)
      · exact (hT false i (by simp [idsT, phOf_ph false hi])).trans hg
      · simp only [idsT, phOf_ph false hi]; exact List.mem_append_right _ h
  | lit hk hv _ ih =>
    intro sl sb hT
    simp only [cleanT, phOf_dom hk, idsT, List.nil_append, dedupLvl, dedupV] at hT ⊢
    exact .lit hk hv (ih sl sb hT)
  | list hk hv _ ih =>
    intro sl sb hT
    simp only [cleanT, idsT, dedupLvl, dedupV] at hT ⊢
    exact .list hk hv (ih sl sb hT)
  | dict hk _ _ ihv ihr =>
    intro sl sb hT
    simp only [cleanT, idsT, List.mem_append, dedupLvl, dedupV] at hT ⊢
    exact .dict hk (ihv [] [] fun l i h => hT l i (Or.inl h)) (ihr sl sb fun l i h => hT l i (Or.inr h))

theorem Tr.level {L B : Tbl Str} {d : Nat} {items : List CItem} {T : Entries} (h : Tr (getR L) (getR B) d items T) :
    (topIds false T).filterMap (fun i => B.get? i) = (lvlBlocks items).map blockFull ∧
    (topIds true T).filterMap (fun i => L.get? i) = (lvlLines items).map lineFull := by
  induction h with
  | nil => simp [topIds, lvlBlocks, lvlLines]
  | lineC hi _ hg _ ih =>
    have hg : L.get? _ = some _ := hg
    simp only [phEntry, topIds, phOf_ph true hi, lvlBlocks, lvlLines, ih.1, ih.2, hg, List.filterMap_cons, List.map_cons,
      Bool.true_eq_false, if_false, if_true, List.nil_append, List.singleton_append]
    exact ⟨trivial, trivial⟩
  | blockC hi _ hg _ ih =>
    have hg : B.get? _ = some _ := hg
    simp only [phEntry, topIds, phOf_ph false hi, lvlBlocks, lvlLines, ih.1, ih.2, hg, List.filterMap_cons, List.map_cons,
      Bool.false_eq_true, if_false, if_true, List.nil_append, List.singleton_append]
    exact ⟨trivial, trivial⟩
  | lit hk _ _ ih => simp only [topIds, phOf_dom hk, lvlBlocks, lvlLines, List.nil_append]; exact ih
  | list hk _ _ ih => simp only [topIds, lvlBlocks, lvlLines]; exact ih
  | dict hk _ _ _ ihr => simp only [topIds, lvlBlocks, lvlLines]; exact ihr

theorem filterMap_look_phKey (T : Tbl Str) (l : Bool) {ids : List Nat} (h : ∀ i ∈ ids, i ≤ 999999) :
    (ids.map (phKey l)).filterMap (look T) = ids.filterMap (fun i => T.get? i) := by
  induction ids with
  | nil => rfl
  | cons i r ih =>
    rw [List.map_cons, List.filterMap_cons, List.filterMap_cons, look_phKey T l (h i List.mem_cons_self),
      ih fun j hj => h j (List.mem_cons_of_mem _ hj)]

/-- the three candidate lists of `_clean_data` on the top level of the tree, and the texts it finds for them -/
theorem Tr.cands {L B : Tbl Str} {d : Nat} {items : List CItem} {T : Entries} (h : Tr (getR L) (getR B) d items T) :
    ((keys T).filter selB).filterMap (look B) = (lvlBlocks items).map blockFull ∧ (keys T).filter selI = [] ∧
    ((keys T).filter selL).filterMap (look L) = (lvlLines items).map lineFull := by
  obtain ⟨c1, c2, c3⟩ := cands_level d T h.shape
  rw [c1, c3, filterMap_look_phKey B false (topIds_le _ _), filterMap_look_phKey L true (topIds_le _ _)]
  exact ⟨h.level.1, c2, h.level.2⟩

theorem Tr.blocks {L B : Tbl Str} {d : Nat} {items : List CItem} {T : Entries} (h : Tr (getR L) (getR B) d items T) :
    (idsT false T).map (fun i => (B.get? i).getD []) = blockFullsI items := by
  induction h with
  | nil => simp [idsT, blockFullsI]
  | lineC hi _ _ _ ih => simp [phEntry, idsT, phOf_ph true hi, blockFullsI, ih]
  | blockC hi _ hg _ ih =>
    have hg : B.get? _ = some _ := hg
    simp [phEntry, idsT, phOf_ph false hi, blockFullsI, ih, hg, blockFull]
  | lit hk _ _ ih => simp [idsT, phOf_dom hk, blockFullsI, blockFullsV, ih]
  | list hk _ _ ih => simp [idsT, blockFullsI, blockFullsV, ih]
  | dict hk _ _ ihv ihr => simp [idsT, blockFullsI, blockFullsV, ihv, ihr]

theorem idsT_treeI {d : Nat} {ls : List Nat} {n : Nat} {items : List CItem} (S : Supply d ls n items) (ext : List Nat) :
    idsT false (dTreeI (ls ++ ext) n items) = List.range' n (blockFullsI items).length ∧
    idsT true (dTreeI (ls ++ ext) n items) = ls := by
  refine Supply.ind (P := fun _ ls n items T => idsT false T = List.range' n (blockFullsI items).length ∧
    idsT true T = ls) ?_ ?_ ?_ ?_ ?_ ?_ S ext
  · intros; simp [idsT, blockFullsI]
  · intro d i ls ext n x r hi _ _ ih
    simp only [phEntry, idsT, phOf_ph true hi, ih.1, ih.2, blockFullsI]
    simp
  · intro d ls ext n x r hn _ _ ih
    simp only [phEntry, idsT, phOf_ph false hn, ih.1, ih.2, blockFullsI, List.length_cons]
    simp [List.range'_succ]
  · intro d ls ext n k l r hk _ _ ih
    simpa only [idsT, phOf_dom hk, blockFullsI, blockFullsV, List.nil_append] using ih
  · intro d ls ext n k xs r hk _ _ ih
    simpa only [idsT, blockFullsI, blockFullsV, List.nil_append] using ih
  · intro d la lb ext n k its r hk _ _ ihv ihr
    simp only [idsT, blockFullsI, blockFullsV, List.length_append]
    rw [ihv.1, ihv.2, ihr.1, ihr.2, ← List.range'_append_1]
    exact ⟨rfl, rfl⟩

theorem idsT_treeV : ∀ (v : CSrc) (l1 ext : List Nat) (n d : Nat),
    l1.length = (lineFullsV v).length → (∀ i ∈ l1, i ≤ 999999) → n + (blockFullsV v).length ≤ 1000000 →
    okV d v = true →
    (match v with
     | .dict items => idsT false (dTreeI (l1 ++ ext) n items) = List.range' n (blockFullsI items).length ∧
                      idsT true (dTreeI (l1 ++ ext) n items) = l1
     | _ => True)
  | .lit l, _, _, _, _, _, _, _, _ => trivial
  | .list xs, _, _, _, _, _, _, _, _ => trivial
  | .dict items, l1, ext, n, d, hl, hi, hn, hok => by
    simp only [lineFullsV, blockFullsV, okV] at hl hn hok
    exact idsT_treeI ⟨hl, hi, hn, hok⟩ ext

theorem idsT_nodup {d : Nat} {ls : List Nat} {n : Nat} {items : List CItem} (S : Supply d ls n items) (ext : List Nat)
    (hnd : ls.Nodup) : ∀ l, (idsT l (dTreeI (ls ++ ext) n items)).Nodup
  | true => by rw [(idsT_treeI S ext).2]; exact hnd
  | false => by rw [(idsT_treeI S ext).1]; exact List.nodup_range'

/-! ### the keys of every level are pairwise distinct -/

theorem keys_wsh {d : Nat} {D : Entries} (h : wshEs d D = true) :
    ∀ k ∈ keys D, isDomKey k = true ∨ ∃ l i, i ∈ topIds l D ∧ k = phKey l i := by
  intro k hk
  obtain ⟨e, he, rfl⟩ := List.mem_map.mp hk
  rw [wshEs_all, List.all_eq_true] at h
  rcases wsh_cases (h e he) with ⟨l, i, hi, rfl⟩ | ⟨hdom, _⟩
  · exact Or.inr ⟨l, i, mem_topIds.2 ⟨_, _, he, phOf_ph l hi⟩, rfl⟩
  · exact Or.inl hdom

theorem isDomKey_ph (l : Bool) {i : Nat} (hi : i ≤ 999999) : isDomKey (.str (phWord l i)) = false := by
  cases h : isDomKey (.str (phWord l i)) with
  | false => rfl
  | true => exact absurd rfl (dom_ne_ph h l hi)

theorem knodup_wsh {d : Nat} {D : Entries} (h : wshEs d D = true) (hk : ((keys D).filter isDomKey).Nodup)
    (ht : ∀ l, (topIds l D).Nodup) : (keys D).Nodup := by
  induction D with
  | nil => simp [keys]
  | cons e r ih =>
    obtain ⟨k, v⟩ := e
    rw [wshEs_all, List.all_cons, Bool.and_eq_true, ← wshEs_all] at h
    simp only [keys, List.map_cons, List.nodup_cons]
    rcases wsh_cases h.1 with ⟨l, i, hi, e⟩ | ⟨hdom, hnone⟩
    · cases e
      obtain ⟨hir, htr⟩ := topIds_nodup_ph (phOf_ph l hi) ht
      have hkr : ((keys r).filter isDomKey).Nodup := by
        simpa only [keys, List.map_cons, List.filter_cons, isDomKey_ph l hi, Bool.false_eq_true, if_false] using hk
      refine ⟨fun hm => ?_, ih h.2 hkr htr⟩
      rcases keys_wsh h.2 _ hm with hd | ⟨l', j, hj, e⟩
      · exact dom_ne_ph hd l hi rfl
      · obtain ⟨rfl, rfl⟩ := phKey_inj hi (topIds_le l' r j hj) e
        exact hir hj
    · simp only [keys, List.map_cons, List.filter_cons, hdom, if_true, List.nodup_cons] at hk
      refine ⟨fun hm => hk.1 (List.mem_filter.mpr ⟨hm, hdom⟩), ih h.2 hk.2 fun l => topIds_cons_dom l hnone r ▸ ht l⟩

theorem Tr.domKeys {RL RB : Nat → Str → Prop} {d : Nat} {items : List CItem} {T : Entries} (h : Tr RL RB d items T) :
    (keys T).filter isDomKey = levelKeys items := by
  induction h with
  | nil => rfl
  | lineC hi _ _ _ ih =>
    simpa only [phEntry, keys, List.map_cons, List.filter_cons, isDomKey_ph true hi, Bool.false_eq_true, if_false,
      levelKeys] using ih
  | blockC hi _ _ _ ih =>
    simpa only [phEntry, keys, List.map_cons, List.filter_cons, isDomKey_ph false hi, Bool.false_eq_true, if_false,
      levelKeys] using ih
  | lit hk _ _ ih => simp only [keys, List.map_cons, List.filter_cons, hk, if_true, levelKeys]; exact congrArg _ ih
  | list hk _ _ ih => simp only [keys, List.map_cons, List.filter_cons, hk, if_true, levelKeys]; exact congrArg _ ih
  | dict hk _ _ _ ih => simp only [keys, List.map_cons, List.filter_cons, hk, if_true, levelKeys]; exact congrArg _ ih

theorem Tr.knodup {RL RB : Nat → Str → Prop} {d : Nat} {items : List CItem} {T : Entries} (h : Tr RL RB d items T)
    (hk : (levelKeys items).Nodup) (hn : ∀ l, (idsT l T).Nodup) : KNodup T :=
  knodup_wsh h.shape (by rw [h.domKeys]; exact hk) fun l => (topIds_sublist l T).nodup (hn l)

theorem Tr.allK {RL RB : Nat → Str → Prop} {d : Nat} {items : List CItem} {T : Entries} (h : Tr RL RB d items T)
    (hlv : klvI items = true) (hn : ∀ l, (idsT l T).Nodup) : allLevels KNodup T := by
  induction h with
  | nil => simp only [allLevels]
  | lineC _ _ _ _ ih =>
    simp only [klvI] at hlv
    simpa only [phEntry, allLevels] using ih hlv fun l => (hn l).sublist (idsT_tail l _ _)
  | blockC _ _ _ _ ih =>
    simp only [klvI] at hlv
    simpa only [phEntry, allLevels] using ih hlv fun l => (hn l).sublist (idsT_tail l _ _)
  | lit _ _ _ ih =>
    simp only [klvI, klvV, Bool.true_and] at hlv
    simpa only [allLevels] using ih hlv fun l => (hn l).sublist (idsT_tail l _ _)
  | list _ _ _ ih =>
    simp only [klvI, klvV, Bool.true_and] at hlv
    simpa only [allLevels] using ih hlv fun l => (hn l).sublist (idsT_tail l _ _)
  | dict _ hv _ ihv ihr =>
    simp only [klvI, klvV, Bool.and_eq_true, decide_eq_true_eq] at hlv
    have hs : ∀ l, (idsT l _).Nodup := fun l => (hn l).sublist (by simp only [idsT]; exact List.sublist_append_left _ _)
    simp only [allLevels]
    exact ⟨⟨hv.knodup hlv.1.1 hs, ihv hlv.1.2 hs⟩, ihr hlv.2 fun l => (hn l).sublist (idsT_tail l _ _)⟩

theorem knodup_tree {d : Nat} {ls : List Nat} {n : Nat} {items : List CItem} (S : Supply d ls n items) (ext : List Nat)
    (hnd : ls.Nodup) (hkn : (levelKeys items).Nodup) : KNodup (dTreeI (ls ++ ext) n items) :=
  (tr_tree0 S ext).knodup hkn (idsT_nodup S ext hnd)

theorem allK_treeI {d : Nat} {ls : List Nat} {n : Nat} {items : List CItem} (S : Supply d ls n items) (ext : List Nat)
    (hnd : ls.Nodup) (hlv : klvI items = true) : allLevels KNodup (dTreeI (ls ++ ext) n items) :=
  (tr_tree0 S ext).allK hlv (idsT_nodup S ext hnd)

theorem allK_treeV : ∀ (v : CSrc) (l1 ext : List Nat) (n d : Nat),
    l1.length = (lineFullsV v).length → l1.Nodup → (∀ i ∈ l1, i ≤ 999999) → n + (blockFullsV v).length ≤ 1000000 →
    okV d v = true → klvV v = true →
    (match v with
     | .dict items => KNodup (dTreeI (l1 ++ ext) n items) ∧ allLevels KNodup (dTreeI (l1 ++ ext) n items)
     | _ => True)
  | .lit l, _, _, _, _, _, _, _, _, _, _ => trivial
  | .list xs, _, _, _, _, _, _, _, _, _, _ => trivial
  | .dict items, l1, ext, n, d, hl, hnd, hi, hn, hok, hlv => by
    simp only [lineFullsV, blockFullsV, okV, klvV, Bool.and_eq_true, decide_eq_true_eq] at hl hn hok hlv
    exact ⟨knodup_tree ⟨hl, hi, hn, hok⟩ ext hnd hlv.1, allK_treeI ⟨hl, hi, hn, hok⟩ ext hnd hlv.2⟩

/-! ### a tree of a document in which no level repeats a comment: `_clean` finds nothing to do -/

theorem levelFix_tr {s : SD} {d : Nat} {items : List CItem} {T : Entries}
    (h : Tr (getR s.lineC) (getR s.blockC) d items T) (hk : KNodup T) (hlev : levelOK items = true) : levelFix s T := by
  simp only [levelOK, Bool.and_eq_true, decide_eq_true_eq] at hlev
  obtain ⟨c1, c2, c3⟩ := h.cands
  refine ⟨?_, c2, ?_, hk⟩
  · rw [c1]; exact nodup_map_of_inj_on _ _ hlev.2 fun _ _ _ _ => blockFull_inj
  · rw [c3]; exact nodup_map_of_inj_on _ _ hlev.1.2 fun _ _ _ _ => lineFull_inj

theorem subsFix_tr {s : SD} {d : Nat} {items : List CItem} {T : Entries}
    (h : Tr (getR s.lineC) (getR s.blockC) d items T) (hal : allLevels KNodup T) (hlv : lvlI items = true) :
    subsFix s T := by
  induction h with
  | nil => simp only [subsFix, allLevels]
  | lineC _ _ _ _ ih =>
    simp only [lvlI] at hlv
    simpa only [phEntry, subsFix, allLevels] using ih (by simpa only [phEntry, allLevels] using hal) hlv
  | blockC _ _ _ _ ih =>
    simp only [lvlI] at hlv
    simpa only [phEntry, subsFix, allLevels] using ih (by simpa only [phEntry, allLevels] using hal) hlv
  | lit _ _ _ ih =>
    simp only [lvlI, lvlV, Bool.true_and] at hlv
    simpa only [subsFix, allLevels] using ih (by simpa only [allLevels] using hal) hlv
  | list _ _ _ ih =>
    simp only [lvlI, lvlV, Bool.true_and] at hlv
    simpa only [subsFix, allLevels] using ih (by simpa only [allLevels] using hal) hlv
  | dict _ hv _ ihv ihr =>
    simp only [lvlI, lvlV, Bool.and_eq_true] at hlv
    simp only [allLevels] at hal
    simp only [subsFix, allLevels]
    exact ⟨⟨levelFix_tr hv hal.1.1 hlv.1.1, ihv hal.1.2 hlv.1.2⟩, ihr hal.2 hlv.2⟩

theorem subsFix_treeV (s : SD) : ∀ (v : CSrc) (l1 ext : List Nat) (n d : Nat),
    l1.length = (lineFullsV v).length → l1.Nodup → (∀ i ∈ l1, i ≤ 999999) → n + (blockFullsV v).length ≤ 1000000 →
    okV d v = true → LkL s.lineC l1 (lineFullsV v) → LkB s.blockC n (blockFullsV v) → lvlV v = true →
    (match v with
     | .dict items => levelFix s (dTreeI (l1 ++ ext) n items) ∧ subsFix s (dTreeI (l1 ++ ext) n items)
     | _ => True)
  | .lit l, _, _, _, _, _, _, _, _, _, _, _, _ => trivial
  | .list xs, _, _, _, _, _, _, _, _, _, _, _, _ => trivial
  | .dict items, l1, ext, n, d, hl, hnd, hi, hn, hok, hL, hB, hlv => by
    simp only [lineFullsV, blockFullsV, okV, lvlV, Bool.and_eq_true] at hl hn hok hL hB hlv
    have S : Supply (d + 1) l1 n items := ⟨hl, hi, hn, hok⟩
    have h : Tr (getR s.lineC) (getR s.blockC) (d + 1) items (dTreeI (l1 ++ ext) n items) := tr_tree S ext hL hB
    have hkn : (levelKeys items).Nodup := by
      have := hlv.1
      simp only [levelOK, Bool.and_eq_true, decide_eq_true_eq] at this
      exact this.1.1
    exact ⟨levelFix_tr h (knodup_tree S ext hnd hkn) hlv.1,
      subsFix_tr h (allK_treeI S ext hnd (C03c.lvl_klvI items hlv.2).1) hlv.2⟩

theorem wsh_treeI {d : Nat} {ls : List Nat} {n : Nat} {items : List CItem} (S : Supply d ls n items) (ext : List Nat) :
    wshEs d (dTreeI (ls ++ ext) n items) = true :=
  (tr_tree0 S ext).shape

theorem wsh_treeV : ∀ (v : CSrc) (l1 ext : List Nat) (n d : Nat),
    l1.length = (lineFullsV v).length → (∀ i ∈ l1, i ≤ 999999) → n + (blockFullsV v).length ≤ 1000000 →
    okV d v = true →
    (match v with
     | .dict items => wshEs (d + 1) (dTreeI (l1 ++ ext) n items) = true
     | _ => True)
  | .lit l, _, _, _, _, _, _, _, _ => trivial
  | .list xs, _, _, _, _, _, _, _, _ => trivial
  | .dict items, l1, ext, n, d, hl, hi, hn, hok => by
    simp only [lineFullsV, blockFullsV, okV] at hl hn hok
    exact wsh_treeI ⟨hl, hi, hn, hok⟩ ext

theorem doc_treeI (L B : Tbl Str) {d : Nat} {ls : List Nat} {n : Nat} {items : List CItem} (S : Supply d ls n items)
    (ext : List Nat) (hL : LkL L ls (lineFullsI items)) (hB : LkB B n (blockFullsI items)) :
    phCov L B (dTreeI (ls ++ ext) n items) = true ∧ docEs L B (dTreeI (ls ++ ext) n items) = cnormI items :=
  (tr_tree (RL := getR L) (RB := getR B) S ext hL hB).content (fun _ _ h => h) (fun _ _ h => h)

theorem doc_treeV (L B : Tbl Str) : ∀ (v : CSrc) (l1 ext : List Nat) (n d : Nat),
    l1.length = (lineFullsV v).length → (∀ i ∈ l1, i ≤ 999999) → n + (blockFullsV v).length ≤ 1000000 →
    okV d v = true → LkL L l1 (lineFullsV v) → LkB B n (blockFullsV v) →
    (match v with
     | .dict items => phCov L B (dTreeI (l1 ++ ext) n items) = true ∧
                      docEs L B (dTreeI (l1 ++ ext) n items) = cnormI items
     | _ => True)
  | .lit l, _, _, _, _, _, _, _, _, _, _ => trivial
  | .list xs, _, _, _, _, _, _, _, _, _, _ => trivial
  | .dict items, l1, ext, n, d, hl, hi, hn, hok, hL, hB => by
    simp only [lineFullsV, blockFullsV, okV] at hl hn hok hL hB
    exact doc_treeI L B ⟨hl, hi, hn, hok⟩ ext hL hB

theorem bIds_treeI {d : Nat} {ls : List Nat} {n : Nat} {items : List CItem} (S : Supply d ls n items) (ext : List Nat)
    (lvl : Nat) : bIds (xtoksEs lvl (dTreeI (ls ++ ext) n items)) = List.range' n (blockFullsI items).length := by
  rw [bIds_xtoks d lvl _ (wsh_treeI S ext), (idsT_treeI S ext).1]

theorem bIds_treeV : ∀ (v : CSrc) (l1 ext : List Nat) (n d lvl : Nat),
    l1.length = (lineFullsV v).length → (∀ i ∈ l1, i ≤ 999999) → n + (blockFullsV v).length ≤ 1000000 →
    okV d v = true →
    (match v with
     | .dict items => bIds (xtoksEs lvl (dTreeI (l1 ++ ext) n items)) = List.range' n (blockFullsI items).length
     | _ => True)
  | .lit l, _, _, _, _, _, _, _, _, _ => trivial
  | .list xs, _, _, _, _, _, _, _, _, _ => trivial
  | .dict items, l1, ext, n, d, lvl, hl, hi, hn, hok => by
    simp only [lineFullsV, blockFullsV, okV] at hl hn hok
    exact bIds_treeI ⟨hl, hi, hn, hok⟩ ext lvl

/-! ## 10. `denC c items` in closed form; `C12_write_commented2`: comments may repeat -/

def lineIds (c : Counter) (items : List CItem) : List Nat := alloc Gen.counterLimit (lineFullsI items).length c
def lineTbl (c : Counter) (items : List CItem) : Tbl Str := (lineIds c items).zip (lineFullsI items)
def blockTblOf (items : List CItem) : Tbl Str := (List.range' 0 (blockFullsI items).length).zip (blockFullsI items)
def treeOf (c : Counter) (items : List CItem) : Entries := dTreeI (lineIds c items) 0 items

/-- the hypotheses on the document, comments may repeat -/
structure HDoc2 (c : Counter) (items : List CItem) : Prop where
  wf : CSrcWFItems 1 items = true
  ok : okI 1 items = true
  keys : (levelKeys items).Nodup
  keysAll : klvI items = true
  nLine : (lineFullsI items).length ≤ Gen.counterLimit + 1
  nBlock : (blockFullsI items).length ≤ 1000000
  hc : C13.ValidCounter Gen.counterLimit c

/-- the ids `_clean` removes for the document -/
def remB (c : Counter) (items : List CItem) : List Nat := remT false (blockTblOf items) (treeOf c items)
def remL (c : Counter) (items : List CItem) : List Nat := remT true (lineTbl c items) (treeOf c items)

/-- the SDict the reader returns for the document when comments may repeat -/
def sdOf2 (c : Counter) (items : List CItem) : SD :=
  { data := cleanT (lineTbl c items) (blockTblOf items) [] [] (treeOf c items),
    lineC := delIds (remL c items) (lineTbl c items), blockC := delIds (remB c items) (blockTblOf items) }

theorem lineTbl_ids (c : Counter) (items : List CItem) : (lineTbl c items).map (·.1) = lineIds c items :=
  List.map_fst_zip (by rw [lineIds, alloc_length]; exact Nat.le_refl _)

theorem blockTbl_ids (items : List CItem) : (blockTblOf items).map (·.1) = List.range' 0 (blockFullsI items).length :=
  List.map_fst_zip (by simp)

theorem blockTbl_nodup (items : List CItem) : ((blockTblOf items).map (·.1)).Nodup := by
  rw [blockTbl_ids]; exact List.nodup_range'

section
variable {c : Counter} {items : List CItem} (H : HDoc2 c items)
include H

theorem supply2 : Supply 1 (lineIds c items) 0 items :=
  ⟨alloc_length _ _ _, alloc_le _ _ _, by have := H.nBlock; omega, H.ok⟩

theorem lineIds_nodup : (lineIds c items).Nodup := C13.alloc_nodup H.nLine H.hc

theorem tr_doc2 : Tr (getR (lineTbl c items)) (getR (blockTblOf items)) 1 items (treeOf c items) := by
  have := tr_tree (RL := getR (lineTbl c items)) (RB := getR (blockTblOf items)) (supply2 H) []
    (fun p hp => tbl_get_of_mem_nodup (t := lineTbl c items) (by rw [lineTbl_ids]; exact lineIds_nodup H) hp)
    (fun p hp => tbl_get_of_mem_nodup (t := blockTblOf items) (blockTbl_nodup items) hp)
  rwa [List.append_nil] at this

theorem ids_doc2 : idsT false (treeOf c items) = List.range' 0 (blockFullsI items).length ∧
    idsT true (treeOf c items) = lineIds c items := by
  have := idsT_treeI (supply2 H) []
  rwa [List.append_nil] at this

theorem ids_nodup2 : ∀ l, (idsT l (treeOf c items)).Nodup
  | true => by rw [(ids_doc2 H).2]; exact lineIds_nodup H
  | false => by rw [(ids_doc2 H).1]; exact List.nodup_range'

/-- the data the reader's stages produce for the labelled document: one entry per item, in order -/
theorem den_label_tree : denPEs (labelCItems { counter := c } items).2 [] = treeOf c items := by
  have e : treeOf c items = dTreeI (alloc Gen.counterLimit (lineFullsI items).length c ++ []) 0 items := by
    rw [List.append_nil]; rfl
  rw [den_treeI items { counter := c } [] 1 [] H.wf (e ▸ (tr_doc2 H).knodup H.keys (ids_nodup2 H))
    (e ▸ (tr_doc2 H).allK H.keysAll (ids_nodup2 H)) (by intro k _ h; cases h)]
  exact e.symm

/-- **`denC` in closed form, comments may repeat** -/
theorem denC_closed2 : denC c items = sdOf2 c items := by
  have hst := label_stateI items { counter := c }
  have hL : (labelCItems { counter := c } items).1.lineC = lineTbl c items := by
    rw [hst]
    simp only [stAfter]
    rw [C02.setAll_nodup _ _ (by
      simp only [List.map_nil, List.nil_append]
      exact (lineTbl_ids c items) ▸ lineIds_nodup H)]
    rfl
  have hB : (labelCItems { counter := c } items).1.blockC = blockTblOf items := by
    rw [hst]
    simp [stAfter, blockTblOf]
  have : denC c items = (SD.mk (denPEs (labelCItems { counter := c } items).2 []) []
      (labelCItems { counter := c } items).1.lineC (labelCItems { counter := c } items).1.blockC []).clean := rfl
  rw [this, hL, hB, den_label_tree H]
  have hcr := cleanRec_gen (depthV (.dict (treeOf c items)) + 1) (SD.mk (treeOf c items) [] (lineTbl c items) (blockTblOf items) [])
    (treeOf c items) 1 (by simp only [depthV]; omega) (tr_doc2 H).shape ((tr_doc2 H).knodup H.keys (ids_nodup2 H))
    ((tr_doc2 H).allK H.keysAll (ids_nodup2 H)) (ids_nodup2 H false) (ids_nodup2 H true)
  simp only [SD.clean, hcr]
  rfl

end

mutual
  theorem dedup_cnormV : ∀ (v : CSrc), dedupV (cnormV v) = cnormV (dedupV v)
    | .lit l => by simp only [cnormV, dedupV]
    | .list xs => by simp only [cnormV, dedupV]
    | .dict items => by simp only [cnormV, dedupV, dedup_cnormI items [] []]
  /-- the writer's spelling and the removal of repeated comments commute -/
  theorem dedup_cnormI : ∀ (items : List CItem) (sl sb : List Str),
      dedupLvl sl sb (cnormI items) = cnormI (dedupLvl sl sb items)
    | [], _, _ => by simp only [cnormI, dedupLvl]
    | .entry k v :: r, sl, sb => by simp only [cnormI, dedupLvl, dedup_cnormV v, dedup_cnormI r sl sb]
    | .lineC x :: r, sl, sb => by
      simp only [cnormI, dedupLvl]
      split
      · exact dedup_cnormI r sl sb
      · simp only [cnormI, dedup_cnormI r _ sb]
    | .blockC x :: r, sl, sb => by
      simp only [cnormI, dedupLvl]
      split
      · exact dedup_cnormI r sl sb
      · simp only [cnormI, dedup_cnormI r sl _]
end

/-! ### the block comments that are left, in terms of the items -/

/-- a sublist of a list without repetitions is determined by its members -/
theorem sublist_eq_filter {α} [DecidableEq α] (p : α → Bool) : ∀ {X Y : List α}, Y.Sublist X → X.Nodup →
    (∀ x ∈ X, (x ∈ Y ↔ p x = true)) → Y = X.filter p
  | [], Y, hs, _, _ => by simp [List.sublist_nil.mp hs]
  | x :: X, Y, hs, hnd, h => by
    simp only [List.nodup_cons] at hnd
    cases hs with
    | cons _ hs' =>
      -- `x` is not in `Y`
      have hx : x ∉ Y := fun hm => hnd.1 (hs'.subset hm)
      have hpx : p x = false := by
        cases hp : p x with
        | false => rfl
        | true => exact absurd ((h x List.mem_cons_self).mpr hp) hx
      simp only [List.filter_cons, hpx, Bool.false_eq_true, if_false]
      exact sublist_eq_filter p hs' hnd.2 fun y hy => h y (List.mem_cons_of_mem _ hy)
    | cons_cons _ hs' =>
      rename_i Y'
      have hpx : p x = true := (h x List.mem_cons_self).mp List.mem_cons_self
      simp only [List.filter_cons, hpx, if_true, List.cons.injEq, true_and]
      apply sublist_eq_filter p hs' hnd.2
      intro y hy
      have hne : y ≠ x := fun e => hnd.1 (e ▸ hy)
      have := h y (List.mem_cons_of_mem _ hy)
      simp only [List.mem_cons, hne, false_or] at this
      exact this

mutual
  theorem blockFulls_cnormV : ∀ (v : CSrc), blockFullsV (cnormV v) = blockFullsV v
    | .lit l => by simp only [cnormV, blockFullsV]
    | .list xs => by simp only [cnormV, blockFullsV]
    | .dict items => by simp only [cnormV, blockFullsV, blockFulls_cnormI items]
  theorem blockFulls_cnormI : ∀ (items : List CItem), blockFullsI (cnormI items) = blockFullsI items
    | [] => by simp only [cnormI]
    | .entry k v :: r => by simp only [cnormI, blockFullsI, blockFulls_cnormV v, blockFulls_cnormI r]
    | .lineC x :: r => by simp only [cnormI, blockFullsI, blockFulls_cnormI r]
    | .blockC x :: r => by simp only [cnormI, blockFullsI, blockFulls_cnormI r]
end

theorem map_snd_get {T : Tbl Str} (h : (T.map (·.1)).Nodup) :
    T.map (·.2) = (T.map (·.1)).map fun i => (T.get? i).getD [] := by
  rw [List.map_map]
  apply List.map_congr_left
  intro e he
  simp only [Function.comp, tbl_get_of_mem_nodup h he, Option.getD_some]

section
variable {c : Counter} {items : List CItem} (H : HDoc2 c items)
include H

/-- the entries that are left find their comments in the tables that are left -/
theorem keep2 (l : Bool) : ∀ i ∈ idsT l (cleanT (lineTbl c items) (blockTblOf items) [] [] (treeOf c items)),
    (if l then delIds (remL c items) (lineTbl c items) else delIds (remB c items) (blockTblOf items)).get? i =
      (if l then lineTbl c items else blockTblOf items).get? i := by
  intro i hi
  have hnot := ((part_top _ _ l _ (ids_nodup2 H l) i).mp hi).2
  cases l
  · exact get_delIds _ _ hnot
  · exact get_delIds _ _ hnot

theorem tr_clean2 : Tr (getR (delIds (remL c items) (lineTbl c items))) (getR (delIds (remB c items) (blockTblOf items))) 1
    (dedupI items) (cleanT (lineTbl c items) (blockTblOf items) [] [] (treeOf c items)) :=
  (tr_doc2 H).clean [] [] (keep2 H)

theorem tbls_ok2 : (∀ e ∈ lineTbl c items, e.1 ≤ 999999 ∧ LineFull e.2) ∧
    (∀ e ∈ blockTblOf items, e.1 ≤ 999999 ∧ BlockFull e.2) := by
  obtain ⟨fl, fb⟩ := fulls_okI items 1 1 H.wf H.ok
  constructor
  · intro e he
    obtain ⟨ha, hb⟩ := List.of_mem_zip (show (e.1, e.2) ∈ (lineIds c items).zip (lineFullsI items) from he)
    exact ⟨alloc_le _ _ _ _ ha, fl _ hb⟩
  · intro e he
    obtain ⟨ha, hb⟩ := List.of_mem_zip (show (e.1, e.2) ∈ (List.range' 0 (blockFullsI items).length).zip (blockFullsI items) from he)
    have := List.mem_range'_1.mp ha
    exact ⟨by have := H.nBlock; omega, fb _ hb⟩

theorem kept_ids : (delIds (remB c items) (blockTblOf items)).map (·.1) =
    idsT false (cleanT (lineTbl c items) (blockTblOf items) [] [] (treeOf c items)) := by
  rw [delIds, Tbl.del_eq, AL.foldl_del_filter _ (blockTbl_nodup items)]
  have e1 : ((blockTblOf items).filter fun e => e.1 ∉ remB c items).map (·.1) =
      ((blockTblOf items).map (·.1)).filter fun i => i ∉ remB c items := by
    rw [List.filter_map]; rfl
  rw [e1, blockTbl_ids, ← (ids_doc2 H).1]
  exact (sublist_eq_filter (fun i => decide (i ∉ remB c items)) (ids_cleanT_sublist _ _ false _ [] []) (ids_nodup2 H false)
    (fun i hi => by
      rw [part_top _ _ false _ (ids_nodup2 H false) i]
      simp only [hi, true_and, remB, Bool.false_eq_true, if_false]
      exact decide_eq_true_iff.symm)).symm

/-- **the block comments `_clean` leaves in the table are the block comments of the document without repetitions** -/
theorem kept_blocks : (delIds (remB c items) (blockTblOf items)).map (·.2) = blockFullsI (dedupI items) := by
  rw [map_snd_get (((delIds_sublist _ _).map _).nodup (blockTbl_nodup items)), kept_ids H]
  exact (tr_clean2 H).blocks

end

theorem delIds_nil (ids : List Nat) : delIds ids ([] : Tbl Str) = [] := by
  induction ids with
  | nil => rfl
  | cons j ids ih => simpa [delIds, Tbl.del] using ih

theorem delIds_cons_notMem {j : Nat} (t : Str) (T : Tbl Str) : ∀ (ids : List Nat), j ∉ ids →
    delIds ids ((j, t) :: T) = (j, t) :: delIds ids T
  | [], _ => rfl
  | i :: ids, h => by
    simp only [List.mem_cons, not_or] at h
    have hne : ¬ j = i := h.1
    simp only [delIds, List.foldl_cons, Tbl.del, hne, if_false]
    exact delIds_cons_notMem t (Tbl.del i T) ids h.2

/-- the hypotheses of the writer side of the round trip, comments may repeat -/
structure HW2 (c : Counter) (items : List CItem) : Prop extends HDoc2 c items where
  first : firstBlockTop items = true
  indep : indepFrom [] (writtenBlocks (dedupI items)) = true

/-- the document that is written when comments may repeat: the repeated comments of every level dropped first -/
def writtenDoc2 (items : List CItem) : List CItem :=
  (if ownHeaderI items then [] else [.blockC C12.hdrBody]) ++ canonItems (dedupI items)

section
variable {c : Counter} {items : List CItem} (H : HW2 c items)
include H

theorem sdOf2_facts :
    WOK (sdOf2 c items) ∧ docSD (sdOf2 c items) = writtenDoc2 items := by
  have HD := H.toHDoc2
  obtain ⟨hLT, hBT⟩ := tbls_ok2 HD
  obtain ⟨hcov', hdc⟩ := (tr_clean2 HD).content (fun _ _ h => h) (fun _ _ h => h)
  have hndb := ids_nodup2 HD false
  have hw' := (tr_clean2 HD).shape
  have hho := hoist_eq (wsh_noIncl 1 _ hw')
  have hperm : (hoistPlaceholders (cleanT (lineTbl c items) (blockTblOf items) [] [] (treeOf c items))).Perm
      (cleanT (lineTbl c items) (blockTblOf items) [] [] (treeOf c items)) := by
    rw [hho]; exact List.filter_append_perm _ _
  have hbperm := bIds_perm 0 hperm
  rw [bIds_xtoks 1 0 _ hw'] at hbperm
  have hnd' : (idsT false (cleanT (lineTbl c items) (blockTblOf items) [] [] (treeOf c items))).Nodup :=
    (ids_cleanT_sublist _ _ false _ [] []).nodup hndb
  -- the first block comment
  have hfirst : FirstOK (delIds (remB c items) (blockTblOf items))
        (xtoksEs 0 (hoistPlaceholders (cleanT (lineTbl c items) (blockTblOf items) [] [] (treeOf c items)))) ∧
      ownHeader (delIds (remB c items) (blockTblOf items)) = ownHeaderI items := by
    cases hbf : blockFullsI items with
    | nil =>
      have hB0 : blockTblOf items = [] := by simp [blockTblOf, hbf]
      rw [hB0, delIds_nil]
      exact ⟨trivial, by simp [ownHeader, ownHeaderI, hbf]⟩
    | cons t r =>
      have hB : blockTblOf items = (0, t) :: (List.range' 1 r.length).zip r := by
        simp [blockTblOf, hbf, List.range'_succ]
      obtain ⟨rest, hrest⟩ := first_block items (lineIds c items) 0 1 H.ok H.first (by rw [hbf]; simp) (by omega)
      obtain ⟨rest', hrest'⟩ := first_block_kept (lineTbl c items) (blockTblOf items) 1 (treeOf c items) [] rest (tr_doc2 HD).shape hrest
      have hh : hoistPlaceholders (cleanT (lineTbl c items) (blockTblOf items) [] [] (treeOf c items)) =
          phEntry false 0 :: (rest' ++ (cleanT (lineTbl c items) (blockTblOf items) [] [] (treeOf c items)).filter
            fun e => !isBE e) := by
        rw [hho, hrest']; rfl
      have hx := xtoks_phEntry 0 false (show 0 ≤ 999999 by omega)
        (rest' ++ (cleanT (lineTbl c items) (blockTblOf items) [] [] (treeOf c items)).filter fun e => !isBE e)
      have h0in : 0 ∈ idsT false (cleanT (lineTbl c items) (blockTblOf items) [] [] (treeOf c items)) := by
        apply hbperm.mem_iff.mp
        rw [hh, hx, bIds_phF]; exact List.mem_cons_self
      have h0not : 0 ∉ remB c items := ((part_top _ _ false _ hndb 0).mp h0in).2
      have hB' : delIds (remB c items) (blockTblOf items) = (0, t) :: delIds (remB c items) ((List.range' 1 r.length).zip r) := by
        rw [hB]; exact delIds_cons_notMem t _ _ h0not
      constructor
      · rw [hB', hh, hx]
        refine ⟨_, _, rfl, ?_⟩
        apply not_mem_bIds
        have hnd2 := hbperm.nodup_iff.mpr hnd'
        rw [hh, hx, bIds_phF, List.nodup_cons] at hnd2
        exact hnd2.1
      · rw [hB']; simp [ownHeader, ownHeaderI, hbf]
  have eData : (sdOf2 c items).data = cleanT (lineTbl c items) (blockTblOf items) [] [] (treeOf c items) := rfl
  have eL : (sdOf2 c items).lineC = delIds (remL c items) (lineTbl c items) := rfl
  have eB : (sdOf2 c items).blockC = delIds (remB c items) (blockTblOf items) := rfl
  have hindep : indepFrom [] ((blockTbl (delIds (remB c items) (blockTblOf items))).map (·.2)) = true := by
    have hk := kept_blocks HD
    have := H.indep
    simp only [writtenBlocks, ← hk] at this
    cases hB' : delIds (remB c items) (blockTblOf items) with
    | nil => simp [blockTbl, indepFrom]
    | cons e T =>
      obtain ⟨i0, t0⟩ := e
      rw [hB'] at this
      simpa [blockTbl] using this
  constructor
  · refine ⟨?_, ?_, ?_, ?_, ?_, ?_, hfirst.1, hindep, rfl⟩
    · rw [eData, wshEs_all, hperm.all_eq, ← wshEs_all]; exact hw'
    · rw [eData, eL, eB, phCov_all, hperm.all_eq, ← phCov_all]; exact hcov'
    · exact fun e he => hLT e ((delIds_sublist _ _).subset he)
    · exact fun e he => hBT e ((delIds_sublist _ _).subset he)
    · exact ((delIds_sublist _ _).map _).nodup (blockTbl_nodup items)
    · intro e he
      apply any_of_mem_bIds
      apply hbperm.mem_iff.mpr
      rw [← kept_ids HD]; exact List.mem_map_of_mem he
  · have hf := docEs_filter (delIds (remL c items) (lineTbl c items)) (delIds (remB c items) (blockTblOf items)) 1 _ hw'
    rw [docSD, eData, eL, eB, hho, docEs_flatMap, List.flatMap_append, ← docEs_flatMap, ← docEs_flatMap, hf.1, hf.2, hdc]
    simp only [hdrItems, hfirst.2, writtenDoc2, canonItems, dedupI]

/-- **Comments may repeat.**  The text written for `denC c items` is a layout of `writtenDoc2 items`: the
    document without the comments that repeat an earlier comment of their kind and level, in the writer's spelling,
    top-level block comments first, the default header in front unless the document has its own. -/
theorem C12_write_commented2 :
    ∃ gaps, fmtSD .native (denC c items) = some (spreadC (ctoksItems (writtenDoc2 items)) ([] :: gaps) ['\n']) ∧
      GapsOKC (ctoksItems (writtenDoc2 items)) (['\n'] :: gaps) ['\n'] = true := by
  obtain ⟨hwok, hdoc⟩ := sdOf2_facts H
  rw [denC_closed2 H.toHDoc2, ← hdoc]
  exact write_commented _ hwok

end

/-! ## 11. for `C12round` when comments may repeat: the written document -/

mutual
  theorem wf_dedupV : ∀ (v : CSrc) (d : Nat), CSrcWFV d v = true → CSrcWFV d (dedupV v) = true
    | .lit l, _, h => by simpa only [dedupV] using h
    | .list xs, _, h => by simpa only [dedupV] using h
    | .dict items, d, h => by
      simp only [CSrcWFV] at h
      simp only [dedupV, CSrcWFV]
      exact wf_dedupI items (d + 1) [] [] h
  theorem wf_dedupI : ∀ (items : List CItem) (d : Nat) (sl sb : List Str), CSrcWFItems d items = true →
      CSrcWFItems d (dedupLvl sl sb items) = true
    | [], _, _, _, _ => by simp [dedupLvl, CSrcWFItems]
    | .entry k v :: r, d, sl, sb, h => by
      simp only [CSrcWFItems, Bool.and_eq_true] at h
      simp only [dedupLvl, CSrcWFItems, Bool.and_eq_true]
      exact ⟨⟨h.1.1, wf_dedupV v d h.1.2⟩, wf_dedupI r d sl sb h.2⟩
    | .lineC x :: r, d, sl, sb, h => by
      simp only [CSrcWFItems, Bool.and_eq_true] at h
      simp only [dedupLvl]
      split
      · exact wf_dedupI r d sl sb h.2
      · simp only [CSrcWFItems, Bool.and_eq_true]; exact ⟨h.1, wf_dedupI r d _ sb h.2⟩
    | .blockC x :: r, d, sl, sb, h => by
      simp only [CSrcWFItems, Bool.and_eq_true] at h
      simp only [dedupLvl]
      split
      · exact wf_dedupI r d sl sb h.2
      · simp only [CSrcWFItems, Bool.and_eq_true]; exact ⟨h.1, wf_dedupI r d sl _ h.2⟩
end

mutual
  theorem ok_dedupV : ∀ (v : CSrc) (d : Nat), okV d v = true → okV d (dedupV v) = true
    | .lit l, _, h => by simpa only [dedupV] using h
    | .list xs, _, h => by simpa only [dedupV] using h
    | .dict items, d, h => by
      simp only [okV] at h
      simp only [dedupV, okV]
      exact ok_dedupI items (d + 1) [] [] h
  theorem ok_dedupI : ∀ (items : List CItem) (d : Nat) (sl sb : List Str), okI d items = true →
      okI d (dedupLvl sl sb items) = true
    | [], _, _, _, _ => by simp [dedupLvl, okI]
    | .entry k v :: r, d, sl, sb, h => by
      simp only [okI, Bool.and_eq_true] at h
      simp only [dedupLvl, okI, Bool.and_eq_true]
      exact ⟨⟨h.1.1, ok_dedupV v d h.1.2⟩, ok_dedupI r d sl sb h.2⟩
    | .lineC x :: r, d, sl, sb, h => by
      simp only [okI, Bool.and_eq_true] at h
      simp only [dedupLvl]
      split
      · exact ok_dedupI r d sl sb h.2
      · simp only [okI, Bool.and_eq_true]; exact ⟨h.1, ok_dedupI r d _ sb h.2⟩
    | .blockC x :: r, d, sl, sb, h => by
      simp only [okI, Bool.and_eq_true] at h
      simp only [dedupLvl]
      split
      · exact ok_dedupI r d sl sb h.2
      · simp only [okI, Bool.and_eq_true]; exact ⟨h.1, ok_dedupI r d sl _ h.2⟩
end

theorem writtenDoc2_wf {c : Counter} {items : List CItem} (H : HW2 c items) :
    CSrcWFItems 1 (writtenDoc2 items) = true :=
  canon_wf _ (cnorm_wfI (dedupI items) 1 (wf_dedupI items 1 [] [] H.wf) (ok_dedupI items 1 [] [] H.ok))

/-- the texts without those seen before -/
def nubFrom : List Str → List Str → List Str
  | _, [] => []
  | seen, x :: r => if seen.contains x then nubFrom seen r else x :: nubFrom (seen ++ [x]) r

/-- what `dedupLvl` does to the comments of one level: each text once, at its first place; the entries stay -/
theorem lvl_dedup : ∀ (items : List CItem) (sl sb : List Str),
    lvlLines (dedupLvl sl sb items) = nubFrom sl (lvlLines items) ∧
    lvlBlocks (dedupLvl sl sb items) = nubFrom sb (lvlBlocks items) ∧
    levelKeys (dedupLvl sl sb items) = levelKeys items
  | [], _, _ => by simp [dedupLvl, lvlLines, lvlBlocks, levelKeys, nubFrom]
  | .entry k v :: r, sl, sb => by
    obtain ⟨a, b, c⟩ := lvl_dedup r sl sb
    simp only [dedupLvl, lvlLines, lvlBlocks, levelKeys, a, b, c]
    exact ⟨trivial, trivial, trivial⟩
  | .lineC x :: r, sl, sb => by
    simp only [dedupLvl, lvlLines, lvlBlocks, levelKeys, nubFrom]
    split
    · exact lvl_dedup r sl sb
    · obtain ⟨a, b, c⟩ := lvl_dedup r (sl ++ [x]) sb
      simp only [lvlLines, lvlBlocks, levelKeys, a, b, c]
      exact ⟨trivial, trivial, trivial⟩
  | .blockC x :: r, sl, sb => by
    simp only [dedupLvl, lvlLines, lvlBlocks, levelKeys, nubFrom]
    split
    · exact lvl_dedup r sl sb
    · obtain ⟨a, b, c⟩ := lvl_dedup r sl (sb ++ [x])
      simp only [lvlLines, lvlBlocks, levelKeys, a, b, c]
      exact ⟨trivial, trivial, trivial⟩

/-- the top level of the document written when comments may repeat -/
theorem writtenDoc2_top (items : List CItem) :
    (writtenDoc2 items).filter (fun it => !isBlockItem it) = (cnormI (dedupI items)).filter (fun it => !isBlockItem it) ∧
    (writtenDoc2 items).filter isBlockItem =
      (if ownHeaderI items then [] else [.blockC C12.hdrBody]) ++ (cnormI (dedupI items)).filter isBlockItem :=
  canon_top (ownHeaderI items) (cnormI (dedupI items))

/-! ## 12. documents in which no level repeats a comment: a case of the above -/

theorem HDoc.toHDoc2 {c : Counter} {items : List CItem} (H : HDoc c items) : HDoc2 c items := by
  have hl := H.lev
  simp only [levelOK, Bool.and_eq_true, decide_eq_true_eq] at hl
  exact ⟨H.wf, H.ok, hl.1.1, (C03c.lvl_klvI items H.levs).1, H.nLine, H.nBlock, H.hc⟩

section
variable {c : Counter} {items : List CItem} (H : HDoc c items)
include H

/-- `fmt_labelled_is_layout` for the labelled document itself: the raw output for the data of a commented document -/
theorem fmt_labelled_items (lvl : Nat) :
    ∃ lay tail, lay.map Prod.snd = xtoksEs lvl (denPEs (labelCItems { counter := c } items).2 []) ∧
      fmtEntries .native lvl (denPEs (labelCItems { counter := c } items).2 []) = layX lay tail ∧
      okX .cov lay = true ∧ tail.all isWs = true := by
  rw [den_label_tree H.toHDoc2]
  exact fmt_labelled_is_layout 1 lvl _ (tr_doc2 H.toHDoc2).shape

end

theorem HW.dedup {c : Counter} {items : List CItem} (H : HW c items) : dedupI items = items := by
  have hl := H.lev
  simp only [levelOK, Bool.and_eq_true, decide_eq_true_eq] at hl
  exact C03c.dedup_fixI items [] [] (by simp) hl.1.2 (by simp) hl.2 (C03c.lvl_klvI items H.levs).2

theorem HW.toHW2 {c : Counter} {items : List CItem} (H : HW c items) : HW2 c items :=
  ⟨H.toHDoc.toHDoc2, H.first, by rw [H.dedup]; exact H.indep⟩

theorem HW.writtenDoc2_eq {c : Counter} {items : List CItem} (H : HW c items) : writtenDoc2 items = writtenDoc items := by
  simp only [writtenDoc2, writtenDoc, H.dedup]

/-- Under `HW c items` the text written for the SDict the reader returns is a layout of
    the document `writtenDoc items` — the header (own or default) first, with nothing in front of it — and the layout
    is admissible (`GapsOKC`) once a line feed is put in front. -/
theorem C12_write_commented {c : Counter} {items : List CItem} (H : HW c items) :
    ∃ gaps, fmtSD .native (denC c items) = some (spreadC (ctoksItems (writtenDoc items)) ([] :: gaps) ['\n']) ∧
      GapsOKC (ctoksItems (writtenDoc items)) (['\n'] :: gaps) ['\n'] = true := by
  rw [← H.writtenDoc2_eq]
  exact C12_write_commented2 H.toHW2

/-! ## 13. non-vacuity -/

/-- `/* C++ my header */⏎ // first⏎ a 1;⏎ // second⏎ sub { // inner⏎ p "two words"; }` -/
def exW : List CItem :=
  [ .blockC " C++ my header ".toList,
    .lineC " first".toList,
    .entry "a".toList (.lit (.bare "1".toList)),
    .lineC " second".toList,
    .entry "sub".toList (.dict [.lineC " inner".toList, .entry "p".toList (.lit (.quoted '"' "two words".toList))]) ]

/-- the hypotheses of `C12_write_commented` / `C12_roundtrip_commented` hold for it -/
theorem exW_hw : HW none exW := by
  unfold exW
  literal_chars
  exact ⟨⟨by decide +kernel, by decide +kernel, by decide +kernel, by decide +kernel, by decide +kernel, by decide +kernel,
    Or.inl rfl⟩, by decide +kernel, by decide +kernel⟩

/-- the data of the SDict the reader returns for it, block-comment entries hoisted (here: already in front) -/
def exWData : Entries :=
  [ (.str "BLOCKCOMMENT000000".toList, .leaf (.str "BLOCKCOMMENT000000".toList)),
    (.str "LINECOMMENT000000".toList, .leaf (.str "LINECOMMENT000000".toList)),
    (.str "a".toList, .leaf (.int 1)),
    (.str "LINECOMMENT000001".toList, .leaf (.str "LINECOMMENT000001".toList)),
    (.str "sub".toList, .dict [ (.str "LINECOMMENT000002".toList, .leaf (.str "LINECOMMENT000002".toList)),
                                (.str "p".toList, .leaf (.str "two words".toList)) ]) ]

theorem exW_sd : hoistPlaceholders (denC none exW).data = exWData ∧
    (denC none exW).lineC = [(0, "// first".toList), (1, "// second".toList), (2, "// inner".toList)] ∧
    (denC none exW).blockC = [(0, "/* C++ my header */".toList)] ∧ (denC none exW).incl = [] := by
  unfold exW exWData
  literal_chars
  decide +kernel

/-- the raw output: one placeholder line per comment -/
theorem exW_raw : fmtEntries .native 0 exWData = C01.unlines
    ["BLOCKCOMMENT000000            BLOCKCOMMENT000000;",
     "LINECOMMENT000000             LINECOMMENT000000;",
     "a                             1;",
     "LINECOMMENT000001             LINECOMMENT000001;",
     "sub",
     "{",
     "    LINECOMMENT000002         LINECOMMENT000002;",
     "    p                         'two words';",
     "}"] := by
  simp only [exWData, C01.unlines, List.flatMap_cons, List.flatMap_nil]
  literal_chars
  simp only [fmtEntries]
  decide +kernel

def exWText : Str := C01.unlines
    ["/* C++ my header */",
     "// first",
     "a                             1;",
     "// second",
     "sub",
     "{",
     "    // inner",
     "    p                         'two words';",
     "}"]

/-- the text the writer writes for it, by evaluation: own header first, both top-level line comments and the nested
    one at their places, the quoted string in the writer's spelling -/
theorem exW_written : fmtSD .native (denC none exW) = some exWText := by
  obtain ⟨h1, h2, h3, h4⟩ := exW_sd
  rw [fmtSD_noIncl _ h4, h1, h2, h3, exW_raw]
  simp only [exWText, C01.unlines, List.flatMap_cons, List.flatMap_nil]
  literal_chars
  decide +kernel

theorem exW_own : ownHeaderI exW = true := by decide +kernel

/-- `C12_write_commented` on the example: the evaluated text is an admissible layout of `writtenDoc exW` -/
theorem exW_layout : ∃ gaps, exWText = spreadC (ctoksItems (writtenDoc exW)) ([] :: gaps) ['\n'] ∧
    GapsOKC (ctoksItems (writtenDoc exW)) (['\n'] :: gaps) ['\n'] = true := by
  obtain ⟨gaps, h1, h2⟩ := C12_write_commented exW_hw
  rw [exW_written] at h1
  exact ⟨gaps, Option.some.inj h1, h2⟩

/-! ## 14. non-vacuity when comments repeat -/

/-- `/* C++ hdr */ // l1⏎ // l1⏎ /* b */ /* b */ a 1; // l2⏎ sub { // l1⏎ // l1⏎ }` -/
def exDup : List CItem :=
  [ .blockC " C++ hdr ".toList, .lineC " l1".toList, .lineC " l1".toList, .blockC " b ".toList, .blockC " b ".toList,
    .entry "a".toList (.lit (.bare "1".toList)), .lineC " l2".toList,
    .entry "sub".toList (.dict [.lineC " l1".toList, .lineC " l1".toList]) ]

theorem exDup_hw : HW2 none exDup := by
  unfold exDup
  literal_chars
  exact ⟨⟨by decide +kernel, by decide +kernel, by decide +kernel, by decide +kernel, by decide +kernel, by decide +kernel,
    Or.inl rfl⟩, by decide +kernel, by decide +kernel⟩

/-- what is left of the comments: per level and kind each text once -/
theorem exDup_dedup : lvlLines (dedupI exDup) = [" l1".toList, " l2".toList] ∧
    lvlBlocks (dedupI exDup) = [" C++ hdr ".toList, " b ".toList] := by
  unfold exDup
  literal_chars
  decide +kernel

def exDupData : Entries :=
  [ (.str "BLOCKCOMMENT000000".toList, .leaf (.str "BLOCKCOMMENT000000".toList)),
    (.str "BLOCKCOMMENT000001".toList, .leaf (.str "BLOCKCOMMENT000001".toList)),
    (.str "LINECOMMENT000000".toList, .leaf (.str "LINECOMMENT000000".toList)),
    (.str "a".toList, .leaf (.int 1)),
    (.str "LINECOMMENT000002".toList, .leaf (.str "LINECOMMENT000002".toList)),
    (.str "sub".toList, .dict [ (.str "LINECOMMENT000003".toList, .leaf (.str "LINECOMMENT000003".toList)) ]) ]

/-- the SDict the reader returns: the second `// l1`, the second `/* b */` and the second `// l1` inside `sub` are gone,
    from the data and from the tables -/
theorem exDup_sd : hoistPlaceholders (denC none exDup).data = exDupData ∧
    (denC none exDup).lineC = [(0, "// l1".toList), (2, "// l2".toList), (3, "// l1".toList)] ∧
    (denC none exDup).blockC = [(0, "/* C++ hdr */".toList), (1, "/* b */".toList)] ∧ (denC none exDup).incl = [] := by
  unfold exDup exDupData
  literal_chars
  decide +kernel

theorem exDup_raw : fmtEntries .native 0 exDupData = C01.unlines
    ["BLOCKCOMMENT000000            BLOCKCOMMENT000000;",
     "BLOCKCOMMENT000001            BLOCKCOMMENT000001;",
     "LINECOMMENT000000             LINECOMMENT000000;",
     "a                             1;",
     "LINECOMMENT000002             LINECOMMENT000002;",
     "sub",
     "{",
     "    LINECOMMENT000003         LINECOMMENT000003;",
     "}"] := by
  simp only [exDupData, C01.unlines, List.flatMap_cons, List.flatMap_nil]
  literal_chars
  simp only [fmtEntries]
  decide +kernel

def exDupText : Str := C01.unlines
    ["/* C++ hdr */",
     "/* b */",
     "// l1",
     "a                             1;",
     "// l2",
     "sub",
     "{",
     "    // l1",
     "}"]

/-- the written text, by evaluation -/
theorem exDup_written : fmtSD .native (denC none exDup) = some exDupText := by
  obtain ⟨h1, h2, h3, h4⟩ := exDup_sd
  rw [fmtSD_noIncl _ h4, h1, h2, h3, exDup_raw]
  simp only [exDupText, C01.unlines, List.flatMap_cons, List.flatMap_nil]
  literal_chars
  decide +kernel

end DictIO.C12W
