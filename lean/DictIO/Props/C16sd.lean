/-
  C16 / C07 on the API model (`Model/Api.lean`), for writes whose SOURCE is an `SDict` with its own comment tables, and
  the bridge from `writeText` / `apiRun` to the function the proved C16 theorems speak about (`writeStep`).

  What is proved (plain words)

  1. The API model's write of a builtin dict IS `writeStep` — both are `writeCore` (Lemmas/Writer.lean), at the flavour
     of the path and in the one-file file system:
       `writeText_plain_eq_writeStep`     one-file file system, the existing file may contain anything;
       `writeText_plain_eq_writeStep_fs`  any file system, if the existing file has no include directive (`NoIncl`;
                                          `readFile_local`: the reader then looks at that one file only).
     Without `NoIncl` the two differ by construction — `writeStep` reads the target in a one-file world —:
     `readFile_local_needs_noincl` (witness).
     **`C16_fold_api`**: any non-empty history of `DictWriter.write(d, target, mode)` calls (builtin dicts, modes
     arbitrary) on one native target that does not exist at the start, in a world with arbitrary other files: every call
     completes, the target holds the text of `runWrites`, no other file changes, and `DictReader.read(target)` returns
     `specFold none ws` (up to the header placeholder entry).  Hypotheses: those of `C16_fold_statement`.  The run of
     Props/C16fold.lean (`fold_nat`) is stated for every file system that lacks the target; `apiRun` on `plainOps` is
     its view in a world (`apiRun_eq_core`, `RunsTo.apiRun`) as `runWrites` is its view in the one-file world.

  2. **`C16_append_sd_keeps`** — append of an `SDict` source `s` onto an existing file read as `sd`: the text is `fmtSD` of
     `appendSD sd s = sd.merge(retyped s)` (ordered if asked), and in that `SDict`
       * every path of ordinary keys to a non-dict value of the file's data leads to the same value (`merge_sd_keeps`:
         `C07.merge_keeps_deep` carried through `_clean`);
       * an ordinary top-level key the file lacks gets the source's value, dicts on both sides are merged recursively
         (`merge_sd_adds`, `merge_sd_recurses`; dict values up to comment entries `_clean` may delete inside them);
       * the expression table is `Tbl.merge file source`; the line-comment, block-comment and include tables are
         sub-tables (`List.Sublist`) of `Tbl.merge file source` (`merge_sd_tables_sub`, unconditional).
     **`C16_append_sd_exact`** / `merge_sd_tables`: when no dict level of the merged data holds two comment entries of a
     kind with the same text and no include entry (`C12W.levelFix` / `subsFix`, decidable), `_clean` is the identity:
     the data is exactly the merged data and each of the four tables is exactly `Tbl.merge file source` — the tables
     follow the merge rule of the data (existing ids win; `C16_append_sd_comment_ids`).
     Before `_clean` this holds always: `preMerge_tables`.
     The requested statement "the tables of the result are `Tbl.merge`" is FALSE without that hypothesis:
     `merge_sd_tables_statement_false` (file and source both carry a block comment `/*h*/` at the top level under ids 0
     and 1: `_clean` deletes the second, `dup_merge`).

  3. **`C16_overwrite_sd`** — mode other than `a`, or target missing: the text is `fmtSD` of the re-typed source (ordered
     if asked), the counter is untouched; `C16_overwrite_sd_indep`: the same text in every file system, for every
     evaluator and counter.  `C16_overwrite_sd_plain`: a table-less source gives header + plain text.

  4. **`C16_dump_then_read`** — `apiRun [dump {data := d} target, read target]` where `target` does not exist (other files
     arbitrary): both calls complete; the file holds header + plain text of `normEs d`; the read returns
     `C12.hdrSD (normEs d)` (the data `normEs d` behind the header placeholder entry).  Hypotheses of `C01_roundtrip_dump`.

  Assumed: keys unique at every dict level (`NodupKeysV`, true of every Python value) for the statements through
  `_clean`; `flavorOfPath target = some .native` and `resolveSpelled target = target` for the API histories.
  Not covered: the meaning of the text written for an `SDict` source with comments when it is read back (that is
  `C12W.C12_write_commented`); `order = True` histories (`C16ext`); Foam targets in the histories; JSON / XML targets.

  Non-vacuity: `exW`, `exSrc` (one line comment id 0, one block comment id 1) appended onto a file with its own line
  comment: `ex_read`, `ex_append_tables` (tables and data evaluated by the kernel), `ex_append_text`, `ex_append_keeps`,
  `ex_fix`, `ex_exact`; `ex_collision` (colliding ids: the source's comment is dropped); `ex_overwrite`;
  `ex_fold_api`; `ex_dump_read`.
-/
import DictIO.Props.C16fold
import DictIO.Props.C13api
import DictIO.Props.C06fold
import DictIO.Lemmas.Literal
import DictIO.Lemmas.DecEq
import DictIO.Lemmas.Writer

namespace DictIO
namespace C16sd
open DictIO DictIO.C16

attribute [local irreducible] nativeHeader

theorem tbl_merge_nil {α} (t : Tbl α) : Tbl.merge t [] = t := DictIO.tbl_merge_nil t

/-- the text `old` has no include directive (as the reader sees it, counter `c`, comments `cm`) -/
def NoIncl (cm : Bool) (dir : Str) (c : Counter) (old : Str) : Prop :=
  ∀ sd c', parseNative cm dir c old = .ok (sd, c') → sd.incl = []

/-- **locality of `DictReader.read`.**  Reading `p` in any file system in which `p` holds the native text `old`, a text
    without include directive, gives what reading `p` in the one-file file system gives: after `parse_file` the read
    is a function of the parsed dict (`readFront_noincl`). -/
theorem readFile_local (ev : Str → EvalResult) (fs : FS) (o : ReadOpts) (c : Counter) (p : Comps) (old : Str)
    (hr : resolveSpelled p = p) (hx : isXmlPath p = false) (hj : isJsonPath p = false)
    (hget : fs.get p = some (.native old)) (hni : NoIncl o.comments (pathStr p.dropLast) c old) :
    readFile ev fs o c p = readFile ev [(p, .native old)] o c p := by
  have hg : ∀ {fs' : FS}, fs'.get p = some (.native old) → fs'.get (resolveSpelled p) = some (.native old) :=
    fun h => by rw [hr]; exact h
  rw [readFile_eq, readFile_eq]
  congr 1
  cases hp : parseNative o.comments (pathStr p.dropLast) c old with
  | error e =>
    rw [readFront, readFront, parseFile_native_eq _ c (hg hget) hx hj,
      parseFile_native_eq _ c (hg (C01.fs_get_single _ _)) hx hj, hp]
    rfl
  | ok r =>
    have hi := hni r.1 r.2 hp
    rw [readFront_noincl (parseFile_native (hg hget) hx hj hp hi) hi,
      readFront_noincl (parseFile_native (hg (C01.fs_get_single _ _)) hx hj hp hi) hi]

theorem flavor_native_paths {target : Comps} {fl : Flavor} (h : flavorOfPath target = some fl) :
    isJsonPath target = false ∧ isXmlPath target = false := by
  unfold flavorOfPath at h
  split at h
  · cases h
  · next hn => simpa only [Bool.or_eq_true, not_or, Bool.not_eq_true] using hn

/-- **the API model's write is `writeStep`** (one-file file system; the existing file may contain anything, include
    directives too: both sides resolve them against the same file system) -/
theorem writeText_plain_eq_writeStep (ev : Str → EvalResult) (target : Comps) (fl : Flavor) (old : Str) (mode : Str)
    (order : Bool) (d : Entries) (c : Counter) (hfl : flavorOfPath target = some fl) (hr : resolveSpelled target = target) :
    writeText ev [(target, .native old)] target mode order (.plain d) c =
      writeStep ev fl target (some old) mode order d c := by
  rw [writeText_eq_core _ _ _ _ hfl, writeStep_eq_core ev fl (some old) mode order d c hr]; rfl

theorem writeText_plain_eq_writeStep_fs (ev : Str → EvalResult) (fs : FS) (target : Comps) (fl : Flavor) (old : Str)
    (mode : Str) (order : Bool) (d : Entries) (c : Counter) (hfl : flavorOfPath target = some fl)
    (hr : resolveSpelled target = target) (hget : fs.get target = some (.native old))
    (hni : mode = ['a'] → NoIncl true (pathStr target.dropLast) c old) :
    writeText ev fs target mode order (.plain d) c = writeStep ev fl target (some old) mode order d c := by
  rw [← writeText_plain_eq_writeStep ev target fl old mode order d c hfl hr, writeText_eq_core _ _ _ _ hfl,
    writeText_eq_core _ _ _ _ hfl]
  by_cases hm : mode = ['a']
  · subst hm
    rw [writeCore_append _ (by rw [hr]; exact hget), writeCore_append _ (by rw [hr]; exact C01.fs_get_single _ _),
      readFile_local ev fs { order := order } c target old hr (flavor_native_paths hfl).2 (flavor_native_paths hfl).1
        hget (hni rfl)]
  · rw [writeCore_fresh order _ c (.inl hm), writeCore_fresh order _ c (.inl hm)]

/-- the API calls of a write sequence `(mode, dict)` to one target (`order = False`) -/
def plainOps (target : Comps) (ws : List (Str × Entries)) : List ApiOp :=
  ws.map fun w => .write (.plain w.2) target w.1 false

theorem plainOps_cons (target : Comps) (w : Str × Entries) (ws : List (Str × Entries)) :
    plainOps target (w :: ws) = .write (.plain w.2) target w.1 false :: plainOps target ws := rfl

theorem api_read_any {e : Entries} {t : Str} (ev : Str → EvalResult) {target : Comps} (P : PathOK target) (w : World)
    (h : Good e) (hf : FileOf e t) (hget : w.fs.get target = some (.native t))
    (hc : C13.ValidCounter Gen.counterLimit w.c) :
    ∃ sd c', C13.ValidCounter Gen.counterLimit c' ∧ apiStep ev w (.read target {}) = ({ w with c := c' }, .data sd) ∧
      (sd = { data := e } ∨ sd = C12.hdrSD e) := by
  obtain ⟨sd, c', hv, hsd, hr⟩ := read_any_fs ev P {} rfl h hf hc
  exact ⟨sd, c', hv, read_step ev (by rw [P.hr]; exact hget) (hr _ hget), hsd⟩

theorem apiRun_eq_core (ev : Str → EvalResult) {fl : Flavor} {target : Comps} (hfl : flavorOfPath target = some fl) :
    ∀ (ws : List (Str × Entries)) (w : World) (fs' : FS) (c' : Counter),
    runCore ev fl target false w.fs w.c ws = .ok (fs', c') →
    apiRun ev w (plainOps target ws) = ({ fs := fs', c := c' }, ws.map fun _ => ApiOut.done)
  | [], w, fs', c', h => by cases h; rfl
  | (m, d) :: ws, w, fs', c', h => by
    simp only [runCore] at h
    cases hw : writeCore ev fl w.fs target m false (.plain d) w.c with
    | error e => rw [hw] at h; cases h
    | ok r =>
      rw [hw] at h
      have hstep : apiStep ev w (.write (.plain d) target m false) = _ :=
        C13api.writeTo_ok (w := w) (a := .plain d) ((writeText_eq_core m false _ w.c hfl).trans hw)
      rw [plainOps_cons, C13api.apiRun_cons, hstep, apiRun_eq_core ev hfl ws _ fs' c' h]; rfl

theorem RunsTo.apiRun {ev : Str → EvalResult} {fl : Flavor} {target : Comps} {w : World} {c' : Counter}
    {ws : List (Str × Entries)} {t' : Str} (hfl : flavorOfPath target = some fl)
    (h : RunsTo ev fl target false w.fs w.c ws t' c') :
    ∃ w', apiRun ev w (plainOps target ws) = (w', ws.map fun _ => ApiOut.done) ∧ w'.c = c' ∧
      w'.fs.get target = some (.native t') ∧ ∀ q, q ≠ target → w'.fs.get q = w.fs.get q := by
  obtain ⟨fs', h1, h2, h3⟩ := h
  exact ⟨_, apiRun_eq_core ev hfl ws w fs' c' h1, rfl, h2, h3⟩

theorem getV_strip : ∀ (p : List Key) (v : Val), (∀ k ∈ p, C07.isPhKey k = false) →
    C07.getV (C06fold.stripV v) p = (C07.getV v p).map C06fold.stripV
  | [], v, _ => by simp [C07.getV]
  | k :: p, .leaf x, _ => by simp [C06fold.stripV, C07.getV]
  | k :: p, .list xs, _ => by simp [C06fold.stripV, C07.getV]
  | k :: p, .dict es, h => by
    have hk : C07.isPhKey k = false := h k List.mem_cons_self
    rw [C06fold.stripV_dict]
    simp only [C07.getV, C06fold.lookup_stripEs hk]
    cases lookup k es with
    | none => rfl
    | some w => exact getV_strip p w fun k' hk' => h k' (List.mem_cons_of_mem _ hk')

theorem getD_strip (p : List Key) (D : Entries) (h : ∀ k ∈ p, C07.isPhKey k = false) :
    C07.getD (C06fold.stripEs D) p = (C07.getD D p).map C06fold.stripV := by
  have := getV_strip p (.dict D) h
  rwa [C06fold.stripV_dict] at this

theorem getD_of_strip_eq {D D' : Entries} (hs : C06fold.stripEs D' = C06fold.stripEs D) (p : List Key) (v : Val)
    (hv : v.isDict = false) (hp : ∀ k ∈ p, C07.isPhKey k = false) (hget : C07.getD D p = some v) :
    C07.getD D' p = some v := by
  have h1 : C07.getD (C06fold.stripEs D) p = some v := by
    rw [getD_strip p D hp, hget]; simp [C06fold.stripV_nondict hv]
  rw [← hs, getD_strip p D' hp] at h1
  cases hg : C07.getD D' p with
  | none => rw [hg] at h1; simp at h1
  | some v' =>
    rw [hg] at h1
    simp only [Option.map_some, Option.some.injEq] at h1
    have hd : v'.isDict = false := by rw [← C06fold.stripV_isDict, h1]; exact hv
    rw [C06fold.stripV_nondict hd] at h1
    rw [h1]

/-! ## 1. `C16_fold_full` on API histories -/

/-- **C16 for histories of `DictWriter.write(d, target, mode)` calls** (builtin-dict sources, `order = False`, one native
    target that does not exist at the start; the world may hold any other files).  Under the hypotheses of
    `C16_fold_statement`: every call completes (`.done`), the target then holds the text `runWrites` computes, no other
    file has changed, and `DictReader.read(target)` returns the specification fold `specFold none ws`, up to the header
    placeholder entry of the append route. -/
theorem C16_fold_api (ev : Str → EvalResult) (target : Comps) (ws : List (Str × Entries)) (w : World)
    (hne : ws ≠ [])
    (hs : ∀ e ∈ specStates none ws, DomC01 .native e = true ∧ C01.DocKeysAbsent' e ∧
      C02.countQuotedEs (srcOfEs .native e) ≤ Gen.counterLimit + 1)
    (hw : ∀ x ∈ ws, DomC01 .native (normEs x.2) = true)
    (hc : C13.ValidCounter Gen.counterLimit w.c)
    (hfl : flavorOfPath target = some .native) (hr : resolveSpelled target = target)
    (hnew : w.fs.get target = none) :
    ∃ t c₁ sd c₂ D,
      (apiRun ev w (plainOps target ws)).2 = ws.map (fun _ => ApiOut.done) ∧
      (apiRun ev w (plainOps target ws)).1.fs.get target = some (.native t) ∧
      (apiRun ev w (plainOps target ws)).1.c = c₁ ∧
      (∀ q, q ≠ target → (apiRun ev w (plainOps target ws)).1.fs.get q = w.fs.get q) ∧
      runWrites ev .native target false none w.c ws = .ok (some t, c₁) ∧
      apiStep ev (apiRun ev w (plainOps target ws)).1 (.read target {}) =
        ({ (apiRun ev w (plainOps target ws)).1 with c := c₂ }, .data sd) ∧
      specFold none ws = some D ∧ C01.dropPhEntries sd.data = D := by
  have P : PathOK target := ⟨(flavor_native_paths hfl).1, (flavor_native_paths hfl).2, hr⟩
  obtain ⟨t', c', D, hv, hspec, hD, hfD, hrun⟩ := fold_nat ev P false hne hs hw hc
  obtain ⟨w', hapi, rfl, hg, hfr⟩ := RunsTo.apiRun hfl (hrun w.fs hnew)
  obtain ⟨sd, c₂, _, hread, hsd⟩ := api_read_any ev P w' hD hfD hg hv
  rw [hapi]
  exact ⟨t', w'.c, sd, c₂, D, rfl, hg, rfl, hfr, (hrun [] rfl).runWrites none hr, hread, hspec, dropPh_any hD.noPh hsd⟩

/-! ## 2. append of an `SDict` source -/

/-- `SDict.merge(other)` before `_clean`: the data merged (`_recursive_merge`), the four tables merged (`_post_merge`) -/
def preMerge (sd s : SD) : SD :=
  ({ sd with data := mergeD true sd.exprs sd.data s.data }).postMerge (.sd s)

theorem merge_sd_eq (sd s : SD) : sd.merge (.sd s) = (preMerge sd s).clean := rfl

/-- **C07 on the tables, before `_clean`**: the comment, include and expression tables follow the merge rule of the
    data — ids the file already has keep their entry, new ids are appended (`C07.tbl_merge_keeps`, `tbl_merge_adds`) -/
theorem preMerge_tables (sd s : SD) :
    (preMerge sd s).data = mergeD true sd.exprs sd.data s.data ∧
    (preMerge sd s).exprs = Tbl.merge sd.exprs s.exprs ∧
    (preMerge sd s).lineC = Tbl.merge sd.lineC s.lineC ∧
    (preMerge sd s).blockC = Tbl.merge sd.blockC s.blockC ∧
    (preMerge sd s).incl = Tbl.merge sd.incl s.incl := ⟨rfl, rfl, rfl, rfl, rfl⟩

/-- `_clean` touches only placeholder entries: up to those, the data of the merge is the merged data; the expression
    table is the merged table (keys unique at every level, as in every Python value) -/
theorem merge_sd_strip (sd s : SD) (hn : NodupKeysV (.dict sd.data)) (hsn : NodupKeysEs s.data) :
    NodupKeysV (.dict (sd.merge (.sd s)).data) ∧
    C06fold.stripEs (sd.merge (.sd s)).data = C06fold.stripEs (mergeD true sd.exprs sd.data s.data) ∧
    (sd.merge (.sd s)).exprs = Tbl.merge sd.exprs s.exprs := by
  have hn' : NodupKeysV (.dict (preMerge sd s).data) := C07.nodupV_mergeD sd.exprs true sd.data s.data hn hsn
  exact C06fold.clean_strip (preMerge sd s) hn'

/-- **keeps, through `_clean`**: every key path of ordinary keys that leads to a non-dict value in the file's data
    leads to the same value after `sd.merge(s)`, whatever comment tables the two sides carry.  (Exception of
    `_recursive_merge`, as for builtin sources: a top-level entry that refers to its own key.) -/
theorem merge_sd_keeps (sd s : SD) (hn : NodupKeysV (.dict sd.data)) (hsn : NodupKeysEs s.data)
    (p : List Key) (v : Val) (hv : v.isDict = false) (hp : ∀ k ∈ p, C07.isPhKey k = false)
    (hget : C07.getD sd.data p = some v) (hs : ∀ k, p = [k] → selfRef sd.exprs k v = false) :
    C07.getD (sd.merge (.sd s)).data p = some v := by
  have hpre : C07.getD (mergeD true sd.exprs sd.data s.data) p = some v :=
    C07.merge_keeps_deep sd.exprs v hv p true sd.data s.data hget fun k hk hc => by
      rw [hs k hk] at hc; exact absurd hc.2 (by decide)
  exact getD_of_strip_eq (merge_sd_strip sd s hn hsn).2.1 p v hv hp hpre

/-- **adds, through `_clean`**: an ordinary top-level key the file does not have gets the source's value (a dict value
    up to the placeholder entries `_clean` may remove inside it) -/
theorem merge_sd_adds (sd s : SD) (hn : NodupKeysV (.dict sd.data)) (hsn : NodupKeysEs s.data)
    (hsk : (keys s.data).Nodup) (k : Key) (hk : C07.isPhKey k = false) (h : lookup k sd.data = none) :
    (lookup k (sd.merge (.sd s)).data).map C06fold.stripV = (lookup k s.data).map C06fold.stripV := by
  have h1 := C06fold.lookup_stripEs hk (sd.merge (.sd s)).data
  rw [(merge_sd_strip sd s hn hsn).2.1, C06fold.lookup_stripEs hk, C07.merge_adds true sd.exprs sd.data s.data hsk k h] at h1
  exact h1.symm

/-- **recurses, through `_clean`**: key by key, up to placeholder entries — a dict on both sides is merged recursively,
    an existing value stays, a new key gets the source's value -/
theorem merge_sd_recurses (sd s : SD) (hn : NodupKeysV (.dict sd.data)) (hsn : NodupKeysEs s.data)
    (hsk : (keys s.data).Nodup) (k : Key) (hk : C07.isPhKey k = false) :
    (lookup k (sd.merge (.sd s)).data).map C06fold.stripV =
      Option.map C06fold.stripV
        (match lookup k sd.data, lookup k s.data with
        | some (.dict ad), some (.dict bd) => some (Val.dict (mergeD false sd.exprs ad bd))
        | some av, some bv => if true && selfRef sd.exprs k av then some bv else some av
        | some av, none => some av
        | none, bv => bv) := by
  have h1 := C06fold.lookup_stripEs hk (sd.merge (.sd s)).data
  rw [(merge_sd_strip sd s hn hsn).2.1, C06fold.lookup_stripEs hk, C07.merge_lookup true sd.exprs sd.data s.data hsk k] at h1
  exact h1.symm

/-- **when `_clean` has nothing to do** — no dict level of the merged data holds two comment entries of a kind with the
    same text, and no include entry (`C12W.levelFix`, `C12W.subsFix` on `preMerge`) — the merge *is* `preMerge`: the
    data is the merged data (comment entries of the file kept, those of the source added) and each of the four tables is
    `Tbl.merge` of the file's table with the source's table. -/
theorem merge_sd_exact (sd s : SD) (hl : C12W.levelFix (preMerge sd s) (preMerge sd s).data)
    (hsub : C12W.subsFix (preMerge sd s) (preMerge sd s).data) :
    sd.merge (.sd s) = preMerge sd s := by
  rw [merge_sd_eq]; exact C12W.clean_fix _ hl hsub

theorem merge_sd_tables (sd s : SD) (hl : C12W.levelFix (preMerge sd s) (preMerge sd s).data)
    (hsub : C12W.subsFix (preMerge sd s) (preMerge sd s).data) :
    (sd.merge (.sd s)).data = mergeD true sd.exprs sd.data s.data ∧
    (sd.merge (.sd s)).exprs = Tbl.merge sd.exprs s.exprs ∧
    (sd.merge (.sd s)).lineC = Tbl.merge sd.lineC s.lineC ∧
    (sd.merge (.sd s)).blockC = Tbl.merge sd.blockC s.blockC ∧
    (sd.merge (.sd s)).incl = Tbl.merge sd.incl s.incl := by
  rw [merge_sd_exact sd s hl hsub]; exact preMerge_tables sd s

/-- **the tables through `_clean`, unconditionally**: `_clean` can only delete entries, so each comment / include
    table of `sd.merge(s)` is a sub-table of `Tbl.merge` of the two tables (same entries, same order, some possibly
    missing); the expression table is exactly `Tbl.merge`. -/
theorem merge_sd_tables_sub (sd s : SD) :
    (sd.merge (.sd s)).exprs = Tbl.merge sd.exprs s.exprs ∧
    (sd.merge (.sd s)).lineC.Sublist (Tbl.merge sd.lineC s.lineC) ∧
    (sd.merge (.sd s)).blockC.Sublist (Tbl.merge sd.blockC s.blockC) ∧
    (sd.merge (.sd s)).incl.Sublist (Tbl.merge sd.incl s.incl) := clean_sub (preMerge sd s)

/-- the sub-table can be proper: the file and the source both carry a block comment with the same text at the top
    level (e.g. both carry the default header) under different ids; `_clean` drops the second placeholder entry and its
    table entry.  So "the tables of the result are `Tbl.merge` of the tables" is false without the hypothesis of
    `merge_sd_tables`. -/
def dupFile : SD :=
  { data := [(.str "BLOCKCOMMENT000000".toList, .leaf (.str "BLOCKCOMMENT000000".toList)), (.str ['a'], .leaf (.int 1))],
    blockC := [(0, "/*h*/".toList)] }
def dupSrc : SD :=
  { data := [(.str "BLOCKCOMMENT000001".toList, .leaf (.str "BLOCKCOMMENT000001".toList)), (.str ['b'], .leaf (.int 2))],
    blockC := [(1, "/*h*/".toList)] }

theorem merge_sd_tables_statement_false :
    ¬ ∀ sd s : SD, (sd.merge (.sd s)).blockC = Tbl.merge sd.blockC s.blockC := by
  intro h
  have := h dupFile dupSrc
  revert this
  decide +kernel

theorem dup_merge :
    (dupFile.merge (.sd dupSrc)).blockC = [(0, "/*h*/".toList)] ∧
    (dupFile.merge (.sd dupSrc)).data =
      [(.str "BLOCKCOMMENT000000".toList, .leaf (.str "BLOCKCOMMENT000000".toList)), (.str ['a'], .leaf (.int 1)),
       (.str ['b'], .leaf (.int 2))] := by decide +kernel

/-- `_retype_values` on an `SDict` source: the data is re-typed, the tables are left alone -/
def retypeSD (s : SD) : SD := { s with data := normEs s.data }

/-- the `SDict` the writer serialises in append mode (before ordering): the file as read, merged with the re-typed source -/
def appendSD (sd s : SD) : SD := sd.merge (.sd (retypeSD s))

theorem fmtArg_sd (fl : Flavor) (order : Bool) (r : SD) :
    fmtArg fl (if order then (Arg.sd r).order else Arg.sd r) = fmtSD fl (if order then r.order else r) := by
  cases order <;> rfl

/-- **append of an `SDict` source, the text**: the file is read (with the writer's `order` option, includes resolved
    against `fs`), the re-typed source is merged into what was read (`appendSD`), the result is ordered if asked and
    serialised with `fmtSD`. -/
theorem C16_append_sd_text (ev : Str → EvalResult) (fs : FS) (target : Comps) (fl : Flavor) (order : Bool) (s : SD)
    (c c' : Counter) (sd : SD) (hfl : flavorOfPath target = some fl)
    (hex : (fs.get (resolveSpelled target)).isSome = true)
    (hr : readFile ev fs { order := order } c target = .ok (.ok sd c')) :
    writeText ev fs target ['a'] order (.sd s) c =
      match fmtSD fl (if order then (appendSD sd s).order else appendSD sd s) with
      | some t => .ok (t, c')
      | none => .error .unsupported := by
  obtain ⟨b, hg⟩ := Option.isSome_iff_exists.mp hex
  rw [writeText_eq_core _ _ _ _ hfl, writeCore_append _ hg, hr]; rfl

/-- if the existing file cannot be read, the append fails and nothing is written -/
theorem C16_append_sd_read_error (ev : Str → EvalResult) (fs : FS) (target : Comps) (fl : Flavor) (order : Bool) (s : SD)
    (c : Counter) (e : ParseErr) (hfl : flavorOfPath target = some fl)
    (hex : (fs.get (resolveSpelled target)).isSome = true)
    (hr : readFile ev fs { order := order } c target = .error e) :
    writeText ev fs target ['a'] order (.sd s) c = .error e := by
  obtain ⟨b, hg⟩ := Option.isSome_iff_exists.mp hex
  rw [writeText_eq_core _ _ _ _ hfl, writeCore_append _ hg, hr]

/-- **C16 / C07, append of an `SDict` source** (`DictWriter.write(s, target, mode='a')`, `SDict.dump`).  `sd` is what
    `DictReader.read(target)` returns for the existing file; keys unique at every level on both sides.  Then the text
    written is `fmtSD` of `appendSD sd s` (ordered if asked), and in `appendSD sd s`:

    * every key path of ordinary keys that leads to a non-dict value in the file's data leads to the same value
      (nothing in the file is lost, at any depth);
    * every ordinary top-level key of the source that the file does not have is there, with the source's re-typed value
      (a dict value up to comment entries `_clean` may drop inside it); dicts on both sides are merged recursively;
    * the expression table is `Tbl.merge` of the file's table with the source's (ids of the file win); the line-comment,
      block-comment and include tables are sub-tables of `Tbl.merge` of the file's with the source's — and equal to it
      when `_clean` has nothing to do (`C16_append_sd_exact`). -/
theorem C16_append_sd_keeps (ev : Str → EvalResult) (fs : FS) (target : Comps) (fl : Flavor) (order : Bool) (s : SD)
    (c c' : Counter) (sd : SD) (hfl : flavorOfPath target = some fl)
    (hex : (fs.get (resolveSpelled target)).isSome = true)
    (hr : readFile ev fs { order := order } c target = .ok (.ok sd c'))
    (hn : NodupKeysV (.dict sd.data)) (hsn : NodupKeysV (.dict (normEs s.data))) :
    (writeText ev fs target ['a'] order (.sd s) c =
      match fmtSD fl (if order then (appendSD sd s).order else appendSD sd s) with
      | some t => .ok (t, c')
      | none => .error .unsupported) ∧
    (∀ (p : List Key) (v : Val), v.isDict = false → (∀ k ∈ p, C07.isPhKey k = false) →
      C07.getD sd.data p = some v → (∀ k, p = [k] → selfRef sd.exprs k v = false) →
      C07.getD (appendSD sd s).data p = some v) ∧
    (∀ k, C07.isPhKey k = false → lookup k sd.data = none →
      (lookup k (appendSD sd s).data).map C06fold.stripV = (lookup k (normEs s.data)).map C06fold.stripV) ∧
    (∀ k, C07.isPhKey k = false →
      (lookup k (appendSD sd s).data).map C06fold.stripV =
        Option.map C06fold.stripV
          (match lookup k sd.data, lookup k (normEs s.data) with
          | some (.dict ad), some (.dict bd) => some (Val.dict (mergeD false sd.exprs ad bd))
          | some av, some bv => if true && selfRef sd.exprs k av then some bv else some av
          | some av, none => some av
          | none, bv => bv)) ∧
    (appendSD sd s).exprs = Tbl.merge sd.exprs s.exprs ∧
    (appendSD sd s).lineC.Sublist (Tbl.merge sd.lineC s.lineC) ∧
    (appendSD sd s).blockC.Sublist (Tbl.merge sd.blockC s.blockC) ∧
    (appendSD sd s).incl.Sublist (Tbl.merge sd.incl s.incl) := by
  refine ⟨C16_append_sd_text ev fs target fl order s c c' sd hfl hex hr, ?_, ?_, ?_,
    merge_sd_tables_sub sd (retypeSD s)⟩
  · intro p v hv hp hget hs
    exact merge_sd_keeps sd (retypeSD s) hn hsn.2 p v hv hp hget hs
  · intro k hk h
    exact merge_sd_adds sd (retypeSD s) hn hsn.2 hsn.1 k hk h
  · intro k hk
    exact merge_sd_recurses sd (retypeSD s) hn hsn.2 hsn.1 k hk

/-- **… exactly**, when no dict level of the merged data holds two comment entries of a kind with the same text and no
    include entry: the data written is the merged data — the comment entries of the file stay where they are, those of
    the source follow — and each of the four tables is `Tbl.merge` of the file's table with the source's: the tables
    follow the merge rule of the data (existing ids win, `C07.tbl_merge_keeps` / `tbl_merge_adds`). -/
theorem C16_append_sd_exact (sd s : SD)
    (hl : C12W.levelFix (preMerge sd (retypeSD s)) (preMerge sd (retypeSD s)).data)
    (hsub : C12W.subsFix (preMerge sd (retypeSD s)) (preMerge sd (retypeSD s)).data) :
    (appendSD sd s).data = mergeD true sd.exprs sd.data (normEs s.data) ∧
    (appendSD sd s).exprs = Tbl.merge sd.exprs s.exprs ∧
    (appendSD sd s).lineC = Tbl.merge sd.lineC s.lineC ∧
    (appendSD sd s).blockC = Tbl.merge sd.blockC s.blockC ∧
    (appendSD sd s).incl = Tbl.merge sd.incl s.incl :=
  merge_sd_tables sd (retypeSD s) hl hsub

/-- consequence for one id: a comment id the file has keeps the file's text; a new id gets the source's text -/
theorem C16_append_sd_comment_ids (sd s : SD)
    (hl : C12W.levelFix (preMerge sd (retypeSD s)) (preMerge sd (retypeSD s)).data)
    (hsub : C12W.subsFix (preMerge sd (retypeSD s)) (preMerge sd (retypeSD s)).data) (i : Nat) :
    (∀ x, Tbl.get? i sd.lineC = some x → Tbl.get? i (appendSD sd s).lineC = some x) ∧
    (Tbl.get? i sd.lineC = none → Tbl.get? i (appendSD sd s).lineC = Tbl.get? i s.lineC) ∧
    (∀ x, Tbl.get? i sd.blockC = some x → Tbl.get? i (appendSD sd s).blockC = some x) ∧
    (Tbl.get? i sd.blockC = none → Tbl.get? i (appendSD sd s).blockC = Tbl.get? i s.blockC) := by
  obtain ⟨_, _, h3, h4, _⟩ := C16_append_sd_exact sd s hl hsub
  rw [h3, h4]
  exact ⟨fun x h => C07.tbl_merge_keeps i x _ _ h, C07.tbl_merge_adds i _ _,
    fun x h => C07.tbl_merge_keeps i x _ _ h, C07.tbl_merge_adds i _ _⟩

/-! ## 3. overwrite / new file with an `SDict` source -/

/-- **C16, overwrite with an `SDict` source**: in every mode other than `a`, and in every mode when the target does
    not exist, the text written is `fmtSD` of the re-typed source (ordered if asked) and the counter is untouched: the
    previous content of the target is not read, and nothing else in the file system is looked at. -/
theorem C16_overwrite_sd (ev : Str → EvalResult) (fs : FS) (target : Comps) (fl : Flavor) (mode : Str) (order : Bool)
    (s : SD) (c : Counter) (hfl : flavorOfPath target = some fl)
    (h : mode ≠ ['a'] ∨ fs.get (resolveSpelled target) = none) :
    writeText ev fs target mode order (.sd s) c =
      match fmtSD fl (if order then (retypeSD s).order else retypeSD s) with
      | some t => .ok (t, c)
      | none => .error .unsupported := by
  rw [writeText_eq_core _ _ _ _ hfl, writeCore_fresh order _ c h]
  cases order <;> rfl

/-- independence, stated as such: two worlds, two evaluators, two counters — the same text -/
theorem C16_overwrite_sd_indep (ev ev' : Str → EvalResult) (fs fs' : FS) (target : Comps) (fl : Flavor) (mode : Str)
    (order : Bool) (s : SD) (c c' : Counter) (hfl : flavorOfPath target = some fl)
    (h : mode ≠ ['a'] ∨ fs.get (resolveSpelled target) = none)
    (h' : mode ≠ ['a'] ∨ fs'.get (resolveSpelled target) = none) :
    (writeText ev fs target mode order (.sd s) c).map (·.1) = (writeText ev' fs' target mode order (.sd s) c').map (·.1) := by
  rw [C16_overwrite_sd ev fs target fl mode order s c hfl h, C16_overwrite_sd ev' fs' target fl mode order s c' hfl h']
  cases fmtSD fl (if order then (retypeSD s).order else retypeSD s) <;> rfl

theorem C16_overwrite_sd_plain (ev : Str → EvalResult) (fs : FS) (target : Comps) (mode : Str) (d : Entries) (c : Counter)
    (hfl : flavorOfPath target = some .native) (h : mode ≠ ['a'] ∨ fs.get (resolveSpelled target) = none) :
    writeText ev fs target mode false (.sd { data := d }) c = .ok (nativeHeader ++ fmtPlain .native (normEs d), c) := by
  rw [C16_overwrite_sd ev fs target .native mode false { data := d } c hfl h]
  simp only [Bool.false_eq_true, if_false]
  have : retypeSD { data := d } = { data := normEs d } := rfl
  rw [this, C12.fmtSD_text]

/-! ## 4. `SDict(d).dump(target)` then `DictReader.read(target)`, through the API -/

/-- **dump, then read.**  In a world where `target` does not exist (any other files), `SDict(d).dump(target)` completes
    and writes the default header followed by the plain text of `normEs d`; `DictReader.read(target)` then returns the
    data `normEs d` with the header placeholder entry in front (and the header comment in the block-comment table);
    nothing else in the world changes but the counter. -/
theorem C16_dump_then_read (ev : Str → EvalResult) (w : World) (target : Comps) (d : Entries)
    (hdom : DomC01 .native (normEs d) = true) (hdoc : C01.DocKeysAbsent' d)
    (hcnt : C02.countQuotedEs (srcOfEs .native (normEs d)) ≤ Gen.counterLimit + 1)
    (hc : C13.ValidCounter Gen.counterLimit w.c)
    (hfl : flavorOfPath target = some .native) (hr : resolveSpelled target = target)
    (hnew : w.fs.get target = none) :
    ∃ c', C13.ValidCounter Gen.counterLimit c' ∧
      apiRun ev w [.dump { data := d } target, .read target {}] =
        ({ fs := w.fs.set target (.native (nativeHeader ++ fmtPlain .native (normEs d))), c := c' },
         [.done, .data (C12.hdrSD (normEs d))]) ∧
      C01.dropPhEntries (C12.hdrSD (normEs d)).data = normEs d := by
  have P : PathOK target := ⟨(flavor_native_paths hfl).1, (flavor_native_paths hfl).2, hr⟩
  have hG : Good (normEs d) := ⟨hdom, C01.normEs_idem d, C01.docKeysAbsent_norm hdoc, hcnt⟩
  have hwt := C16_overwrite_sd_plain ev w.fs target ['a'] d w.c hfl (Or.inr (by rw [hr]; exact hnew))
  obtain ⟨c', hv, hread⟩ := C01.readFile_dumped_fs (c := w.c) ev target {} rfl hdom hG.norm hG.doc hcnt hc P.hj P.hx hr
  have hrun := dump_read_run ev w _ target hwt (by rw [hr]; exact hread _ (C13api.get_set_self _ _ _))
  rw [hr] at hrun
  exact ⟨c', hv, hrun, C01.dropPh_hdr hG.noPh⟩

/-! # non-vacuity -/

/-- a placeholder word and the placeholder entry `ph ↦ ph` the reader puts into the data -/
def ph (kw : String) (i : Nat) : Str := kw.toList ++ padSix i
def phE (kw : String) (i : Nat) : Key × Val := (.str (ph kw i), .leaf (.str (ph kw i)))

def exTarget : Comps := ["w".toList, "f".toList]
def exOther : Comps := ["w".toList, "other".toList]

theorem exTarget_fl : flavorOfPath exTarget = some .native := by decide +kernel
theorem exTarget_res : resolveSpelled exTarget = exTarget := by decide +kernel

/-- the existing file: a line comment of its own, a leaf, a nested dict -/
def exFile : Str := "// old\na 1;\nsub { x 1; }\n".toList

/-- a world with the file and a bystander; the counter as it is after the source was read (ids 0 and 1 used) -/
def exW (c : Counter) : World := { fs := [(exTarget, .native exFile), (exOther, .native "q 1;".toList)], c := c }

/-- the source `SDict`: one line comment (id 0), one block comment (id 1) in its tables and their entries in the data;
    `a` and `sub.x` clash with the file, `b` and `sub.y` are new; `"9"`, `"2"` are strings to be re-typed -/
def exSrc : SD :=
  { data := [phE "LINECOMMENT" 0, (.str ['a'], .leaf (.str ['9'])), (.str ['b'], .leaf (.str ['2'])), phE "BLOCKCOMMENT" 1,
             (.str "sub".toList, .dict [(.str ['x'], .leaf (.int 7)), (.str ['y'], .leaf (.int 2))])],
    lineC := [(0, "// src".toList)], blockC := [(1, "/* blk */".toList)] }

/-- what `DictReader.read` returns for the file when the counter stands at 1 -/
def exRead : SD :=
  { data := [phE "LINECOMMENT" 2, (.str ['a'], .leaf (.int 1)), (.str "sub".toList, .dict [(.str ['x'], .leaf (.int 1))])],
    lineC := [(2, "// old".toList)] }

theorem ex_read : readFile evalInt (exW (some 1)).fs {} (some 1) exTarget = .ok (.ok exRead (some 2)) :=
  ok_of_toOption (by decide +kernel)

/-- **the tables of the result, evaluated**: the file's line comment (id 2) first, the source's (id 0) after it; the
    source's block comment; and the data: everything of the file where it was (`a` still 1, `sub.x` still 1), then the
    source's new entries (`b` re-typed to 2, `sub.y` inside `sub`, the two comment entries) -/
theorem ex_append_tables :
    (appendSD exRead exSrc).lineC = [(2, "// old".toList), (0, "// src".toList)] ∧
    (appendSD exRead exSrc).blockC = [(1, "/* blk */".toList)] ∧
    (appendSD exRead exSrc).exprs = [] ∧ (appendSD exRead exSrc).incl = [] ∧
    (appendSD exRead exSrc).data =
      [phE "LINECOMMENT" 2, (.str ['a'], .leaf (.int 1)),
       (.str "sub".toList, .dict [(.str ['x'], .leaf (.int 1)), (.str ['y'], .leaf (.int 2))]),
       phE "LINECOMMENT" 0, (.str ['b'], .leaf (.int 2)), phE "BLOCKCOMMENT" 1] := by decide +kernel

/-- … and they are `Tbl.merge` of the file's tables with the source's -/
theorem ex_append_tables_merge :
    (appendSD exRead exSrc).lineC = Tbl.merge exRead.lineC exSrc.lineC ∧
    (appendSD exRead exSrc).blockC = Tbl.merge exRead.blockC exSrc.blockC := by
  rw [ex_append_tables.1, ex_append_tables.2.1]
  decide

theorem ex_read_nodup : NodupKeysV (.dict exRead.data) := by
  simp only [exRead, phE, NodupKeysV, NodupKeysEs, and_true]
  decide +kernel

theorem ex_src_nodup : NodupKeysV (.dict (normEs exSrc.data)) := by
  have : normEs exSrc.data = [phE "LINECOMMENT" 0, (.str ['a'], .leaf (.int 9)), (.str ['b'], .leaf (.int 2)),
      phE "BLOCKCOMMENT" 1, (.str "sub".toList, .dict [(.str ['x'], .leaf (.int 7)), (.str ['y'], .leaf (.int 2))])] := by
    decide +kernel
  rw [this]
  simp only [phE, NodupKeysV, NodupKeysEs, and_true]
  decide +kernel

def exAppendText : Str :=
  C12.nativeHeaderChars ++ C01.unlines
    ["/* blk */", "// old", "a                             1;", "sub", "{", "    x                         1;",
     "    y                         2;", "}", "// src", "b                             2;"]

def exOverwriteText : Str :=
  C12.nativeHeaderChars ++ C01.unlines
    ["/* blk */", "// src", "a                             9;", "b                             2;", "sub", "{",
     "    x                         7;", "    y                         2;", "}"]

theorem ex_raw_append : fmtEntries .native 0 (hoistPlaceholders (appendSD exRead exSrc).data) = C01.unlines
    ["BLOCKCOMMENT000001            BLOCKCOMMENT000001;", "LINECOMMENT000002             LINECOMMENT000002;",
     "a                             1;", "sub", "{", "    x                         1;",
     "    y                         2;", "}", "LINECOMMENT000000             LINECOMMENT000000;",
     "b                             2;"] := by
  have h : hoistPlaceholders (appendSD exRead exSrc).data =
      [phE "BLOCKCOMMENT" 1, phE "LINECOMMENT" 2, (.str ['a'], .leaf (.int 1)),
       (.str "sub".toList, .dict [(.str ['x'], .leaf (.int 1)), (.str ['y'], .leaf (.int 2))]),
       phE "LINECOMMENT" 0, (.str ['b'], .leaf (.int 2))] := by
    rw [ex_append_tables.2.2.2.2]
    decide +kernel
  rw [h]
  simp only [C01.unlines, List.flatMap_cons, List.flatMap_nil]
  literal_chars
  simp only [phE, fmtEntries, formatKey, keyStr, formatScalar]
  decide +kernel

theorem ex_raw_overwrite : fmtEntries .native 0 (hoistPlaceholders (retypeSD exSrc).data) = C01.unlines
    ["BLOCKCOMMENT000001            BLOCKCOMMENT000001;", "LINECOMMENT000000             LINECOMMENT000000;",
     "a                             9;", "b                             2;", "sub", "{",
     "    x                         7;", "    y                         2;", "}"] := by
  have h : hoistPlaceholders (retypeSD exSrc).data =
      [phE "BLOCKCOMMENT" 1, phE "LINECOMMENT" 0, (.str ['a'], .leaf (.int 9)), (.str ['b'], .leaf (.int 2)),
       (.str "sub".toList, .dict [(.str ['x'], .leaf (.int 7)), (.str ['y'], .leaf (.int 2))])] := by decide +kernel
  rw [h]
  simp only [C01.unlines, List.flatMap_cons, List.flatMap_nil]
  literal_chars
  simp only [phE, fmtEntries, formatKey, keyStr, formatScalar]
  decide +kernel

theorem ex_fmt_append : fmtSD .native (appendSD exRead exSrc) = some exAppendText := by
  have hL := ex_append_tables.1
  have hB := ex_append_tables.2.1
  have hI := ex_append_tables.2.2.2.1
  simp only [fmtSD, ex_raw_append, hL, hB, hI, insertBlockComments, makeDefaultBlockComment, C12.nativeHeader_eq,
    exAppendText, C01.unlines, List.flatMap_cons, List.flatMap_nil]
  literal_chars
  decide +kernel

theorem ex_fmt_overwrite : fmtSD .native (retypeSD exSrc) = some exOverwriteText := by
  have hL : (retypeSD exSrc).lineC = [(0, "// src".toList)] := rfl
  have hB : (retypeSD exSrc).blockC = [(1, "/* blk */".toList)] := rfl
  have hI : (retypeSD exSrc).incl = [] := rfl
  simp only [fmtSD, ex_raw_overwrite, hL, hB, hI, insertBlockComments, makeDefaultBlockComment, C12.nativeHeader_eq,
    exOverwriteText, C01.unlines, List.flatMap_cons, List.flatMap_nil]
  literal_chars
  decide +kernel

/-- the text `DictWriter.write(exSrc, target, mode='a')` writes, through `C16_append_sd_keeps` -/
theorem ex_append_text :
    writeText evalInt (exW (some 1)).fs exTarget ['a'] false (.sd exSrc) (some 1) = .ok (exAppendText, some 2) := by
  have h := (C16_append_sd_keeps evalInt (exW (some 1)).fs exTarget .native false exSrc (some 1) (some 2) exRead
    exTarget_fl (by decide +kernel) ex_read ex_read_nodup ex_src_nodup).1
  rw [h]
  simp only [Bool.false_eq_true, if_false, ex_fmt_append]

/-- the theorem instantiated: the nested leaf `sub.x` of the file keeps its value 1 (the source says 7) -/
theorem ex_append_keeps : C07.getD (appendSD exRead exSrc).data [.str "sub".toList, .str ['x']] = some (.leaf (.int 1)) :=
  (C16_append_sd_keeps evalInt (exW (some 1)).fs exTarget .native false exSrc (some 1) (some 2) exRead
    exTarget_fl (by decide +kernel) ex_read ex_read_nodup ex_src_nodup).2.1
    [.str "sub".toList, .str ['x']] (.leaf (.int 1)) rfl (by decide +kernel) (by decide +kernel)
    (fun k hk => by cases hk)

/-- the hypothesis of `C16_append_sd_exact` holds on the example (no level with two equal comments, no include) -/
theorem ex_fix : C12W.levelFix (preMerge exRead (retypeSD exSrc)) (preMerge exRead (retypeSD exSrc)).data ∧
    C12W.subsFix (preMerge exRead (retypeSD exSrc)) (preMerge exRead (retypeSD exSrc)).data := by
  obtain ⟨hd, hL, hB⟩ : (preMerge exRead (retypeSD exSrc)).data =
      [phE "LINECOMMENT" 2, (.str ['a'], .leaf (.int 1)),
       (.str "sub".toList, .dict [(.str ['x'], .leaf (.int 1)), (.str ['y'], .leaf (.int 2))]),
       phE "LINECOMMENT" 0, (.str ['b'], .leaf (.int 2)), phE "BLOCKCOMMENT" 1] ∧
      (preMerge exRead (retypeSD exSrc)).lineC = [(2, "// old".toList), (0, "// src".toList)] ∧
      (preMerge exRead (retypeSD exSrc)).blockC = [(1, "/* blk */".toList)] := by decide +kernel
  rw [hd]
  simp only [C12W.subsFix, C12W.allLevels, C12W.levelFix, phE, hL, hB, and_true]
  decide +kernel

theorem ex_exact : (appendSD exRead exSrc).lineC = Tbl.merge exRead.lineC exSrc.lineC :=
  (C16_append_sd_exact exRead exSrc ex_fix.1 ex_fix.2).2.2.1

/-- **colliding ids.**  The same append with a freshly reset counter (as after `SDict.load`, which resets it): the
    file's line comment gets id 0, the id of the source's line comment.  The existing id wins — in the table and in the
    data — so the source's `// src` is not written at all.  (Nothing of the *file* is lost: C16 holds; what is lost is a
    comment of the source.) -/
theorem ex_collision :
    (match readFile evalInt (exW none).fs {} none exTarget with
     | .ok (.ok sd _) => decide ((appendSD sd exSrc).lineC = [(0, "// old".toList)] ∧
         (appendSD sd exSrc).blockC = [(1, "/* blk */".toList)] ∧
         (keys (appendSD sd exSrc).data).filter C07.isPhKey = [.str (ph "LINECOMMENT" 0), .str (ph "BLOCKCOMMENT" 1)])
     | _ => false) = true := by decide +kernel

/-- overwrite: the text is that of the source alone, whatever the world holds -/
theorem ex_overwrite (fs : FS) (c : Counter) :
    writeText evalInt fs exTarget ['w'] false (.sd exSrc) c = .ok (exOverwriteText, c) := by
  rw [C16_overwrite_sd evalInt fs exTarget .native ['w'] false exSrc c exTarget_fl (Or.inl (by decide))]
  simp only [Bool.false_eq_true, if_false, ex_fmt_overwrite]

/-- `C16_fold_api` on the write sequence of `C16fold` (`{a: 1}` written, `{b: "2", a: 9}` and `{c: {x: 1}}` appended),
    in a world that holds another file -/
theorem ex_fold_api :
    ∃ t c₁ sd c₂,
      (apiRun evalInt { fs := [(exOther, .native "q 1;".toList)] } (plainOps exTarget exWs)).2 = [.done, .done, .done] ∧
      (apiRun evalInt { fs := [(exOther, .native "q 1;".toList)] } (plainOps exTarget exWs)).1.fs.get exTarget =
        some (.native t) ∧
      (apiRun evalInt { fs := [(exOther, .native "q 1;".toList)] } (plainOps exTarget exWs)).1.fs.get exOther =
        some (.native "q 1;".toList) ∧
      apiStep evalInt (apiRun evalInt { fs := [(exOther, .native "q 1;".toList)] } (plainOps exTarget exWs)).1
        (.read exTarget {}) =
        ({ (apiRun evalInt { fs := [(exOther, .native "q 1;".toList)] } (plainOps exTarget exWs)).1 with c := c₂ },
          .data sd) ∧
      (apiRun evalInt { fs := [(exOther, .native "q 1;".toList)] } (plainOps exTarget exWs)).1.c = c₁ ∧
      C01.dropPhEntries sd.data = exFold := by
  obtain ⟨t, c₁, sd, c₂, D, h1, h2, h3, h4, _, h6, h7, h8⟩ :=
    C16_fold_api evalInt exTarget exWs { fs := [(exOther, .native "q 1;".toList)] } (by decide)
      exWs_states exWs_dom (Or.inl rfl) exTarget_fl exTarget_res (by decide +kernel)
  rw [exWs_spec] at h7
  cases h7
  exact ⟨t, c₁, sd, c₂, h1, h2, (h4 exOther (by decide)).trans (by rfl), h6, h3, h8⟩

/-- `C16_dump_then_read` on `{a: 1, b: 2, c: {x: 1}}` in the same world -/
theorem ex_dump_read :
    ∃ c', apiRun evalInt { fs := [(exOther, .native "q 1;".toList)] } [.dump { data := exFold } exTarget, .read exTarget {}] =
      ({ fs := [(exOther, .native "q 1;".toList), (exTarget, .native (nativeHeader ++ fmtPlain .native exFold))], c := c' },
       [.done, .data (C12.hdrSD exFold)]) := by
  have hn : normEs exFold = exFold := by decide +kernel
  obtain ⟨hd, hdoc, hcnt⟩ := exWs_states exFold (by decide +kernel)
  obtain ⟨c', _, h, _⟩ := C16_dump_then_read evalInt { fs := [(exOther, .native "q 1;".toList)] } exTarget exFold
    (hn.symm ▸ hd) hdoc (hn.symm ▸ hcnt) (Or.inl rfl) exTarget_fl exTarget_res (by decide +kernel)
  rw [hn] at h
  exact ⟨c', h⟩

/-- why `writeText_plain_eq_writeStep_fs` asks for `NoIncl`: the existing file includes a neighbour; read in the
    world the neighbour's entry `b` is merged in, read alone (`writeStep`'s one-file file system) the include is
    "not found" and skipped — so an append in the world writes `b` into the target and `writeStep` does not. -/
def exInclFs : FS :=
  [(exTarget, .native "#include 'other'\na 1;\n".toList), (exOther, .native "b 2;".toList)]

theorem readFile_local_needs_noincl :
    (match readFile evalInt exInclFs {} none exTarget with
      | .ok (.ok sd _) => (keys sd.data).filter (fun k => !C07.isPhKey k) | _ => []) = [.str ['a'], .str ['b']] ∧
    (match readFile evalInt [(exTarget, .native "#include 'other'\na 1;\n".toList)] {} none exTarget with
      | .ok (.ok sd _) => (keys sd.data).filter (fun k => !C07.isPhKey k) | _ => []) = [.str ['a']] := by
  decide +kernel

end C16sd
end DictIO

/-
#print axioms DictIO.C16sd.writeText_plain_eq_writeStep
#print axioms DictIO.C16sd.writeText_plain_eq_writeStep_fs
#print axioms DictIO.C16sd.C16_fold_api
#print axioms DictIO.C16sd.C16_append_sd_keeps
#print axioms DictIO.C16sd.C16_append_sd_exact
#print axioms DictIO.C16sd.merge_sd_tables_statement_false
#print axioms DictIO.C16sd.C16_overwrite_sd
#print axioms DictIO.C16sd.C16_overwrite_sd_indep
#print axioms DictIO.C16sd.C16_dump_then_read
#print axioms DictIO.C16sd.ex_append_tables
#print axioms DictIO.C16sd.ex_append_text
#print axioms DictIO.C16sd.ex_fold_api
#print axioms DictIO.C16sd.ex_dump_read
-- each: [propext, Classical.choice, Quot.sound] (or a subset)
-/
