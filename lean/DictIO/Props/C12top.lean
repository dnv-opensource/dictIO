/-
  C12 -- the READER on documents of plain entries and top-level `#include` directives, without comments (`topDoc`; what
  `SDict.include()` / `dump()` produce): imported by the writer side (`C12wincl`), by `C09equiv` (the native
  rendering of a document with includes) and, through `C12wincl`, by `C03incl`.

    1  plain source entries as such a document (`embEs`); directives in front of any document (`dirs`, `dirs_facts`)
    2  the layout: directives, one per line, in front of tokens that start on a new line (`RestOK`)
    3  `_clean` is the identity on an SDict without comments whose include table has no value twice (`clean_noC`)
    4  labelling a `topDoc` (`label_top`): the placeholder entries of the ids drawn, in order, among the plain entries
    5  the three classes of the keys of the data (`pB`, `pI`: the two tests of `hoistPlaceholders`; `selB_eq`, `selI_eq`: the
       selectors of `_clean_data` through them; `Classes`, `denPEs_classes`), what the reader builds before `_clean`
       for such a document behind an optional default header (`litI_top`), and what `parseNative` returns (`TopRead`,
       `denI_top`)
-/
import DictIO.Props.C12incl
import DictIO.Props.C12hdr

namespace DictIO.C12WI
open DictIO DictIO.C12W DictIO.C12 DictIO.C12.Incl

/-! ## 1. plain entries as a document; directives in front -/

/-- the placeholder entry of include `i` -/
def inclE (i : Nat) : Key × Val := (.str (inclPh i), .leaf (.str (inclPh i)))

mutual
  /-- a plain source document as a document with comments and directives (it has none) -/
  def embV : Src → ISrc
    | .lit l => .lit l
    | .dict es => .dict (embEs es)
    | .list xs => .list xs
  def embEs : SrcEntries → List IItem
    | [] => []
    | (k, v) :: r => .entry k (embV v) :: embEs r
end

-- the half for values only makes the recursion structural
mutual
  theorem itoks_embV : ∀ (v : Src), (match v with
      | .dict d => itoksItems (embEs d) = (srcToksEs d).map CTok.tok
      | _ => True)
    | .lit _ => trivial
    | .list _ => trivial
    | .dict d => itoks_emb d
  theorem itoks_emb : ∀ (es : SrcEntries), itoksItems (embEs es) = (srcToksEs es).map CTok.tok
    | [] => by simp only [embEs, itoksItems, srcToksEs, List.map_nil]
    | (k, .lit l) :: r => by
      simp only [embEs, embV, itoksItems, srcToksEs, List.map_cons, itoks_emb r]
    | (k, .dict d) :: r => by
      have hd := itoks_embV (.dict d)
      simp only at hd
      simp only [embEs, embV, itoksItems, srcToksEs, List.map_cons, List.map_append, itoks_emb r, hd,
        List.cons_append, List.append_assoc, List.nil_append]
    | (k, .list xs) :: r => by
      simp only [embEs, embV, itoksItems, srcToksEs, List.map_cons, List.map_append, itoks_emb r,
        List.cons_append, List.append_assoc, List.nil_append]
end

mutual
  theorem wf_embV : ∀ (d : Nat) (v : Src), ISrcWFV d (embV v) = SrcWFV d v
    | d, .lit l => by simp only [embV, ISrcWFV, SrcWFV]
    | d, .dict es => by simp only [embV, ISrcWFV, SrcWFV, wf_emb (d + 1) es]
    | d, .list xs => by simp only [embV, ISrcWFV, SrcWFV]
  theorem wf_emb : ∀ (d : Nat) (es : SrcEntries), ISrcWFItems d (embEs es) = SrcWFEs d es
    | _, [] => by simp only [embEs, ISrcWFItems, SrcWFEs]
    | d, (k, v) :: r => by simp only [embEs, ISrcWFItems, SrcWFEs, wf_embV d v, wf_emb d r]
end

mutual
  theorem plain_embV : ∀ (v : Src), plainIV (embV v) = v
    | .lit l => by simp only [embV, plainIV]
    | .dict es => by simp only [embV, plainIV, plain_emb es]
    | .list xs => by simp only [embV, plainIV]
  theorem plain_emb : ∀ (es : SrcEntries), plainIItems (embEs es) = es
    | [] => by simp only [embEs, plainIItems]
    | (k, v) :: r => by simp only [embEs, plainIItems, plain_embV v, plain_emb r]
end

mutual
  theorem incls_embV : ∀ (v : Src), inclsV (embV v) = []
    | .lit l => by simp only [embV, inclsV]
    | .dict es => by simp only [embV, inclsV, incls_emb es]
    | .list xs => by simp only [embV, inclsV]
  theorem incls_emb : ∀ (es : SrcEntries), inclsItems (embEs es) = []
    | [] => by simp only [embEs, inclsItems]
    | (k, v) :: r => by simp only [embEs, inclsItems, incls_embV v, incls_emb r, List.append_nil]
end

mutual
  /-- no comment and no directive inside -/
  def plainV : ISrc → Bool
    | .lit _ => true
    | .dict items => plainItems items
    | .list _ => true
  def plainItems : List IItem → Bool
    | [] => true
    | .entry _ v :: r => plainV v && plainItems r
    | .lineC _ :: _ => false
    | .blockC _ :: _ => false
    | .incl _ _ :: _ => false
end

/-- entries (without comments and directives inside) and directives, no comments -/
def topDoc : List IItem → Bool
  | [] => true
  | .entry _ v :: r => plainV v && topDoc r
  | .incl _ _ :: r => topDoc r
  | .lineC _ :: _ => false
  | .blockC _ :: _ => false

mutual
  theorem plainV_emb : ∀ (v : Src), plainV (embV v) = true
    | .lit l => rfl
    | .dict es => by simp only [embV, plainV, plainItems_emb es]
    | .list xs => rfl
  theorem plainItems_emb : ∀ (es : SrcEntries), plainItems (embEs es) = true
    | [] => rfl
    | (k, v) :: r => by simp only [embEs, plainItems, plainV_emb v, plainItems_emb r, Bool.and_self]
end

theorem topDoc_of_plain : ∀ (items : List IItem), plainItems items = true → topDoc items = true
  | [], _ => rfl
  | .entry k v :: r, h => by
    simp only [plainItems, Bool.and_eq_true] at h
    simp only [topDoc, h.1, topDoc_of_plain r h.2, Bool.and_self]
  | .lineC x :: r, h => by simp only [plainItems] at h; cases h
  | .blockC x :: r, h => by simp only [plainItems] at h; cases h
  | .incl q n :: r, h => by simp only [plainItems] at h; cases h

/-- directives in front of a document, the name `n` written with the quote `q n` -/
def dirs (q : Str → Option Char) (names : List Str) : List IItem := names.map fun n => .incl (q n) n

theorem dirs_facts (q : Str → Option Char) (R : List IItem) : ∀ (names : List Str),
    plainIItems (dirs q names ++ R) = plainIItems R ∧
    inclsItems (dirs q names ++ R) = (names.map fun n => (q n, n)) ++ inclsItems R ∧
    topDoc (dirs q names ++ R) = topDoc R ∧
    itoksItems (dirs q names ++ R) = (names.map fun n => CTok.tok (.word (dirText (q n) n))) ++ itoksItems R ∧
    (∀ d, (∀ n ∈ names, isInclName (q n) n = true) → ISrcWFItems d (dirs q names ++ R) = ISrcWFItems d R)
  | [] => ⟨rfl, rfl, rfl, rfl, fun _ _ => rfl⟩
  | n :: names => by
    obtain ⟨h1, h2, h3, h4, h5⟩ := dirs_facts q R names
    simp only [dirs] at h1 h2 h3 h4 h5 ⊢
    refine ⟨?_, ?_, ?_, ?_, fun d hn => ?_⟩
    · simp only [List.map_cons, List.cons_append, plainIItems, h1]
    · simp only [List.map_cons, List.cons_append, inclsItems, h2]
    · simp only [List.map_cons, List.cons_append, topDoc, h3]
    · simp only [List.map_cons, List.cons_append, itoksItems, h4]
    · simp only [List.map_cons, List.cons_append, ISrcWFItems, hn n (by simp), Bool.true_and]
      exact h5 d fun m hm => hn m (by simp [hm])

theorem dirs_emb_facts (q : Str → Option Char) (names : List Str) (src : SrcEntries) :
    plainIItems (dirs q names ++ embEs src) = src ∧
    inclsItems (dirs q names ++ embEs src) = (names.map fun n => (q n, n)) ∧
    topDoc (dirs q names ++ embEs src) = true ∧
    itoksItems (dirs q names ++ embEs src) =
      (names.map fun n => CTok.tok (.word (dirText (q n) n))) ++ (srcToksEs src).map CTok.tok ∧
    (∀ d, (∀ n ∈ names, isInclName (q n) n = true) → ISrcWFItems d (dirs q names ++ embEs src) = SrcWFEs d src) := by
  obtain ⟨f1, f2, f3, f4, f5⟩ := dirs_facts q (embEs src) names
  rw [plain_emb] at f1
  rw [incls_emb, List.append_nil] at f2
  rw [topDoc_of_plain _ (plainItems_emb _)] at f3
  rw [itoks_emb] at f4
  exact ⟨f1, f2, f3, f4, fun d hn => (f5 d hn).trans (wf_emb d _)⟩

/-! ## 2. the layout of directives in front of a plain text -/

/-- what follows the directives: admissible, and it starts on a new line -/
def RestOK (R : List CTok) (RG : List Str) (T : Str) : Prop :=
  GapsOKC R RG T = true ∧ DirGapsOK false R RG T = true ∧ T.all isWs = true ∧ dirNext R RG T = true

/-- the white-space half of one more token in front of what starts on a new line: a source token behind any white gap,
    a block comment behind a non-empty one -/
theorem gapsOKC_front {R : List CTok} {RG : List Str} {T : Str} (h1 : GapsOKC R RG T = true) (h3 : T.all isWs = true)
    (h4 : dirNext R RG T = true) {t : CTok} {g : Str} (hg : g.all isWs = true)
    (ht : match t with | .lineC _ => False | .blockC _ => g ≠ [] | .tok _ => True) :
    GapsOKC (t :: R) (g :: RG) T = true := by
  cases R with
  | nil =>
    cases t with
    | lineC _ => exact ht.elim
    | blockC _ => have ht : g ≠ [] := ht; simp [GapsOKC, hg, h3, ht]
    | tok _ => simp [GapsOKC, hg, h3]
  | cons u R' =>
    cases RG with
    | nil => simp [dirNext] at h4
    | cons g' RG' =>
      have hne : g' ≠ [] := by intro e; rw [e] at h4; simp [dirNext] at h4
      cases t with
      | lineC _ => exact ht.elim
      | blockC _ => have ht : g ≠ [] := ht; simp [GapsOKC, hg, h1, ht, hne]
      | tok _ => cases u <;> simp [GapsOKC, hg, h1, hne]

theorem restOK_dir {R : List CTok} {RG : List Str} {T : Str} (h : RestOK R RG T) (w : Str) :
    RestOK (.tok (.word w) :: R) (['\n'] :: RG) T := by
  obtain ⟨h1, h2, h3, h4⟩ := h
  refine ⟨gapsOKC_front h1 h3 h4 (by decide) trivial, ?_, h3, by simp [dirNext]⟩
  simp only [DirGapsOK, h2, h4, List.getLast?_singleton, C02.isLineBreak_nl]
  simp

theorem restOK_dirs {R : List CTok} {RG : List Str} {T : Str} (h : RestOK R RG T) : ∀ (ws : List Str),
    RestOK (ws.map (fun w => CTok.tok (.word w)) ++ R) (ws.map (fun _ => ['\n']) ++ RG) T
  | [] => h
  | w :: ws => by
    simp only [List.map_cons, List.cons_append]
    exact restOK_dir (restOK_dirs h ws) w

theorem gapsOKI_hdr {R : List CTok} {RG : List Str} {T : Str} (h : RestOK R RG T) (b : Str) :
    GapsOKI (.blockC b :: R) (['\n'] :: RG) T = true := by
  obtain ⟨h1, h2, h3, h4⟩ := h
  simp only [GapsOKI, gapsOKC_front h1 h3 h4 (t := .blockC b) (g := ['\n']) (by decide) (by simp), DirGapsOK, isDirTok, h2]
  rfl

/-- a directive at the very start of the text, in front of what `RestOK` describes -/
theorem gapsOKI_first {R : List CTok} {RG : List Str} {T : Str} (h : RestOK R RG T) (w : Str) :
    GapsOKI (.tok (.word w) :: R) ([] :: RG) T = true := by
  obtain ⟨h1, h2, h3, h4⟩ := h
  simp only [GapsOKI, gapsOKC_front h1 h3 h4 (t := .tok (.word w)) (g := []) rfl trivial, DirGapsOK, h2, h4]
  simp

theorem spread_dirs (R : List Str) (RG : List Str) (T : Str) : ∀ (ws : List Str),
    spread (ws ++ R) (ws.map (fun _ => ['\n']) ++ RG) T = ws.flatMap ('\n' :: ·) ++ spread R RG T
  | [] => rfl
  | w :: ws => by
    simp only [List.map_cons, List.cons_append, spread, spread_dirs R RG T ws, List.flatMap_cons, List.append_assoc,
      List.nil_append]

theorem gapsOKC_toks (T : Str) (hT : T.all isWs = true) : ∀ (ts : List STok) (g : Str) (gs : List Str),
    GapsOKS (ts) (g :: gs) = true → ts ≠ [] → GapsOKC (ts.map CTok.tok) (g :: gs) T = true
  | [], _, _, _, h => absurd rfl h
  | [t], g, gs, h, _ => by
    simp only [GapsOKS] at h
    simp [GapsOKC, h, hT]
  | t :: u :: ts, g, [], h, _ => by simp [GapsOKS] at h
  | t :: u :: ts, g, g' :: gs, h, _ => by
    simp only [GapsOKS, Bool.and_eq_true] at h
    have ih := gapsOKC_toks T hT (u :: ts) g' gs h.2 (by simp)
    simp only [List.map_cons] at ih
    simp only [List.map_cons, GapsOKC, h.1.1, h.1.2, ih, Bool.and_self]

theorem restOK_plain {ts : List STok} {gaps : List Str} {tail : Str} (hok : ∀ t ∈ ts, C02.TokOK t)
    (hg : GapsOKS ts gaps = true) (ht : tail.all isWs = true) :
    ∃ RG T, RestOK (ts.map CTok.tok) RG T ∧ spread (ts.map STok.text) RG T = '\n' :: spreadS ts gaps tail := by
  cases ts with
  | nil =>
    refine ⟨[], '\n' :: tail, ⟨rfl, rfl, ?_, rfl⟩, rfl⟩
    simp [ht, isWs_nl]
  | cons t ts =>
    have hg' : GapsOKS (t :: ts) (('\n' :: gaps.headD []) :: gaps.tail) = true := by
      cases ts with
      | nil =>
        cases gaps with
        | nil => simp [GapsOKS, isWs_nl]
        | cons g gs => simp only [GapsOKS] at hg; simp [GapsOKS, isWs_nl, hg]
      | cons u ts =>
        cases gaps with
        | nil => simp [GapsOKS] at hg
        | cons g gs =>
          cases gs with
          | nil => simp [GapsOKS] at hg
          | cons g' gs =>
            simp only [GapsOKS, Bool.and_eq_true] at hg
            simp [GapsOKS, isWs_nl, hg.1.1, hg.1.2, hg.2]
    have h1 := gapsOKC_toks tail ht (t :: ts) _ _ hg' (by simp)
    have h2 := dirGaps_of_notDir false _ _ tail (by
      intro t' ht'
      obtain ⟨s, hs, rfl⟩ := List.mem_map.mp ht'
      exact aok_notDir (t := .tok s) (hok s hs)) h1
    refine ⟨('\n' :: gaps.headD []) :: gaps.tail, tail, ⟨h1, h2, ht, rfl⟩, ?_⟩
    cases gaps with
    | nil => simp [spreadS, spread]
    | cons g gs => simp [spreadS, spread]

theorem map_text_words : ∀ (L : List Str), (L.map fun w => CTok.tok (.word w)).map CTok.text = L
  | [] => rfl
  | w :: L => by simp only [List.map_cons, map_text_words L]; rfl

theorem map_text_toks : ∀ (ts : List STok), (ts.map CTok.tok).map CTok.text = ts.map STok.text
  | [] => rfl
  | t :: ts => by simp only [List.map_cons, map_text_toks ts]; rfl

/-! ## 3. `_clean` on an SDict without comments whose include table has no value twice -/

/-- the loop of `_clean_data` for one class of keys leaves data and table alone when the candidates are distinct keys
    with distinct ids and the table has no value twice -/
theorem cfold_both {α} [BEq α] [LawfulBEq α] (t : Tbl α) (ht : TblInj t) : ∀ (cand : List Key), cand.Nodup →
    (∀ k ∈ cand, ∀ k' ∈ cand, fsdK k = fsdK k' → fsdK k ≠ none → k = k') →
    ∀ (d : Entries) (seen : List α),
      (∀ a ∈ seen, ∀ k ∈ cand, ∀ i, fsdK k = some i → t.get? i ≠ some a) →
      (cand.foldl cleanStepF (d, t, seen)).1 = d ∧ (cand.foldl cleanStepF (d, t, seen)).2.1 = t := by
  intro cand hnd hinj d seen hseen
  rw [cleanStepF_fold d t cand seen (look_nodup_fsdK t ht hnd hinj) fun a ha hm => by
    obtain ⟨k, hk, hl⟩ := List.mem_filterMap.mp hm
    obtain ⟨x, i, rfl, hf, hg⟩ := look_some hl
    exact hseen a ha _ hk i hf hg]
  exact ⟨rfl, rfl⟩

theorem tblInj_nil {α} : TblInj ([] : Tbl α) := by
  intro i j a h; simp [Tbl.get?] at h

set_option linter.unusedVariables false in
theorem cleanStep_nil {α} [BEq α] [LawfulBEq α] (sel : Key → Bool) (lvl : Entries) (hn : (keys lvl).Nodup) :
    cleanStep sel lvl ([] : Tbl α) = (lvl, []) :=
  cleanStep_id sel lvl [] (by
    rw [List.filterMap_eq_nil_iff.mpr fun k _ => by
      cases h : C12W.look ([] : Tbl α) k with
      | none => rfl
      | some a => obtain ⟨x, i, _, _, hg⟩ := look_some h; cases hg]
    exact List.nodup_nil)

/-- the include class: the keys are the reader's own placeholder words, the table has no value twice -/
theorem cleanStep_inclKeys (lvl : Entries) (t : Tbl InclEntry) (ht : TblInj t) (hn : (keys lvl).Nodup)
    (hI : ∀ k ∈ keys lvl, SelIOK k) : cleanStep C06.selI lvl t = (lvl, t) :=
  cleanStep_id _ lvl t (look_nodup_fsdK t ht (hn.filter C06.selI) fun k hk k' hk' h1 _ => by
    obtain ⟨hk1, hk2⟩ := List.mem_filter.mp hk
    obtain ⟨hk1', hk2'⟩ := List.mem_filter.mp hk'
    obtain ⟨i, hi, ei⟩ := hI k hk1 hk2
    obtain ⟨j, hj, ej⟩ := hI k' hk1' hk2'
    rw [ei, ej] at h1 ⊢
    have fs : ∀ {n}, n < 1000000 → firstSixDigits (inclPh n) = some n := Ph.firstSix_ph .incl
    simp only [fsdK, fs hi, fs hj, Option.some.injEq] at h1
    rw [h1])

theorem cleanStep_incl (lvl : Entries) (t : Tbl InclEntry) (ht : TblInj t) (hn : (keys lvl).Nodup) (hp : PhOKEs lvl) :
    cleanStep C06.selI lvl t = (lvl, t) :=
  cleanStep_inclKeys lvl t ht hn fun k hk => by
    obtain ⟨e, he, rfl⟩ := List.mem_map.mp hk
    exact (phOKEs_iff.mp hp e he).1

theorem cleanLevel_noC (s : SD) (lvl : Entries) (hl : s.lineC = []) (hb : s.blockC = []) (ht : TblInj s.incl)
    (hn : (keys lvl).Nodup) (hp : PhOKEs lvl) : cleanLevel s lvl = (s, lvl) := by
  rw [DictIO.cleanLevel_eq, hb, hl, cleanStep_nil C06.selB lvl hn, cleanStep_incl lvl s.incl ht hn hp, cleanStep_nil C06.selL lvl hn]
  cases s
  simp only at hl hb
  subst hl hb
  rfl

theorem cleanRec_noC (fuel : Nat) (s : SD) (lvl : Entries) (hl : s.lineC = []) (hb : s.blockC = []) (ht : TblInj s.incl)
    (hn : NodupKeysV (.dict lvl)) (hp : PhOKEs lvl) : cleanRec fuel s lvl = (s, lvl) :=
  cleanRec_fixed
    (F := fun s lvl => s.lineC = [] ∧ s.blockC = [] ∧ TblInj s.incl ∧ NodupKeysV (.dict lvl) ∧ PhOKEs lvl)
    (fun s lvl h => cleanLevel_noC s lvl h.1 h.2.1 h.2.2.1 h.2.2.2.1.1 h.2.2.2.2) (fun _ _ h => h.2.2.2.1.1)
    (fun _ _ _ _ h hm =>
      ⟨h.1, h.2.1, h.2.2.1, nodupKeysEs_iff.mp h.2.2.2.1.2 _ hm, (phOKEs_iff.mp h.2.2.2.2 _ hm).2⟩)
    fuel s lvl ⟨hl, hb, ht, hn, hp⟩

theorem clean_noC (s : SD) (hl : s.lineC = []) (hb : s.blockC = []) (ht : TblInj s.incl)
    (hn : NodupKeysV (.dict s.data)) (hp : PhOKEs s.data) : s.clean = s := by
  rw [SD.clean_eq, cleanRec_noC _ s s.data hl hb ht hn hp]

/-! ## 4. documents whose directives stand at the top level, without comments -/

mutual
  theorem label_plainV (dir : Str) : ∀ (v : ISrc) (st : ILabelSt), plainV v = true →
      labelIV dir st v = (st, plainIV v) ∧ inclsV v = []
    | .lit l, st, _ => by simp only [labelIV, plainIV, inclsV, and_self]
    | .list xs, st, _ => by simp only [labelIV, plainIV, inclsV, and_self]
    | .dict items, st, h => by
      simp only [plainV] at h
      obtain ⟨h1, h2⟩ := label_plainI dir items st h
      simp only [labelIV, plainIV, inclsV, h1, h2, and_self]
  theorem label_plainI (dir : Str) : ∀ (items : List IItem) (st : ILabelSt), plainItems items = true →
      labelIItems dir st items = (st, plainIItems items) ∧ inclsItems items = []
    | [], st, _ => by simp only [labelIItems, plainIItems, inclsItems, and_self]
    | .entry k v :: r, st, h => by
      simp only [plainItems, Bool.and_eq_true] at h
      obtain ⟨h1, h2⟩ := label_plainV dir v st h.1
      obtain ⟨h3, h4⟩ := label_plainI dir r st h.2
      simp only [labelIItems, plainIItems, inclsItems, h1, h2, h3, h4, List.append_nil, and_self]
    | .lineC x :: r, st, h => by simp only [plainItems] at h; cases h
    | .blockC x :: r, st, h => by simp only [plainItems] at h; cases h
    | .incl q n :: r, st, h => by simp only [plainItems] at h; cases h
end

mutual
  theorem wf_plainV : ∀ (v : ISrc) (d : Nat), plainV v = true → ISrcWFV d v = true → SrcWFV d (plainIV v) = true
    | .lit l, d, _, h => by simpa only [plainIV, ISrcWFV, SrcWFV] using h
    | .list xs, d, _, h => by simpa only [plainIV, ISrcWFV, SrcWFV] using h
    | .dict items, d, hp, h => by
      simp only [plainV] at hp
      simp only [ISrcWFV] at h
      simp only [plainIV, SrcWFV]
      exact wf_plainI items (d + 1) hp h
  theorem wf_plainI : ∀ (items : List IItem) (d : Nat), plainItems items = true → ISrcWFItems d items = true →
      SrcWFEs d (plainIItems items) = true
    | [], _, _, _ => by simp only [plainIItems, SrcWFEs]
    | .entry k v :: r, d, hp, h => by
      simp only [plainItems, Bool.and_eq_true] at hp
      simp only [ISrcWFItems, Bool.and_eq_true] at h
      simp only [plainIItems, SrcWFEs, Bool.and_eq_true]
      exact ⟨⟨h.1.1, wf_plainV v d hp.1 h.1.2⟩, wf_plainI r d hp.2 h.2⟩
    | .lineC x :: r, _, hp, _ => by simp only [plainItems] at hp; cases hp
    | .blockC x :: r, _, hp, _ => by simp only [plainItems] at hp; cases hp
    | .incl q n :: r, _, hp, _ => by simp only [plainItems] at hp; cases hp
end

mutual
  theorem countLine_plainV : ∀ (v : ISrc), plainV v = true → countLineV v = 0
    | .lit l, _ => by simp only [countLineV]
    | .list xs, _ => by simp only [countLineV]
    | .dict items, h => by
      simp only [plainV] at h
      simp only [countLineV]
      exact countLine_plainI items h
  theorem countLine_plainI : ∀ (items : List IItem), plainItems items = true → countLineItems items = 0
    | [], _ => by simp only [countLineItems]
    | .entry k v :: r, h => by
      simp only [plainItems, Bool.and_eq_true] at h
      simp only [countLineItems, countLine_plainV v h.1, countLine_plainI r h.2]
    | .lineC x :: r, h => by simp only [plainItems] at h; cases h
    | .blockC x :: r, h => by simp only [plainItems] at h; cases h
    | .incl q n :: r, h => by simp only [plainItems] at h; cases h
end

/-- the placeholder entry of include `i` in the labelled document -/
def phSrc (i : Nat) : Str × Src := (inclPh i, .lit (.bare (inclPh i)))

/-- the labelling of a `topDoc`: the comment state is untouched; the placeholder entries are those of the ids drawn,
    in order; the other entries are the plain document -/
theorem label_top (dir : Str) : ∀ (items : List IItem) (d : Nat) (st : ILabelSt), topDoc items = true →
    ISrcWFItems d items = true →
    (labelIItems dir st items).1.c = st.c ∧
    (labelIItems dir st items).2.filter (fun e => isPhTok e.1) =
      (alloc Gen.counterLimit (inclsItems items).length st.icounter).map phSrc ∧
    (labelIItems dir st items).2.filter (fun e => !isPhTok e.1) = plainIItems items ∧
    SrcWFEs d (plainIItems items) = true ∧
    countLineItems items = 0
  | [], _, st, _, _ => by
    simp only [labelIItems, inclsItems, plainIItems, List.filter_nil, List.length_nil, alloc, List.map_nil, SrcWFEs,
      countLineItems, and_self]
  | .entry k v :: r, d, st, ht, hw => by
    simp only [topDoc, Bool.and_eq_true] at ht
    simp only [ISrcWFItems, Bool.and_eq_true] at hw
    obtain ⟨h1, h2⟩ := label_plainV dir v st ht.1
    obtain ⟨i1, i2, i3, i4, i5⟩ := label_top dir r d st ht.2 hw.2
    have hp : isPhTok k = false := (C02.srcWord_facts hw.1.1.1).2.1
    have hcl : countLineV v = 0 := countLine_plainV v ht.1
    simp only [labelIItems, h1, inclsItems, h2, List.nil_append, plainIItems, List.filter_cons, hp, Bool.false_eq_true,
      if_false, Bool.not_false, if_true, i1, i2, i3, SrcWFEs, hw.1.1.1, hw.1.1.2, wf_plainV v d ht.1 hw.1.2, i4, Bool.and_self,
      countLineItems, hcl, i5, and_self]
  | .incl q n :: r, d, st, ht, hw => by
    simp only [topDoc] at ht
    simp only [ISrcWFItems, Bool.and_eq_true] at hw
    obtain ⟨i1, i2, i3, i4, i5⟩ := label_top dir r d
      { st with icounter := (Counter.next Gen.counterLimit st.icounter).2,
                incl := st.incl.set (Counter.next Gen.counterLimit st.icounter).1 (inclEntry dir q n) } ht hw.2
    have hp : isPhTok (inclPh (Counter.next Gen.counterLimit st.icounter).1) = true := (inclPh_tok _).2
    simp only [labelIItems, inclsItems, List.length_cons, alloc_succ, List.map_cons, plainIItems, List.filter_cons, hp,
      if_true, Bool.not_true, Bool.false_eq_true, if_false, i1, i2, i3, i4, countLineItems, i5, phSrc, and_self]
  | .lineC x :: r, _, _, ht, _ => by simp only [topDoc] at ht; cases ht
  | .blockC x :: r, _, _, ht, _ => by simp only [topDoc] at ht; cases ht

/-! ## 5. the data of `denI` for such a document, by the classes of its keys -/

theorem denPEs_cons_none {k : Str} {v : Src} {es : SrcEntries} {acc : Entries} (hp : isPhTok k = false)
    (hk : keyOfScalar (parseKey k) = none) : denPEs ((k, v) :: es) acc = denPEs es acc := by
  simp only [denPEs, hp, Bool.false_eq_true, if_false, hk]

/-- filtering the meaning of a labelled document by a class of keys = the meaning of the entries of that class -/
theorem filter_denPEs (p : Key → Bool) (cls : Str → Bool) : ∀ (es : SrcEntries) (acc : Entries),
    (∀ e ∈ es, (isPhTok e.1 = true → p (.str e.1) = cls e.1) ∧
       (isPhTok e.1 = false → ∀ key, keyOfScalar (parseKey e.1) = some key → p key = cls e.1)) →
    (denPEs es acc).filter (fun e => p e.1) = denPEs (es.filter fun e => cls e.1) (acc.filter fun e => p e.1)
  | [], acc, _ => by simp only [denPEs, List.filter_nil]
  | (k, v) :: es, acc, h => by
    have hes := fun e he => h e (List.mem_cons_of_mem _ he)
    obtain ⟨h1, h2⟩ := h (k, v) List.mem_cons_self
    by_cases hp : isPhTok k = true
    · rw [C12.denPEs_cons_ph hp, filter_denPEs p cls es _ hes, filter_setKey, h1 hp]
      cases hc : cls k with
      | false => simp only [Bool.false_eq_true, if_false, List.filter_cons, hc]
      | true => simp only [if_true, List.filter_cons, hc]; rw [C12.denPEs_cons_ph hp]
    · have hp' : isPhTok k = false := by simpa using hp
      cases hk : keyOfScalar (parseKey k) with
      | none =>
        rw [denPEs_cons_none hp' hk, filter_denPEs p cls es _ hes]
        cases hc : cls k with
        | false => simp only [List.filter_cons, hc, Bool.false_eq_true, if_false]
        | true => simp only [List.filter_cons, hc, if_true]; rw [denPEs_cons_none hp' hk]
      | some key =>
        rw [C12.denPEs_cons hp' hk, filter_denPEs p cls es _ hes, filter_setKey, h2 hp' key hk]
        cases hc : cls k with
        | false => simp only [List.filter_cons, hc, Bool.false_eq_true, if_false]
        | true => simp only [List.filter_cons, hc, if_true]; rw [C12.denPEs_cons hp' hk]

theorem denPEs_phs : ∀ (ids : List Nat) (acc : Entries), (∀ i ∈ ids, i ≤ 999999) → ids.Nodup →
    (∀ i ∈ ids, Key.str (inclPh i) ∉ keys acc) → denPEs (ids.map phSrc) acc = acc ++ ids.map inclE
  | [], acc, _, _, _ => by simp [denPEs]
  | i :: ids, acc, hle, hnd, hfr => by
    obtain ⟨hi, hnd'⟩ := List.nodup_cons.mp hnd
    simp only [List.map_cons, phSrc]
    rw [C12.denPEs_cons_ph (inclPh_tok i).2, setKey_of_not_mem _ _ acc (hfr i (by simp))]
    have := denPEs_phs ids (acc ++ [(.str (inclPh i), .leaf (.str (inclPh i)))]) (fun j hj => hle j (by simp [hj])) hnd' (by
      intro j hj hm
      simp only [keys, List.map_append, List.map_cons, List.map_nil, List.mem_append, List.mem_singleton] at hm
      rcases hm with hm | hm
      · exact hfr j (by simp [hj]) hm
      · have e : inclPh j = inclPh i := by simpa using hm
        have := Ph.ph_inj (a := .incl) e
        subst this; exact hi hj)
    rw [this]; simp [inclE]

def pB (k : Key) : Bool := match k with | .str x => containsPh kwBlock x | _ => false
def pI (k : Key) : Bool := match k with | .str x => containsPh kwIncl x | _ => false

/-- the two tests of `hoistPlaceholders`, without the exclusion that makes them the selectors of `_clean_data` -/
theorem selB_eq (k : Key) : C06.selB k = pB k := by cases k <;> rfl
theorem selI_eq (k : Key) : C06.selI k = (!pB k && pI k) := by cases k <;> rfl

theorem p_inclPh {i : Nat} (hi : i ≤ 999999) : pB (.str (inclPh i)) = false ∧ pI (.str (inclPh i)) = true :=
  ⟨Ph.containsPh_other (a := .block) (b := .incl) (by decide) i, Ph.containsPh_own .incl (Nat.lt_succ_of_le hi)⟩

theorem ph_split {k : Key} (h : C07.isPhKey k = false) : pB k = false ∧ pI k = false := by
  cases k with
  | int z => exact ⟨rfl, rfl⟩
  | str x =>
    simp only [C07.isPhKey, Bool.or_eq_false_iff] at h
    exact ⟨h.1.1, h.1.2⟩

theorem p_typed {k : Str} {key : Key} (hk : isSrcWord k = true) (h : keyOfScalar (parseKey k) = some key) :
    pB key = false ∧ pI key = false :=
  ph_split (C02.Main.typedKey_noPh hk h)

/-- the three classes of the keys of a read result: the data fall into the header entry (if `hdr`), the placeholder
    entries of `ids` and the entries `R` -/
structure Classes (hdr : Bool) (ids : List Nat) (R data : Entries) : Prop where
  fB : data.filter (fun e => pB e.1) = if hdr then [hdrEntry] else []
  fI : data.filter (fun e => !pB e.1 && pI e.1) = ids.map inclE
  fR : data.filter (fun e => !pB e.1 && !pI e.1) = R
  idsle : ∀ i ∈ ids, i ≤ 999999

namespace Classes
variable {hdr : Bool} {ids : List Nat} {R data : Entries}

theorem entry_cases (h : Classes hdr ids R data) : ∀ e ∈ data,
    (hdr = true ∧ e = hdrEntry) ∨ (∃ i ∈ ids, e = inclE i) ∨ e ∈ R := by
  intro e he
  cases hb : pB e.1 with
  | true =>
    have : e ∈ data.filter (fun e => pB e.1) := List.mem_filter.mpr ⟨he, hb⟩
    rw [h.fB] at this
    cases hdr with
    | true => exact Or.inl ⟨rfl, List.mem_singleton.mp this⟩
    | false => cases this
  | false =>
    cases hi : pI e.1 with
    | true =>
      have : e ∈ data.filter (fun e => !pB e.1 && pI e.1) := List.mem_filter.mpr ⟨he, by simp [hb, hi]⟩
      rw [h.fI] at this
      obtain ⟨i, hmi, rfl⟩ := List.mem_map.mp this
      exact Or.inr (Or.inl ⟨i, hmi, rfl⟩)
    | false =>
      have : e ∈ data.filter (fun e => !pB e.1 && !pI e.1) := List.mem_filter.mpr ⟨he, by simp [hb, hi]⟩
      rw [h.fR] at this
      exact Or.inr (Or.inr this)

theorem dropPh (h : Classes hdr ids R data) (hR : ∀ e ∈ R, C07.isPhKey e.1 = false) : C01.dropPhEntries data = R := by
  rw [← h.fR]
  refine List.filter_congr fun e he => ?_
  rcases h.entry_cases e he with ⟨_, rfl⟩ | ⟨i, hi, rfl⟩ | hD
  · have hA : C07.isPhKey (.str hdrPh) = true := hdrPh_isPh
    have hB : pB (.str hdrPh) = true := hdrPh_block
    show (!C07.isPhKey (.str hdrPh)) = (!pB (.str hdrPh) && !pI (.str hdrPh))
    rw [hA, hB]; rfl
  · have := p_inclPh (h.idsle i hi)
    have hA : C07.isPhKey (.str (inclPh i)) = true := Ph.isPhKey_ph .incl (Nat.lt_succ_of_le (h.idsle i hi))
    show (!C07.isPhKey (.str (inclPh i))) = (!pB (.str (inclPh i)) && !pI (.str (inclPh i)))
    rw [hA, this.1, this.2]; rfl
  · have h1 := hR e hD
    simp [h1, (ph_split h1).1, (ph_split h1).2]

theorem vals (h : Classes hdr ids R data) (hR : ∀ e ∈ R, C07.NoPhV e.2) : ∀ e ∈ data, C07.NoPhV e.2 := by
  intro e he
  rcases h.entry_cases e he with ⟨_, rfl⟩ | ⟨i, _, rfl⟩ | hD
  · simp only [hdrEntry, C07.NoPhV]
  · simp only [inclE, C07.NoPhV]
  · exact hR e hD

theorem of_append (hle : ∀ i ∈ ids, i ≤ 999999) (hR : ∀ e ∈ R, C07.isPhKey e.1 = false) :
    Classes false ids R (ids.map inclE ++ R) := by
  have hI : ∀ e ∈ ids.map inclE, pB e.1 = false ∧ pI e.1 = true := by
    intro e he
    obtain ⟨i, hi, rfl⟩ := List.mem_map.mp he
    exact p_inclPh (hle i hi)
  have hRs : ∀ e ∈ R, pB e.1 = false ∧ pI e.1 = false := fun e he => ph_split (hR e he)
  have nil : ∀ (q : Key × Val → Bool) (l : Entries), (∀ e ∈ l, q e = false) → l.filter q = [] :=
    fun q l h => List.filter_eq_nil_iff.mpr fun e he => by simp [h e he]
  refine ⟨?_, ?_, ?_, hle⟩
  · rw [List.filter_append, nil _ _ fun e he => (hI e he).1, nil _ _ fun e he => (hRs e he).1]; rfl
  · rw [List.filter_append, List.filter_eq_self.mpr fun e he => by simp [hI e he], nil _ _ fun e he => by simp [hRs e he],
      List.append_nil]
  · rw [List.filter_append, nil _ _ fun e he => by simp [hI e he], List.filter_eq_self.mpr fun e he => by simp [hRs e he],
      List.nil_append]

end Classes

/-- **the three classes of the meaning of a labelled document** whose placeholder entries are the header's (`hdr`) and
    those of the includes `ids`, and whose other entries are `plain`: the block-comment class is the header entry, the
    include class the placeholder entries of `ids`, the rest the meaning of `plain` -/
theorem denPEs_classes {L plain : SrcEntries} (hdr : Bool) {ids : List Nat}
    (hP : L.filter (fun e => isPhTok e.1) = (if hdr then [(hdrPh, Src.lit (.bare hdrPh))] else []) ++ ids.map phSrc)
    (hR : L.filter (fun e => !isPhTok e.1) = plain) (hwf : SrcWFEs 1 plain = true)
    (hle : ∀ i ∈ ids, i ≤ 999999) (hnd : ids.Nodup) : Classes hdr ids (denSrcEs plain []) (denPEs L []) := by
  have hBp : pB (.str hdrPh) = true := hdrPh_block
  have hIp : ∀ e ∈ ids.map phSrc, pB (.str e.1) = false ∧ pI (.str e.1) = true := by
    intro e he
    obtain ⟨i, hi, rfl⟩ := List.mem_map.mp he
    exact p_inclPh (hle i hi)
  have hH : ∀ e ∈ (if hdr then [(hdrPh, Src.lit (.bare hdrPh))] else []), pB (.str e.1) = true := by
    intro e he
    cases hdr with
    | true => rw [List.mem_singleton.mp he]; exact hBp
    | false => cases he
  have hcls : ∀ e ∈ L, (isPhTok e.1 = true → pB (.str e.1) = true ∨ (pB (.str e.1) = false ∧ pI (.str e.1) = true)) ∧
      (isPhTok e.1 = false → isSrcWord e.1 = true) := by
    intro e he
    refine ⟨fun hp => ?_, fun hp => C02.Main.srcWF_keys hwf e (hR ▸ List.mem_filter.mpr ⟨he, by simp [hp]⟩)⟩
    have : e ∈ L.filter (fun e => isPhTok e.1) := List.mem_filter.mpr ⟨he, hp⟩
    rw [hP] at this
    exact (List.mem_append.mp this).imp (hH e) (hIp e)
  have fB := filter_denPEs pB (fun k => pB (.str k) && isPhTok k) L [] fun e he =>
    ⟨fun hp => by simp [hp], fun hp key hk => by rw [(p_typed ((hcls e he).2 hp) hk).1, hp, Bool.and_false]⟩
  have fI := filter_denPEs (fun k => !pB k && pI k) (fun k => (!pB (.str k) && pI (.str k)) && isPhTok k) L [] fun e he =>
    ⟨fun hp => by simp [hp], fun hp key hk => by
      simp [(p_typed ((hcls e he).2 hp) hk).1, (p_typed ((hcls e he).2 hp) hk).2, hp]⟩
  have fR := filter_denPEs (fun k => !pB k && !pI k) (fun k => !isPhTok k) L [] fun e he =>
    ⟨fun hp => by rcases (hcls e he).1 hp with h | h <;> simp [h, hp], fun hp key hk => by
      rw [(p_typed ((hcls e he).2 hp) hk).1, (p_typed ((hcls e he).2 hp) hk).2, hp]; rfl⟩
  have split : ∀ q : Str × Src → Bool, L.filter (fun e => q e && isPhTok e.1) =
      ((if hdr then [(hdrPh, Src.lit (.bare hdrPh))] else []) ++ ids.map phSrc).filter q :=
    fun q => by rw [← hP]; exact List.filter_filter.symm
  have nil : ∀ (q : Str × Src → Bool) (l : SrcEntries), (∀ e ∈ l, q e = false) → l.filter q = [] :=
    fun q l h => List.filter_eq_nil_iff.mpr fun e he => by simp [h e he]
  have eB : ((if hdr then [(hdrPh, Src.lit (.bare hdrPh))] else []) ++ ids.map phSrc).filter (fun e => pB (.str e.1)) =
      if hdr then [(hdrPh, Src.lit (.bare hdrPh))] else [] := by
    rw [List.filter_append, List.filter_eq_self.mpr hH, nil _ _ fun e he => (hIp e he).1, List.append_nil]
  have eI : ((if hdr then [(hdrPh, Src.lit (.bare hdrPh))] else []) ++ ids.map phSrc).filter
      (fun e => !pB (.str e.1) && pI (.str e.1)) = ids.map phSrc := by
    rw [List.filter_append, nil _ _ fun e he => by simp [hH e he], List.filter_eq_self.mpr fun e he => by simp [hIp e he],
      List.nil_append]
  rw [List.filter_nil, split fun e => pB (.str e.1), eB] at fB
  rw [List.filter_nil, split fun e => !pB (.str e.1) && pI (.str e.1), eI,
    denPEs_phs _ [] hle hnd (by intro i _ hm; cases hm), List.nil_append] at fI
  rw [List.filter_nil, hR, C12.denPEs_plain _ 1 [] hwf] at fR
  refine ⟨fB.trans ?_, fI, fR, hle⟩
  cases hdr with
  | true => rw [if_pos rfl, if_pos rfl, C12.denPEs_cons_ph (k := hdrPh) (blockPh_tok 0).2]; rfl
  | false => rfl

/-- the file names of the directives, in document order -/
def namesOf (items : List IItem) : List Str := (inclsItems items).map (·.2)

/-- **what the reader returns for a document of entries and top-level directives** (the reader's half of `C12WI.HWI`,
    Props/C12wincl.lean): no expressions, no comments; the include table holds the ids drawn, in document order, beside
    the file names of the directives; the data has unique keys and falls into no block-comment entry, the placeholder
    entries of these ids and the meaning of the plain entries -/
structure TopRead (items : List IItem) (ids : List Nat) (X : SD) : Prop where
  exprs : X.exprs = []
  lineC : X.lineC = []
  blockC : X.blockC = []
  tblIds : X.incl.map (·.1) = ids
  tblFiles : X.incl.map (·.2.file) = namesOf items
  idsnd : ids.Nodup
  nodup : NodupKeysV (.dict X.data)
  classes : Classes false ids (denSrcEs (plainIItems items) []) X.data
  plainWF : SrcWFEs 1 (plainIItems items) = true

/-- `denI` before `_clean` -/
def litI (dir : Str) (c : Counter) (items : List IItem) : SD :=
  { data := denPEs (labelI dir c items).2 [], lineC := (labelI dir c items).1.c.lineC,
    blockC := (labelI dir c items).1.c.blockC, incl := (labelI dir c items).1.incl }

theorem denI_lit (dir : Str) (c : Counter) (items : List IItem) : denI dir c items = (litI dir c items).clean := rfl

/-- an optional default header in front -/
def hdrItems (hdr : Bool) : List IItem := if hdr then [.blockC C12.hdrBody] else []

/-- **the reader before `_clean` on a document of entries and top-level directives behind an optional default header**:
    the header is one labelling step in front of `label_top`, which holds from any labelling state -/
theorem litI_top (hdr : Bool) (dir : Str) {c : Counter} {items : List IItem} (wf : ISrcWFItems 1 items = true)
    (top : topDoc items = true) (hc : C13.ValidCounter Gen.counterLimit c)
    (nIncl : (inclsItems items).length ≤ Gen.counterLimit + 1) :
    (litI dir c (hdrItems hdr ++ items)).exprs = [] ∧ (litI dir c (hdrItems hdr ++ items)).lineC = [] ∧
    (litI dir c (hdrItems hdr ++ items)).blockC = (if hdr then [(0, hdrComment)] else []) ∧
    (litI dir c (hdrItems hdr ++ items)).incl = List.zip (alloc Gen.counterLimit (inclsItems items).length c)
      ((inclsItems items).map fun p => inclEntry dir p.1 p.2) ∧
    (litI dir c (hdrItems hdr ++ items)).incl.map (·.1) = alloc Gen.counterLimit (inclsItems items).length c ∧
    (litI dir c (hdrItems hdr ++ items)).incl.map (·.2.file) = namesOf items ∧
    NodupKeysV (.dict (litI dir c (hdrItems hdr ++ items)).data) ∧
    Classes hdr (alloc Gen.counterLimit (inclsItems items).length c) (denSrcEs (plainIItems items) [])
      (litI dir c (hdrItems hdr ++ items)).data ∧
    SrcWFEs 1 (plainIItems items) = true := by
  -- the labelling state behind the header
  obtain ⟨st0, hst⟩ : ∃ st0 : ILabelSt, ({ c := { counter := c, blockC :=
      (if hdr then [(0, '/' :: '*' :: (C12.hdrBody ++ ['*', '/']))] else []) }, icounter := c } : ILabelSt) = st0 := ⟨_, rfl⟩
  obtain ⟨t1, t2, t3, t4, t5⟩ := label_top dir items 1 st0 top wf
  have hcl : countLineItems (hdrItems hdr ++ items) = 0 := by cases hdr <;> exact t5
  have hinc : inclsItems (hdrItems hdr ++ items) = inclsItems items := by cases hdr <;> rfl
  have hlab : labelI dir c (hdrItems hdr ++ items) = ((labelIItems dir st0 items).1,
      (if hdr then [(hdrPh, Src.lit (.bare hdrPh))] else []) ++ (labelIItems dir st0 items).2) := by
    unfold labelI
    rw [hcl, ← hst]
    cases hdr <;> rfl
  have htab := C12_incl_table (items := hdrItems hdr ++ items) dir c hc (by rw [hinc]; exact nIncl)
  rw [hcl, hinc] at htab
  have htab' : (labelI dir c (hdrItems hdr ++ items)).1.incl = List.zip (alloc Gen.counterLimit (inclsItems items).length c)
      ((inclsItems items).map fun p => inclEntry dir p.1 p.2) := htab
  have hlen : (alloc Gen.counterLimit (inclsItems items).length c).length =
      ((inclsItems items).map fun p => inclEntry dir p.1 p.2).length := by rw [alloc_length, List.length_map]
  have hidsle : ∀ i ∈ alloc Gen.counterLimit (inclsItems items).length c, i ≤ 999999 := fun i hi => alloc_le _ _ _ i hi
  have hic : st0.icounter = c := by rw [← hst]
  rw [hic] at t2
  have hH : ∀ e ∈ (if hdr then [(hdrPh, Src.lit (.bare hdrPh))] else []), isPhTok e.1 = true := by
    intro e he
    cases hdr with
    | true => rw [List.mem_singleton.mp he]; exact (blockPh_tok 0).2
    | false => cases he
  have cl := denPEs_classes (L := (labelI dir c (hdrItems hdr ++ items)).2) hdr
    (by rw [hlab, List.filter_append, List.filter_eq_self.mpr hH, t2])
    (by rw [hlab, List.filter_append, List.filter_eq_nil_iff.mpr fun e he => by simp [hH e he], t3, List.nil_append])
    t4 hidsle (C13.alloc_nodup nIncl hc)
  refine ⟨rfl, ?_, ?_, htab', ?_, ?_, denP_nodup _ [] C07.nodupV_nil, cl, t4⟩
  · show (labelI dir c (hdrItems hdr ++ items)).1.c.lineC = []
    rw [hlab]; show (labelIItems dir st0 items).1.c.lineC = []; rw [t1, ← hst]
  · show (labelI dir c (hdrItems hdr ++ items)).1.c.blockC = _
    rw [hlab]; show (labelIItems dir st0 items).1.c.blockC = _; rw [t1, ← hst, hdrComment_shape]
  · show (labelI dir c (hdrItems hdr ++ items)).1.incl.map (·.1) = _
    rw [htab']; exact List.map_fst_zip (Nat.le_of_eq hlen)
  · show (labelI dir c (hdrItems hdr ++ items)).1.incl.map (·.2.file) = _
    rw [htab']
    refine (List.map_map (f := Prod.snd) (g := fun e : InclEntry => e.file)).symm.trans ?_
    rw [List.map_snd_zip (Nat.le_of_eq hlen.symm), List.map_map]; rfl

theorem denI_top (dir : Str) {c : Counter} {items : List IItem} (wf : ISrcWFItems 1 items = true)
    (top : topDoc items = true) (hc : C13.ValidCounter Gen.counterLimit c)
    (nIncl : (inclsItems items).length ≤ Gen.counterLimit + 1)
    (dist : ((inclsItems items).map fun p => dirText p.1 p.2).Nodup) :
    TopRead items (alloc Gen.counterLimit (inclsItems items).length c) (denI dir c items) := by
  obtain ⟨e1, e2, e3, htab, e4, e5, e6, cl, e7⟩ := litI_top false dir wf top hc nIncl
  rw [show hdrItems false ++ items = items from rfl] at e1 e2 e3 htab e4 e5 e6 cl
  have hinj : TblInj (litI dir c items).incl := by
    rw [htab]
    refine tblInj_zip _ _ (nodup_of_nodup_map (fun e : InclEntry => e.directive) ?_)
    rw [List.map_map]
    exact dist
  rw [denI_lit, clean_noC _ e2 e3 hinj e6 (phOK_I dir items 1 _ [] wf (by simp only [PhOKEs]))]
  exact { exprs := e1, lineC := e2, blockC := e3, tblIds := e4, tblFiles := e5, idsnd := C13.alloc_nodup nIncl hc,
          nodup := e6, classes := cl, plainWF := e7 }

end DictIO.C12WI
