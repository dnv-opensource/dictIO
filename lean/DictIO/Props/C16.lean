/-
  C16 -- Append mode never loses what is already in the file; overwrite mode replaces it.
  Model: `writeStep` (Model/Writer.lean): `_retype_values` (`normEs`), the append-merge `SDict.merge`, ordering,
  serialisation (`fmtPlain` for a plain dict, `fmtSD` for the `SDict` read back from the existing file).

    (a) `C16_new_file`      writing to a non-existent file writes exactly the new dict, whatever the mode
    (b) `C16_overwrite`     every mode other than `a` ignores the old content; `invalid_mode_is_w`
    (c) `C16_append_data`   append = read existing, merge the new dict into it, serialise; with the C07 merge theorems:
        `C16_append_keeps` / `_adds` / `_recurses`            about the merged data before `_clean` (no hypothesis on
                                                              placeholders), and
        `C16_append_keeps'` / `_adds'` / `_recurses'`         about `(sd.merge (.plain (normEs d))).data` when neither side
                                                              has a placeholder key (`_clean` is then the identity,
                                                              `C07.clean_id`)
        `C16_append_after_write`                              the existing file is one the library wrote (C01 route 2)
    (d) `C16_fold_statement` (stated here, proved in Props/C16fold.lean), `C16_fold_partial` (sequences without append
        onto an existing file)
-/
import DictIO.Props.C01

namespace DictIO.C16
open DictIO

/-- the dict the writer serialises when nothing is merged: re-typed, ordered if asked -/
def newDict (order : Bool) (d : Entries) : Entries := if order then orderD (normEs d) else normEs d

/-! ## (a), (b) new file, overwrite, unrecognised mode -/

/-- **(a)** writing to a non-existent file writes exactly the new dict, whatever the mode (also `a`) -/
theorem C16_new_file (ev : Str → EvalResult) (fl : Flavor) (target : Comps) (mode : Str) (order : Bool) (d : Entries)
    (c : Counter) :
    writeStep ev fl target none mode order d c =
      .ok (fmtPlain fl (if order then orderD (normEs d) else normEs d), c) := rfl

/-- **(b)** overwrite mode — and every mode that is not `a` — ignores the old content: the file contains exactly the
    new dict; the existing file is not even read (the counter is untouched) -/
theorem C16_overwrite (ev : Str → EvalResult) (fl : Flavor) (target : Comps) (old : Str) (mode : Str) (order : Bool)
    (d : Entries) (c : Counter) (h : mode ≠ ['a']) :
    writeStep ev fl target (some old) mode order d c =
      .ok (fmtPlain fl (if order then orderD (normEs d) else normEs d), c) := by
  have : (mode == ['a']) = false := by simpa using h
  simp only [writeStep, this]
  rfl

/-- overwriting an existing file and writing a new file give the same text -/
theorem C16_overwrite_eq_new (ev : Str → EvalResult) (fl : Flavor) (target : Comps) (old : Str) (mode : Str)
    (order : Bool) (d : Entries) (c : Counter) (h : mode ≠ ['a']) :
    writeStep ev fl target (some old) mode order d c = writeStep ev fl target none mode order d c := by
  rw [C16_overwrite ev fl target old mode order d c h, C16_new_file]

/-- an unrecognised mode behaves as overwrite: for every state of the target, any mode other than `a` gives the
    result of mode `w` -/
theorem invalid_mode_is_w (ev : Str → EvalResult) (fl : Flavor) (target : Comps) (existing : Option Str) (mode : Str)
    (order : Bool) (d : Entries) (c : Counter) (h : mode ≠ ['a']) :
    writeStep ev fl target existing mode order d c = writeStep ev fl target existing ['w'] order d c := by
  cases existing with
  | none => rfl
  | some old => rw [C16_overwrite ev fl target old mode order d c h, C16_overwrite ev fl target old ['w'] order d c (by decide)]

/-- e.g. mode `x` -/
theorem invalid_mode_x (ev : Str → EvalResult) (fl : Flavor) (target : Comps) (existing : Option Str) (order : Bool)
    (d : Entries) (c : Counter) :
    writeStep ev fl target existing ['x'] order d c = writeStep ev fl target existing ['w'] order d c :=
  invalid_mode_is_w ev fl target existing ['x'] order d c (by decide)

/-! ## (c) append -/

/-- **(c)** append onto an existing file: the file is read (with the writer's `order` option), the re-typed new dict
    is merged into what was read, the result is ordered if asked and serialised as an `SDict` (`fmtSD`: header,
    comments and includes re-inserted).  `none` from `fmtSD` = an include name the `re.sub` template chokes on. -/
theorem C16_append_data (ev : Str → EvalResult) (fl : Flavor) (target : Comps) (old : Str) (order : Bool) (d : Entries)
    (c c' : Counter) (sd : SD)
    (hr : readFile ev [(target, .native old)] { order := order } c target = .ok (.ok sd c')) :
    writeStep ev fl target (some old) ['a'] order d c =
      match fmtSD fl (if order then (sd.merge (.plain (normEs d))).order else sd.merge (.plain (normEs d))) with
      | some t => .ok (t, c')
      | none => .error .unsupported := by
  simp only [writeStep, hr]
  rfl

/-- … and when the serialisation succeeds the text is exactly that `fmtSD` -/
theorem C16_append_text (ev : Str → EvalResult) (fl : Flavor) (target : Comps) (old : Str) (order : Bool) (d : Entries)
    (c c' : Counter) (sd : SD) (t : Str)
    (hr : readFile ev [(target, .native old)] { order := order } c target = .ok (.ok sd c'))
    (hf : fmtSD fl (if order then (sd.merge (.plain (normEs d))).order else sd.merge (.plain (normEs d))) = some t) :
    writeStep ev fl target (some old) ['a'] order d c = .ok (t, c') := by
  rw [C16_append_data ev fl target old order d c c' sd hr, hf]

/-- if the existing file cannot be read, the append fails and nothing is written -/
theorem C16_append_read_error (ev : Str → EvalResult) (fl : Flavor) (target : Comps) (old : Str) (order : Bool)
    (d : Entries) (c : Counter) (e : ParseErr)
    (hr : readFile ev [(target, .native old)] { order := order } c target = .error e) :
    writeStep ev fl target (some old) ['a'] order d c = .error e := by
  simp only [writeStep, hr]
  rfl

/-! #### what the merge does to the data, before `_clean`

  `SD.merge` is `_recursive_merge` on the data (`mergeD true sd.exprs`) followed by `_clean`.  The three statements
  below are about the merged data `mergeD true sd.exprs sd.data (normEs d)` and need no hypothesis on placeholder
  keys. `_clean` afterwards only deletes placeholder entries whose comment / include text is a duplicate
  (`cleanLevel`); under `NoPhEs` it is the identity, which gives the primed versions. -/

/-- **keeps**: every key path of the existing data that leads to a non-dict value keeps that value.  The only
    exception `_recursive_merge` makes is a top-level entry whose value refers to its own key (`$key`, or a comment
    placeholder): carried as hypothesis for paths of length one. -/
theorem C16_append_keeps (sd : SD) (d : Entries) (p : List Key) (v : Val) (hv : v.isDict = false)
    (hget : C07.getD sd.data p = some v) (hs : ∀ k, p = [k] → selfRef sd.exprs k v = false) :
    C07.getD (mergeD true sd.exprs sd.data (normEs d)) p = some v :=
  C07.merge_keeps_deep sd.exprs v hv p true sd.data (normEs d) hget fun k hk hc => by
    rw [hs k hk] at hc; exact absurd hc.2 (by decide)

/-- **adds**: every top-level key of the new dict that the file does not have is added with the new (re-typed) value -/
theorem C16_append_adds (sd : SD) (d : Entries) (hd : (keys d).Nodup) (k : Key) (h : lookup k sd.data = none) :
    lookup k (mergeD true sd.exprs sd.data (normEs d)) = lookup k (normEs d) :=
  C07.merge_adds true sd.exprs sd.data (normEs d) (by rw [C01.keys_normEs]; exact hd) k h

/-- **recurses**: key by key — a dict on both sides is merged recursively (existing wins inside, too), an existing
    value stays (unless it is a self-reference placeholder), a new key gets the new value -/
theorem C16_append_recurses (sd : SD) (d : Entries) (hd : (keys d).Nodup) (k : Key) :
    lookup k (mergeD true sd.exprs sd.data (normEs d)) =
      match lookup k sd.data, lookup k (normEs d) with
      | some (.dict ad), some (.dict bd) => some (.dict (mergeD false sd.exprs ad bd))
      | some av, some bv => if true && selfRef sd.exprs k av then some bv else some av
      | some av, none => some av
      | none, bv => bv :=
  C07.merge_lookup true sd.exprs sd.data (normEs d) (by rw [C01.keys_normEs]; exact hd) k

/-- the order of the keys: the keys of the file stay where they are, the new keys follow in the order of the new dict -/
theorem C16_append_key_order (sd : SD) (d : Entries) (hd : (keys d).Nodup) :
    keys (mergeD true sd.exprs sd.data (normEs d)) = keys sd.data ++ (keys d).filter (fun k => !hasKey k sd.data) := by
  rw [C07.merge_keys true sd.exprs (normEs d) sd.data (by rw [C01.keys_normEs]; exact hd), C01.keys_normEs]

/-! #### the same about `(sd.merge (.plain (normEs d))).data`, when there is no placeholder key -/

/-- without placeholder keys on either side (and unique keys at every level, which every Python value has) `_clean`
    does nothing: the merged `SDict` is the old one with the merged data, tables untouched -/
theorem append_merge_eq (sd : SD) (d : Entries)
    (hn : NodupKeysV (.dict sd.data)) (hp : C07.NoPhEs sd.data)
    (hdn : NodupKeysEs (normEs d)) (hdp : C07.NoPhEs (normEs d)) :
    sd.merge (.plain (normEs d)) = { sd with data := mergeD true sd.exprs sd.data (normEs d) } :=
  C07.merge_tables_plain sd (normEs d) (C07.nodupV_mergeD sd.exprs true sd.data (normEs d) hn hdn)
    (C07.noPhEs_mergeD sd.exprs true sd.data (normEs d) hp hdp)

theorem append_merge_data (sd : SD) (d : Entries)
    (hn : NodupKeysV (.dict sd.data)) (hp : C07.NoPhEs sd.data)
    (hdn : NodupKeysEs (normEs d)) (hdp : C07.NoPhEs (normEs d)) :
    (sd.merge (.plain (normEs d))).data = mergeD true sd.exprs sd.data (normEs d) := by
  rw [append_merge_eq sd d hn hp hdn hdp]

theorem C16_append_keeps' (sd : SD) (d : Entries)
    (hn : NodupKeysV (.dict sd.data)) (hp : C07.NoPhEs sd.data)
    (hdn : NodupKeysEs (normEs d)) (hdp : C07.NoPhEs (normEs d))
    (p : List Key) (v : Val) (hv : v.isDict = false)
    (hget : C07.getD sd.data p = some v) (hs : ∀ k, p = [k] → selfRef sd.exprs k v = false) :
    C07.getD (sd.merge (.plain (normEs d))).data p = some v := by
  rw [append_merge_data sd d hn hp hdn hdp]; exact C16_append_keeps sd d p v hv hget hs

theorem C16_append_adds' (sd : SD) (d : Entries)
    (hn : NodupKeysV (.dict sd.data)) (hp : C07.NoPhEs sd.data)
    (hdn : NodupKeysEs (normEs d)) (hdp : C07.NoPhEs (normEs d))
    (hd : (keys d).Nodup) (k : Key) (h : lookup k sd.data = none) :
    lookup k (sd.merge (.plain (normEs d))).data = lookup k (normEs d) := by
  rw [append_merge_data sd d hn hp hdn hdp]; exact C16_append_adds sd d hd k h

theorem C16_append_recurses' (sd : SD) (d : Entries)
    (hn : NodupKeysV (.dict sd.data)) (hp : C07.NoPhEs sd.data)
    (hdn : NodupKeysEs (normEs d)) (hdp : C07.NoPhEs (normEs d))
    (hd : (keys d).Nodup) (k : Key) :
    lookup k (sd.merge (.plain (normEs d))).data =
      match lookup k sd.data, lookup k (normEs d) with
      | some (.dict ad), some (.dict bd) => some (.dict (mergeD false sd.exprs ad bd))
      | some av, some bv => if true && selfRef sd.exprs k av then some bv else some av
      | some av, none => some av
      | none, bv => bv := by
  rw [append_merge_data sd d hn hp hdn hdp]; exact C16_append_recurses sd d hd k

/-! #### append onto a file the library wrote (C01 route 2) -/

/-- the existing file holds the writer's text of a normalised dict `e` of the value domain; appending `d` (its normal
    form in the value domain) writes `fmtSD` of the `SDict` whose data is `e` merged with `normEs d`, all tables empty.
    Path and counter hypotheses as in `C01.C01_roundtrip_file`. -/
theorem C16_append_after_write {e d : Entries} {c : Counter} (ev : Str → EvalResult) (fl : Flavor) (target : Comps)
    (hdom : DomC01 .native e = true) (hnorm : normEs e = e) (hdoc : C01.DocKeysAbsent' e)
    (hcnt : C02.countQuotedEs (srcOfEs .native e) ≤ Gen.counterLimit + 1) (hc : C13.ValidCounter Gen.counterLimit c)
    (hj : isJsonPath target = false) (hx : isXmlPath target = false) (hr : resolveSpelled target = target)
    (hd : DomC01 .native (normEs d) = true) :
    ∃ c', writeStep ev fl target (some (fmtPlain .native e)) ['a'] false d c =
      match fmtSD fl { data := mergeD true [] e (normEs d) } with
      | some t => .ok (t, c')
      | none => .error .unsupported := by
  obtain ⟨c', hread⟩ := C01.read_written (c := c) ev target hdom hnorm hdoc hcnt hc hj hx hr
  refine ⟨c', ?_⟩
  have he := C01.norm_invariants hdom
  rw [hnorm] at he
  have hdi := C01.norm_invariants hd
  rw [C01.normEs_idem] at hdi
  rw [C16_append_data ev fl target _ false d c c' { data := e } hread]
  simp only [Bool.false_eq_true, if_false]
  rw [append_merge_eq { data := e } d he.2 he.1 hdi.2.2 hdi.1]

/-! ## (d) sequences of writes -/

/-- a sequence of writes `(mode, dict)` to one target, starting from content `cur` (`none` = no file) -/
def runWrites (ev : Str → EvalResult) (fl : Flavor) (target : Comps) (order : Bool) :
    Option Str → Counter → List (Str × Entries) → Except ParseErr (Option Str × Counter)
  | cur, c, [] => .ok (cur, c)
  | cur, c, (m, d) :: ws =>
    match writeStep ev fl target cur m order d c with
    | .error e => .error e
    | .ok (t, c') => runWrites ev fl target order (some t) c' ws

/-- the specification: the dict the file should hold after the sequence — append onto an existing file merges
    (existing wins, nested dicts recursively), everything else replaces -/
def specFold : Option Entries → List (Str × Entries) → Option Entries
  | cur, [] => cur
  | none, (_, d) :: ws => specFold (some (normEs d)) ws
  | some old, (m, d) :: ws =>
    specFold (some (if m == ['a'] then mergeD false [] old (normEs d) else normEs d)) ws

/-- the dicts the file should hold after every prefix of the sequence -/
def specStates : Option Entries → List (Str × Entries) → List Entries
  | _, [] => []
  | none, (_, d) :: ws => normEs d :: specStates (some (normEs d)) ws
  | some old, (m, d) :: ws =>
    let new := if m == ['a'] then mergeD false [] old (normEs d) else normEs d
    new :: specStates (some new) ws

/-- **C16, full statement** (proved as `C16_fold_full` in Props/C16fold.lean).  After any non-empty sequence of writes
    with arbitrary modes to a fresh target, all written dicts and all intermediate results in the value domain, the
    sequence succeeds and reading the file back returns the fold of the specification, up to the placeholder entry of
    the header the append route writes (`fmtSD` puts the default block comment in front).

    An append re-reads a file that `fmtSD` wrote, i.e. a text with a header block comment; reading that goes through
    the comment stage of `parseNative` (Props/C12hdr.lean, as for C01 route 3).  The correspondence check (harness
    C16) runs random write sequences against this fold. -/
def C16_fold_statement : Prop :=
  ∀ (ev : Str → EvalResult) (target : Comps) (ws : List (Str × Entries)) (c : Counter),
    ws ≠ [] →
    (∀ e ∈ specStates none ws, DomC01 .native e = true ∧ C01.DocKeysAbsent' e ∧
      C02.countQuotedEs (srcOfEs .native e) ≤ Gen.counterLimit + 1) →
    (∀ w ∈ ws, DomC01 .native (normEs w.2) = true) →
    C13.ValidCounter Gen.counterLimit c →
    isJsonPath target = false → isXmlPath target = false → resolveSpelled target = target →
    ∃ t c₁ sd c₂ D, runWrites ev .native target false none c ws = .ok (some t, c₁) ∧
      readFile ev [(target, .native t)] {} c₁ target = .ok (.ok sd c₂) ∧
      specFold none ws = some D ∧ C01.dropPhEntries sd.data = D

/-- the last dict written, re-typed (`e` if nothing is written) -/
def lastD (e : Entries) (ws : List (Str × Entries)) : Entries := ws.foldl (fun _ w => normEs w.2) e

theorem lastD_norm : ∀ (ws : List (Str × Entries)) (e : Entries), normEs e = e → normEs (lastD e ws) = lastD e ws
  | [], _, h => h
  | w :: ws, _, _ => lastD_norm ws (normEs w.2) (C01.normEs_idem w.2)

theorem run_overwrites (ev : Str → EvalResult) (fl : Flavor) (target : Comps) (c : Counter) :
    ∀ (ws : List (Str × Entries)) (t : Str) (e : Entries), (∀ w ∈ ws, w.1 ≠ ['a']) →
      (∃ t', runWrites ev fl target false (some t) c ws = .ok (some t', c) ∧
        (t = fmtPlain fl e → t' = fmtPlain fl (lastD e ws))) ∧
      specFold (some e) ws = some (lastD e ws)
  | [], t, e, _ => ⟨⟨t, rfl, fun h => h⟩, rfl⟩
  | (m, d) :: ws, t, e, h => by
    have hm : m ≠ ['a'] := h (m, d) List.mem_cons_self
    have hm' : (m == ['a']) = false := by simpa using hm
    obtain ⟨⟨t', hrun, ht'⟩, hspec⟩ := run_overwrites ev fl target c ws (fmtPlain fl (normEs d)) (normEs d)
      fun w hw => h w (List.mem_cons_of_mem _ hw)
    refine ⟨⟨t', ?_, fun _ => ?_⟩, ?_⟩
    · simp only [runWrites, C16_overwrite ev fl target t m false d c hm]
      exact hrun
    · simpa [lastD] using ht' rfl
    · simp only [specFold, hm']
      simpa [lastD] using hspec

/-- **C16 for sequences without append onto an existing file** (the first write may have any mode — the target does
    not exist yet —, all later writes have a mode other than `a`): the sequence succeeds, the file holds the plain
    text of the last dict written, which is what the specification fold says, and reading it back returns exactly
    that dict.  Uses C01 route 2; hypotheses on the last dict, the path and the counter as there. -/
theorem C16_fold_partial (ev : Str → EvalResult) (target : Comps) (m : Str) (d : Entries) (ws : List (Str × Entries))
    (c : Counter) (hws : ∀ w ∈ ws, w.1 ≠ ['a']) :
    let D := lastD (normEs d) ws
    DomC01 .native D = true → C01.DocKeysAbsent' D →
    C02.countQuotedEs (srcOfEs .native D) ≤ Gen.counterLimit + 1 → C13.ValidCounter Gen.counterLimit c →
    isJsonPath target = false → isXmlPath target = false → resolveSpelled target = target →
    specFold none ((m, d) :: ws) = some D ∧
    runWrites ev .native target false none c ((m, d) :: ws) = .ok (some (fmtPlain .native D), c) ∧
    ∃ c', readFile ev [(target, .native (fmtPlain .native D))] {} c target = .ok (.ok { data := D } c') := by
  intro D hdom hdoc hcnt hc hj hx hr
  obtain ⟨⟨t', hrun, ht'⟩, hspec⟩ := run_overwrites ev .native target c ws (fmtPlain .native (normEs d)) (normEs d) hws
  have hnormD : normEs D = D := lastD_norm ws (normEs d) (C01.normEs_idem d)
  refine ⟨hspec, ?_, C01.read_written ev target hdom hnormD hdoc hcnt hc hj hx hr⟩
  show runWrites ev .native target false none c ((m, d) :: ws) = _
  simp only [runWrites, C16_new_file]
  rw [← ht' rfl]; exact hrun

/-! ## non-vacuity -/

/-- append `{b: 2, a: 9}` onto a file that holds `{a: 1}`: `a` keeps `1`, `b` is added -/
theorem ex_append :
    mergeD true [] [(.str ['a'], .leaf (.int 1))] (normEs [(.str ['b'], .leaf (.str ['2'])), (.str ['a'], .leaf (.int 9))]) =
      [(.str ['a'], .leaf (.int 1)), (.str ['b'], .leaf (.int 2))] := by decide +kernel

end DictIO.C16
