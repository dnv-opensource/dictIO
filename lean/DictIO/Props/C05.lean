/-
  C05 -- References and expressions: `DictReader._resolve_reference`, `DictReader._eval_expressions` (dict_reader.py).
  Model: `resolveRef`, `substRefFuel`, `evalPass`, `resolveAll`, `evalExpressions`, the integer instance `evalInt` of
  Python's `eval` (`etokenize`, `pExpr` …) (Model/Reader.lean).

  What is proved (all without extra hypotheses unless stated):

  (b) prefix independence, fix D11  (`re.sub(re.escape(ref) + r"(?!\w)", …)`):
      `C05_prefix_independent`    a match of `ref` that is followed by a word character is *not* rewritten: its first
                                  character is copied and the scan goes on behind it;
      `C05_longer_ref_untouched`  … and, when the first character of `ref` (the `$`) does not occur again in the longer
                                  reference, the whole longer reference is copied verbatim (hypothesis `c ∉ pre`: true for
                                  every reference, whose only `$` is its first character; fuel ≥ the copied length);
      `C05_subst_hit`             a match followed by a non-word character or by the end is replaced;
      `C05_D11_regression`, `C05_prefix_kept`   `$a ↦ 1`, `$ab ↦ 20` on `"$a + $ab"` is `"1 + 20"` in either order;
                                  `$a` in `"$ab"` is never replaced (any replacement text).
  (c) literal insertion, fix D10: `C05_subst_hit` inserts `repl` as it is, for every `repl`;
      `C05_literal_insertion` checks `\1`, `\g<0>`, `$`, `$a` (not rescanned) as replacement texts.
  (e) unresolvable references terminate and stay text:
      `C05_dangling`, `C05_visited`   `resolveRef` answers `None` for a name that is no variable / that is being resolved;
      `C05_cycle_terminates`          `a $b; b $a;` : `None`;  `C05_cycle_end_to_end` the file reads back as it was written;
      `C05_dangling_stays_text`       `t $zz;` ends as the string `"$zz"`;
      `evalExpressions_exprs_nil`     on success the table of pending expressions is empty.
      (`evalExpressions` is a total function: a structurally recursive, fuel-bounded loop -- termination is by construction.)
  (a) the integer evaluator is correct:
      `C05_evalInt_correct`       for every expression tree `e` over `+ - *`, unary `+ -` and decimal literals,
                                  `evalInt (render e) = den e`, `render` fully parenthesised;
      `C05_evalInt_correct_top`   the same with the outermost parentheses left out (`renderTop`);
      `C05_evalInt_number`        `evalInt (str n) = n`;
      `C05_evalInt_examples`      precedence, left associativity, unary chains, and what is outside the language
                                  (`**`, `007`, `1.5`, `1e3`, `1_0`, `0x10`, `/`, names, the empty text): `unsupported`.
      Intermediate: `tok_render` (tokenizer), `parses` (parser, explicit fuel bound `cost_le`), both for the text with
      and without its outermost parentheses at once.
  (d) plain reference = value, fix D34:
      `C05_plain_ref_takes_value` in `evalPass`, an entry whose text is exactly one resolved reference puts the resolved
                                  value -- of any type -- in place of its placeholder and leaves the table;
      `C05_plain_ref_example`, `C05_plain_ref_list`, `C05_plain_ref_end_to_end`   `s 'e'; t $s;` gives `t = 'e'`
                                  (the last one through `readFile`, i.e. the whole native parser, by kernel evaluation).
  (f) `C05_complete_acyclic_statement` : Prop  -- stated here, settled in C05acyclic.lean.
      `exSD_topo`, `exSD_eval` show that specification and model agree on an example with a chain of three dependent
      expressions (`exSD_acyclicFlat'` in C05acyclic.lean: the example satisfies the hypotheses).
-/
import DictIO.Model.Reader
import DictIO.Props.C04
import DictIO.Lemmas.Literal
import DictIO.Lemmas.Except

namespace DictIO.C05
open DictIO

/-! ## (b), (c) `substRefFuel`: prefix independence and literal insertion -/

/-- the look-ahead `(?!\w)`: the text is at its end, or its first character is no word character -/
def boundaryOk : Str → Bool
  | [] => true
  | x :: _ => !isWordChar x

theorem substRefFuel_cons (ref repl : Str) (fuel : Nat) (c : Char) (r : Str) :
    substRefFuel ref repl (fuel + 1) (c :: r) =
      if ref.isPrefixOf (c :: r) && !ref.isEmpty && boundaryOk ((c :: r).drop ref.length) then
        repl ++ substRefFuel ref repl fuel ((c :: r).drop ref.length)
      else c :: substRefFuel ref repl fuel r := by
  simp only [substRefFuel, boundaryOk]
  rfl

/-- (b) a reference followed by a word character is the beginning of a *longer* reference: nothing is replaced at
    this position, the first character is copied and the scan continues behind it -/
theorem C05_prefix_independent (c : Char) (ref' repl : Str) (fuel : Nat) (x : Char) (rest : Str)
    (hx : isWordChar x = true) :
    substRefFuel (c :: ref') repl (fuel + 1) ((c :: ref') ++ x :: rest)
      = c :: substRefFuel (c :: ref') repl fuel (ref' ++ x :: rest) := by
  have hd : ((c :: ref') ++ x :: rest).drop (c :: ref').length = x :: rest := List.drop_left
  rw [List.cons_append] at hd ⊢
  rw [substRefFuel_cons, hd]
  simp [boundaryOk, hx]

theorem substRefFuel_skip (c : Char) (ref' repl : Str) : ∀ (pre rest : Str) (fuel : Nat), c ∉ pre → pre.length ≤ fuel →
    substRefFuel (c :: ref') repl fuel (pre ++ rest) = pre ++ substRefFuel (c :: ref') repl (fuel - pre.length) rest
  | [], rest, fuel, _, _ => by simp
  | y :: pre, rest, fuel, hc, hf => by
    obtain ⟨f', rfl⟩ : ∃ f', fuel = f' + 1 := ⟨fuel - 1, by simp at hf; omega⟩
    have hy : ¬ c = y := fun e => hc (by simp [e])
    have hpre : c ∉ pre := fun hm => hc (List.mem_cons_of_mem _ hm)
    simp only [List.length_cons] at hf
    rw [List.cons_append, substRefFuel_cons]
    simp [List.isPrefixOf, hy, substRefFuel_skip c ref' repl pre rest f' hpre (by omega)]

/-- (b) the longer reference `c :: ref' ++ x :: more` (with `x` a word character) is copied as a whole when the scan
    for the shorter reference `c :: ref'` passes over it.  Hypothesis `c ∉ ref' ++ x :: more`: the first character of
    the reference (the `$`) occurs only there -- true of every match of `\$\w[\w\[\]]*`. -/
theorem C05_longer_ref_untouched (c : Char) (ref' repl : Str) (fuel : Nat) (x : Char) (more rest : Str)
    (hx : isWordChar x = true) (hc : c ∉ ref' ++ x :: more) (hf : (ref' ++ x :: more).length ≤ fuel) :
    substRefFuel (c :: ref') repl (fuel + 1) ((c :: ref') ++ x :: more ++ rest)
      = (c :: ref') ++ x :: more ++ substRefFuel (c :: ref') repl (fuel - (ref' ++ x :: more).length) rest := by
  have h1 := C05_prefix_independent c ref' repl fuel x (more ++ rest) hx
  have h2 := substRefFuel_skip c ref' repl (ref' ++ x :: more) rest fuel hc hf
  simp only [List.cons_append, List.append_assoc] at h1 h2 ⊢
  rw [h1, h2]

/-- (b), (c) a reference followed by a non-word character, or by the end of the text, is replaced -- and the
    replacement text is inserted exactly as it is, whatever characters it contains (fix D10) -/
theorem C05_subst_hit (ref repl : Str) (fuel : Nat) (rest : Str) (hne : ref ≠ [])
    (hb : boundaryOk rest = true) :
    substRefFuel ref repl (fuel + 1) (ref ++ rest) = repl ++ substRefFuel ref repl fuel rest := by
  cases ref with
  | nil => exact absurd rfl hne
  | cons c ref' =>
    have hd : ((c :: ref') ++ rest).drop (c :: ref').length = rest := List.drop_left
    have hp : (c :: ref').isPrefixOf ((c :: ref') ++ rest) = true :=
      List.isPrefixOf_iff_prefix.mpr (List.prefix_append _ _)
    rw [List.cons_append] at hd hp ⊢
    rw [substRefFuel_cons, hd, hp, hb]
    simp

theorem C05_subst_hit_end (ref repl : Str) (fuel : Nat) (hne : ref ≠ []) :
    substRefFuel ref repl (fuel + 1) ref = repl := by
  have := C05_subst_hit ref repl fuel [] hne rfl
  rw [List.append_nil] at this
  rw [this]
  cases fuel <;> simp [substRefFuel]

theorem C05_subst_hit_nonword (ref repl : Str) (fuel : Nat) (x : Char) (rest : Str) (hne : ref ≠ [])
    (hx : isWordChar x = false) :
    substRefFuel ref repl (fuel + 1) (ref ++ x :: rest) = repl ++ substRefFuel ref repl fuel (x :: rest) :=
  C05_subst_hit ref repl fuel (x :: rest) hne (by simp [boundaryOk, hx])

/-- the text of the scan, with the fuel `evalPass` gives it -/
def substRef (ref repl s : String) : Str := substRefFuel ref.toList repl.toList (s.length + 1) s.toList

theorem substRef_ofList (ref repl s : Str) :
    substRef (String.ofList ref) (String.ofList repl) (String.ofList s) = substRefFuel ref repl (s.length + 1) s := by
  unfold substRef; simp only [String.toList_ofList, String.length_ofList]

/-- (b) the D11 regression: `$a ↦ 1`, `$ab ↦ 20` in `"$a + $ab"`, in either order -/
theorem C05_D11_regression :
    substRefFuel "$ab".toList "20".toList 9 (substRefFuel "$a".toList "1".toList 9 "$a + $ab".toList) = "1 + 20".toList ∧
    substRefFuel "$a".toList "1".toList 9 (substRefFuel "$ab".toList "20".toList 9 "$a + $ab".toList) = "1 + 20".toList := by
  literal_chars
  decide +kernel

theorem isWordChar_b : isWordChar 'b' = true := by decide

/-- (b) `$a` never matches inside `$ab`, whatever would be inserted -/
theorem C05_prefix_kept (repl : Str) : substRefFuel "$a".toList repl 4 "$ab".toList = "$ab".toList := by
  simp [substRefFuel, isWordChar_b]

/-- (c) replacement texts that `re.sub` would have interpreted as templates are inserted literally; an inserted `$a`
    is not scanned again -/
theorem C05_literal_insertion :
    substRef "$a" "\\1" "$a + 1" = "\\1 + 1".toList ∧
    substRef "$a" "\\g<0>" "$a+$a" = "\\g<0>+\\g<0>".toList ∧
    substRef "$a" "$" "2*$a" = "2*$".toList ∧
    substRef "$a" "$a " "$a $a" = "$a  $a ".toList ∧
    substRef "$a[0]" "\\\\" "$a[0]" = "\\\\".toList := by
  rw [substRef_ofList, substRef_ofList, substRef_ofList, substRef_ofList, substRef_ofList]
  literal_chars
  decide +kernel

/-! ## (e) unresolvable references -/

def headFails (p : Char → Bool) : Str → Bool
  | [] => true
  | x :: _ => !p x

theorem takeWhile_stop (p : Char → Bool) : ∀ (a b : Str), (∀ x ∈ a, p x = true) →
    headFails p b = true → (a ++ b).takeWhile p = a ∧ (a ++ b).dropWhile p = b
  | [], [], _, _ => ⟨rfl, rfl⟩
  | [], x :: b, _, h => by
    have : p x = false := by simpa [headFails] using h
    simp [this]
  | y :: a, b, ha, h => by
    have hy : p y = true := ha y List.mem_cons_self
    obtain ⟨h1, h2⟩ := takeWhile_stop p a b (fun x hx => ha x (List.mem_cons_of_mem _ hx)) h
    simp [hy, h1, h2]

theorem takeWhile_ne_of_not_mem (c : Char) (s : Str) (h : c ∉ s) : s.takeWhile (· != c) = s := by
  have := (takeWhile_stop (· != c) s [] (fun x hx => by simpa using fun (e : x = c) => h (e ▸ hx)) rfl).1
  rwa [List.append_nil] at this

theorem dropWhile_ne_of_not_mem (c : Char) (s : Str) (h : c ∉ s) : s.dropWhile (· != c) = [] := by
  have := (takeWhile_stop (· != c) s [] (fun x hx => by simpa using fun (e : x = c) => h (e ▸ hx)) rfl).2
  rwa [List.append_nil] at this

/-- (`Resolved` has no decidable equality) -/
def Resolved.isNone : Resolved → Bool
  | .none => true
  | _ => false

theorem Resolved.eq_none_of_isNone {r : Resolved} (h : Resolved.isNone r = true) : r = .none := by
  cases r <;> simp [Resolved.isNone] at h ⊢

/-- (e) a dangling reference (the name is no variable) resolves to `None` at once -/
theorem C05_dangling (vars : List (Str × Val)) (fuel : Nat) (visited : List Str) (name : Str)
    (hb : '[' ∉ name) (hv : getVar name vars = none) :
    resolveRef vars (fuel + 1) visited ('$' :: name) = .none := by
  unfold resolveRef
  simp only [takeWhile_ne_of_not_mem _ _ hb, dropWhile_ne_of_not_mem _ _ hb, hv]
  simp

/-- (e) the cycle guard: a name that is already being resolved resolves to `None` at once -/
theorem C05_visited (vars : List (Str × Val)) (fuel : Nat) (visited : List Str) (name : Str)
    (hb : '[' ∉ name) (hv : visited.contains name = true) :
    resolveRef vars (fuel + 1) visited ('$' :: name) = .none := by
  unfold resolveRef
  simp only [takeWhile_ne_of_not_mem _ _ hb, dropWhile_ne_of_not_mem _ _ hb, hv]
  simp

/-- out of fuel is `None`, too: `resolveRef` is total -/
theorem C05_resolve_no_fuel (vars : List (Str × Val)) (visited : List Str) (r : Str) :
    resolveRef vars 0 visited r = .none := by
  unfold resolveRef; rfl

/-- `a $b; b $a;` -/
def cycVars : List (Str × Val) := [("a".toList, .leaf (.str "$b".toList)), ("b".toList, .leaf (.str "$a".toList))]

/-- (e) a reference cycle terminates with `None` (fuel = number of variables + 1, as `resolveAll` gives it) -/
theorem C05_cycle_terminates : resolveRef cycVars 3 [] "$a".toList = .none :=
  Resolved.eq_none_of_isNone (by decide +kernel)

theorem foldlM_cons_ok {ε α β : Type} {f : β → α → Except ε β} {a : α} {l : List α} {b b' : β}
    (h : (a :: l).foldlM f b = .ok b') : ∃ b1, f b a = .ok b1 ∧ l.foldlM f b1 = .ok b' := by
  rw [List.foldlM_cons] at h
  exact Except.bind_eq_ok h

theorem evalExpressions_ok {ev : Str → EvalResult} {s s' : SD} (h : evalExpressions ev s = .ok s') :
    ∃ R nr st d, resolveAll s.exprs s.data = .ok (R, nr) ∧
      evalExpressions.loop ev (s.exprs.length + 2) ⟨s.data, s.exprs⟩ R nr = .ok st ∧
      st.exprs.foldlM (fun d e => substLeafEs e.2.name (.str e.2.expression) 1 d) st.data = .ok d ∧
      s' = { s with data := d, exprs := [] } := by
  rw [evalExpressions.eq_1] at h
  obtain ⟨⟨R, nr⟩, hres, h⟩ := Except.bind_eq_ok h
  obtain ⟨st, hloop, h⟩ := Except.bind_eq_ok h
  obtain ⟨d, hfin, h⟩ := Except.bind_eq_ok h
  exact ⟨R, nr, st, d, hres, hloop, hfin, (Except.ok.inj h).symm⟩

theorem loop_succ_ok {ev : Str → EvalResult} {f : Nat} {st st' : ExprSt} {R : List (Str × Val)} {nr : Nat}
    (h : evalExpressions.loop ev (f + 1) st R nr = .ok st') :
    ∃ st1 R1 nr1, evalPass ev R st = .ok st1 ∧ resolveAll st1.exprs st1.data = .ok (R1, nr1) ∧
      (if nr1 < nr then evalExpressions.loop ev f st1 R1 nr1 else .ok st1) = .ok st' := by
  rw [evalExpressions.loop.eq_2] at h
  obtain ⟨st1, hp, h⟩ := Except.bind_eq_ok h
  obtain ⟨⟨R1, nr1⟩, hres1, h⟩ := Except.bind_eq_ok h
  exact ⟨st1, R1, nr1, hp, hres1, h⟩

/-- (e) `evalExpressions` is a total function (the loop is bounded by the number of pending expressions + 2; every
    pass is a fold over the table): termination needs no proof.  What it leaves behind on success is an empty table. -/
theorem evalExpressions_exprs_nil (ev : Str → EvalResult) (s s' : SD) (h : evalExpressions ev s = .ok s') :
    s'.exprs = [] := by
  obtain ⟨_, _, _, _, _, _, _, rfl⟩ := evalExpressions_ok h
  rfl

def dataOf : Except ParseErr SD → Option Entries
  | .ok s => some s.data
  | .error _ => none

def readData : Except ParseErr ReadOut → Option Entries
  | .ok (.ok s _) => some s.data
  | _ => none

/-- the one-file file system `/d/f` -/
def oneFile (text : String) : FS := [(["d".toList, "f".toList], .native text.toList)]

def readOne (text : String) : Option Entries := readData (readFile evalInt (oneFile text) {} none ["d".toList, "f".toList])

theorem readOne_ofList (text : Str) : readOne (String.ofList text) =
    readData (readFile evalInt [(["d".toList, "f".toList], .native text)] {} none ["d".toList, "f".toList]) := by
  unfold readOne oneFile; simp only [String.toList_ofList]

/-- `t $zz;` as the native parser hands it over -/
def danglingSD : SD :=
  { data := [(.str "t".toList, .leaf (.str "EXPRESSION000000".toList))],
    exprs := [(0, ⟨"$zz".toList, "EXPRESSION000000".toList⟩)] }

/-- (e) a dangling reference stays in the data as its text -/
theorem C05_dangling_stays_text :
    dataOf (evalExpressions evalInt danglingSD) = some [(.str "t".toList, .leaf (.str "$zz".toList))] := by
  unfold danglingSD
  literal_chars
  decide +kernel

/-- (e) the same through the whole reader, and a reference cycle read from a file: both come back as text -/
theorem C05_dangling_end_to_end : readOne "t $zz;" = some [(.str "t".toList, .leaf (.str "$zz".toList))] := by
  rw [readOne_ofList]
  literal_chars
  decide +kernel

theorem C05_cycle_end_to_end :
    readOne "a $b; b $a;" = some [(.str "a".toList, .leaf (.str "$b".toList)), (.str "b".toList, .leaf (.str "$a".toList))] := by
  rw [readOne_ofList]
  literal_chars
  decide +kernel

/-- (b) once more, through the whole reader: `c "$a + $ab"` with `a 1; ab 20;` -/
theorem C05_D11_end_to_end :
    readOne "a 1; ab 20; c \"$a + $ab\";"
      = some [(.str "a".toList, .leaf (.int 1)), (.str "ab".toList, .leaf (.int 20)), (.str "c".toList, .leaf (.int 21))] := by
  rw [readOne_ofList]
  literal_chars
  decide +kernel

/-! ## (a) the integer evaluator -/

inductive IExpr where
  | num (n : Nat)
  | neg (e : IExpr)
  | pos (e : IExpr)
  | add (a b : IExpr)
  | sub (a b : IExpr)
  | mul (a b : IExpr)
  deriving Repr

namespace IExpr

def den : IExpr → Int
  | num n => n
  | neg e => - den e
  | pos e => den e
  | add a b => den a + den b
  | sub a b => den a - den b
  | mul a b => den a * den b

/-- the text: numbers as `str(n)`, every operation in parentheses -/
def render : IExpr → Str
  | num n => natDigits n
  | neg e => '(' :: '-' :: render e ++ [')']
  | pos e => '(' :: '+' :: render e ++ [')']
  | add a b => '(' :: render a ++ ' ' :: '+' :: ' ' :: render b ++ [')']
  | sub a b => '(' :: render a ++ ' ' :: '-' :: ' ' :: render b ++ [')']
  | mul a b => '(' :: render a ++ ' ' :: '*' :: ' ' :: render b ++ [')']

/-- the same without the outermost pair of parentheses -/
def renderTop : IExpr → Str
  | num n => natDigits n
  | neg e => '-' :: render e
  | pos e => '+' :: render e
  | add a b => render a ++ ' ' :: '+' :: ' ' :: render b
  | sub a b => render a ++ ' ' :: '-' :: ' ' :: render b
  | mul a b => render a ++ ' ' :: '*' :: ' ' :: render b

/-- the tokens of `render e` -/
def toks : IExpr → List ETok
  | num n => [.num n]
  | neg e => .lp :: .minus :: toks e ++ [.rp]
  | pos e => .lp :: .plus :: toks e ++ [.rp]
  | add a b => .lp :: toks a ++ .plus :: toks b ++ [.rp]
  | sub a b => .lp :: toks a ++ .minus :: toks b ++ [.rp]
  | mul a b => .lp :: toks a ++ .times :: toks b ++ [.rp]

/-- the tokens of `renderTop e` -/
def toksTop : IExpr → List ETok
  | num n => [.num n]
  | neg e => .minus :: toks e
  | pos e => .plus :: toks e
  | add a b => toks a ++ .plus :: toks b
  | sub a b => toks a ++ .minus :: toks b
  | mul a b => toks a ++ .times :: toks b

/-- fuel that suffices for `pUnary` on `toks e`, and (+ 1) for `pExpr` on `toksTop e` -/
def cost : IExpr → Nat
  | num _ => 4
  | neg e => cost e + 4
  | pos e => cost e + 4
  | add a b => cost a + cost b + 4
  | sub a b => cost a + cost b + 4
  | mul a b => cost a + cost b + 4

end IExpr
open IExpr

/-! #### the tokenizer -/

def Tok (s : Str) (ts : List ETok) : Prop := ∀ f, s.length + 1 ≤ f → etokenizeFuel f s = some ts

def isD (x : Char) : Bool := decide ('0' ≤ x ∧ x ≤ '9')

/-- what may follow a decimal literal: the end, or a character that neither continues nor spoils it -/
def numStop : Str → Bool
  | [] => true
  | x :: _ => !(isD x || x == '.' || x == 'e' || x == 'E' || x == '_' || x == 'j' || x == 'x' || x == 'o' || x == 'b')

theorem Tok.nil : Tok [] [] := by
  intro f hf
  obtain ⟨f', rfl⟩ : ∃ f', f = f' + 1 := ⟨f - 1, by simp at hf; omega⟩
  rfl

theorem Tok.nil_inv {ts : List ETok} (h : Tok [] ts) : ts = [] := by
  have := h 1 (by simp)
  simpa [etokenizeFuel] using this.symm

theorem Tok.step {c : Char} {r : Str} {pre ts : List ETok} (h : Tok r ts)
    (hc : ∀ f, etokenizeFuel (f + 1) (c :: r) = (etokenizeFuel f r).map (pre ++ ·)) : Tok (c :: r) (pre ++ ts) := by
  intro f hf
  obtain ⟨f', rfl⟩ : ∃ f', f = f' + 1 := ⟨f - 1, by simp at hf; omega⟩
  simp only [List.length_cons] at hf
  rw [hc, h f' (by omega)]
  rfl

theorem Tok.space {r : Str} {ts : List ETok} (h : Tok r ts) : Tok (' ' :: r) ts :=
  h.step (pre := []) fun f => by simp [etokenizeFuel]

theorem Tok.plus {r : Str} {ts : List ETok} (h : Tok r ts) : Tok ('+' :: r) (.plus :: ts) :=
  h.step (pre := [.plus]) fun f => by simp [etokenizeFuel]

theorem Tok.minus {r : Str} {ts : List ETok} (h : Tok r ts) : Tok ('-' :: r) (.minus :: ts) :=
  h.step (pre := [.minus]) fun f => by simp [etokenizeFuel]

theorem Tok.lp {r : Str} {ts : List ETok} (h : Tok r ts) : Tok ('(' :: r) (.lp :: ts) :=
  h.step (pre := [.lp]) fun f => by simp [etokenizeFuel]

theorem Tok.rp {r : Str} {ts : List ETok} (h : Tok r ts) : Tok (')' :: r) (.rp :: ts) :=
  h.step (pre := [.rp]) fun f => by simp [etokenizeFuel]

/-- `* ` : a product sign followed by a blank (not `**`) -/
theorem Tok.times {r : Str} {ts : List ETok} (h : Tok r ts) : Tok ('*' :: ' ' :: r) (.times :: ts) :=
  h.space.step (pre := [.times]) fun f => by simp [etokenizeFuel]

theorem asciiDigit_facts : ∀ c, C04.IsAsciiDigit c →
    c ≠ ' ' ∧ c ≠ '+' ∧ c ≠ '-' ∧ c ≠ '*' ∧ c ≠ '(' ∧ c ≠ ')' ∧ ('0' ≤ c ∧ c ≤ '9') := by
  unfold C04.IsAsciiDigit; decide

theorem numStop_isD {rest : Str} (h : numStop rest = true) : headFails isD rest = true := by
  cases rest with
  | nil => rfl
  | cons x r =>
    simp only [numStop, Bool.not_eq_true', Bool.or_eq_false_iff] at h
    simp [headFails, h.1.1.1.1.1.1.1.1]

theorem ofNat_ne_zero : ∀ k, k < 10 → 0 < k → Char.ofNat (48 + k) ≠ '0' := by decide

theorem natDigits_head (n : Nat) (hn : 0 < n) : (natDigits n).head? ≠ some '0' := by
  induction n using Nat.strongRecOn with
  | _ n ih =>
    rw [natDigits]
    split
    · rename_i h
      simp only [List.head?_cons, ne_eq, Option.some.injEq]
      exact ofNat_ne_zero n h hn
    · rename_i h
      have := ih (n / 10) (by omega) (by omega)
      cases hd : natDigits (n / 10) with
      | nil => exact absurd hd (natDigits_ne_nil _)
      | cons c ds => rw [hd] at this; simpa using this

theorem natDigits_no_leading_zero (n : Nat) :
    ((natDigits n).length > 1 && (natDigits n).head? == some '0') = false := by
  by_cases h : n < 10
  · rw [natDigits]; simp [h]
  · have := natDigits_head n (by omega)
    simp [this]

theorem Tok.num (n : Nat) {rest : Str} {ts : List ETok} (hs : numStop rest = true) (h : Tok rest ts) :
    Tok (natDigits n ++ rest) (.num n :: ts) := by
  intro f hf
  obtain ⟨f', rfl⟩ : ∃ f', f = f' + 1 := ⟨f - 1, by simp at hf; omega⟩
  have hall : ∀ x ∈ natDigits n, isD x = true := natDigits_forall (by decide) n
  obtain ⟨h1, h2⟩ := takeWhile_stop isD (natDigits n) rest hall (numStop_isD hs)
  have hlz := natDigits_no_leading_zero n
  have hval := digitsVal_natDigits n
  cases hd : natDigits n with
  | nil => exact absurd hd (natDigits_ne_nil _)
  | cons c ds =>
    rw [hd] at h1 h2 hlz hval hf
    obtain ⟨a1, a2, a3, a4, a5, a6, a7⟩ := asciiDigit_facts c (C04.natDigits_ascii n c (by rw [hd]; exact List.mem_cons_self))
    simp only [List.cons_append] at h1 h2 hf ⊢
    have e1 : (List.takeWhile (fun x => decide ('0' ≤ x ∧ x ≤ '9')) (c :: (ds ++ rest))) = c :: ds := h1
    have e2 : (List.dropWhile (fun x => decide ('0' ≤ x ∧ x ≤ '9')) (c :: (ds ++ rest))) = rest := h2
    simp only [etokenizeFuel, beq_iff_eq, a1, a2, a3, a4, a5, a6, a7, if_false, and_self, if_true, e1, e2, hlz, hval,
      Bool.false_eq_true]
    cases rest with
    | nil => rw [h.nil_inv]
    | cons x r =>
      simp only [numStop, Bool.not_eq_true', Bool.or_eq_false_iff] at hs
      simp only [List.length_cons, List.length_append] at hf
      simp [hs, h f' (by simp only [List.length_cons]; omega)]

theorem numStop_rp (r : Str) : numStop (')' :: r) = true := by simp [numStop]; decide
theorem numStop_sp (r : Str) : numStop (' ' :: r) = true := by simp [numStop]; decide

def TokAs (s : Str) (ts : List ETok) : Prop :=
  ∀ (rest : Str) (ts' : List ETok), numStop rest = true → Tok rest ts' → Tok (s ++ rest) (ts ++ ts')

theorem TokAs.num (n : Nat) : TokAs (natDigits n) [.num n] := fun _ _ hs h => Tok.num n hs h

theorem TokAs.paren {s : Str} {ts : List ETok} (h : TokAs s ts) : TokAs ('(' :: s ++ [')']) (.lp :: ts ++ [.rp]) := by
  intro rest ts' _ h'
  simpa using (h _ _ (numStop_rp rest) h'.rp).lp

theorem TokAs.bin {a b op : Str} {ta tb : List ETok} {t : ETok}
    (hop : ∀ {r : Str} {ts : List ETok}, Tok r ts → Tok (' ' :: op ++ r) (t :: ts)) (ha : TokAs a ta) (hb : TokAs b tb) :
    TokAs (a ++ ' ' :: op ++ b) (ta ++ t :: tb) := by
  intro rest ts' hs h'
  simpa using ha _ _ (numStop_sp _) (hop (hb _ _ hs h'))

/-- (i) the tokenizer reads a rendered expression as its tokens, with and without the outermost parentheses -/
theorem tok_render (e : IExpr) : TokAs (renderTop e) (toksTop e) ∧ TokAs (render e) (toks e) := by
  induction e with
  | num n => exact ⟨TokAs.num n, TokAs.num n⟩
  | neg e ih =>
    have T : TokAs (renderTop (.neg e)) (toksTop (.neg e)) := fun _ _ hs h => (ih.2 _ _ hs h).minus
    exact ⟨T, by simpa [render, renderTop, toks, toksTop] using T.paren⟩
  | pos e ih =>
    have T : TokAs (renderTop (.pos e)) (toksTop (.pos e)) := fun _ _ hs h => (ih.2 _ _ hs h).plus
    exact ⟨T, by simpa [render, renderTop, toks, toksTop] using T.paren⟩
  | add a b iha ihb =>
    have T : TokAs (renderTop (.add a b)) (toksTop (.add a b)) := by
      simpa [renderTop, toksTop] using TokAs.bin (op := ['+', ' ']) (fun h => h.space.plus.space) iha.2 ihb.2
    exact ⟨T, by simpa [render, renderTop, toks, toksTop] using T.paren⟩
  | sub a b iha ihb =>
    have T : TokAs (renderTop (.sub a b)) (toksTop (.sub a b)) := by
      simpa [renderTop, toksTop] using TokAs.bin (op := ['-', ' ']) (fun h => h.space.minus.space) iha.2 ihb.2
    exact ⟨T, by simpa [render, renderTop, toks, toksTop] using T.paren⟩
  | mul a b iha ihb =>
    have T : TokAs (renderTop (.mul a b)) (toksTop (.mul a b)) := by
      simpa [renderTop, toksTop] using TokAs.bin (op := ['*', ' ']) (fun h => h.times.space) iha.2 ihb.2
    exact ⟨T, by simpa [render, renderTop, toks, toksTop] using T.paren⟩

theorem etokenize_render (e : IExpr) : etokenize (render e) = some (toks e) := by
  have := (tok_render e).2 [] [] rfl Tok.nil (render e ++ []).length.succ (Nat.le_refl _)
  simpa [etokenize] using this

theorem etokenize_renderTop (e : IExpr) : etokenize (renderTop e) = some (toksTop e) := by
  have := (tok_render e).1 [] [] rfl Tok.nil (renderTop e ++ []).length.succ (Nat.le_refl _)
  simpa [etokenize] using this

/-! #### the parser -/

theorem succ_of_le {k f : Nat} (h : k + 1 ≤ f) : ∃ f', f = f' + 1 ∧ k ≤ f' := ⟨f - 1, by omega, by omega⟩

def stop : List ETok → Bool
  | [] => true
  | .rp :: _ => true
  | _ => false

theorem pTermRest_stop {f : Nat} (hf : 1 ≤ f) (v : Int) {r : List ETok} (hr : stop r = true) :
    pTermRest f v r = some (v, r) := by
  obtain ⟨f', rfl, _⟩ := succ_of_le hf
  cases r with
  | nil => simp [pTermRest]
  | cons t r => cases t <;> simp [pTermRest] <;> simp [stop] at hr

theorem pExprRest_stop {f : Nat} (hf : 1 ≤ f) (v : Int) {r : List ETok} (hr : stop r = true) :
    pExprRest f v r = some (v, r) := by
  obtain ⟨f', rfl, _⟩ := succ_of_le hf
  cases r with
  | nil => simp [pExprRest]
  | cons t r => cases t <;> simp [pExprRest] <;> simp [stop] at hr

def ParsesU (ts : List ETok) (v : Int) (c : Nat) : Prop := ∀ f r, c ≤ f → pUnary f (ts ++ r) = some (v, r)

def ParsesE (ts : List ETok) (v : Int) (c : Nat) : Prop :=
  ∀ f r, stop r = true → c ≤ f + 1 → pExpr f (ts ++ r) = some (v, r)

theorem ParsesU.num (n : Nat) : ParsesU [.num n] n 1 := by
  intro f r hf
  obtain ⟨f', rfl, _⟩ := succ_of_le (k := 0) hf
  simp [pUnary]

theorem ParsesU.expr {ts : List ETok} {v : Int} {c : Nat} (h : ParsesU ts v c) (hc : 1 ≤ c) : ParsesE ts v (c + 3) := by
  intro f r hr hf
  obtain ⟨g, rfl⟩ : ∃ g, f = g + 2 := ⟨f - 2, by omega⟩
  simp [pExpr, pTerm, h g r (by omega), pTermRest_stop (f := g) (by omega) v hr, pExprRest_stop (f := g + 1) (by omega) v hr]

theorem ParsesU.minus {ts : List ETok} {v : Int} {c : Nat} (h : ParsesU ts v c) : ParsesU (.minus :: ts) (-v) (c + 1) := by
  intro f r hf
  obtain ⟨g, rfl, hg⟩ := succ_of_le hf
  simp [pUnary, h g r hg]

theorem ParsesU.plus {ts : List ETok} {v : Int} {c : Nat} (h : ParsesU ts v c) : ParsesU (.plus :: ts) v (c + 1) := by
  intro f r hf
  obtain ⟨g, rfl, hg⟩ := succ_of_le hf
  simp [pUnary, h g r hg]

theorem ParsesE.paren {ts : List ETok} {v : Int} {c : Nat} (h : ParsesE ts v c) (hc : 1 ≤ c) :
    ParsesU (.lp :: ts ++ [.rp]) v c := by
  intro f r hf
  obtain ⟨g, rfl, _⟩ := succ_of_le (k := 0) (Nat.le_trans hc hf)
  have := h g (.rp :: r) rfl hf
  simp [pUnary, this]

theorem ParsesU.sum {ta tb : List ETok} {va vb : Int} {ca cb : Nat} {op : ETok} {g : Int → Int → Int}
    (hop : ∀ f acc r, pExprRest (f + 1) acc (op :: r) =
      match pTerm f r with | some (v, r') => pExprRest f (g acc v) r' | none => none)
    (hstop : ∀ f v r, pTermRest (f + 1) v (op :: r) = some (v, op :: r))
    (ha : ParsesU ta va ca) (hb : ParsesU tb vb cb) (hcb : 1 ≤ cb) :
    ParsesE (ta ++ op :: tb) (g va vb) (ca + cb + 4) := by
  intro f r hr hf
  obtain ⟨k, rfl⟩ : ∃ k, f = k + 3 := ⟨f - 3, by omega⟩
  have ta' : pTerm (k + 2) (ta ++ op :: (tb ++ r)) = some (va, op :: (tb ++ r)) := by
    simp [pTerm, ha (k + 1) _ (by omega), hstop]
  have tb' : pTerm (k + 1) (tb ++ r) = some (vb, r) := by
    simp [pTerm, hb k r (by omega), pTermRest_stop (f := k) (by omega) vb hr]
  rw [List.append_assoc, List.cons_append, pExpr, ta']
  simp only
  rw [hop, tb']
  exact pExprRest_stop (by omega) _ hr

theorem ParsesU.prod {ta tb : List ETok} {va vb : Int} {ca cb : Nat} (ha : ParsesU ta va ca) (hb : ParsesU tb vb cb)
    (hcb : 1 ≤ cb) : ParsesE (ta ++ .times :: tb) (va * vb) (ca + cb + 4) := by
  intro f r hr hf
  obtain ⟨k, rfl⟩ : ∃ k, f = k + 3 := ⟨f - 3, by omega⟩
  have t : pTerm (k + 2) (ta ++ .times :: (tb ++ r)) = some (va * vb, r) := by
    simp [pTerm, ha (k + 1) _ (by omega), pTermRest, hb k r (by omega), pTermRest_stop (f := k) (by omega) _ hr]
  rw [List.append_assoc, List.cons_append, pExpr, t]
  exact pExprRest_stop (by omega) _ hr

theorem cost_pos (e : IExpr) : 1 ≤ cost e := by cases e <;> simp [cost]

/-- (ii) for the parser a rendered expression is one operand, and without its outermost parentheses an expression -/
theorem parses (e : IExpr) : ParsesE (toksTop e) (den e) (cost e) ∧ ParsesU (toks e) (den e) (cost e) := by
  induction e with
  | num n => exact ⟨(ParsesU.num n).expr (Nat.le_refl 1), fun f r hf => ParsesU.num n f r (by simp only [cost] at hf; omega)⟩
  | neg e ih =>
    have T : ParsesE (toksTop (.neg e)) (den (.neg e)) (cost (.neg e)) := ih.2.minus.expr (by omega)
    exact ⟨T, T.paren (cost_pos _)⟩
  | pos e ih =>
    have T : ParsesE (toksTop (.pos e)) (den (.pos e)) (cost (.pos e)) := ih.2.plus.expr (by omega)
    exact ⟨T, T.paren (cost_pos _)⟩
  | add a b iha ihb =>
    have T : ParsesE (toksTop (.add a b)) (den (.add a b)) (cost (.add a b)) :=
      ParsesU.sum (g := (· + ·)) (fun _ _ _ => rfl) (fun _ _ _ => rfl) iha.2 ihb.2 (cost_pos b)
    exact ⟨T, T.paren (cost_pos _)⟩
  | sub a b iha ihb =>
    have T : ParsesE (toksTop (.sub a b)) (den (.sub a b)) (cost (.sub a b)) :=
      ParsesU.sum (g := (· - ·)) (fun _ _ _ => rfl) (fun _ _ _ => rfl) iha.2 ihb.2 (cost_pos b)
    exact ⟨T, T.paren (cost_pos _)⟩
  | mul a b iha ihb =>
    have T : ParsesE (toksTop (.mul a b)) (den (.mul a b)) (cost (.mul a b)) := iha.2.prod ihb.2 (cost_pos b)
    exact ⟨T, T.paren (cost_pos _)⟩

/-- the size bound: the fuel `evalInt` gives (`4 * #tokens + 4`) is enough -/
theorem cost_le (e : IExpr) : cost e ≤ 4 * (toks e).length ∧ cost e ≤ 4 * (toksTop e).length + 5 := by
  induction e with
  | num n => simp [cost, toks, toksTop]
  | neg e ih => simp only [cost, toks, toksTop, List.length_cons, List.length_append, List.length_nil]; omega
  | pos e ih => simp only [cost, toks, toksTop, List.length_cons, List.length_append, List.length_nil]; omega
  | add a b iha ihb => simp only [cost, toks, toksTop, List.length_cons, List.length_append, List.length_nil]; omega
  | sub a b iha ihb => simp only [cost, toks, toksTop, List.length_cons, List.length_append, List.length_nil]; omega
  | mul a b iha ihb => simp only [cost, toks, toksTop, List.length_cons, List.length_append, List.length_nil]; omega

theorem toks_ne_nil (e : IExpr) : toks e ≠ [] := by cases e <;> simp [toks]

theorem toksTop_ne_nil (e : IExpr) : toksTop e ≠ [] := by
  cases e <;> simp [toksTop, toks_ne_nil]

theorem evalInt_of_parse {s : Str} {ts : List ETok} {v : Int} (ht : etokenize s = some ts) (hne : ts ≠ [])
    (hp : pExpr (4 * ts.length + 4) (ts ++ []) = some (v, [])) : evalInt s = .value (.leaf (.int v)) := by
  unfold evalInt
  rw [ht]
  rw [List.append_nil] at hp
  cases ts with
  | nil => exact absurd rfl hne
  | cons t ts => simp only [hp]

/-- **(a)** the integer evaluator computes the value of every fully parenthesised expression -/
theorem C05_evalInt_correct (e : IExpr) : evalInt (render e) = .value (.leaf (.int (den e))) :=
  evalInt_of_parse (etokenize_render e) (toks_ne_nil e)
    ((parses e).2.expr (cost_pos e) _ [] rfl (by have := (cost_le e).1; omega))

/-- **(a)** … also when the outermost parentheses are left out (`1 + 20`, `-(2 - 5)`, `(2 + 3) * 4`) -/
theorem C05_evalInt_correct_top (e : IExpr) : evalInt (renderTop e) = .value (.leaf (.int (den e))) :=
  evalInt_of_parse (etokenize_renderTop e) (toksTop_ne_nil e)
    ((parses e).1 _ [] rfl (by have := (cost_le e).2; omega))

/-- (a) numbers: `eval(str(n)) == n` -/
theorem C05_evalInt_number (n : Nat) : evalInt (natDigits n) = .value (.leaf (.int n)) :=
  C05_evalInt_correct (.num n)

/-- (a) the negation of a number, one binary operation of numbers -/
theorem C05_evalInt_neg_number (n : Nat) : evalInt ('-' :: natDigits n) = .value (.leaf (.int (-(n : Int)))) :=
  C05_evalInt_correct_top (.neg (.num n))

theorem C05_evalInt_sum (m n : Nat) :
    evalInt (natDigits m ++ " + ".toList ++ natDigits n) = .value (.leaf (.int ((m : Int) + n))) := by
  have := C05_evalInt_correct_top (.add (.num m) (.num n))
  simpa [renderTop, render, den] using this

/-- (`EvalResult` has no decidable equality) -/
def isInt : EvalResult → Int → Bool
  | .value (.leaf (.int v)), z => v == z
  | _, _ => false

def isUnsupported : EvalResult → Bool
  | .unsupported => true
  | _ => false

/-- (a) concrete texts: precedence, left associativity, unary chains, blanks; and what lies outside the language -/
theorem C05_evalInt_examples :
    isInt (evalInt "2 + 3 * 4".toList) 14 = true ∧
    isInt (evalInt "-(2 - 5) * 3".toList) 9 = true ∧
    isInt (evalInt "2 - 3 - 4".toList) (-5) = true ∧
    isInt (evalInt "(2 + 3) * 4".toList) 20 = true ∧
    isInt (evalInt "2 * 3 + 4".toList) 10 = true ∧
    isInt (evalInt "2 * (3 + 4)".toList) 14 = true ∧
    isInt (evalInt "--5".toList) 5 = true ∧
    isInt (evalInt "-+-5".toList) 5 = true ∧
    isInt (evalInt "2 * -3".toList) (-6) = true ∧
    isInt (evalInt "2--3".toList) 5 = true ∧
    isInt (evalInt " 10*10 - 1 ".toList) 99 = true ∧
    isInt (evalInt "0".toList) 0 = true ∧
    isInt (evalInt "1 + 20".toList) 21 = true ∧
    isInt (evalInt "12345678901234567890 * 10".toList) 123456789012345678900 = true ∧
    isUnsupported (evalInt "2 ** 3".toList) = true ∧
    isUnsupported (evalInt "007".toList) = true ∧
    isUnsupported (evalInt "1.5".toList) = true ∧
    isUnsupported (evalInt "1e3".toList) = true ∧
    isUnsupported (evalInt "1_0".toList) = true ∧
    isUnsupported (evalInt "0x10".toList) = true ∧
    isUnsupported (evalInt "2 +".toList) = true ∧
    isUnsupported (evalInt "(2".toList) = true ∧
    isUnsupported (evalInt "2 3".toList) = true ∧
    isUnsupported (evalInt "".toList) = true ∧
    isUnsupported (evalInt "a".toList) = true ∧
    isUnsupported (evalInt "7 / 2".toList) = true := by
  literal_chars
  decide +kernel

/-- the general theorem instantiated: `((2 + 3) * (-4))` -/
example : evalInt "((2 + 3) * (-4))".toList = .value (.leaf (.int (-20))) := by
  have h : render (.mul (.add (.num 2) (.num 3)) (.neg (.num 4))) = "((2 + 3) * (-4))".toList := by decide +kernel
  rw [← h]
  exact C05_evalInt_correct _

/-! ## (d) a plain reference takes the referenced value as it is -/

/-- **(d)** fix D34: an expression entry whose text is exactly one reference, and that reference is resolved: the
    placeholder is replaced by the resolved value itself (`substValEs`: any value, no `str()`, no `eval`), the entry
    leaves the table.  (`findRefs r = [r]` and `strip r = r` say that the text is one reference and nothing else.) -/
theorem C05_plain_ref_takes_value (ev : Str → EvalResult) (resolved : List (Str × Val)) (data : Entries) (i : Nat)
    (r ph : Str) (v : Val)
    (hr : findRefs r = [r]) (hs : strip r = r) (hf : (resolved.find? fun p => p.1 == r).map (·.2) = some v) :
    evalPass ev resolved ⟨data, [(i, ⟨r, ph⟩)]⟩ = (substValEs ph v 1 data).map (fun d => ⟨d, []⟩) := by
  simp only [evalPass, List.foldlM_cons, List.foldlM_nil, hr, hs, hf, beq_self_eq_true, if_true]
  cases substValEs ph v 1 data with
  | error e => rfl
  | ok d => simp [Tbl.del, Except.map, bind, Except.bind, pure, Except.pure]

/-- the evaluator is not consulted at all: the result does not depend on `ev` -/
theorem C05_plain_ref_no_eval (ev ev' : Str → EvalResult) (resolved : List (Str × Val)) (data : Entries) (i : Nat)
    (r ph : Str) (v : Val)
    (hr : findRefs r = [r]) (hs : strip r = r) (hf : (resolved.find? fun p => p.1 == r).map (·.2) = some v) :
    evalPass ev resolved ⟨data, [(i, ⟨r, ph⟩)]⟩ = evalPass ev' resolved ⟨data, [(i, ⟨r, ph⟩)]⟩ := by
  rw [C05_plain_ref_takes_value ev resolved data i r ph v hr hs hf,
    C05_plain_ref_takes_value ev' resolved data i r ph v hr hs hf]

def passData : Except ParseErr ExprSt → Option (Entries × Nat)
  | .ok st => some (st.data, st.exprs.length)
  | .error _ => none

/-- (d) instantiated with a list value: `t $s;` with `s (1 2);` makes `t` that list -/
theorem C05_plain_ref_list (ev : Str → EvalResult) :
    passData (evalPass ev [("$s".toList, .list [.leaf (.int 1), .leaf (.int 2)])]
      ⟨[(.str "t".toList, .leaf (.str "EXPRESSION000000".toList))], [(0, ⟨"$s".toList, "EXPRESSION000000".toList⟩)]⟩)
      = some ([(.str "t".toList, .list [.leaf (.int 1), .leaf (.int 2)])], 0) := by
  rw [C05_plain_ref_takes_value ev _ _ 0 _ _ (.list [.leaf (.int 1), .leaf (.int 2)])
    (by decide +kernel) (by decide +kernel) (by decide +kernel)]
  decide +kernel

/-- `s 'e'; t $s;` as the native parser hands it over -/
def plainSD : SD :=
  { data := [(.str "s".toList, .leaf (.str "e".toList)), (.str "t".toList, .leaf (.str "EXPRESSION000000".toList))],
    exprs := [(0, ⟨"$s".toList, "EXPRESSION000000".toList⟩)] }

/-- (d) the D34 regression: `t` becomes the string `e`, not the value of a name `e` -/
theorem C05_plain_ref_example :
    dataOf (evalExpressions evalInt plainSD)
      = some [(.str "s".toList, .leaf (.str "e".toList)), (.str "t".toList, .leaf (.str "e".toList))] := by
  unfold plainSD
  literal_chars
  decide +kernel

/-- (d) … and through the whole reader, from the file text (the kernel evaluates the native parser, well-founded
    token scanner included) -/
theorem C05_plain_ref_end_to_end :
    readOne "s 'e'; t $s;" = some [(.str "s".toList, .leaf (.str "e".toList)), (.str "t".toList, .leaf (.str "e".toList))] := by
  rw [readOne_ofList]
  literal_chars
  decide +kernel

/-! ## (f) completeness on acyclic reference graphs: the statement -/

/-- name of a reference: the text after `$`, up to an index bracket -/
def refName (r : Str) : Str := (match r with | '$' :: t => t | t => t).takeWhile (· != '[')

/-- the pending expression a data value stands for, if the value is an expression placeholder -/
def exprOf (s : SD) : Val → Option Str
  | .leaf (.str t) => (s.exprs.find? fun e => e.2.name == t).map (·.2.expression)
  | _ => none

/-- the specification: a *topological evaluator*.  The value of variable `name`, by recursion along the reference graph
    (`fuel` > length of the longest reference chain; `data.length + 1` suffices for an acyclic graph) -/
def topoVal (ev : Str → EvalResult) (s : SD) : Nat → Str → Option Val
  | 0, _ => none
  | fuel + 1, name =>
    match lookup (.str name) s.data with
    | none => none
    | some v =>
      match exprOf s v with
      | none => some v                                                     -- an ordinary value
      | some e =>
        let refs := findRefs e
        if refs = [strip e] then topoVal ev s fuel (refName (strip e))     -- a plain reference: the value as it is
        else
          -- every reference is replaced by `str(value)` of the referenced variable, then the text is evaluated
          let text := refs.foldlM (fun (x : Str) r =>
            match topoVal ev s fuel (refName r) with
            | some w => (pyStrVal w).map fun t => substRefFuel r t (x.length + 1) x
            | none => none) e
          match text with
          | none => none
          | some t => match ev t with
            | .value (.leaf x) => some (.leaf x)
            | .nameError => some (.leaf (.str t))
            | _ => none

def isStrKey : Key → Bool
  | .str _ => true
  | _ => false

/-- the rank decreases along every reference edge -/
def rankOk (rank : Str → Nat) (s : SD) : Bool :=
  s.data.all fun d => match d.1, exprOf s d.2 with
    | .str k, some e => (findRefs e).all fun r => decide (rank (refName r) < rank k)
    | _, _ => true

/-- the shape of a parsed flat dictionary with an acyclic reference graph and unique names -/
structure AcyclicFlat (s : SD) : Prop where
  /-- unique names -/
  keys_nodup : (keys s.data).Nodup
  /-- flat: string keys, scalar values -/
  flat : ∀ d ∈ s.data, isStrKey d.1 = true ∧ d.2.isLeaf = true
  /-- the expression table has unique ids and the placeholders `EXPRESSIONnnnnnn` of the parser -/
  ids_nodup : (s.exprs.map (·.1)).Nodup
  names : ∀ e ∈ s.exprs, e.2.name = kwExpr ++ padSix e.1
  /-- every placeholder is the value of exactly one entry -/
  placed : ∀ e ∈ s.exprs, (s.data.filter fun d => d.2 == .leaf (.str e.2.name)).length = 1
  /-- ordinary values carry neither `$` nor a placeholder word (they are `usable`) -/
  plain_usable : ∀ d ∈ s.data, exprOf s d.2 = none → usable d.2 = true
  /-- references are unindexed and name existing variables -/
  refs_ok : ∀ e ∈ s.exprs, ∀ r ∈ findRefs e.2.expression, '[' ∉ r ∧ (lookup (.str (refName r)) s.data).isSome = true
  /-- acyclic -/
  acyclic : ∃ rank : Str → Nat, rankOk rank s = true

/-- **(f)** completeness on acyclic graphs, **stated here; false as it stands and true under stronger hypotheses**
    (C05acyclic.lean: the counterexamples `C05_complete_acyclic_statement_false_without_*`, the theorem
    `C05_complete_acyclic'` with `AcyclicFlat'` and `EvOK`).  The harness compares `_eval_expressions` of the running
    code with the model, and with a topological evaluator of its own, on generated acyclic inputs.

    Every placeholder of an acyclic reference graph with unique names is replaced by the value a topological evaluator
    gives: whenever the specification `topoVal` assigns a value to a variable, the data after `evalExpressions` hold that
    value under that name; no expression is left pending; the keys and their order are unchanged.

    Documented approximation: flat dictionaries (no nested dicts / lists), references without indexing, evaluator
    results that are scalars or `NameError` (for the other results `topoVal` is `none` and nothing is claimed).
    What a proof needs (C05acyclic.lean goes by these numbers): (1) `resolveRef` on the variable table of a flat dict
    returns the ordinary value of a non-pending variable (one unfolding of `follow`) and `None` for a pending one; (2) the
    invariant of `loop`: after pass `n` every variable of rank < n holds its `topoVal`; (3) progress: in an acyclic graph
    the pending expression of least rank has all its references resolved, so the count of unresolved references
    (`resolveAll`) decreases until the table is empty, within the `exprs.length + 2` passes of fuel;
    (4) `substLeafEs`/`substValEs` on `placed` data change exactly one entry. -/
def C05_complete_acyclic_statement : Prop :=
  ∀ (ev : Str → EvalResult) (s s' : SD), AcyclicFlat s → evalExpressions ev s = .ok s' →
    s'.exprs = [] ∧ keys s'.data = keys s.data ∧
    ∀ name v, topoVal ev s (s.data.length + 1) name = some v → lookup (.str name) s'.data = some v

/-- `a 1; ab 20; c "$d * 2 + $ab"; d "$a + $ab"; e $c;` as the native parser hands it over: a chain `e → c → d → a, ab` -/
def exSD : SD :=
  { data := [(.str "a".toList, .leaf (.int 1)), (.str "ab".toList, .leaf (.int 20)),
             (.str "c".toList, .leaf (.str "EXPRESSION000000".toList)),
             (.str "d".toList, .leaf (.str "EXPRESSION000001".toList)),
             (.str "e".toList, .leaf (.str "EXPRESSION000002".toList))],
    exprs := [(0, ⟨"$d * 2 + $ab".toList, "EXPRESSION000000".toList⟩),
              (1, ⟨"$a + $ab".toList, "EXPRESSION000001".toList⟩),
              (2, ⟨"$c".toList, "EXPRESSION000002".toList⟩)] }

/-- position in a topological order -/
def exRank (n : Str) : Nat := (["a", "ab", "d", "c", "e"].map String.toList).idxOf n

/-- the specification on the example … -/
theorem exSD_topo : (["a", "ab", "c", "d", "e"].map fun n => topoVal evalInt exSD 6 n.toList)
    = [some (.leaf (.int 1)), some (.leaf (.int 20)), some (.leaf (.int 62)), some (.leaf (.int 21)),
       some (.leaf (.int 62))] := by
  unfold exSD
  literal_chars
  decide +kernel

/-- … and the model (three passes: `d`, then `c`, then `e`) agree -/
theorem exSD_eval : dataOf (evalExpressions evalInt exSD)
    = some [(.str "a".toList, .leaf (.int 1)), (.str "ab".toList, .leaf (.int 20)),
            (.str "c".toList, .leaf (.int 62)), (.str "d".toList, .leaf (.int 21)), (.str "e".toList, .leaf (.int 62))] := by
  unfold exSD
  literal_chars
  decide +kernel

end DictIO.C05
