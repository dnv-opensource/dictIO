/-
  C16 / C15 -- sequences of writes with arbitrary modes (Props/C16.lean `runWrites`, `specFold`; Props/C16fold.lean has
  the induction `C16.run_seq` and the native fold for either value of `order`, `C16.fold_nat`), stated for

    (1) `order = true`, native flavour                      `C16_fold_ordered`
    (2) the OpenFOAM flavour, `order = false`               `C16_fold_foam`

  (1) is `fold_nat` at `order = true` (the file holds the ordered copy of the abstract dict); (2) is an instance of
  `run_seq` of its own: the abstract state is the dict together with the flag "the file carries the Foam header"
  (`initF`, `appF`).

  (1) `C16_fold_ordered`.  Same hypotheses as `C16.C16_fold_statement` (stated for the UNORDERED specification fold).
      After any non-empty sequence of writes with `order=True` the file read back is, up to the header placeholder
      entry, `orderD D` for `D = specFold none ws`: keys ascending at every dict level (`SortedV`), same key → value
      association at every level as `D` (`SameAssoc`, `lookup … = (lookup …).map orderV`, key sets `Perm`).
      What the append needs (`orderD_merge_orderD`, `HdrIn`) is proved in Props/C16fold.lean, where `C16.append_nat`
      uses it.

  (2) `C16_fold_foam`.  Which fold: `specFold none (dropWs ws)` — the fold of `C16_fold_statement` over the written dicts
      WITHOUT their private keys (`dropUnderscoreEs .foam`, every level, also inside lists).  This is the true
      specification because the removal of private keys commutes with the merge (`drop_mergeD`, no hypothesis: the
      removal is a `selMap` whose value map respects dicts, `selMap_mergeD`) and with
      `_retype_values` (`C10.normEs_drop`).  What the reader adds: a file written by the `SDict` route (append onto an
      existing file) starts with the Foam header = banner block comment + `FoamFile { … }` dict + separator line
      comment; it is read back as `foamSD n D`: entries `BLOCKCOMMENT000000`, `FoamFile ↦ {version: 2.0, format: ascii,
      class: dictionary, object: foamDict}`, `LINECOMMENTnnnnnn` (id from the counter) in front of the data, banner and
      separator in the comment tables.  So `dropPhEntries` of what is read is `D`, preceded by the `FoamFile` entry
      exactly when the last write was an append onto the existing file (`hdrAfter`).
      The Foam header itself (the reader on `foamHeader ++ fmtPlain .foam E`, the writer on `foamSD n M`, `_clean` on
      `foamSD`) is developed in `C10sd`; `parse_foam_hdr`, `readFile_of_parse_foam`, `fmtSD_foam` state it for the
      `foamSD` of this file (`foamSD_eq`).  Proved here: `merge_foamSD`, `mergeD_top_eq'`, `drop_mergeD`.
      `foam_naive_fold_false`: the unadjusted statement (fold over the dicts as written, nothing added) is false.

  Hypotheses of (2) beyond those of the native theorem (`DictOKF`, per written dict): the public part lies in the Foam
  value domain; no top-level key `FoamFile` (it would be merged with the header's block); no placeholder-word key
  (`BLOCKCOMMENTdddddd`, …) and unique keys at every level INCLUDING the private parts (`_clean` runs over private
  sub-dicts too; `dictOKF_of_dom` gives a Bool-checkable sufficient condition: the whole dict in the Foam domain).
  The path must be a `.foam` path (`C10.isFoamPath`), normalised.  `DocKeysAbsent'` is not needed (private keys).

  Not covered: `order = true` for the Foam flavour; the JSON format (the statement of C16 names it; `writeStep` models the
  native/Foam writer only); XML.  Non-vacuity: `exWsO`/`ex_fold_ordered`, `exWsF`/`ex_fold_foam` (one `w`, two `a`,
  overlapping nested dicts; for Foam with private keys on both levels).
-/
import DictIO.Props.C16fold
import DictIO.Props.C15file
import DictIO.Props.C10file
import DictIO.Props.C12read
import DictIO.Props.C10sd
import DictIO.Props.C14read

namespace DictIO.C16ext
open DictIO DictIO.C16

attribute [local irreducible] nativeHeader foamHeader

/-! ## the Foam header, in pieces (the development is in `C10sd`; the pieces are named here as the theorems below
    state them) -/

/-- the banner block comment `/*---…---*/` (seven lines) -/
def bannerC : Str := C10.foamHeaderChars.take 559
/-- … without `/*` and `*/` -/
def bannerBody : Str := ((bannerC.drop 2).dropLast).dropLast
/-- the separator line comment `// * * * … * //` -/
def lcText : Str := (C10.foamHeaderChars.drop 727).dropLast
def lcBody : Str := lcText.drop 2

theorem lcText_eq : lcText = C10sd.sepLine := by decide +kernel

theorem bannerBody_ok : isBlockCText bannerBody = true := C10sd.bannerBody_ok
theorem lcBody_ok : isLineCText lcBody = true := by
  rw [lcBody, lcText_eq]; exact C10sd.sepBody_ok

/-- the value of the `FoamFile` entry as the reader types it -/
def ffVal : Val :=
  .dict [(.str "version".toList, .leaf (.float "2.0".toList)), (.str "format".toList, .leaf (.str "ascii".toList)),
         (.str "class".toList, .leaf (.str "dictionary".toList)), (.str "object".toList, .leaf (.str "foamDict".toList))]

def ffKey : Key := .str "FoamFile".toList
def ffEntry : Key × Val := (ffKey, ffVal)
def lcEntry (n : Nat) : Key × Val := (.str (linePh n), .leaf (.str (linePh n)))

/-- what the reader returns for a Foam file with the header: banner placeholder, `FoamFile` block, separator
    placeholder, then the data; the banner in the block-comment table, the separator in the line-comment table -/
def foamSD (n : Nat) (D : Entries) : SD :=
  { data := C12.hdrEntry :: ffEntry :: lcEntry n :: D, blockC := [(0, bannerC)], lineC := [(n, lcText)] }

theorem foamSD_eq (n : Nat) (D : Entries) : foamSD n D = C10sd.foamSD n D := by
  simp only [foamSD, C10sd.foamSD, lcText_eq]
  rfl

set_option linter.unusedVariables false in
/-- **the native reader on a Foam file with header** (comments on): for a dict `E` of the Foam value domain without
    private keys and without a `FoamFile` key, the text `foamHeader ++ fmtPlain .foam E` is read as `normEs E` behind
    the banner placeholder entry, the `FoamFile` dict and the separator placeholder entry; the id of the separator
    comes from the counter -/
theorem parse_foam_hdr {E : Entries} {c : Counter} (dir : Str)
    (hdom : DomC01 .foam E = true) (hu : C10.NoUnderscoreEs E) (hdoc : C01.DocKeysAbsent' E) (hff : ffKey ∉ keys E)
    (hcnt : C02.countQuotedEs (srcOfEs .foam E) ≤ Gen.counterLimit + 1)
    (hc : C13.ValidCounter Gen.counterLimit c) :
    ∃ c', C13.ValidCounter Gen.counterLimit c' ∧
      parseNative true dir c (foamHeader ++ fmtPlain .foam E) =
        .ok (foamSD (Counter.next Gen.counterLimit c).1 (normEs E), c') := by
  rw [foamSD_eq]
  exact C10sd.read_foam_parse dir hdom hu (C10sd.noFoamFile_iff.mpr hff) hcnt hc

/-- `DictReader.read` (default options) on a file, in any file system, whose text parses to the SDict of a Foam file
    with header: the stages above the parser change nothing -/
theorem readFile_of_parse_foam_fs {D : Entries} {n : Nat} {c c' : Counter} (ev : Str → EvalResult) {fs : FS} {p : Comps}
    {text : Str} (hget : fs.get (resolveSpelled p) = some (.native text))
    (hparse : parseNative true (pathStr p.dropLast) c text = .ok (foamSD n D, c'))
    (hn : n ≤ 999999) (hp : C07.NoPhEs D) (hnd : NodupKeysV (.dict D)) (hff : ffKey ∉ keys D)
    (hj : isJsonPath p = false) (hx : isXmlPath p = false) :
    readFile ev fs {} c p = .ok (.ok (foamSD n D) c') := by
  rw [foamSD_eq] at hparse ⊢
  exact C01.readFile_clean (o := {}) hget hx hj hparse rfl rfl (C10sd.foamSD_clean hn hp hnd hff)
    (C10sd.foamSD_nodup hn hp hnd hff)

/-- … in the one-file file system -/
theorem readFile_of_parse_foam {D : Entries} {n : Nat} {c c' : Counter} (ev : Str → EvalResult) (p : Comps) (text : Str)
    (hparse : parseNative true (pathStr p.dropLast) c text = .ok (foamSD n D, c'))
    (hn : n ≤ 999999) (hp : C07.NoPhEs D) (hnd : NodupKeysV (.dict D)) (hff : ffKey ∉ keys D)
    (hj : isJsonPath p = false) (hx : isXmlPath p = false) (hr : resolveSpelled p = p) :
    readFile ev [(p, .native text)] {} c p = .ok (.ok (foamSD n D) c') :=
  readFile_of_parse_foam_fs ev (by rw [hr]; exact C01.fs_get_single _ _) hparse hn hp hnd hff hj hx

theorem ffKey_fmt : (formatKey .foam ffKey).head? ≠ some '_' := by decide +kernel

/-- **the Foam writer on the SDict of a Foam file with header**: the banner and the separator are put back where
    their placeholder entries stand, the `FoamFile` dict is written as the header spells it — the text is the header
    followed by the plain text of the data, private keys dropped -/
theorem fmtSD_foam {n : Nat} (hn : n ≤ 999999) {M : Entries}
    (hdom : DomC01 .foam (dropUnderscoreEs .foam M) = true) :
    fmtSD .foam (foamSD n M) = some (foamHeader ++ fmtPlain .foam M) := by
  rw [foamSD_eq]
  exact C10sd.write_foamSD hn hdom

/-- `remove_underscore_keys_recursive` commutes with `_recursive_merge` -/
theorem drop_mergeD (exprs : Tbl ExprEntry) : ∀ (top : Bool) (t o : Entries),
    dropUnderscoreEs .foam (mergeD top exprs t o) =
      mergeD top exprs (dropUnderscoreEs .foam t) (dropUnderscoreEs .foam o) := by
  simp only [dropUnderscoreEs_eq_selMap]
  exact selMap_mergeD (fun es => by rw [dropUnderscoreV, dropUnderscoreEs_eq_selMap])
    (fun v => by cases v <;> rfl) (fun ex k v => by cases v <;> cases k <;> rfl) exprs

theorem mergeD_top_eq' (exprs : Tbl ExprEntry) : ∀ (o t : Entries), (keys o).Nodup →
    (∀ k ∈ keys o, ∀ tv, lookup k t = some tv → selfRef exprs k tv = false) →
    mergeD true exprs t o = mergeD false exprs t o
  | [], t, _, _ => by rw [C07.mergeD_nil, C07.mergeD_nil]
  | (k, v) :: o, t, hn, h => by
    have hn' : k ∉ keys o ∧ (keys o).Nodup := List.nodup_cons.mp hn
    rw [C07.mergeD_cons, C07.mergeD_cons, mstep_top_eq exprs (h k (by simp))]
    apply mergeD_top_eq' exprs o _ hn'.2
    intro k' hk' tv hl
    have hne : ¬ k = k' := fun e => hn'.1 (e ▸ hk')
    rw [C07.lookup_mstep, if_neg hne] at hl
    exact h k' (by simp [hk']) tv hl

theorem selfRef_dom_f {k : Key} {v : Val} {d : Nat} (hk : isDomKey k = true) (hv : domV .foam d v = true) :
    selfRef [] k v = false := by
  cases v with
  | dict es => exact C07.selfRef_dict _ _ _
  | list xs => cases k <;> rfl
  | leaf x =>
    cases x with
    | str vs =>
      simp only [domV, Bool.and_eq_true, decide_eq_true_eq] at hv
      have hs : isDomStr .native vs = true := (C10.Foam.isDomStr_foam hv.1).1
      exact selfRef_dom (d := d) hk (by simp only [domV, Bool.and_eq_true, decide_eq_true_eq]; exact ⟨hs, hv.2⟩)
    | _ => cases k <;> rfl

theorem noSelf_dom_f {e : Entries} (h : DomC01 .foam e = true) :
    ∀ k tv, lookup k e = some tv → selfRef [] k tv = false := fun k tv hl =>
  have hd := C01.domEs_mem (C01.domC01_dom h) (k, tv) (lookup_some_mem hl)
  selfRef_dom_f hd.1 hd.2

theorem fmtSD_foam_plain (M : Entries) : fmtSD .foam { data := M } = some (foamHeader ++ fmtPlain .foam M) := by
  rw [C10sd.C10_sd_text, C10sd.foamHeaderText_eq]

theorem read_written_text_f {e : Entries} {c : Counter} (comments : Bool) (dir : Str)
    (h : DomC01 .foam e = true) (hu : C10.NoUnderscoreEs e) (hd : C01.DocKeysAbsent' e)
    (hn : C02.countQuotedEs (srcOfEs .foam e) ≤ Gen.counterLimit + 1) (hc : C13.ValidCounter Gen.counterLimit c) :
    ∃ c', C13.ValidCounter Gen.counterLimit c' ∧
      parseNative comments dir c (fmtPlain .foam e) = .ok ({ data := normEs e }, c') := by
  rw [C10.C10_input_unchanged, C10.C10_drop_id e hu]
  exact C01.Fl.read_written C10.Foam.written_ok_f C10.Foam.den_writtenLit_f comments dir h hd hn hc

/-! ## (1) `order = true`, native flavour -/

theorem nodupEs_orderEs : ∀ es : Entries, NodupKeysEs es → ∀ e ∈ orderEs es, NodupKeysV e.2 :=
  C14read.nodup_orderEs_mem

/-- **C16 + C15, sequences of writes with `order=True`** (native flavour).  After any non-empty sequence of writes with
    arbitrary modes and `order=True` to a fresh target — all written dicts and all intermediate results of the
    *unordered* specification fold in the value domain, exactly the hypotheses of `C16_fold_statement` — the sequence
    succeeds, and reading the file back (default options) returns, up to the header placeholder entry of the append
    route, `order_keys` of the specification fold `D = specFold none ws`: keys ascending at every dict level
    (`SortedV`), the same key → value association at every level as the unordered fold (`SameAssoc`; key by key the
    value is the ordered copy; the key sets are permutations of each other). -/
theorem C16_fold_ordered (ev : Str → EvalResult) (target : Comps) (ws : List (Str × Entries)) (c : Counter)
    (hne : ws ≠ [])
    (hs : ∀ e ∈ specStates none ws, DomC01 .native e = true ∧ C01.DocKeysAbsent' e ∧
      C02.countQuotedEs (srcOfEs .native e) ≤ Gen.counterLimit + 1)
    (hw : ∀ w ∈ ws, DomC01 .native (normEs w.2) = true)
    (hc : C13.ValidCounter Gen.counterLimit c)
    (hj : isJsonPath target = false) (hx : isXmlPath target = false) (hr : resolveSpelled target = target) :
    ∃ t c₁ sd c₂ D, runWrites ev .native target true none c ws = .ok (some t, c₁) ∧
      readFile ev [(target, .native t)] {} c₁ target = .ok (.ok sd c₂) ∧
      specFold none ws = some D ∧ C01.dropPhEntries sd.data = orderD D ∧
      C15.SortedV (.dict (orderD D)) ∧ C15.SameAssoc (.dict D) (.dict (orderD D)) ∧
      (∀ k, lookup k (orderD D) = (lookup k D).map orderV) ∧ (keys (orderD D)).Perm (keys D) := by
  have P : PathOK target := ⟨hj, hx, hr⟩
  obtain ⟨t', c', D, hv, hspec, hD, hfD, hrun⟩ := fold_nat ev P true hne hs hw hc
  have hDo := good_order hD
  obtain ⟨sd, c₂, _, hread, hsd⟩ := read_any ev P hDo hfD hv
  exact ⟨t', c', sd, c₂, D, (hrun [] rfl).runWrites none hr, hread, hspec, dropPh_any hDo.noPh hsd,
    C15.order_sorted (.dict D),
    C15.order_sameAssoc (.dict D) hD.nodup, C15.order_lookup D hD.nodup.1, C15.order_keys_perm D⟩

/-- a dict a Foam file may hold -/
structure GoodF (e : Entries) : Prop where
  dom : DomC01 .foam e = true
  norm : normEs e = e
  nou : C10.NoUnderscoreEs e
  noff : ffKey ∉ keys e
  cnt : C02.countQuotedEs (srcOfEs .foam e) ≤ Gen.counterLimit + 1

theorem GoodF.noPh {e : Entries} (h : GoodF e) : C07.NoPhEs e := by
  have := (C10.norm_invariants_foam h.dom).1; rwa [h.norm] at this

theorem GoodF.nodup {e : Entries} (h : GoodF e) : NodupKeysV (.dict e) := by
  have := (C10.norm_invariants_foam h.dom).2; rwa [h.norm] at this

theorem GoodF.doc {e : Entries} (h : GoodF e) : C01.DocKeysAbsent' e := by
  have := C10.docKeys_dropped e; rwa [C10.C10_drop_id e h.nou] at this

/-- the file holds `e`: written by the plain-dict route (no header) or by the `SDict` route (Foam header in front) -/
def FileOfF : Bool → Entries → Str → Prop
  | false, e, t => t = fmtPlain .foam e
  | true, e, t => t = foamHeader ++ fmtPlain .foam e

theorem pathOK_foam {target : Comps} (hf : C10.isFoamPath target = true) (hr : resolveSpelled target = target) :
    PathOK target :=
  ⟨(C10.foamPath_dispatch hf).1, (C10.foamPath_dispatch hf).2, hr⟩

theorem read_anyF {e : Entries} {t : Str} {c : Counter} {b : Bool} (ev : Str → EvalResult) {target : Comps}
    (P : PathOK target) (h : GoodF e) (hf : FileOfF b e t) (hc : C13.ValidCounter Gen.counterLimit c) :
    ∃ sd c', C13.ValidCounter Gen.counterLimit c' ∧
      ((b = false ∧ sd = { data := e }) ∨ (b = true ∧ ∃ n, n ≤ 999999 ∧ sd = foamSD n e)) ∧
      ∀ fs : FS, fs.get target = some (.native t) → readFile ev fs {} c target = .ok (.ok sd c') := by
  have hg : ∀ {fs : FS}, fs.get target = some (.native t) → fs.get (resolveSpelled target) = some (.native t) :=
    fun h => by rw [P.hr]; exact h
  cases b with
  | false =>
    have ht : t = fmtPlain .foam e := hf
    subst ht
    obtain ⟨c', hv, hp⟩ := read_written_text_f (c := c) true (pathStr target.dropLast) h.dom h.nou h.doc h.cnt hc
    rw [h.norm] at hp
    exact ⟨_, c', hv, Or.inl ⟨rfl, rfl⟩, fun fs hget => C01.readFile_clean (o := {}) (hg hget) P.hx P.hj hp rfl rfl
      (C07.clean_id _ h.nodup h.noPh) h.nodup⟩
  | true =>
    have ht : t = foamHeader ++ fmtPlain .foam e := hf
    subst ht
    obtain ⟨c', hv, hp⟩ := parse_foam_hdr (c := c) (pathStr target.dropLast) h.dom h.nou h.doc h.noff h.cnt hc
    rw [h.norm] at hp
    exact ⟨_, c', hv, Or.inr ⟨rfl, _, next_le _ _, rfl⟩, fun fs hget =>
      readFile_of_parse_foam_fs ev (hg hget) hp (next_le _ _) h.noPh h.nodup h.noff P.hj P.hx⟩

theorem ffKey_noPh : C07.isPhKey ffKey = false := C10sd.foamFile_facts.2.2.2.1

theorem dropPh_foamSD {n : Nat} (hn : n ≤ 999999) {D : Entries} (hp : C07.NoPhEs D) :
    C01.dropPhEntries (foamSD n D).data = ffEntry :: D := by
  have hk := C07.noPhEs_keys hp
  show List.filter _ (C12.hdrEntry :: ffEntry :: lcEntry n :: D) = _
  have h1 : (!C07.isPhKey C12.hdrEntry.1) = false := by
    show (!C07.isPhKey (.str C12.hdrPh)) = false
    rw [C12.hdrPh_isPh]; rfl
  have h2 : (!C07.isPhKey ffEntry.1) = true := by
    show (!C07.isPhKey ffKey) = true
    rw [ffKey_noPh]; rfl
  have h3 : (!C07.isPhKey (lcEntry n).1) = false := by
    show (!C07.isPhKey (.str (linePh n))) = false
    rw [C10sd.linePh_isPh hn]; rfl
  rw [List.filter_cons, h1, List.filter_cons, h2, List.filter_cons, h3]
  simp only [Bool.false_eq_true, if_false, if_true]
  congr 1
  exact List.filter_eq_self.mpr fun e he => by rw [hk e.1 (List.mem_map_of_mem he)]; rfl

theorem ffKey_merge {e N : Entries} (top : Bool) (he : ffKey ∉ keys e) (hNff : ffKey ∉ keys N) :
    ffKey ∉ keys (mergeD top [] e N) := by
  rw [← hasKey_false_iff] at he hNff ⊢; rw [hasKey_mergeD, he, hNff]; rfl

theorem merge_foamSD {n : Nat} (hn : n ≤ 999999) {e N : Entries} (he : GoodF e) (hNp : C07.NoPhEs N)
    (hNn : NodupKeysV (.dict N)) (hNff : ffKey ∉ keys N) :
    (foamSD n e).merge (.plain N) = foamSD n (mergeD true [] e N) := by
  have hkN := C07.noPhEs_keys hNp
  have hl : (lcEntry n).1 ∉ keys N := fun hm => by
    have := hkN _ hm
    rw [show (lcEntry n).1 = Key.str (linePh n) from rfl, C10sd.linePh_isPh hn] at this; cases this
  have hd : mergeD true [] (C12.hdrEntry :: ffEntry :: lcEntry n :: e) N =
      C12.hdrEntry :: ffEntry :: lcEntry n :: mergeD true [] e N := by
    rw [mergeD_cons_front true [] C12.hdrEntry N _ (C12.hdr_not_mem hNp), mergeD_cons_front true [] ffEntry N _ hNff,
      mergeD_cons_front true [] (lcEntry n) N _ hl]
  show (({ foamSD n e with data := mergeD true [] (C12.hdrEntry :: ffEntry :: lcEntry n :: e) N } : SD).postMerge
    (.plain N)).clean = _
  rw [hd]
  have := C10sd.foamSD_clean hn (C07.noPhEs_mergeD [] true e N he.noPh hNp) (C07.nodupV_mergeD [] true e N he.nodup hNn.2)
    (ffKey_merge true he.noff hNff)
  rw [← foamSD_eq] at this
  exact this

/-- what the written dict must satisfy beyond the domain condition on its public part: no `FoamFile` key on the top
    level, no comment/include placeholder word as a key and unique keys at every level — private parts included -/
structure DictOKF (d : Entries) : Prop where
  dom : DomC01 .foam (normEs (dropUnderscoreEs .foam d)) = true
  noff : ffKey ∉ keys d
  noPh : C07.NoPhEs (normEs d)
  nodup : NodupKeysV (.dict (normEs d))

/-- a Bool-checkable sufficient condition: the whole dict (private parts included) and its public part lie in the
    Foam value domain, and there is no top-level `FoamFile` key -/
theorem dictOKF_of_dom {d : Entries} (h : DomC01 .foam (normEs d) = true)
    (hp : DomC01 .foam (normEs (dropUnderscoreEs .foam d)) = true) (hff : ffKey ∉ keys d) : DictOKF d := by
  have hinv := C10.norm_invariants_foam h
  rw [C01.normEs_idem] at hinv
  exact ⟨hp, hff, hinv.1, hinv.2⟩

theorem drop_merge_state {e d : Entries} (he : GoodF e) (hd : DictOKF d) :
    dropUnderscoreEs .foam (mergeD true [] e (normEs d)) =
      mergeD false [] e (normEs (dropUnderscoreEs .foam d)) := by
  rw [mergeD_top_eq' [] (normEs d) e hd.nodup.1 (fun k _ => noSelf_dom_f he.dom k), drop_mergeD,
    C10.C10_drop_id e he.nou, C10.normEs_drop]

/-- append onto a Foam file that holds `e` (without or with the header): the file then holds the merge with the public
    part of the new dict, written by the `SDict` route, i.e. with the Foam header -/
theorem append_anyF {e d : Entries} {t : Str} {c : Counter} {b : Bool} (ev : Str → EvalResult) {target : Comps}
    (P : PathOK target) (he : GoodF e) (hf : FileOfF b e t) (hc : C13.ValidCounter Gen.counterLimit c)
    (hd : DictOKF d)
    (hM : DomC01 .foam (mergeD false [] e (normEs (dropUnderscoreEs .foam d))) = true) :
    ∃ c', C13.ValidCounter Gen.counterLimit c' ∧ ∀ fs : FS, fs.get target = some (.native t) →
      writeCore ev .foam fs target ['a'] false (.plain d) c =
        .ok (foamHeader ++ fmtPlain .foam (mergeD false [] e (normEs (dropUnderscoreEs .foam d))), c') := by
  obtain ⟨sd, c', hv, hsd, hr⟩ := read_anyF ev P he hf hc
  refine ⟨c', hv, fun fs hget => ?_⟩
  have hNff : ffKey ∉ keys (normEs d) := by rw [C01.keys_normEs]; exact hd.noff
  have hdrop := drop_merge_state he hd
  have htext : fmtPlain .foam (mergeD true [] e (normEs d)) =
      fmtPlain .foam (mergeD false [] e (normEs (dropUnderscoreEs .foam d))) := by
    rw [← C10.C10_fmtPlain_drop, hdrop]
  rw [writeCore_append_ok _ (by rw [P.hr]; exact hget) (hr fs hget)]
  simp only [Bool.false_eq_true, if_false, Arg.retype]
  rcases hsd with ⟨_, rfl⟩ | ⟨_, n, hn, rfl⟩
  · rw [C07.merge_tables_plain { data := e } (normEs d) (C07.nodupV_mergeD [] true e (normEs d) he.nodup hd.nodup.2)
      (C07.noPhEs_mergeD [] true e (normEs d) he.noPh hd.noPh), fmtSD_foam_plain, htext]
  · rw [merge_foamSD hn he hd.noPh hd.nodup hNff, fmtSD_foam hn (by rw [hdrop]; exact hM), htext]

/-- the sequence the specification folds: every written dict without its private keys -/
def dropWs (ws : List (Str × Entries)) : List (Str × Entries) := ws.map fun w => (w.1, dropUnderscoreEs .foam w.2)

/-- does the file carry the Foam header after the writes (`b`: does it before)?  Exactly when the last write was an
    append onto the existing file -/
def hdrAfter : Bool → List (Str × Entries) → Bool
  | b, [] => b
  | _, (m, _) :: ws => hdrAfter (m == ['a']) ws

def StateOKF (e : Entries) : Prop :=
  DomC01 .foam e = true ∧ C02.countQuotedEs (srcOfEs .foam e) ≤ Gen.counterLimit + 1

theorem DictOKF.noff' {d : Entries} (h : DictOKF d) : ffKey ∉ keys (normEs (dropUnderscoreEs .foam d)) := by
  rw [C01.keys_normEs]; exact fun hm => h.noff (C10.keys_drop_sub hm)

theorem goodF_first {d : Entries} (hd : DictOKF d) (hs : StateOKF (normEs (dropUnderscoreEs .foam d))) :
    GoodF (normEs (dropUnderscoreEs .foam d)) :=
  ⟨hs.1, C01.normEs_idem _, by rw [C10.normEs_drop]; exact C10.C10_underscore _, hd.noff', hs.2⟩

theorem goodF_app {e d : Entries} (he : GoodF e) (hd : DictOKF d)
    (hs : StateOKF (mergeD false [] e (normEs (dropUnderscoreEs .foam d)))) :
    GoodF (mergeD false [] e (normEs (dropUnderscoreEs .foam d))) :=
  ⟨hs.1, norm_mergeD [] false e _ he.norm (C01.normEs_idem _), by rw [← drop_merge_state he hd]; exact C10.C10_underscore _,
    ffKey_merge false he.noff hd.noff', hs.2⟩

theorem fmtPlain_norm_drop (d : Entries) :
    fmtPlain .foam (normEs d) = fmtPlain .foam (normEs (dropUnderscoreEs .foam d)) := by
  rw [C10.normEs_drop, C10.C10_fmtPlain_drop]

/-- what a non-append write / an append leaves of a Foam file: the dict it holds, and whether it carries the Foam
    header -/
def initF (d : Entries) : Entries × Bool := (normEs (dropUnderscoreEs .foam d), false)
def appF (x : Entries × Bool) (d : Entries) : Entries × Bool :=
  (mergeD false [] x.1 (normEs (dropUnderscoreEs .foam d)), true)

theorem hdrAfter_foldl : ∀ (ws : List (Str × Entries)) (x : Entries × Bool),
    hdrAfter x.2 ws = (ws.foldl (nx initF appF) x).2
  | [], _ => rfl
  | (m, d) :: ws, x => by
    rw [List.foldl_cons, ← hdrAfter_foldl ws]
    show hdrAfter (m == ['a']) ws = hdrAfter (nx initF appF x (m, d)).2 ws
    unfold nx
    cases m == ['a'] <;> rfl

theorem run_anyF (ev : Str → EvalResult) {target : Comps} (P : PathOK target) {ws : List (Str × Entries)} {c : Counter}
    (hne : ws ≠ []) (hs : ∀ e ∈ specStates none (dropWs ws), StateOKF e) (hw : ∀ w ∈ ws, DictOKF w.2)
    (hc : C13.ValidCounter Gen.counterLimit c) :
    ∃ t' c' D, C13.ValidCounter Gen.counterLimit c' ∧ specFold none (dropWs ws) = some D ∧ GoodF D ∧
      FileOfF (hdrAfter false ws.tail) D t' ∧
      ∀ fs : FS, fs.get target = none → RunsTo ev .foam target false fs c ws t' c' := by
  obtain _ | ⟨⟨m, d⟩, ws⟩ := ws
  · exact absurd rfl hne
  obtain ⟨t', c', hv, hspec, hD, hfD, hrun⟩ := run_seq ev .foam P.hr false (τ := Entries × Bool) (·.1)
    (dropUnderscoreEs .foam) initF appF (fun x => GoodF x.1) (fun x => FileOfF x.2 x.1) DictOKF StateOKF
    (fun _ => rfl) (fun _ _ => rfl) (fun d hd h => goodF_first hd h) (fun x d hx hd h => goodF_app hx hd h)
    fmtPlain_norm_drop
    (fun {x t c d} hx hf hc hd hM => by
      obtain ⟨c', hv, h⟩ := append_anyF ev P hx hf hc hd hM.dom
      exact ⟨_, c', hv, rfl, h⟩) (m := m) (d := d) (ws := ws) hs hw hc
  rw [← hdrAfter_foldl ws (initF d)] at hfD
  exact ⟨t', c', _, hv, hspec, hD, hfD, hrun⟩

/-- **C16, sequences of writes, OpenFOAM flavour.**  `ws` is any non-empty sequence of writes `(mode, dict)` with
    arbitrary modes to a fresh `.foam` target.  The specification is the fold `specFold` of `C16_fold_statement` over
    the written dicts *without their private keys* (`dropWs`: keys written with a leading `_` are removed at every
    level, also inside lists).  If every state of that fold lies in the Foam value domain and every written dict
    satisfies `DictOKF`, the sequence succeeds and reading the file back (default options) returns — apart from the
    comment placeholder entries — the fold `D`, preceded by the `FoamFile` entry of the Foam header exactly when the
    last write was an append onto the existing file (`hdrAfter`); no key with a leading `_` is left at any level. -/
theorem C16_fold_foam (ev : Str → EvalResult) (target : Comps) (ws : List (Str × Entries)) (c : Counter)
    (hne : ws ≠ [])
    (hs : ∀ e ∈ specStates none (dropWs ws), DomC01 .foam e = true ∧
      C02.countQuotedEs (srcOfEs .foam e) ≤ Gen.counterLimit + 1)
    (hw : ∀ w ∈ ws, DictOKF w.2)
    (hc : C13.ValidCounter Gen.counterLimit c)
    (hf : C10.isFoamPath target = true) (hr : resolveSpelled target = target) :
    ∃ t c₁ sd c₂ D, runWrites ev .foam target false none c ws = .ok (some t, c₁) ∧
      readFile ev [(target, .native t)] {} c₁ target = .ok (.ok sd c₂) ∧
      specFold none (dropWs ws) = some D ∧
      C01.dropPhEntries sd.data = (if hdrAfter false ws.tail then [ffEntry] else []) ++ D ∧
      C10.NoUnderscoreEs D := by
  have P : PathOK target := pathOK_foam hf hr
  obtain ⟨t', c', D, hv, hspec, hD, hfD, hrun⟩ := run_anyF ev P hne hs hw hc
  obtain ⟨sd, c₂, _, hsd, hread⟩ := read_anyF ev P hD hfD hv
  refine ⟨t', c', sd, c₂, D, (hrun [] rfl).runWrites none hr, hread _ (C01.fs_get_single _ _), hspec, ?_, hD.nou⟩
  rcases hsd with ⟨hb, rfl⟩ | ⟨hb, n, hn, rfl⟩
  · rw [hb]; exact dropPh_plain hD.noPh
  · rw [hb]; exact dropPh_foamSD hn hD.noPh

/-! # non-vacuity -/

/-! ## (1): write `{b: 1, 3: {z: 1, y: 2}}`, append `{a: "2", b: 9, 3: {x: 5, z: 7}}`, append `{A: {x: 1}, 1: 0}`,
    all with `order=True` (int keys sort in front of the header placeholder `BLOCKCOMMENT000000`, `A` too) -/

def exWsO : List (Str × Entries) :=
  [ (['w'], [(.str ['b'], .leaf (.int 1)), (.int 3, .dict [(.str ['z'], .leaf (.int 1)), (.str ['y'], .leaf (.int 2))])]),
    (['a'], [(.str ['a'], .leaf (.str ['2'])), (.str ['b'], .leaf (.int 9)),
             (.int 3, .dict [(.str ['x'], .leaf (.int 5)), (.str ['z'], .leaf (.int 7))])]),
    (['a'], [(.str ['A'], .dict [(.str ['x'], .leaf (.int 1))]), (.int 1, .leaf (.int 0))]) ]

/-- the unordered fold: `{b: 1, 3: {z: 1, y: 2, x: 5}, a: 2, A: {x: 1}, 1: 0}` -/
def exFoldU : Entries :=
  [(.str ['b'], .leaf (.int 1)),
   (.int 3, .dict [(.str ['z'], .leaf (.int 1)), (.str ['y'], .leaf (.int 2)), (.str ['x'], .leaf (.int 5))]),
   (.str ['a'], .leaf (.int 2)), (.str ['A'], .dict [(.str ['x'], .leaf (.int 1))]), (.int 1, .leaf (.int 0))]

/-- … ordered: `{1: 0, 3: {x: 5, y: 2, z: 1}, A: {x: 1}, a: 2, b: 1}` -/
def exFoldO : Entries :=
  [(.int 1, .leaf (.int 0)),
   (.int 3, .dict [(.str ['x'], .leaf (.int 5)), (.str ['y'], .leaf (.int 2)), (.str ['z'], .leaf (.int 1))]),
   (.str ['A'], .dict [(.str ['x'], .leaf (.int 1))]), (.str ['a'], .leaf (.int 2)), (.str ['b'], .leaf (.int 1))]

theorem exWsO_spec : specFold none exWsO = some exFoldU := by decide +kernel
theorem exFoldO_eq : orderD exFoldU = exFoldO := by decide +kernel

/-- the header placeholder entry is sorted in between the int keys and `A` when the file is re-read with `order=True` -/
example : orderD (C12.hdrEntry :: exFoldO) =
    [(.int 1, .leaf (.int 0)),
     (.int 3, .dict [(.str ['x'], .leaf (.int 5)), (.str ['y'], .leaf (.int 2)), (.str ['z'], .leaf (.int 1))]),
     (.str ['A'], .dict [(.str ['x'], .leaf (.int 1))]), C12.hdrEntry,
     (.str ['a'], .leaf (.int 2)), (.str ['b'], .leaf (.int 1))] := by decide +kernel

theorem ex_fold_ordered (ev : Str → EvalResult) :
    ∃ t c₁ sd c₂, runWrites ev .native ["f".toList] true none none exWsO = .ok (some t, c₁) ∧
      readFile ev [(["f".toList], .native t)] {} c₁ ["f".toList] = .ok (.ok sd c₂) ∧
      C01.dropPhEntries sd.data = exFoldO := by
  obtain ⟨t, c₁, sd, c₂, D, h1, h2, h3, h4, _⟩ := C16_fold_ordered ev ["f".toList] exWsO none (by decide)
    (by decide +kernel) (by decide +kernel) (Or.inl rfl) (by decide) (by decide) (by decide)
  rw [exWsO_spec] at h3
  cases h3
  rw [exFoldO_eq] at h4
  exact ⟨t, c₁, sd, c₂, h1, h2, h4⟩


/-! ## non-vacuity (2): write `{b: 1, _p: 1, 3: {z: 1, _y: 2}}`, append `{a: "2", b: 9, _p: 7, 3: {_y: 5, x: 7}}`,
    append `{A: {x: 1, _q: 1}, 1: 0}` to `/w/dict.foam` -/

def exWsF : List (Str × Entries) :=
  [ (['w'], [(.str ['b'], .leaf (.int 1)), (.str "_p".toList, .leaf (.int 1)),
             (.int 3, .dict [(.str ['z'], .leaf (.int 1)), (.str "_y".toList, .leaf (.int 2))])]),
    (['a'], [(.str ['a'], .leaf (.str ['2'])), (.str ['b'], .leaf (.int 9)), (.str "_p".toList, .leaf (.int 7)),
             (.int 3, .dict [(.str "_y".toList, .leaf (.int 5)), (.str ['x'], .leaf (.int 7))])]),
    (['a'], [(.str ['A'], .dict [(.str ['x'], .leaf (.int 1)), (.str "_q".toList, .leaf (.int 1))]),
             (.int 1, .leaf (.int 0))]) ]

/-- the fold over the public parts: `{b: 1, 3: {z: 1, x: 7}, a: 2, A: {x: 1}, 1: 0}` -/
def exFoldF : Entries :=
  [(.str ['b'], .leaf (.int 1)), (.int 3, .dict [(.str ['z'], .leaf (.int 1)), (.str ['x'], .leaf (.int 7))]),
   (.str ['a'], .leaf (.int 2)), (.str ['A'], .dict [(.str ['x'], .leaf (.int 1))]), (.int 1, .leaf (.int 0))]

theorem exWsF_spec : specFold none (dropWs exWsF) = some exFoldF := by decide +kernel

theorem exWsF_ok : ∀ w ∈ exWsF, DictOKF w.2 := by
  have h : ∀ w ∈ exWsF, DomC01 .foam (normEs w.2) = true ∧ DomC01 .foam (normEs (dropUnderscoreEs .foam w.2)) = true ∧
      ffKey ∉ keys w.2 := by decide +kernel
  exact fun w hw => dictOKF_of_dom (h w hw).1 (h w hw).2.1 (h w hw).2.2

theorem ex_fold_foam (ev : Str → EvalResult) :
    ∃ t c₁ sd c₂, runWrites ev .foam C10.exTarget false none none exWsF = .ok (some t, c₁) ∧
      readFile ev [(C10.exTarget, .native t)] {} c₁ C10.exTarget = .ok (.ok sd c₂) ∧
      C01.dropPhEntries sd.data = ffEntry :: exFoldF := by
  obtain ⟨t, c₁, sd, c₂, D, h1, h2, h3, h4, _⟩ := C16_fold_foam ev C10.exTarget exWsF none (by decide)
    (by decide +kernel) exWsF_ok (Or.inl rfl) C10.exTarget_foam.1 C10.exTarget_foam.2
  rw [exWsF_spec] at h3
  cases h3
  exact ⟨t, c₁, sd, c₂, h1, h2, h4⟩

/-- **the unadjusted statement is false for the Foam flavour**: with the fold over the dicts as written
    (`specFold none exWsF`, private keys kept, nothing added) the conclusion of `C16_fold_statement` fails on the
    example — the file read back has lost `_p`, `_y`, `_q` and gained the `FoamFile` entry.  In Python terms:
    `DictWriter.write({'b': 1, '_p': 1, 3: {'z': 1, '_y': 2}}, 'dict.foam', mode='w')`, then
    `write({'a': "2", 'b': 9, '_p': 7, 3: {'_y': 5, 'x': 7}}, 'dict.foam', mode='a')`, then
    `write({'A': {'x': 1, '_q': 1}, 1: 0}, 'dict.foam', mode='a')`; `DictReader.read('dict.foam')`. -/
theorem foam_naive_fold_false (ev : Str → EvalResult) :
    ¬ ∃ t c₁ sd c₂ D, runWrites ev .foam C10.exTarget false none none exWsF = .ok (some t, c₁) ∧
      readFile ev [(C10.exTarget, .native t)] {} c₁ C10.exTarget = .ok (.ok sd c₂) ∧
      specFold none exWsF = some D ∧ C01.dropPhEntries sd.data = D := by
  rintro ⟨t, c₁, sd, c₂, D, h1, h2, h3, h4⟩
  obtain ⟨t', c₁', sd', c₂', g1, g2, g3⟩ := ex_fold_foam ev
  rw [h1] at g1
  cases g1
  rw [h2] at g2
  cases g2
  rw [h4] at g3
  subst g3
  revert h3
  decide +kernel

/-
#print axioms C16_fold_ordered      -- [propext, Classical.choice, Quot.sound]
#print axioms C16_fold_foam         -- [propext, Classical.choice, Quot.sound]
#print axioms ex_fold_ordered       -- [propext, Classical.choice, Quot.sound]
#print axioms ex_fold_foam          -- [propext, Classical.choice, Quot.sound]
#print axioms foam_naive_fold_false -- [propext, Classical.choice, Quot.sound]
#print axioms orderD_merge_orderD   -- [propext, Classical.choice, Quot.sound]
#print axioms drop_mergeD           -- [propext, Classical.choice, Quot.sound]
-/

end DictIO.C16ext
