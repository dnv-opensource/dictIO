/-
  C12 -- reading a document with comments AND `#include` directives (the documents, their labelling `labelI` and
  meaning `denI`: C12idoc; what the three comment stages make of an admissible layout: `include_stages`, C12stages).

    1   `exI`, `exIText`, `exISD`, `exI_model`, `exI_model_off`   the definitions against `parseNative`, by kernel evaluation
    2   `parseRest_labelledI`, `C12_read_included`       the reader after its comment stages on a labelled document;
                                                         the whole reader
    3   `exI_read`, `exI_incl`, `exI_keys`, `exI_directives`, `exI_read_off`    non-vacuity
    4   `C12_incl_table`, `C12_incl_table_stages`        the include table lists the directives, in document order
    5   `incl_needs_own_line`, `incl_name_no_line_comment`, `incl_indent_recorded`, `incl_clean_merges`,
        `incl_last_without_newline`                      what is excluded and why (witnesses)
    5a  `C08.nBlockII`, `C08.Levels`, `C08.levels_labelII`
                                                         every key of every dict level of what a labelled document means
                                                         satisfies `Q`, for any `Q` that holds of typed source words and
                                                         of the placeholder words drawn; its instances: `phOK_I` here,
                                                         `phWF_labelI` (`C08nat`, on an embedded commented document),
                                                         `phWF3_labelI` (`C08incl`)
    6   `clean_incl`, `C12_incl_table_result`, `C12_included_directives`
                                                         `_clean` keeps the table when no two directives have the same text
    7   `include_stages_off`, `C12_read_included_off`    comments switched off (`denIoff`)

  Hypotheses: a well-formed document (`ISrcWFItems`), an admissible layout (`GapsOKI`: every directive stands alone on
  its line), and those of `C12_read_commented`.
-/
import DictIO.Props.C12stages
import DictIO.Props.C12rest
import DictIO.Lemmas.DecEq
import DictIO.Lemmas.Literal
import DictIO.Lemmas.Ph

namespace DictIO.C12
open DictIO

/-! ## 1. the definitions against the executable model -/

/-- two line comments, a block comment, a top-level `#include 'inc/a'`, a nested `#include "../b"`, a last bare
    `#include /abs/c` -/
def exI : List IItem := [
  .lineC " head".toList,
  .entry ['a'] (.lit (.bare ['1'])),
  .incl (some '\'') "inc/a".toList,
  .blockC " blk ".toList,
  .entry ['n'] (.dict [.entry ['p'] (.lit (.quoted '\'' "x y".toList)), .incl (some '"') "../b".toList,
    .lineC " in".toList]),
  .incl none "/abs/c".toList]

def exIText : Str :=
  " // head\na 1;\n#include 'inc/a'\n /* blk */ n {\n  p 'x y';\n#include \"../b\"\n  // in\n}\n#include /abs/c\n".toList

/-- what the example means, read in `/d` from counter 6: the line comments draw 7 and 8, the directives 9, 10, 11 -/
def exISD : SD where
  data := [
    (.str "LINECOMMENT000007".toList, .leaf (.str "LINECOMMENT000007".toList)),
    (.str ['a'], .leaf (.int 1)),
    (.str "INCLUDE000009".toList, .leaf (.str "INCLUDE000009".toList)),
    (.str "BLOCKCOMMENT000000".toList, .leaf (.str "BLOCKCOMMENT000000".toList)),
    (.str ['n'], .dict [(.str ['p'], .leaf (.str "x y".toList)),
                   (.str "INCLUDE000010".toList, .leaf (.str "INCLUDE000010".toList)),
                   (.str "LINECOMMENT000008".toList, .leaf (.str "LINECOMMENT000008".toList))]),
    (.str "INCLUDE000011".toList, .leaf (.str "INCLUDE000011".toList))]
  lineC := [(7, "// head".toList), (8, "// in".toList)]
  blockC := [(0, "/* blk */".toList)]
  incl :=
    [(9, { directive := "#include 'inc/a'".toList, file := "inc/a".toList, path := "/d/inc/a".toList }),
     (10, { directive := "#include \"../b\"".toList, file := "../b".toList, path := "/d/../b".toList }),
     (11, { directive := "#include /abs/c".toList, file := "/abs/c".toList, path := "/abs/c".toList })]

theorem exI_den : denI "/d".toList (some 6) exI = exISD := by
  unfold exI exISD; literal_chars; decide +kernel

/-- with comments off the comment entries are missing, the tables are the same -/
theorem exI_denoff : denIoff "/d".toList (some 6) exI =
    { exISD with data := [
        (.str ['a'], .leaf (.int 1)),
        (.str "INCLUDE000009".toList, .leaf (.str "INCLUDE000009".toList)),
        (.str ['n'], .dict [(.str ['p'], .leaf (.str "x y".toList)),
                       (.str "INCLUDE000010".toList, .leaf (.str "INCLUDE000010".toList))]),
        (.str "INCLUDE000011".toList, .leaf (.str "INCLUDE000011".toList))] } := by
  unfold exI exISD; literal_chars; decide +kernel

set_option synthInstance.maxSize 1000 in
/-- the reader on the example text, from counter 6, in directory `/d`: field by field what `denI` says -/
theorem exI_model :
    (parseNative true "/d".toList (some 6) exIText).toOption.map
        (fun r => (r.1.data, r.1.exprs, r.1.lineC, r.1.blockC, r.1.incl, r.2)) =
      some ((denI "/d".toList (some 6) exI).data, [], (denI "/d".toList (some 6) exI).lineC,
        (denI "/d".toList (some 6) exI).blockC, (denI "/d".toList (some 6) exI).incl, some 12) := by
  rw [exI_den]; unfold exIText exISD; literal_chars; decide +kernel

set_option synthInstance.maxSize 1000 in
/-- the same with comments switched off -/
theorem exI_model_off :
    (parseNative false "/d".toList (some 6) exIText).toOption.map
        (fun r => (r.1.data, r.1.exprs, r.1.lineC, r.1.blockC, r.1.incl, r.2)) =
      some ((denIoff "/d".toList (some 6) exI).data, [], (denIoff "/d".toList (some 6) exI).lineC,
        (denIoff "/d".toList (some 6) exI).blockC, (denIoff "/d".toList (some 6) exI).incl, some 12) := by
  rw [exI_denoff]; unfold exIText exISD; literal_chars; decide +kernel

open Incl Stages

/-! ## 2. the whole reader -/

/-- the reader after its comment stages on a labelled document with directives, from any labelling state and any lexer
    state: `parseRest_labelled_clean` with what the labelling keeps of the document -/
theorem parseRest_labelledI (dir : Str) {items : List IItem} (s : ILabelSt) {gaps : List Str} {tail : Str} {st : LexSt}
    (hwf : ISrcWFItems 1 items = true) (hg : GapsOKS (srcToksPEs (labelIItems dir s items).2) gaps = true)
    (ht : tail.all isWs = true) (hl : st.lits = []) (he : st.exprs = [])
    (hc : C13.ValidCounter Gen.counterLimit st.counter)
    (hn : C02.countQuotedEs (plainIItems items) ≤ Gen.counterLimit + 1) (hd : C02.DocKeysAbsent (plainIItems items)) :
    parseRest st (spreadS (srcToksPEs (labelIItems dir s items).2) gaps tail) =
      .ok (({ data := denPEs (labelIItems dir s items).2 [], exprs := [], lineC := st.lineC, blockC := st.blockC,
              incl := st.incl } : SD).clean,
        C02.adv Gen.counterLimit (C02.countQuotedEs (plainIItems items)) st.counter) := by
  have hq : countQuotedEs' (labelIItems dir s items).2 = C02.countQuotedEs (plainIItems items) :=
    countQuoted_labelII dir items s
  rw [parseRest_labelled_clean (labelledI_wfI dir items 1 s hwf) hg ht hl he hc (by rw [hq]; exact hn)
    (docKeys_labelI dir items s hd), hq]

theorem labelI_icounter_valid (dir : Str) {c : Counter} (items : List IItem) (hc : C13.ValidCounter Gen.counterLimit c) :
    C13.ValidCounter Gen.counterLimit (labelI dir c items).1.icounter :=
  icounter_labelII dir items _ (C02.adv_valid _ hc)

/-- **C12_read_included.**  For every well-formed document with comments and include directives, every admissible
    layout of it, every directory and every valid counter value, the reader (comments on) returns exactly
    `denI dir c items`: the data with one `LINECOMMENTnnnnnn` / `BLOCKCOMMENTnnnnnn` / `INCLUDEnnnnnn` entry per comment /
    directive at the place and dict level where it stands, and the three tables; the counter has advanced by the
    number of line comments, directives and quoted strings. -/
theorem C12_read_included {items : List IItem} {gaps : List Str} {tail : Str} (dir : Str) (c : Counter)
    (hwf : ISrcWFItems 1 items = true) (hg : GapsOKI (itoksItems items) gaps tail = true)
    (htail : items = [] → tail.all isWs = true)
    (hc : C13.ValidCounter Gen.counterLimit c)
    (hn : C02.countQuotedEs (plainIItems items) ≤ Gen.counterLimit + 1)
    (hd : C02.DocKeysAbsent (plainIItems items)) :
    parseNative true dir c (spreadC (itoksItems items) gaps tail) =
      .ok (denI dir c items,
           C02.adv Gen.counterLimit (C02.countQuotedEs (plainIItems items)) (labelI dir c items).1.icounter) := by
  obtain ⟨gaps', tail', hst, hgs, ht⟩ := include_stages dir c hwf hg htail
  rw [parseNative_stages, hst]
  exact parseRest_labelledI dir _ hwf hgs ht rfl rfl (labelI_icounter_valid dir items hc) hn hd

/-! ## 3. non-vacuity: the example of section 1 through the theorem -/

/-- the tokens of the example (`itoksItems` is defined by well-founded recursion: unfolded with its equations) -/
def exIToks : List CTok :=
  [.lineC " head".toList, .tok (.word ['a']), .tok (.word ['1']), .tok (.word [';']),
   .tok (.word "#include 'inc/a'".toList), .blockC " blk ".toList, .tok (.word ['n']), .tok (.word ['{']),
   .tok (.word ['p']), .tok (.quoted '\'' "x y".toList), .tok (.word [';']), .tok (.word "#include \"../b\"".toList),
   .lineC " in".toList, .tok (.word ['}']), .tok (.word "#include /abs/c".toList)]

theorem exIToks_eq : itoksItems exI = exIToks := by
  unfold exI exIToks
  literal_chars
  simp only [itoksItems, Lit.tok, dirText_eq, quoteName, List.cons_append, List.nil_append]

/-- the layout of `exIText`: every directive alone on its line -/
def exIGaps : List Str :=
  [[' '], ['\n'], [' '], [], ['\n'], ['\n', ' '], [' '], [' '], ['\n', ' ', ' '], [' '], [], ['\n'], ['\n', ' ', ' '],
   ['\n'], ['\n']]

theorem exI_wf : ISrcWFItems 1 exI = true := by decide +kernel
theorem exIGaps_ok : GapsOKI (itoksItems exI) exIGaps ['\n'] = true := by
  rw [exIToks_eq]; unfold exIToks; literal_chars; decide +kernel
theorem exI_text : spreadC (itoksItems exI) exIGaps ['\n'] = exIText := by
  rw [exIToks_eq]; unfold exIToks exIText; literal_chars; decide +kernel

/-- the theorem on the example, any directory, any valid counter -/
theorem exI_read (dir : Str) (c : Counter) (hc : C13.ValidCounter Gen.counterLimit c) :
    parseNative true dir c exIText =
      .ok (denI dir c exI, C02.adv Gen.counterLimit (C02.countQuotedEs (plainIItems exI)) (labelI dir c exI).1.icounter) := by
  rw [← exI_text]
  exact C12_read_included dir c exI_wf exIGaps_ok (fun h => by cases h) hc (by decide +kernel) (by decide +kernel)

/-- what the example means, read in `/d` from counter 6 (the line comments draw 7 and 8, the directives 9, 10, 11):
    the include table, in document order, with the exact directive texts, file names and paths -/
theorem exI_incl : (denI "/d".toList (some 6) exI).incl =
    [(9, { directive := "#include 'inc/a'".toList, file := "inc/a".toList, path := "/d/inc/a".toList }),
     (10, { directive := "#include \"../b\"".toList, file := "../b".toList, path := "/d/../b".toList }),
     (11, { directive := "#include /abs/c".toList, file := "/abs/c".toList, path := "/abs/c".toList })] := by
  rw [exI_den]; rfl

theorem exI_keys : keys (denI "/d".toList (some 6) exI).data =
    [.str "LINECOMMENT000007".toList, .str ['a'], .str "INCLUDE000009".toList, .str "BLOCKCOMMENT000000".toList,
     .str ['n'], .str "INCLUDE000011".toList] ∧
    lookup (.str ['n']) (denI "/d".toList (some 6) exI).data =
      some (.dict [(.str ['p'], .leaf (.str "x y".toList)),
                   (.str "INCLUDE000010".toList, .leaf (.str "INCLUDE000010".toList)),
                   (.str "LINECOMMENT000008".toList, .leaf (.str "LINECOMMENT000008".toList))]) := by
  rw [exI_den]; unfold exISD; literal_chars; decide +kernel

/-! ## 4. the include table lists the directives of the source, in document order -/

mutual
  /-- the directives of a document, in document order -/
  def inclsV : ISrc → List (Option Char × Str)
    | .lit _ => []
    | .dict items => inclsItems items
    | .list _ => []
  def inclsItems : List IItem → List (Option Char × Str)
    | [] => []
    | .entry _ v :: r => inclsV v ++ inclsItems r
    | .lineC _ :: r => inclsItems r
    | .blockC _ :: r => inclsItems r
    | .incl q n :: r => (q, n) :: inclsItems r
end

theorem incls_embC (items : List CItem) : inclsItems (embCItems items) = [] := by
  induction items using CItems.ind with
  | nil => simp only [embCItems, inclsItems]
  | lineC t r ih => simp only [embCItems, inclsItems, ih]
  | blockC t r ih => simp only [embCItems, inclsItems, ih]
  | lit k l r ih => simp only [embCItems, embCV, inclsItems, inclsV, ih, List.append_nil]
  | list k xs r ih => simp only [embCItems, embCV, inclsItems, inclsV, ih, List.append_nil]
  | dict k items r ihd ih => simp only [embCItems, embCV, inclsItems, inclsV, ihd, ih, List.append_nil]

/-- table update with a list of entries -/
def setAllI (t : Tbl InclEntry) (l : List (Nat × InclEntry)) : Tbl InclEntry := l.foldl (fun t p => t.set p.1 p.2) t

theorem setAllI_append (t : Tbl InclEntry) (l l' : List (Nat × InclEntry)) :
    setAllI t (l ++ l') = setAllI (setAllI t l) l' := tbl_update_append t l l'

theorem setAllI_nodup : ∀ (l : List (Nat × InclEntry)) (t : Tbl InclEntry), (t.map (·.1) ++ l.map (·.1)).Nodup →
    setAllI t l = t ++ l :=
  tbl_update_nodup

/-- the entries of the directives with the ids drawn for them, in document order -/
def drawnIncl (dir : Str) (c : Counter) (l : List (Option Char × Str)) : List (Nat × InclEntry) :=
  List.zip (alloc Gen.counterLimit l.length c) (l.map fun p => inclEntry dir p.1 p.2)

theorem drawnIncl_append (dir : Str) (c : Counter) (l l' : List (Option Char × Str)) :
    drawnIncl dir c (l ++ l') = drawnIncl dir c l ++ drawnIncl dir (C02.adv Gen.counterLimit l.length c) l' := by
  simp only [drawnIncl, List.length_append, C02.alloc_add, List.map_append]
  exact List.zip_append (by simp [alloc_length])

mutual
  theorem incl_stateV (dir : Str) : ∀ (v : ISrc) (st : ILabelSt),
      (labelIV dir st v).1.incl = setAllI st.incl (drawnIncl dir st.icounter (inclsV v)) ∧
      (labelIV dir st v).1.icounter = C02.adv Gen.counterLimit (inclsV v).length st.icounter
    | .lit l, st => by simp [labelIV, inclsV, drawnIncl, setAllI, alloc, C02.adv]
    | .dict items, st => by simpa only [labelIV, inclsV] using incl_stateI dir items st
    | .list xs, st => by simp [labelIV, inclsV, drawnIncl, setAllI, alloc, C02.adv]
  /-- the include table after the labelling: the entries of the directives, set in document order under the ids drawn
      in that order; the counter has advanced by their number -/
  theorem incl_stateI (dir : Str) : ∀ (items : List IItem) (st : ILabelSt),
      (labelIItems dir st items).1.incl = setAllI st.incl (drawnIncl dir st.icounter (inclsItems items)) ∧
      (labelIItems dir st items).1.icounter = C02.adv Gen.counterLimit (inclsItems items).length st.icounter
    | [], st => by simp [labelIItems, inclsItems, drawnIncl, setAllI, alloc, C02.adv]
    | .entry k v :: r, st => by
      obtain ⟨h1, h2⟩ := incl_stateV dir v st
      obtain ⟨h3, h4⟩ := incl_stateI dir r (labelIV dir st v).1
      simp only [labelIItems, inclsItems, drawnIncl_append, setAllI_append, List.length_append, C02.adv_add]
      rw [h3, h4, h1, h2]
      exact ⟨rfl, rfl⟩
    | .lineC x :: r, st => by
      simp only [labelIItems, inclsItems]
      exact incl_stateI dir r _
    | .blockC x :: r, st => by
      simp only [labelIItems, inclsItems]
      exact incl_stateI dir r _
    | .incl q n :: r, st => by
      obtain ⟨h3, h4⟩ := incl_stateI dir r
        { st with icounter := (Counter.next Gen.counterLimit st.icounter).2,
                  incl := st.incl.set (Counter.next Gen.counterLimit st.icounter).1 (inclEntry dir q n) }
      simp only [labelIItems, inclsItems]
      rw [h3, h4]
      simp [drawnIncl, alloc, setAllI, C02.adv]
end

/-- **every `#include` directive of the source is in the include table the reader builds, with its exact directive
    text, its file name and its path, in document order**, under consecutive ids that follow those of the line
    comments.  This is the table in the reader's state after its stages, i.e. the table `_clean` starts from
    (`denI` is `_clean` of it): `_clean` deletes an entry only when the same level holds a second directive with the
    same text, see `incl_clean_merges`. -/
theorem C12_incl_table {items : List IItem} (dir : Str) (c : Counter)
    (hc : C13.ValidCounter Gen.counterLimit c) (hm : (inclsItems items).length ≤ Gen.counterLimit + 1) :
    (labelI dir c items).1.incl =
      List.zip (alloc Gen.counterLimit (inclsItems items).length (C02.adv Gen.counterLimit (countLineItems items) c))
        ((inclsItems items).map fun p =>
          ({ directive := dirText p.1 p.2, file := p.2,
             path := if p.2.head? == some '/' then p.2 else dir ++ ['/'] ++ p.2 } : InclEntry)) := by
  have h := (incl_stateI dir items
    { c := { counter := c }, icounter := C02.adv Gen.counterLimit (countLineItems items) c }).1
  have e : (labelI dir c items).1.incl = _ := h
  rw [e, setAllI_nodup _ [] ?_]
  · rfl
  · have : (drawnIncl dir (C02.adv Gen.counterLimit (countLineItems items) c) (inclsItems items)).map (·.1) =
        alloc Gen.counterLimit (inclsItems items).length (C02.adv Gen.counterLimit (countLineItems items) c) := by
      simp only [drawnIncl]
      rw [List.map_fst_zip]
      simp [alloc_length]
    simp only [List.map_nil, List.nil_append, this]
    exact C13.alloc_nodup hm (C02.adv_valid _ hc)

/-- … and that table is what the reader's stages leave in its state -/
theorem C12_incl_table_stages {d : Nat} {items : List IItem} {gaps : List Str} {tail : Str} (dir : Str) (c : Counter)
    (hwf : ISrcWFItems d items = true) (hg : GapsOKI (itoksItems items) gaps tail = true)
    (htail : items = [] → tail.all isWs = true) :
    (commentStages true dir c (spreadC (itoksItems items) gaps tail)).1.incl = (labelI dir c items).1.incl := by
  obtain ⟨_, _, h, _, _⟩ := include_stages dir c hwf hg htail
  rw [h]

/-! ## 5. what is excluded, and why -/

/-- a directive must stand alone on its line: behind other text it is no directive (no table entry, no placeholder) -/
theorem incl_needs_own_line :
    (parseNative true "/d".toList none "a 1; #include 'x'\n".toList).toOption.map (fun r => (keys r.1.data, r.1.incl)) =
      some ([.str ['a']], []) := by literal_chars; decide +kernel

/-- … and so it is inside a dict on the line of the opening brace -/
theorem incl_needs_own_line_nested :
    (parseNative true "/d".toList none "b { #include \"sub/y\"\n }\n".toList).toOption.map
        (fun r => (keys r.1.data, r.1.incl)) = some ([.str ['b']], []) := by literal_chars; decide +kernel

/-- a file name must not contain `//`: the line-comment stage runs first and cuts the directive -/
theorem incl_name_no_line_comment :
    (parseNative true "/d".toList none "#include 'a//b'\n".toList).toOption.map (fun r => r.1.incl.map (·.2.file)) =
      some ["aLINECOMMENT000000".toList] := by literal_chars; decide +kernel

/-- white space in front of `#` (after the line break) and behind the name is accepted by the reader but becomes part
    of the recorded directive text: the layouts of `GapsOKI` have none (the gap in front ends with the line break, the
    gap behind starts with the line feed) -/
theorem incl_indent_recorded :
    (parseNative true "/d".toList none "  #include 'x'  \n".toList).toOption.map
        (fun r => r.1.incl.map (fun e => (e.2.directive, e.2.file))) =
      some [("  #include 'x'  ".toList, ['x'])] := by literal_chars; decide +kernel

/-- `_clean` merges identical directives of one dict level: the second `#include 'x'` loses its table entry (and its
    placeholder entry).  `denI` says so, and the reader agrees (`C12_read_included`). -/
theorem incl_clean_merges :
    (labelI "/d".toList none [.incl (some '\'') ['x'], .incl (some '\'') ['x']]).1.incl.length = 2 ∧
    (denI "/d".toList none [.incl (some '\'') ['x'], .incl (some '\'') ['x']]).incl =
      [(0, { directive := "#include 'x'".toList, file := ['x'], path := "/d/x".toList })] ∧
    keys (denI "/d".toList none [.incl (some '\'') ['x'], .incl (some '\'') ['x']]).data = [.str "INCLUDE000000".toList] ∧
    (parseNative true "/d".toList none "#include 'x'\n#include 'x'\n".toList).toOption.map (fun r => r.1.incl) =
      some (denI "/d".toList none [.incl (some '\'') ['x'], .incl (some '\'') ['x']]).incl := by
  have h : denI "/d".toList none [.incl (some '\'') ['x'], .incl (some '\'') ['x']] =
      { data := [(.str "INCLUDE000000".toList, .leaf (.str "INCLUDE000000".toList))],
        incl := [(0, { directive := "#include 'x'".toList, file := ['x'], path := "/d/x".toList })] } := by
    literal_chars; decide +kernel
  rw [h]
  literal_chars
  exact ⟨by decide +kernel, rfl, rfl, by decide +kernel⟩

/-- not covered (but handled by the reader in the same way): a directive that ends the text without a line feed; the
    layouts of `GapsOKI` demand the line feed -/
theorem incl_last_without_newline :
    (parseNative true "/d".toList none "#include 'x'".toList).toOption.map (fun r => (keys r.1.data, r.1.incl)) =
      some ([.str "INCLUDE000000".toList],
        [(0, { directive := "#include 'x'".toList, file := ['x'], path := "/d/x".toList })]) := by
  literal_chars; decide +kernel

/-! ## 5a. the keys of the dict levels of what a labelled document means -/

end DictIO.C12

namespace DictIO.C08
open DictIO

mutual
  /-- number of block comments of a document with directives -/
  def nBlockIV : ISrc → Nat
    | .lit _ => 0
    | .dict items => nBlockII items
    | .list _ => 0
  def nBlockII : List IItem → Nat
    | [] => 0
    | .entry _ v :: r => nBlockIV v + nBlockII r
    | .lineC _ :: r => nBlockII r
    | .blockC _ :: r => 1 + nBlockII r
    | .incl _ _ :: r => nBlockII r
end

mutual
  theorem blockLen_labelIV (dir : Str) : ∀ (v : ISrc) (st : ILabelSt),
      (labelIV dir st v).1.c.blockC.length = st.c.blockC.length + nBlockIV v
    | .lit l, st => by simp only [labelIV, nBlockIV, Nat.add_zero]
    | .dict items, st => by simp only [labelIV, nBlockIV, blockLen_labelII dir items st]
    | .list xs, st => by simp only [labelIV, nBlockIV, Nat.add_zero]
  theorem blockLen_labelII (dir : Str) : ∀ (items : List IItem) (st : ILabelSt),
      (labelIItems dir st items).1.c.blockC.length = st.c.blockC.length + nBlockII items
    | [], st => by simp only [labelIItems, nBlockII, Nat.add_zero]
    | .entry k v :: r, st => by
      simp only [labelIItems, nBlockII, blockLen_labelII dir r _, blockLen_labelIV dir v st, Nat.add_assoc]
    | .lineC x :: r, st => by simp only [labelIItems, nBlockII, blockLen_labelII dir r _]
    | .blockC x :: r, st => by
      simp only [labelIItems, nBlockII, blockLen_labelII dir r _, List.length_append, List.length_singleton, Nat.add_assoc]
    | .incl q n :: r, st => by simp only [labelIItems, nBlockII, blockLen_labelII dir r _]
end

open DictIO.C12 (inclsV inclsItems)

theorem isPhTok_linePh (i : Nat) : isPhTok (linePh i) = true := (C12.linePh_tok i).2
theorem isPhTok_blockPh (i : Nat) : isPhTok (blockPh i) = true := (C12.blockPh_tok i).2
theorem isPhTok_inclPh (i : Nat) : isPhTok (inclPh i) = true := (C12.Incl.inclPh_tok i).2

/-- `WV` / `WEs` say of a value / of a dict level that every key of every dict level in it (through dict nesting, not
    through lists) satisfies `Q`: the five facts through which such a pair of predicates is built up; and `Q` holds of
    the keys a labelled document without directives brings: typed source words, the placeholder words of line comments
    and those of the first `B` block comments -/
structure Levels (Q : Key → Prop) (WV : Val → Prop) (WEs : Entries → Prop) (B : Nat) : Prop where
  leaf : ∀ x, WV (.leaf x)
  list : ∀ xs, WV (.list xs)
  dict : ∀ {es}, WEs es → WV (.dict es)
  nil : WEs []
  set : ∀ {k v es}, Q k → WV v → WEs es → WEs (setKey k v es)
  typed : ∀ {k}, C07.isPhKey k = false → Q k
  line : ∀ i, i < 1000000 → Q (.str (linePh i))
  block : ∀ i, i < B → Q (.str (blockPh i))

section
variable {Q : Key → Prop} {WV : Val → Prop} {WEs : Entries → Prop} {B : Nat} (L : Levels Q WV WEs B)
include L

mutual
  theorem levels_labelIV (dir : Str) : ∀ (v : ISrc) (d : Nat) (st : ILabelSt), ISrcWFV d v = true →
      st.c.blockC.length + nBlockIV v ≤ B → (inclsV v = [] ∨ ∀ i, i < 1000000 → Q (.str (inclPh i))) →
      WV (denPV (labelIV dir st v).2)
    | .lit l, _, _, _, _, _ => by simp only [labelIV, denPV]; exact L.leaf _
    | .dict items, d, st, hw, hb, hi => by
      simp only [ISrcWFV] at hw
      simp only [nBlockIV] at hb
      simp only [inclsV] at hi
      simp only [labelIV, denPV]
      exact L.dict (levels_labelII dir items (d + 1) st [] hw hb hi L.nil)
    | .list xs, _, _, _, _, _ => by simp only [labelIV, denPV]; exact L.list _
  /-- **every key of every dict level of what a labelled document means satisfies `Q`**, when `Q` holds of typed source
      words and of the placeholder words drawn: the include words are asked for only when there is a directive (a
      commented document has none: `incls_embC`) -/
  theorem levels_labelII (dir : Str) : ∀ (items : List IItem) (d : Nat) (st : ILabelSt) (acc : Entries),
      ISrcWFItems d items = true → st.c.blockC.length + nBlockII items ≤ B →
      (inclsItems items = [] ∨ ∀ i, i < 1000000 → Q (.str (inclPh i))) → WEs acc →
      WEs (denPEs (labelIItems dir st items).2 acc)
    | [], _, _, _, _, _, _, hacc => by simpa only [labelIItems, denPEs] using hacc
    | .entry k v :: r, d, st, acc, hw, hb, hi, hacc => by
      simp only [ISrcWFItems, Bool.and_eq_true] at hw
      obtain ⟨⟨⟨hk, hkey⟩, hv⟩, hr⟩ := hw
      obtain ⟨key, hkey⟩ := Option.isSome_iff_exists.mp hkey
      simp only [nBlockII] at hb
      simp only [inclsItems, List.append_eq_nil_iff] at hi
      simp only [labelIItems]
      rw [C12.denPEs_cons (C02.srcWord_facts hk).2.1 hkey]
      exact levels_labelII dir r d _ _ hr (by rw [blockLen_labelIV]; omega) (hi.imp And.right id)
        (L.set (L.typed (C02.Main.typedKey_noPh hk hkey)) (levels_labelIV dir v d st hv (by omega) (hi.imp And.left id))
          hacc)
    | .lineC x :: r, d, st, acc, hw, hb, hi, hacc => by
      simp only [ISrcWFItems, Bool.and_eq_true] at hw
      simp only [nBlockII] at hb
      simp only [inclsItems] at hi
      simp only [labelIItems]
      rw [C12.denPEs_cons_ph (isPhTok_linePh _)]
      exact levels_labelII dir r d _ _ hw.2 hb hi (L.set (L.line _ (C12.Incl.next_lt _)) (L.leaf _) hacc)
    | .blockC x :: r, d, st, acc, hw, hb, hi, hacc => by
      simp only [ISrcWFItems, Bool.and_eq_true] at hw
      simp only [nBlockII] at hb
      simp only [inclsItems] at hi
      simp only [labelIItems]
      rw [C12.denPEs_cons_ph (isPhTok_blockPh _)]
      exact levels_labelII dir r d _ _ hw.2 (by simp only [List.length_append, List.length_singleton]; omega) hi
        (L.set (L.block _ (by omega)) (L.leaf _) hacc)
    | .incl q n :: r, d, st, acc, hw, hb, hi, hacc => by
      simp only [ISrcWFItems, Bool.and_eq_true] at hw
      simp only [nBlockII] at hb
      have hq := hi.resolve_left (by simp only [inclsItems]; exact List.cons_ne_nil _ _)
      simp only [labelIItems]
      rw [C12.denPEs_cons_ph (isPhTok_inclPh _)]
      exact levels_labelII dir r d _ _ hw.2 hb (.inr hq) (L.set (hq _ (C12.Incl.next_lt _)) (L.leaf _) hacc)
end

end

end DictIO.C08

namespace DictIO.C12
open DictIO
open Incl Stages

/-! ### `Ph.plain` with `kind_noSX` at the include kind, as a conjunction; the same of its keyword -/

namespace Incl

theorem inclPh_facts (i : Nat) : ∀ c ∈ inclPh i, isQuote c = false ∧ c ≠ '$' ∧ c ≠ '\\' ∧ c ≠ 'S' ∧ c ≠ 'X' ∧ c ≠ '/' ∧
    c ≠ '*' ∧ c ≠ '#' ∧ c ≠ ':' ∧ isLineBreak c = false ∧ isWs c = false :=
  fun c hc => have p := Ph.plain .incl i c hc; have n := NoMark.of p.nmark
  ⟨p.nquote, n.dollar, n.bslash, fun e => (kind_noSX .incl i).1 (e ▸ hc), fun e => (kind_noSX .incl i).2 (e ▸ hc),
    n.slash, n.star, n.hash, n.colon, p.nbreak, p.nws⟩

theorem kwIncl_facts : ∀ c ∈ kwIncl, isQuote c = false ∧ c ≠ '$' ∧ c ≠ '\\' ∧ c ≠ 'S' ∧ c ≠ 'X' ∧ c ≠ '/' ∧
    c ≠ '*' ∧ c ≠ '#' ∧ c ≠ ':' ∧ isLineBreak c = false ∧ isWs c = false ∧ Gen.delimiters.contains c = false :=
  fun c hc => let ⟨h1, h2, h3, h4, h5, h6, h7, h8, h9, h10, h11⟩ := inclPh_facts 0 c (List.mem_append_left _ hc)
  ⟨h1, h2, h3, h4, h5, h6, h7, h8, h9, h10, h11, (Plain.of_mem (List.mem_append_left _ (Ph.kw_upper .incl c hc))).ndelim⟩

end Incl

/-! ## 6. `_clean` keeps the include table when no two directives have the same text -/

namespace Incl

/-- the table has no value twice -/
def TblInj {α} (t : Tbl α) : Prop := ∀ i j a, t.get? i = some a → t.get? j = some a → i = j

/-- the id `_clean_data` reads off a key -/
def fsdK : Key → Option Nat
  | .str x => firstSixDigits x
  | .int _ => none

/-- the `fsdK` form of "distinct ids" for `look_nodup` -/
theorem look_nodup_fsdK {α} (t : Tbl α) (ht : TblInj t) {cand : List Key} (hnd : cand.Nodup)
    (hinj : ∀ k ∈ cand, ∀ k' ∈ cand, fsdK k = fsdK k' → fsdK k ≠ none → k = k') : (cand.filterMap (C12W.look t)).Nodup :=
  look_nodup t ht hnd fun x x' i hx hx' e e' =>
    Key.str.inj (hinj _ hx _ hx' (e.trans e'.symm) (by show firstSixDigits x ≠ none; rw [e]; simp))

/-- the loop of `_clean_data` for one class of keys leaves the table alone when the candidates are distinct keys with
    distinct ids and the table has no value twice -/
theorem cleanStep_tbl {α} [BEq α] [LawfulBEq α] (sel : Key → Bool) (lvl : Entries) (t : Tbl α) (ht : TblInj t)
    (hn : (keys lvl).Nodup)
    (hinj : ∀ k ∈ keys lvl, ∀ k' ∈ keys lvl, sel k = true → sel k' = true → fsdK k = fsdK k' → fsdK k ≠ none → k = k') :
    (cleanStep sel lvl t).2 = t := by
  rw [cleanStep_id sel lvl t (look_nodup_fsdK t ht (hn.filter _) fun k hk k' hk' =>
    hinj k (List.mem_filter.mp hk).1 k' (List.mem_filter.mp hk').1 (List.mem_filter.mp hk).2 (List.mem_filter.mp hk').2)]

/-- an include key is the reader's own placeholder word -/
def SelIOK (k : Key) : Prop := C06.selI k = true → ∃ i, i < 1000000 ∧ k = .str (inclPh i)

mutual
  /-- at every dict level (not inside lists) the include keys are the reader's own placeholder words -/
  def PhOKV : Val → Prop
    | .dict es => PhOKEs es
    | _ => True
  def PhOKEs : Entries → Prop
    | [] => True
    | (k, v) :: es => SelIOK k ∧ PhOKV v ∧ PhOKEs es
end

theorem phOKEs_iff : ∀ {es : Entries}, PhOKEs es ↔ ∀ e ∈ es, SelIOK e.1 ∧ PhOKV e.2
  | [] => by simp [PhOKEs]
  | (k, v) :: es => by simp [PhOKEs, phOKEs_iff (es := es), and_assoc]

theorem firstSix_inclPh {n : Nat} (h : n < 1000000) : firstSixDigits (inclPh n) = some n := Ph.firstSix_ph .incl h

set_option linter.unusedVariables false in
theorem inclPh_inj {i j : Nat} (hi : i < 1000000) (hj : j < 1000000) (h : inclPh i = inclPh j) : i = j :=
  Ph.ph_inj (a := .incl) h

theorem keyInj_of_phOK {lvl : Entries} (h : PhOKEs lvl) :
    ∀ k ∈ keys lvl, ∀ k' ∈ keys lvl, C06.selI k = true → C06.selI k' = true → fsdK k = fsdK k' → fsdK k ≠ none → k = k' := by
  intro k hk k' hk' hs hs' hf _
  obtain ⟨e, he, rfl⟩ := List.mem_map.mp hk
  obtain ⟨e', he', rfl⟩ := List.mem_map.mp hk'
  obtain ⟨i, hi, ei⟩ := (phOKEs_iff.mp h e he).1 hs
  obtain ⟨j, hj, ej⟩ := (phOKEs_iff.mp h e' he').1 hs'
  rw [ei, ej] at hf ⊢
  simp only [fsdK, firstSix_inclPh hi, firstSix_inclPh hj, Option.some.injEq] at hf
  rw [hf]

theorem cleanLevel_incl (s : SD) (lvl : Entries) (ht : TblInj s.incl) (hn : (keys lvl).Nodup) (hp : PhOKEs lvl) :
    (cleanLevel s lvl).1.incl = s.incl := by
  rw [cleanLevel_eq]
  show (cleanStep C06.selI (cleanStep C06.selB lvl s.blockC).1 s.incl).2 = s.incl
  have hsub : (cleanStep C06.selB lvl s.blockC).1.Sublist lvl :=
    cleanStep_inv (fun d => d.Sublist lvl) _ (fun k d _ hd => (delKey_sublist k d).trans hd) lvl s.blockC
      (List.Sublist.refl _)
  have hks : (keys (cleanStep C06.selB lvl s.blockC).1).Sublist (keys lvl) := hsub.map _
  refine cleanStep_tbl _ _ _ ht (hks.nodup hn) ?_
  intro k hk k' hk'
  exact keyInj_of_phOK hp k (hks.subset hk) k' (hks.subset hk')

theorem cleanRec_incl (fuel : Nat) (s : SD) (lvl : Entries) (ht : TblInj s.incl) (hn : NodupKeysV (.dict lvl))
    (hp : PhOKEs lvl) : (cleanRec fuel s lvl).1.incl = s.incl :=
  cleanRec_induct (Pre := fun s lvl => TblInj s.incl ∧ NodupKeysV (.dict lvl) ∧ PhOKEs lvl)
    (M := fun s _ s' _ => s'.incl = s.incl) (fun _ _ _ => rfl)
    (fun s lvl h => cleanLevel_incl s lvl h.1 h.2.1.1 h.2.2)
    (fun s lvl s' _ k sub h hm he => by
      have hm' := (C06.cleanLevel_spec s lvl).1.subset he
      exact ⟨by rw [hm]; exact h.1, nodupKeysEs_iff.mp h.2.1.2 _ hm', (phOKEs_iff.mp h.2.2 _ hm').2⟩)
    (fun _ _ _ _ _ _ _ _ _ hm _ hr => hr.trans hm) fuel s lvl ⟨ht, hn, hp⟩

theorem clean_incl (s : SD) (ht : TblInj s.incl) (hn : NodupKeysV (.dict s.data)) (hp : PhOKEs s.data) :
    s.clean.incl = s.incl :=
  (SD.clean_incl s).trans (cleanRec_incl _ s s.data ht hn hp)

theorem phOK_setKey {k : Key} {v : Val} {acc : Entries} (hk : SelIOK k) (hv : PhOKV v) (ha : PhOKEs acc) :
    PhOKEs (setKey k v acc) :=
  phOKEs_iff.mpr (forall_mem_setKey (phOKEs_iff.mp ha) ⟨hk, hv⟩)

theorem selIOK_ph {a : Ph.Kind} (h : .incl ≠ a) (i : Nat) : SelIOK (.str (Ph.ph a i)) := by
  intro hs
  have : containsPh kwIncl (Ph.ph a i) = false := Ph.containsPh_other (a := .incl) h i
  simp [C06.selI, this] at hs

theorem levels_phOK (B : Nat) : C08.Levels SelIOK PhOKV PhOKEs B where
  leaf _ := by simp only [PhOKV]
  list _ := by simp only [PhOKV]
  dict h := by simpa only [PhOKV] using h
  nil := by simp only [PhOKEs]
  set := phOK_setKey
  typed h hs := by rw [show C06.selI _ = _ from Ph.selK_noPh .incl h] at hs; cases hs
  line i _ := selIOK_ph (a := .line) (by decide) i
  block i _ := selIOK_ph (a := .block) (by decide) i

theorem phOK_V (dir : Str) : ∀ (v : ISrc) (d : Nat) (st : ILabelSt), ISrcWFV d v = true →
    PhOKV (denPV (labelIV dir st v).2) := fun v d st h =>
  C08.levels_labelIV (levels_phOK _) dir v d st h (Nat.le_refl _) (.inr fun i hi _ => ⟨i, hi, rfl⟩)

/-- in the meaning of a labelled document every include key is a placeholder word of the reader -/
theorem phOK_I (dir : Str) : ∀ (items : List IItem) (d : Nat) (st : ILabelSt) (acc : Entries),
    ISrcWFItems d items = true → PhOKEs acc → PhOKEs (denPEs (labelIItems dir st items).2 acc) :=
  fun items d st acc h ha =>
    C08.levels_labelII (levels_phOK _) dir items d st acc h (Nat.le_refl _) (.inr fun i hi _ => ⟨i, hi, rfl⟩) ha

theorem zip_snd_inj {α} : ∀ (ids : List Nat) (vals : List α), vals.Nodup →
    ∀ i j a, (i, a) ∈ List.zip ids vals → (j, a) ∈ List.zip ids vals → i = j
  | [], _, _, i, j, a, h, _ => by simp at h
  | _ :: _, [], _, i, j, a, h, _ => by simp at h
  | x :: ids, v :: vals, hn, i, j, a, h1, h2 => by
    obtain ⟨hv, hn'⟩ := List.nodup_cons.mp hn
    simp only [List.zip_cons_cons, List.mem_cons, Prod.mk.injEq] at h1 h2
    rcases h1 with ⟨rfl, rfl⟩ | h1 <;> rcases h2 with ⟨rfl, e⟩ | h2
    · rfl
    · exact absurd (List.of_mem_zip h2).2 hv
    · subst e; exact absurd (List.of_mem_zip h1).2 hv
    · exact zip_snd_inj ids vals hn' i j a h1 h2

theorem tblInj_zip {α} (ids : List Nat) (vals : List α) (hv : vals.Nodup) : TblInj (List.zip ids vals) :=
  fun i j a h1 h2 => zip_snd_inj ids vals hv i j a (tbl_get_mem h1) (tbl_get_mem h2)

end Incl
open Incl

/-- **the include table of the result.**  When no two directives of the document have the same text (`_clean` merges
    those when they stand at one level, `incl_clean_merges`), every `#include` directive of the source is in the
    include table of what the document means — hence of what the reader returns (`C12_read_included`) — with its exact
    directive text, its file name and its path, in document order, under consecutive ids that follow those of the
    line comments. -/
theorem C12_incl_table_result {d : Nat} {items : List IItem} (dir : Str) (c : Counter)
    (hwf : ISrcWFItems d items = true) (hc : C13.ValidCounter Gen.counterLimit c)
    (hm : (inclsItems items).length ≤ Gen.counterLimit + 1)
    (hdist : ((inclsItems items).map fun p => dirText p.1 p.2).Nodup) :
    (denI dir c items).incl =
      List.zip (alloc Gen.counterLimit (inclsItems items).length (C02.adv Gen.counterLimit (countLineItems items) c))
        ((inclsItems items).map fun p =>
          ({ directive := dirText p.1 p.2, file := p.2,
             path := if p.2.head? == some '/' then p.2 else dir ++ ['/'] ++ p.2 } : InclEntry)) := by
  have htab := C12_incl_table (items := items) dir c hc hm
  rw [denI_unfold, clean_incl _ ?_ (denP_nodup _ [] C07.nodupV_nil) (phOK_I dir items d _ [] hwf (by simp only [PhOKEs]))]
  · exact htab
  · show TblInj (labelI dir c items).1.incl
    rw [htab]
    refine tblInj_zip _ _ (nodup_of_nodup_map (fun e : InclEntry => e.directive) ?_)
    rw [List.map_map]
    exact hdist

/-- the reader and the include directives of its input, in one statement -/
theorem C12_included_directives {items : List IItem} {gaps : List Str} {tail : Str} (dir : Str) (c : Counter)
    (hwf : ISrcWFItems 1 items = true) (hg : GapsOKI (itoksItems items) gaps tail = true)
    (htail : items = [] → tail.all isWs = true)
    (hc : C13.ValidCounter Gen.counterLimit c)
    (hn : C02.countQuotedEs (plainIItems items) ≤ Gen.counterLimit + 1)
    (hd : C02.DocKeysAbsent (plainIItems items))
    (hm : (inclsItems items).length ≤ Gen.counterLimit + 1)
    (hdist : ((inclsItems items).map fun p => dirText p.1 p.2).Nodup) :
    ∃ sd c', parseNative true dir c (spreadC (itoksItems items) gaps tail) = .ok (sd, c') ∧
      sd.incl =
        List.zip (alloc Gen.counterLimit (inclsItems items).length (C02.adv Gen.counterLimit (countLineItems items) c))
          ((inclsItems items).map fun p =>
            ({ directive := dirText p.1 p.2, file := p.2,
               path := if p.2.head? == some '/' then p.2 else dir ++ ['/'] ++ p.2 } : InclEntry)) :=
  ⟨_, _, C12_read_included dir c hwf hg htail hc hn hd, C12_incl_table_result dir c hwf hc hm hdist⟩

/-! ## 7. comments switched off -/

namespace Incl

/-- no comment token -/
def notC : CTok → Bool
  | .tok _ => true
  | _ => false

/-- the comment tokens removed -/
def stripC (ts : List CTok) : List CTok := ts.filter notC

theorem stripC_nil : stripC [] = [] := rfl
theorem stripC_tok (a : STok) (r : List CTok) : stripC (.tok a :: r) = .tok a :: stripC r := rfl
theorem stripC_lineC (x : Str) (r : List CTok) : stripC (.lineC x :: r) = stripC r := rfl
theorem stripC_blockC (x : Str) (r : List CTok) : stripC (.blockC x :: r) = stripC r := rfl
theorem stripC_append (a b : List CTok) : stripC (a ++ b) = stripC a ++ stripC b := List.filter_append ..
theorem stripC_map : ∀ (l : List STok), stripC (l.map .tok) = l.map .tok
  | [] => rfl
  | a :: l => by rw [List.map_cons, stripC_tok, stripC_map l]

mutual
  theorem itoks_dropV : ∀ (v : ISrc), itoksV (dropCV v) = stripC (itoksV v)
    | .lit l => by simp only [dropCV, itoksV, stripC_tok, stripC_nil]
    | .dict items => by
      simp only [dropCV, itoksV, itoks_dropI items, List.cons_append, stripC_tok, stripC_append, stripC_nil]
    | .list xs => by
      simp only [dropCV, itoksV, List.cons_append, stripC_tok, stripC_append, stripC_nil, stripC_map]
  theorem itoks_dropI : ∀ (items : List IItem), itoksItems (dropCItems items) = stripC (itoksItems items)
    | [] => by simp only [dropCItems, itoksItems, stripC_nil]
    | .entry k (.lit l) :: r => by
      simp only [dropCItems, dropCV, itoksItems, itoks_dropI r, stripC_tok]
    | .entry k (.dict dd) :: r => by
      simp only [dropCItems, dropCV, itoksItems, itoks_dropI r, itoks_dropI dd, List.cons_append, List.append_assoc,
        stripC_tok, stripC_append, stripC_nil]
    | .entry k (.list xs) :: r => by
      simp only [dropCItems, dropCV, itoksItems, itoks_dropI r, List.cons_append, List.append_assoc,
        stripC_tok, stripC_append, stripC_nil, stripC_map]
    | .lineC x :: r => by
      simp only [dropCItems, itoksItems, itoks_dropI r, stripC_lineC]
    | .blockC x :: r => by
      simp only [dropCItems, itoksItems, itoks_dropI r, stripC_blockC]
    | .incl q n :: r => by
      simp only [dropCItems, itoksItems, itoks_dropI r, stripC_tok]
end

theorem inclToks_strip (dir : Str) : ∀ (ts : List CTok) (st : LexSt),
    inclToks dir st (stripC ts) = ((inclToks dir st ts).1, stripC (inclToks dir st ts).2)
  | [], _ => rfl
  | .tok a :: r, st => by
    rw [stripC_tok]
    simp only [inclToks]
    split
    · rw [inclToks_strip dir r, stripC_tok]
    · rw [inclToks_strip dir r, stripC_tok]
  | .lineC x :: r, st => by
    rw [stripC_lineC, inclToks_plain dir st rfl, inclToks_strip dir r, stripC_lineC]
  | .blockC x :: r, st => by
    rw [stripC_blockC, inclToks_plain dir st rfl, inclToks_strip dir r, stripC_blockC]

theorem labelCToks_strip (cst : CLabelSt) : ∀ (ts : List CTok), labelCToks cst (stripC ts) = (cst, plainToks ts)
  | [] => rfl
  | .tok a :: r => by
    rw [stripC_tok, labelCToks_tok, labelCToks_strip cst r, plainToks_tok]
  | .lineC x :: r => by
    rw [stripC_lineC, labelCToks_strip cst r, plainToks_lineC]
  | .blockC x :: r => by
    rw [stripC_blockC, labelCToks_strip cst r, plainToks_blockC]

mutual
  theorem dropC_wfV : ∀ (v : ISrc) (d : Nat), ISrcWFV d v = true → ISrcWFV d (dropCV v) = true
    | .lit l, d, h => by simpa only [dropCV] using h
    | .dict items, d, h => by
      simp only [ISrcWFV] at h
      simp only [dropCV, ISrcWFV]
      exact dropC_wfI items (d + 1) h
    | .list xs, d, h => by simpa only [dropCV] using h
  theorem dropC_wfI : ∀ (items : List IItem) (d : Nat), ISrcWFItems d items = true → ISrcWFItems d (dropCItems items) = true
    | [], _, _ => by simp only [dropCItems, ISrcWFItems]
    | .entry k v :: r, d, h => by
      simp only [ISrcWFItems, Bool.and_eq_true] at h
      obtain ⟨⟨⟨hk, hkey⟩, hv⟩, hr⟩ := h
      simp only [dropCItems, ISrcWFItems, Bool.and_eq_true]
      exact ⟨⟨⟨hk, hkey⟩, dropC_wfV v d hv⟩, dropC_wfI r d hr⟩
    | .lineC x :: r, d, h => by
      simp only [ISrcWFItems, Bool.and_eq_true] at h
      simp only [dropCItems]
      exact dropC_wfI r d h.2
    | .blockC x :: r, d, h => by
      simp only [ISrcWFItems, Bool.and_eq_true] at h
      simp only [dropCItems]
      exact dropC_wfI r d h.2
    | .incl q n :: r, d, h => by
      simp only [ISrcWFItems, Bool.and_eq_true] at h
      simp only [dropCItems, ISrcWFItems, Bool.and_eq_true]
      exact ⟨h.1, dropC_wfI r d h.2⟩
end

mutual
  theorem dropC_plainV : ∀ (v : ISrc), plainIV (dropCV v) = plainIV v
    | .lit l => by simp only [dropCV]
    | .dict items => by simp only [dropCV, plainIV, dropC_plainI items]
    | .list xs => by simp only [dropCV]
  theorem dropC_plainI : ∀ (items : List IItem), plainIItems (dropCItems items) = plainIItems items
    | [] => by simp only [dropCItems]
    | .entry k v :: r => by simp only [dropCItems, plainIItems, dropC_plainV v, dropC_plainI r]
    | .lineC x :: r => by simp only [dropCItems, plainIItems, dropC_plainI r]
    | .blockC x :: r => by simp only [dropCItems, plainIItems, dropC_plainI r]
    | .incl q n :: r => by simp only [dropCItems, plainIItems, dropC_plainI r]
end

mutual
  theorem dropC_inclsV : ∀ (v : ISrc), inclsV (dropCV v) = inclsV v
    | .lit l => by simp only [dropCV]
    | .dict items => by simp only [dropCV, inclsV, dropC_inclsI items]
    | .list xs => by simp only [dropCV]
  theorem dropC_inclsI : ∀ (items : List IItem), inclsItems (dropCItems items) = inclsItems items
    | [] => by simp only [dropCItems]
    | .entry k v :: r => by simp only [dropCItems, inclsItems, dropC_inclsV v, dropC_inclsI r]
    | .lineC x :: r => by simp only [dropCItems, inclsItems, dropC_inclsI r]
    | .blockC x :: r => by simp only [dropCItems, inclsItems, dropC_inclsI r]
    | .incl q n :: r => by simp only [dropCItems, inclsItems, dropC_inclsI r]
end

end Incl
open Incl

theorem include_stages_off {d : Nat} {items : List IItem} {gaps : List Str} {tail : Str} (dir : Str) (c : Counter)
    (hwf : ISrcWFItems d items = true) (hg : GapsOKI (itoksItems items) gaps tail = true)
    (htail : items = [] → tail.all isWs = true) :
    ∃ gaps' tail', commentStages false dir c (spreadC (itoksItems items) gaps tail)
        = ({ counter := (labelI dir c items).1.icounter,
             lineC := (labelI dir c items).1.c.lineC,
             incl := (labelI dir c items).1.incl,
             blockC := (labelI dir c items).1.c.blockC },
           spreadS (srcToksPEs (labelIItems dir
             { c := { counter := c }, icounter := C02.adv Gen.counterLimit (countLineItems items) c }
             (dropCItems items)).2) gaps' tail')
      ∧ GapsOKS (srcToksPEs (labelIItems dir
             { c := { counter := c }, icounter := C02.adv Gen.counterLimit (countLineItems items) c }
             (dropCItems items)).2) gaps' = true ∧ tail'.all isWs = true := by
  obtain ⟨gaps', tail', h1, h2, h3⟩ :=
    stages_toks false dir c (itoksI_ok items d hwf) hg (tailI_ws (gapsOKI_iff.mp hg).1 htail)
  obtain ⟨b1, _⟩ := bridgeI dir items d { counter := c } _ hwf
  obtain ⟨_, b2⟩ := bridgeI dir (dropCItems items) d { counter := c } (lineToks true { counter := c } (itoksItems items)).1
    (dropC_wfI items d hwf)
  rw [ist_start dir c hwf] at b1 b2
  -- the tokens that are no comments are the labelled tokens of the comment-free document
  rw [itoks_dropI, inclToks_strip, labelCToks_strip] at b2
  refine ⟨gaps', tail', ?_, (congrArg (GapsOKS · _) b2).symm.trans h2, h3⟩
  rw [h1]
  exact Prod.ext (lexSt_of_ist b1) (congrArg (spreadS · _ _) b2)

/-- **C12_read_included_off**: the reader with comments switched off, same hypotheses: the comment entries are gone,
    the include entries stay, the three tables are filled as with comments on, the counter ends where it ends with
    comments on -/
theorem C12_read_included_off {items : List IItem} {gaps : List Str} {tail : Str} (dir : Str) (c : Counter)
    (hwf : ISrcWFItems 1 items = true) (hg : GapsOKI (itoksItems items) gaps tail = true)
    (htail : items = [] → tail.all isWs = true)
    (hc : C13.ValidCounter Gen.counterLimit c)
    (hn : C02.countQuotedEs (plainIItems items) ≤ Gen.counterLimit + 1)
    (hd : C02.DocKeysAbsent (plainIItems items)) :
    parseNative false dir c (spreadC (itoksItems items) gaps tail) =
      .ok (denIoff dir c items,
           C02.adv Gen.counterLimit (C02.countQuotedEs (plainIItems items)) (labelI dir c items).1.icounter) := by
  obtain ⟨gaps', tail', hst, hgs, ht⟩ := include_stages_off dir c hwf hg htail
  have hp := dropC_plainI items
  rw [parseNative_stages, hst, parseRest_labelledI dir _ (dropC_wfI items 1 hwf) hgs ht rfl rfl
    (labelI_icounter_valid dir items hc) (by rw [hp]; exact hn) (by rw [hp]; exact hd), hp]
  rfl

/-- the example with comments off, any directory, any valid counter -/
theorem exI_read_off (dir : Str) (c : Counter) (hc : C13.ValidCounter Gen.counterLimit c) :
    parseNative false dir c exIText =
      .ok (denIoff dir c exI,
        C02.adv Gen.counterLimit (C02.countQuotedEs (plainIItems exI)) (labelI dir c exI).1.icounter) := by
  rw [← exI_text]
  exact C12_read_included_off dir c exI_wf exIGaps_ok (fun h => by cases h) hc (by decide +kernel) (by decide +kernel)

/-- … and its include table through the corollary: three directives with distinct texts -/
theorem exI_directives (dir : Str) (c : Counter) (hc : C13.ValidCounter Gen.counterLimit c) :
    ∃ sd c', parseNative true dir c exIText = .ok (sd, c') ∧
      sd.incl = List.zip (alloc Gen.counterLimit 3 (C02.adv Gen.counterLimit 2 c))
        [{ directive := "#include 'inc/a'".toList, file := "inc/a".toList, path := dir ++ ['/'] ++ "inc/a".toList },
         { directive := "#include \"../b\"".toList, file := "../b".toList, path := dir ++ ['/'] ++ "../b".toList },
         { directive := "#include /abs/c".toList, file := "/abs/c".toList, path := "/abs/c".toList }] := by
  have h := C12_included_directives dir c exI_wf exIGaps_ok (fun h => by cases h) hc (by decide +kernel)
    (by decide +kernel) (by decide +kernel) (by decide +kernel)
  rw [exI_text] at h
  obtain ⟨sd, c', h1, h2⟩ := h
  refine ⟨sd, c', h1, ?_⟩
  rw [h2]
  have e1 : inclsItems exI = [(some '\'', "inc/a".toList), (some '"', "../b".toList), (none, "/abs/c".toList)] := by
    decide +kernel
  have e2 : countLineItems exI = 2 := by decide +kernel
  rw [e1, e2]
  literal_chars
  simp only [List.length_cons, List.length_nil, List.map_cons, List.map_nil, dirText_eq, quoteName]
  rfl

end DictIO.C12
