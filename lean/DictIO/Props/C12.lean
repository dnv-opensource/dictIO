/-
  C12 -- comments and include directives survive read → write: the pieces that do not need the whole comment
  pipeline.

    (a) `C12_header_default`, `C12_header_own`, `C12_header_prepend`   header rule of `insert_block_comments`
    (b) `C12_substPh_literal`, `exLiteral`                             a placeholder entry is replaced by the literal text (D16)
    (c) `C12_lineComment_off`, `C12_lineComment`, `C12_blockComment`   what the two comment scanners do, comments on / off
    (d) `C12_placeholder_entry`, `C12_placeholder_den`                 a comment placeholder token becomes the entry `ph ↦ ph`
        (`kind_tok`, `Stages.ph_entry_ok`: a placeholder word is such a token, its entry admissible in a labelled document)
    (e) `D28_header_inside_subdict`, `D32_second_comment_lost`         the two known findings, by evaluation
-/
import DictIO.Props.C02front
import DictIO.Lemmas.SubstPh
import DictIO.Lemmas.Literal
import DictIO.Lemmas.Ph

namespace DictIO.C12
open DictIO

/-! ## the native header, character by character

  (the kernel evaluates `String.toList` on a long literal very slowly; a literal is definitionally `String.ofList`
  of its characters, which is checked at once) -/

def nativeHeaderChars : List Char :=
  ['/', '*', '-', '-', '-', '-', '-', '-', '-', '-', '-', '-', '-', '-', '-', '-', '-', '-', '-', '-', '-', '-', '-', '-', '-', '-', '-', '-', '-', '-', '-', '-', '-', '-', '-', '*', '-', ' ', 'C', '+', '+', ' ', '-', '*', '-', '-', '-', '-', '-', '-', '-', '-', '-', '-', '-', '-', '-', '-', '-', '-', '-', '-', '-', '-', '-', '-', '-', '-', '-', '-', '-', '-', '-', '-', '-', '-', '-', '-', '*', '\\', '\n',
  'f', 'i', 'l', 'e', 't', 'y', 'p', 'e', ' ', 'd', 'i', 'c', 't', 'i', 'o', 'n', 'a', 'r', 'y', ';', ' ', 'c', 'o', 'd', 'i', 'n', 'g', ' ', 'u', 't', 'f', '-', '8', ';', ' ', 'v', 'e', 'r', 's', 'i', 'o', 'n', ' ', '0', '.', '1', ';', ' ', 'l', 'o', 'c', 'a', 'l', ' ', '-', '-', ';', ' ', 'p', 'u', 'r', 'p', 'o', 's', 'e', ' ', '-', '-', ';', '\n',
  '\\', '*', '-', '-', '-', '-', '-', '-', '-', '-', '-', '-', '-', '-', '-', '-', '-', '-', '-', '-', '-', '-', '-', '-', '-', '-', '-', '-', '-', '-', '-', '-', '-', '-', '-', '-', '-', '-', '-', '-', '-', '-', '-', '-', '-', '-', '-', '-', '-', '-', '-', '-', '-', '-', '-', '-', '-', '-', '-', '-', '-', '-', '-', '-', '-', '-', '-', '-', '-', '-', '-', '-', '-', '-', '-', '-', '-', '-', '*', '/', '\n']

theorem nativeHeader_eq : nativeHeader = nativeHeaderChars := by
  unfold nativeHeader Gen.nativeHeader nativeHeaderChars
  rw [String.toList_ofList]

attribute [local irreducible] nativeHeader

theorem nativeHeader_cpp : containsCpp nativeHeader = true := by rw [nativeHeader_eq]; decide +kernel

theorem nativeHeader_ne : nativeHeader ≠ [] := by rw [nativeHeader_eq]; decide

/-! ## (b) `substPh` replaces a placeholder entry by the literal text -/

theorem kwLine_hd : kwLine = 'L' :: "INECOMMENT".toList := by unfold kwLine; literal_chars
theorem kwBlock_hd : kwBlock = 'B' :: "LOCKCOMMENT".toList := by unfold kwBlock; literal_chars

/-- **C12_substPh_literal** (model side of fix D16).  The first placeholder entry `ph ws ph;` in the text is replaced
    by `repl` *as it is* — no escape processing, whatever `repl` contains — and the scan goes on behind it.
    Side condition on the text in front: it does not contain the first letter of the keyword (so no placeholder
    starts there); the keyword starts with a non-blank. -/
theorem C12_substPh_literal {kw : Str} {c : Char} {kw' : Str} (hkw : kw = c :: kw') (hc : isWs c = false)
    (i : Nat) (repl pre ws post : Str) (hpre : c ∉ pre) (hws : ws ≠ []) (hall : ws.all isWs = true) :
    substPh kw i repl (pre ++ (kw ++ padSix i) ++ ws ++ (kw ++ padSix i) ++ [';'] ++ post) =
      (pre ++ repl ++ (substPh kw i repl post).1, true) := by
  unfold substPh
  obtain ⟨ph, hdef⟩ : ∃ ph, ph = kw ++ padSix i := ⟨_, rfl⟩
  have hph : ph = c :: (kw' ++ padSix i) := by rw [hdef, hkw]; rfl
  rw [← hdef]
  have e : pre ++ ph ++ ws ++ ph ++ [';'] ++ post = pre ++ (ph ++ (ws ++ (ph ++ ';' :: post))) := by simp
  rw [e]
  have hl : (pre ++ (ph ++ (ws ++ (ph ++ ';' :: post)))).length + 1 =
      ((ph ++ (ws ++ (ph ++ ';' :: post))).length + 1) + pre.length := by simp; omega
  rw [hl, substFuel_skip repl hph pre _ _ hpre]
  rw [substFuel_hit _ (matchPhEntry_hit hph hc ws post hws hall)]
  have hlen : post.length < (ph ++ (ws ++ (ph ++ ';' :: post))).length := by simp; omega
  rw [substFuel_enough ph repl _ (post.length + 1) post hlen (by omega)]
  simp

/-- … and when the placeholder word does not occur behind it, that is all -/
theorem substPh_once {kw : Str} {c : Char} {kw' : Str} (hkw : kw = c :: kw') (hc : isWs c = false) (i : Nat)
    (repl pre ws post : Str) (hpre : c ∉ pre) (hws : ws ≠ []) (hall : ws.all isWs = true)
    (hpost : isInfix (kw ++ padSix i) post = false) :
    substPh kw i repl (pre ++ (kw ++ padSix i) ++ ws ++ (kw ++ padSix i) ++ [';'] ++ post) =
      (pre ++ repl ++ post, true) := by
  rw [C12_substPh_literal hkw hc i repl pre ws post hpre hws hall, substPh_noInfix kw i repl post hpost]

/-- a comment text with backslashes, a group reference `\1`, `$`, both quotes and braces -/
def exComment : Str := "// a\\b \\1 \\g<0> $x 'q' \"r\" {}()".toList

/-- … is put into the text unchanged -/
theorem exLiteral :
    substPh kwLine 0 exComment "x 1; LINECOMMENT000000  LINECOMMENT000000;\ny 2;\n".toList =
      ("x 1; ".toList ++ exComment ++ "\ny 2;\n".toList, true) := by
  have e : "x 1; LINECOMMENT000000  LINECOMMENT000000;\ny 2;\n".toList =
      "x 1; ".toList ++ (kwLine ++ padSix 0) ++ "  ".toList ++ (kwLine ++ padSix 0) ++ [';'] ++ "\ny 2;\n".toList := by
    literal_chars; decide +kernel
  rw [e]
  exact substPh_once kwLine_hd rfl 0 exComment _ _ _ (by decide) (by decide) (by decide) (by decide)

/-! ## (a) the header rule of `insert_block_comments` -/

theorem containsCpp_nil : containsCpp [] = false := by simp [containsCpp]

/-- `make_default_block_comment` (native): an own ` C++ ` header is used as it is, anything else gets the default
    header in front -/
theorem makeDefault_native (bc : Str) :
    makeDefaultBlockComment .native bc = if containsCpp bc then bc else nativeHeader ++ bc := rfl

theorem makeDefault_native_ne (bc : Str) : makeDefaultBlockComment .native bc ≠ [] := by
  rw [makeDefault_native]
  split
  · next h => intro e; rw [e, containsCpp_nil] at h; cases h
  · intro e
    exact nativeHeader_ne (List.append_eq_nil_iff.mp e).1

/-- no block comment: exactly the default header in front -/
theorem C12_header_default (txt : Str) : insertBlockComments .native [] txt = nativeHeader ++ txt := by
  simp [insertBlockComments, makeDefault_native, containsCpp_nil]

/-- the first comment is an own ` C++ ` header: it is written as it is -/
theorem C12_header_own (i : Nat) (bc txt : Str) (hfound : (substPh kwBlock i [] txt).2 = true)
    (hcpp : containsCpp bc = true) :
    insertBlockComments .native [(i, bc)] txt = (substPh kwBlock i bc txt).1 := by
  rw [insertBlock_single .native i bc txt hfound (makeDefault_native_ne bc), makeDefault_native, hcpp]
  rfl

/-- the first comment is not a header: the default header is put in front *of the comment* -/
theorem C12_header_prepend (i : Nat) (bc txt : Str) (hfound : (substPh kwBlock i [] txt).2 = true)
    (hcpp : containsCpp bc = false) :
    insertBlockComments .native [(i, bc)] txt = (substPh kwBlock i (nativeHeader ++ bc) txt).1 := by
  rw [insertBlock_single .native i bc txt hfound (makeDefault_native_ne bc), makeDefault_native, hcpp]
  rfl

/-- the placeholder is not in the text (the comment's entry was deleted): the comment is dropped and the text gets
    the default header -/
theorem C12_header_missing (i : Nat) (bc txt : Str) (hfound : (substPh kwBlock i [] txt).2 = false) :
    insertBlockComments .native [(i, bc)] txt = nativeHeader ++ txt := by
  have hf : ∀ r, (substPh kwBlock i r txt).2 = false := fun r => by rw [substPh_flag kwBlock i r [] txt]; exact hfound
  simp only [insertBlockComments, List.foldl_cons, List.foldl_nil, hf, Bool.false_eq_true, if_false]
  simp [makeDefault_native, containsCpp_nil]

/-- A second comment with the text of the first is written as the empty text: the "already inserted" test
    `bc in sofar` finds it in what the first round put into the text. -/
theorem insertBlock_same_twice (fl : Flavor) (i j : Nat) (bc txt t1 t2 : Str) (hne : makeDefaultBlockComment fl bc ≠ [])
    (hin : isInfix bc (makeDefaultBlockComment fl bc) = true)
    (h1 : substPh kwBlock i (makeDefaultBlockComment fl bc) txt = (t1, true))
    (h2 : substPh kwBlock j [] t1 = (t2, true)) :
    insertBlockComments fl [(i, bc), (j, bc)] txt = t2 := by
  obtain ⟨c, r, hm⟩ : ∃ c r, makeDefaultBlockComment fl bc = c :: r := by
    cases hm : makeDefaultBlockComment fl bc with
    | nil => exact absurd hm hne
    | cons c r => exact ⟨c, r, rfl⟩
  rw [hm] at h1 hin
  have hnot : isInfix (c :: r) [] = false := rfl
  simp only [insertBlockComments, List.foldl_cons, List.foldl_nil, if_true, hm, hnot, Bool.false_eq_true, if_false, h1,
    List.nil_append, hin, h2, List.append_nil, List.isEmpty_cons]

theorem makeDefault_native_infix (bc : Str) : isInfix bc (makeDefaultBlockComment .native bc) = true := by
  rw [makeDefault_native, isInfix_iff]
  split
  · exact ⟨[], [], (List.append_nil _).symm⟩
  · exact ⟨nativeHeader, [], (List.append_nil _).symm⟩

/-! ## (c) the comment scanners, with comments on and off -/

/-- `_extract_line_comments` on one line, as a case distinction on the search for `//`: no marker, line unchanged;
    otherwise the comment (from the marker to the end of the line) is replaced by the placeholder (comments on) or
    removed (comments off).  With comments off no placeholder is put into the line. -/
theorem C12_lineComment_cases (comments : Bool) (st : LexSt) (l : Str) :
    (lexLineComment comments st l).2 =
      match findLineComment none l with
      | none => l
      | some (before, tail) =>
        before ++ (if comments then kwLine ++ padSix st.fresh.1 else []) ++ (dropFinalNl tail).2 := by
  unfold lexLineComment
  cases findLineComment none l with
  | none => rfl
  | some p => rfl

theorem C12_lineComment_off (st : LexSt) (l : Str) :
    (lexLineComment false st l).2 =
      match findLineComment none l with
      | none => l
      | some (before, tail) => before ++ (dropFinalNl tail).2 := by
  rw [C12_lineComment_cases false st l]
  cases findLineComment none l with
  | none => rfl
  | some p => simp

theorem findLineComment_hit (r : Str) : ∀ (b : Str) (prev : Option Char), prev ≠ some ':' → '/' ∉ b → ':' ∉ b →
    findLineComment prev (b ++ '/' :: '/' :: r) = some (b, '/' :: '/' :: r)
  | [], prev, hp, _, _ => by
    have : (prev == some ':') = false := by simpa using hp
    simp [findLineComment, this]
  | c :: b, prev, _, h1, h2 => by
    have hc1 : c ≠ '/' := fun e => h1 (by rw [e]; exact List.mem_cons_self)
    have hc2 : c ≠ ':' := fun e => h2 (by rw [e]; exact List.mem_cons_self)
    have ih := findLineComment_hit r b (some c) (by simpa using hc2) (fun e => h1 (List.mem_cons_of_mem _ e))
      (fun e => h2 (List.mem_cons_of_mem _ e))
    rw [List.cons_append, findLineComment]
    · rw [ih]; rfl
    · intro r' e _
      exact hc1 e

/-- the comment text, found once at the end of the line, is replaced -/
theorem replaceAll_tail {c : Char} (cm rep b nl : Str) (hb : c ∉ b) (hnl : c ∉ nl) :
    replaceAll (c :: cm) rep (b ++ (c :: cm) ++ nl) = b ++ rep ++ nl := by
  have := replaceAll_once c cm rep b nl hb (isInfix_false_of_head hnl)
  simpa [List.append_assoc] using this

theorem dropFinalNl_plain (s : Str) (h : s.getLast? ≠ some '\n') : dropFinalNl s = (s, []) := by
  unfold dropFinalNl
  split
  · next e => exact absurd e h
  · rfl

theorem dropFinalNl_nl (s : Str) : dropFinalNl (s ++ ['\n']) = (s, ['\n']) := by
  unfold dropFinalNl
  simp

/-- **C12_lineComment**: a line `b // text` (+ optional line feed), `b` without `/` and `:` and `text` without line
    feed: the comment text `// text` is stored under a fresh id; the line keeps `b`, followed by the placeholder
    (comments on) or by nothing (comments off), and its line feed. -/
theorem C12_lineComment (comments : Bool) (st : LexSt) (b cm nl : Str) (h1 : '/' ∉ b) (h2 : ':' ∉ b)
    (hcm : '\n' ∉ cm) (hnl : nl = [] ∨ nl = ['\n']) :
    lexLineComment comments st (b ++ ('/' :: '/' :: cm) ++ nl) =
      ({ st.fresh.2 with lineC := st.fresh.2.lineC.set st.fresh.1 ('/' :: '/' :: cm) },
       b ++ (if comments then kwLine ++ padSix st.fresh.1 else []) ++ nl) := by
  have hfind : findLineComment none (b ++ ('/' :: '/' :: cm) ++ nl) = some (b, '/' :: '/' :: (cm ++ nl)) := by
    rw [List.append_assoc]
    exact findLineComment_hit (cm ++ nl) b none (by simp) h1 h2
  have hlast : ('/' :: '/' :: cm).getLast? ≠ some '\n' := by
    intro e
    have hm := List.mem_of_getLast? e
    simp only [List.mem_cons] at hm
    rcases hm with h | h | h
    · cases h
    · cases h
    · exact hcm h
  have hdrop : dropFinalNl ('/' :: '/' :: (cm ++ nl)) = ('/' :: '/' :: cm, nl) := by
    rcases hnl with rfl | rfl
    · rw [List.append_nil, dropFinalNl_plain _ hlast]
    · have : '/' :: '/' :: (cm ++ ['\n']) = ('/' :: '/' :: cm) ++ ['\n'] := rfl
      rw [this, dropFinalNl_nl]
  unfold lexLineComment
  rw [hfind]
  simp only [hdrop]

/-- with comments off the placeholder word is not put into the line -/
example (st : LexSt) : (lexLineComment false st "a 1; // note\n".toList).2 = "a 1; \n".toList := by
  have := C12_lineComment false st "a 1; ".toList " note".toList ['\n'] (by decide) (by decide) (by decide) (Or.inr rfl)
  have e : "a 1; // note\n".toList = "a 1; ".toList ++ ('/' :: '/' :: " note".toList) ++ ['\n'] := by decide
  rw [e, this]; simp

/-- **C12_blockComment**: a text with exactly one block comment.  The comment, delimiters included, is stored under
    the running id `n`; in the text it is replaced by the blank-padded placeholder (comments on) or removed
    (comments off — no placeholder enters the text). -/
theorem C12_blockComment (comments : Bool) (body post : Str) (n : Nat) (tbl : Tbl Str)
    (hbody : isInfix ['*', '/'] body = false) (hpost : isInfix ['/', '*'] post = false) :
    ∀ (pre : Str) (fuel : Nat), isInfix ['/', '*'] pre = false →
      (pre ++ '/' :: '*' :: (body ++ '*' :: '/' :: post)).length < fuel →
      lexBlockCommentsFuel comments fuel n tbl (pre ++ '/' :: '*' :: (body ++ '*' :: '/' :: post)) =
        (tbl ++ [(n, '/' :: '*' :: (body ++ ['*', '/']))],
         pre ++ (if comments then [' '] ++ kwBlock ++ padSix n ++ [' '] else []) ++ post) := by
  intro pre fuel hpre hf
  have e : pre ++ '/' :: '*' :: (body ++ '*' :: '/' :: post) = pre ++ (('/' :: '*' :: body ++ ['*', '/']) ++ post) := by
    simp
  have hp := Stages.BL_pass comments (n + 1) (tbl ++ [(n, '/' :: '*' :: body ++ ['*', '/'])]) post []
    (Stages.passB_of post [] hpost (by simp))
  rw [List.append_nil, Stages.BL_nil] at hp
  rw [Stages.block_fuel comments fuel (_ + 1) n tbl _ hf (Nat.lt_succ_self _)]
  show Stages.BL comments n tbl _ = _
  -- the stretch in front, the comment, the stretch behind
  rw [e, Stages.BL_pass comments n tbl pre _ (Stages.passB_of pre _ hpre (by simp)),
    Stages.BL_block comments n tbl body post hbody, hp]
  simp [Stages.padB]

/-- comments off: the text is the text without the comment … -/
theorem C12_blockComment_off (pre body post : Str) (n : Nat) (tbl : Tbl Str)
    (hpre : isInfix ['/', '*'] pre = false) (hbody : isInfix ['*', '/'] body = false)
    (hpost : isInfix ['/', '*'] post = false) :
    lexBlockCommentsFuel false ((pre ++ '/' :: '*' :: (body ++ '*' :: '/' :: post)).length + 1) n tbl
        (pre ++ '/' :: '*' :: (body ++ '*' :: '/' :: post)) =
      (tbl ++ [(n, '/' :: '*' :: (body ++ ['*', '/']))], pre ++ post) := by
  rw [C12_blockComment false body post n tbl hbody hpost pre _ hpre (by omega)]
  simp

/-- … comments on: the blank-padded placeholder stands where the comment stood -/
theorem C12_blockComment_on (pre body post : Str) (n : Nat) (tbl : Tbl Str)
    (hpre : isInfix ['/', '*'] pre = false) (hbody : isInfix ['*', '/'] body = false)
    (hpost : isInfix ['/', '*'] post = false) :
    lexBlockCommentsFuel true ((pre ++ '/' :: '*' :: (body ++ '*' :: '/' :: post)).length + 1) n tbl
        (pre ++ '/' :: '*' :: (body ++ '*' :: '/' :: post)) =
      (tbl ++ [(n, '/' :: '*' :: (body ++ ['*', '/']))], pre ++ [' '] ++ kwBlock ++ padSix n ++ [' '] ++ post) := by
  rw [C12_blockComment true body post n tbl hbody hpost pre _ hpre (by omega)]
  simp

/-! ## (d) a comment placeholder token becomes the data entry `ph ↦ ph` -/

/-- `S` and `X` tell the placeholders of string literals and expressions (`STRINGLITERAL`, `EXPRESSION`) from those of
    the three kinds -/
theorem kind_table : ∀ a ∈ Ph.kinds, 'S' ∉ a.kw ∧ 'X' ∉ a.kw ∧ isPhTok a.kw = true := by decide +kernel

theorem kind_noSX (a : Ph.Kind) (i : Nat) : 'S' ∉ Ph.ph a i ∧ 'X' ∉ Ph.ph a i :=
  ⟨word_no_upper (by decide) (kind_table a (Ph.mem_kinds a)).1 i,
    word_no_upper (by decide) (kind_table a (Ph.mem_kinds a)).2.1 i⟩

theorem wordTok_of_chars : ∀ {t : Str}, 2 ≤ t.length →
    (∀ c ∈ t, isWs c = false ∧ Gen.delimiters.contains c = false) → isWordTok t = true
  | a :: b :: t, _, h => by
    simp only [isWordTok, List.isEmpty_cons, Bool.not_false, Bool.true_and, Bool.and_true, List.all_eq_true,
      Bool.and_eq_true, Bool.not_eq_true']
    exact h

theorem isPhTok_append {w : Str} (t : Str) (h : isPhTok w = true) : isPhTok (w ++ t) = true := by
  have happ : ∀ p, isInfix p w = true → isInfix p (w ++ t) = true := fun p hp => by
    obtain ⟨a, b, e⟩ := isInfix_iff.mp hp
    exact isInfix_iff.mpr ⟨a, b ++ t, by rw [e]; simp⟩
  simp only [isPhTok, isCommentTok, isIncludeTok, Bool.or_eq_true] at h ⊢
  exact h.imp (happ _) (happ _)

theorem kind_tok (a : Ph.Kind) (i : Nat) : isWordTok (Ph.ph a i) = true ∧ isPhTok (Ph.ph a i) = true :=
  ⟨wordTok_of_chars (by have := (kw_table _ (Ph.kw_mem a)).1; rw [Ph.ph, List.length_append]; omega)
      fun c h => ⟨(Ph.plain a i c h).nws, (Ph.plain a i c h).ndelim⟩,
    isPhTok_append _ (kind_table a (Ph.mem_kinds a)).2.2⟩

theorem linePh_tok (i : Nat) : isWordTok (kwLine ++ padSix i) = true ∧ isPhTok (kwLine ++ padSix i) = true :=
  kind_tok .line i

theorem blockPh_tok (i : Nat) : isWordTok (kwBlock ++ padSix i) = true ∧ isPhTok (kwBlock ++ padSix i) = true :=
  kind_tok .block i

namespace Stages

/-- the side conditions `SrcPWFEs` puts on a placeholder entry -/
theorem ph_entry_ok {k : Str} (hw : isWordTok k = true) (hq : ∀ c ∈ k, isQuote c = false ∧ c ≠ '$' ∧ c ≠ '\\')
    (hS : 'S' ∉ k) (hX : 'X' ∉ k) :
    (isWordTok k && (match (Src.lit (.bare k)) with | .lit (.bare w) => w == k | _ => false) &&
          k.all (fun c => !isQuote c && c != '$' && c != '\\') && !isInfix kwLit k && !isInfix kwExpr k) = true := by
  have h1 : isInfix kwLit k = false := isInfix_false_of_head (c := 'S') (w := k) hS
  have h2 : isInfix kwExpr k = false := by
    cases h : isInfix kwExpr k with
    | false => rfl
    | true => exact absurd (isInfix_mem h 'X' (by decide)) hX
  have h3 : k.all (fun c => !isQuote c && c != '$' && c != '\\') = true := by
    rw [List.all_eq_true]
    intro c hc
    have := hq c hc
    simp [this.1, this.2.1, this.2.2]
  simp [hw, h1, h2, h3]

end Stages

/-- **C12_placeholder_entry** (corollary of `C02.pd_ph`): when the scanner meets the placeholder token that
    `lexLineComment` put into the line (id `i`, the id under which the comment text is stored in `lineC`:
    `C12_lineComment`), it stores the data entry `ph ↦ ph` — at whatever nesting level the token stands. -/
theorem C12_placeholder_entry (top : Bool) (prev : List Tok) (l : Int) (i : Nat) (rest : List Tok) (acc : Entries) :
    parseDictToks top prev ((l, kwLine ++ padSix i) :: rest) acc =
      parseDictToks top ((l, kwLine ++ padSix i) :: prev) rest
        (setKey (.str (kwLine ++ padSix i)) (.leaf (.str (kwLine ++ padSix i))) acc) :=
  C02.pd_ph top prev l _ rest acc (linePh_tok i).1 (linePh_tok i).2

theorem C12_placeholder_entry_block (top : Bool) (prev : List Tok) (l : Int) (i : Nat) (rest : List Tok)
    (acc : Entries) :
    parseDictToks top prev ((l, kwBlock ++ padSix i) :: rest) acc =
      parseDictToks top ((l, kwBlock ++ padSix i) :: prev) rest
        (setKey (.str (kwBlock ++ padSix i)) (.leaf (.str (kwBlock ++ padSix i))) acc) :=
  C02.pd_ph top prev l _ rest acc (blockPh_tok i).1 (blockPh_tok i).2

/-- the same on the documented-grammar side: the comment entry of a token tree denotes `ph ↦ ph` -/
theorem C12_placeholder_den (i : Nat) (w : Str) (es acc : Entries) :
    denEs ((.str (kwLine ++ padSix i), .leaf (.str w)) :: es) acc =
      denEs es (setKey (.str (kwLine ++ padSix i)) (.leaf (.str (kwLine ++ padSix i))) acc) := by
  simp [denEs, (linePh_tok i).2]

/-! ## (e) negative witnesses for the two known findings -/

def exD28Text : Str := "a 1;\ns\n{\n    BLOCKCOMMENT000000  BLOCKCOMMENT000000;\n}\n".toList

/-- **D28**: a block comment that sits inside a sub-dict and is the only one: the *default header* is written inside
    the sub-dict, in front of the comment … -/
theorem D28_header_inside_subdict :
    insertBlockComments .native [(0, "/* c */".toList)] exD28Text =
      "a 1;\ns\n{\n    ".toList ++ nativeHeader ++ "/* c */\n}\n".toList := by
  have hfound : ∀ r, substPh kwBlock 0 r exD28Text = ("a 1;\ns\n{\n    ".toList ++ r ++ "\n}\n".toList, true) := by
    intro r
    have e : exD28Text = "a 1;\ns\n{\n    ".toList ++ (kwBlock ++ padSix 0) ++ "  ".toList ++
        (kwBlock ++ padSix 0) ++ [';'] ++ "\n}\n".toList := by
      unfold exD28Text; literal_chars; decide +kernel
    rw [e]
    exact substPh_once kwBlock_hd rfl 0 r _ _ _ (by decide) (by decide) (by decide) (by decide)
  have e : "/* c */\n}\n".toList = "/* c */".toList ++ "\n}\n".toList := by literal_chars; rfl
  rw [C12_header_prepend 0 _ _ (by rw [hfound]) (by decide), hfound, e]
  simp only [List.append_assoc]

/-- … so the written text does not start with the header -/
theorem D28_not_at_top : ¬ nativeHeader <+: insertBlockComments .native [(0, "/* c */".toList)] exD28Text := by
  rw [D28_header_inside_subdict, nativeHeader_eq]
  decide +kernel

def exD32Text : Str :=
  "BLOCKCOMMENT000000  BLOCKCOMMENT000000;\na 1;\nBLOCKCOMMENT000001  BLOCKCOMMENT000001;\n".toList

/-- what stands behind the first placeholder entry of `exD32Text` -/
def exD32Rest : Str :=
  "\na 1;\n".toList ++ (kwBlock ++ padSix 1) ++ "  ".toList ++ (kwBlock ++ padSix 1) ++ [';'] ++ "\n".toList

/-- **D32**: two block comments with the same text, both placeholders present: the second one is written as the
    empty text (the "already inserted" test `bc in sofar` suppresses it) -/
theorem D32_second_comment_lost :
    insertBlockComments .native [(0, "/* c */".toList), (1, "/* c */".toList)] exD32Text =
      nativeHeader ++ "/* c */\na 1;\n\n".toList := by
  have hmk : makeDefaultBlockComment .native "/* c */".toList = nativeHeader ++ "/* c */".toList := by
    rw [makeDefault_native, if_neg (by decide)]
  have hB : 'B' ∉ [] ++ (nativeHeader ++ "/* c */".toList) := by rw [nativeHeader_eq]; literal_chars; decide +kernel
  have e : exD32Text = [] ++ (kwBlock ++ padSix 0) ++ "  ".toList ++ (kwBlock ++ padSix 0) ++ [';'] ++ exD32Rest := by
    unfold exD32Text exD32Rest; literal_chars; decide +kernel
  have hno : isInfix (kwBlock ++ padSix 0) exD32Rest = false := by
    unfold exD32Rest; literal_chars; decide +kernel
  have h1 : substPh kwBlock 0 (nativeHeader ++ "/* c */".toList) exD32Text =
      ([] ++ (nativeHeader ++ "/* c */".toList) ++ exD32Rest, true) := by
    rw [e, substPh_once kwBlock_hd rfl 0 _ [] _ exD32Rest List.not_mem_nil (by decide) (by decide) hno]
  have h2 : substPh kwBlock 1 [] ([] ++ (nativeHeader ++ "/* c */".toList) ++ exD32Rest) =
      ([] ++ (nativeHeader ++ "/* c */".toList) ++ ("\na 1;\n".toList ++ [] ++ "\n".toList), true) := by
    rw [substPh_skip 1 [] kwBlock_hd _ exD32Rest hB]
    unfold exD32Rest
    rw [substPh_once kwBlock_hd rfl 1 [] _ _ _ (by decide) (by decide) (by decide) (by decide)]
  have e' : "/* c */\na 1;\n\n".toList = "/* c */".toList ++ "\na 1;\n".toList ++ "\n".toList := by
    literal_chars; rfl
  rw [insertBlock_same_twice .native 0 1 _ _ _ _ (makeDefault_native_ne _) (makeDefault_native_infix _)
    (by rw [hmk]; exact h1) h2, e', List.nil_append]
  simp only [List.append_assoc, List.append_nil]

end DictIO.C12
