/-
  C03, the bytes -- `C03_bytes_stable_statement` of Props/C03.lean for sources without includes whose only comment is
  (at most) the header the library writes.

  The source is `nativeHeader ++ layout` (`hdr = true`) or `layout` (`hdr = false`), `layout` any admissible layout of a
  well-formed source document whose meaning `D` lies in the value domain.  `DictReader.read` returns `D` — with the
  header placeholder entry and the header comment if there is a header —; the real writer (`fmtSD`) writes
  `T = nativeHeader ++ fmtPlain D` in the first cycle; reading `T` gives `hdrSD D`; writing that gives `T` again
  (`C12.header_fixpoint`); and so on for every later cycle.

    `srcText`, `firstRead`, `cycleText`, `SrcOK`   the source text, what the first read returns, the text every cycle
                                     writes, the hypotheses (those of `C03_cycles` and `C01_roundtrip_file`)
    `write_good`, `read_good`, `sdCycles_good`   one write–read cycle, and every cycle, from either SDict (`{ data := D }`,
                                     `hdrSD D`) of any dict `D` a file may hold (`C16.Good`): text `T`, SDict `hdrSD D`
    `read_source`                    the first read; `SrcOK.good`: `D` is such a dict
    `C03_bytes_stable`               the statement of `C03_bytes_stable_statement`, on these sources
    `sdCycles`, `sdCycles_const`, `C03_bytes_all_cycles`   every cycle writes the same bytes and reads the same SDict
                                     (`sdCycles_const`: from any state written as `T` whose re-read is written as `T`); the data after every
                                     cycle is the data of the first read up to the header placeholder entry
  The full statement (arbitrary comments, include directives, expressions) stays `C03_bytes_stable_statement`; it is
  false in general (known findings D27 adjacent comments, D32) and is decided by the correspondence check.
-/
import DictIO.Props.C16fold

namespace DictIO.C03
open DictIO

attribute [local irreducible] nativeHeader

/-- the source: an admissible layout, with or without the library's header in front -/
def srcText (hdr : Bool) (es : SrcEntries) (gaps : List Str) (tail : Str) : Str :=
  (if hdr then nativeHeader else []) ++ spreadS (srcToksEs es) gaps tail

/-- what `DictReader.read` returns for the source -/
def firstRead (hdr : Bool) (D : Entries) : SD := if hdr then C12.hdrSD D else { data := D }

/-- the text every cycle writes -/
def cycleText (D : Entries) : Str := nativeHeader ++ fmtPlain .native D

/-- `n` cycles "write the SDict with the real writer, read the file": the text written and the SDict read in each -/
def sdCycles (ev : Str → EvalResult) (p : Comps) : Nat → SD → Counter → List (Str × SD)
  | 0, _, _ => []
  | n + 1, sd, c =>
    match fmtSD .native sd with
    | none => []
    | some t =>
      match readFile ev [(p, .native t)] {} c p with
      | .ok (.ok sd' c') => (t, sd') :: sdCycles ev p n sd' c'
      | _ => []

/-- a state that is written as `T` and read back from `T`: from any SDict written as `T`, every cycle writes `T` and
    reads that state -/
theorem sdCycles_const (ev : Str → EvalResult) {q : Comps} {T : Str} {S : SD} (hw : fmtSD .native S = some T)
    (hr : ∀ c, C13.ValidCounter Gen.counterLimit c →
      ∃ c', C13.ValidCounter Gen.counterLimit c' ∧ readFile ev [(q, .native T)] {} c q = .ok (.ok S c')) :
    ∀ (n : Nat) (sd : SD) (c : Counter), fmtSD .native sd = some T → C13.ValidCounter Gen.counterLimit c →
      sdCycles ev q n sd c = List.replicate n (T, S)
  | 0, _, _, _, _ => rfl
  | n + 1, sd, c, hsd, hc => by
    obtain ⟨c', hv, e⟩ := hr c hc
    simp only [sdCycles, hsd, e, sdCycles_const ev hw hr n S c' hw hv, List.replicate_succ]

/-! ### cycles from a good state -/

/-- what the real writer writes for either SDict holding `D`: the header, then the plain text of `D` -/
theorem write_good {D : Entries} (G : C16.Good D) {sd : SD} (h : sd = { data := D } ∨ sd = C12.hdrSD D) :
    fmtSD .native sd = some (cycleText D) := by
  rcases h with rfl | rfl
  · exact C12.fmtSD_text _
  · exact (C12.write_header G.dom).trans (C12.fmtSD_text _)

theorem read_good {D : Entries} (G : C16.Good D) (ev : Str → EvalResult) {q : Comps} (Q : C16.PathOK q) {c : Counter}
    (hc : C13.ValidCounter Gen.counterLimit c) :
    ∃ c', C13.ValidCounter Gen.counterLimit c' ∧
      readFile ev [(q, .native (cycleText D))] {} c q = .ok (.ok (C12.hdrSD D) c') :=
  C01.readFile_dumped ev q G.dom G.norm G.doc G.cnt hc Q.hj Q.hx Q.hr

/-- from either SDict of a good `D` every cycle writes `cycleText D` and reads `hdrSD D` -/
theorem sdCycles_good {D : Entries} (G : C16.Good D) (ev : Str → EvalResult) {q : Comps} (Q : C16.PathOK q)
    (n : Nat) (sd : SD) (c : Counter) (hsd : sd = { data := D } ∨ sd = C12.hdrSD D)
    (hc : C13.ValidCounter Gen.counterLimit c) :
    sdCycles ev q n sd c = List.replicate n (cycleText D, C12.hdrSD D) :=
  sdCycles_const ev (write_good G (Or.inr rfl)) (fun _ => read_good G ev Q) n sd c (write_good G hsd) hc

theorem firstRead_cases (hdr : Bool) (D : Entries) : firstRead hdr D = { data := D } ∨ firstRead hdr D = C12.hdrSD D := by
  cases hdr
  · exact Or.inl rfl
  · exact Or.inr rfl

/-- the hypotheses on the source document (those of `C03_cycles`) and on the path (those of `C01_roundtrip_file`) -/
structure SrcOK (es : SrcEntries) (gaps : List Str) (tail : Str) (p : Comps) : Prop where
  hwf : SrcWFEs 1 es = true
  hg : GapsOKS (srcToksEs es) gaps = true
  ht : tail.all isWs = true
  hn : C02.countQuotedEs es ≤ Gen.counterLimit + 1
  hd : C02.DocKeysAbsent es
  hdom : DomC01 .native (denSrcEs es []) = true
  hn₂ : C02.countQuotedEs (srcOfEs .native (denSrcEs es [])) ≤ Gen.counterLimit + 1
  hj : isJsonPath p = false
  hx : isXmlPath p = false
  hr : resolveSpelled p = p

section
variable {es : SrcEntries} {gaps : List Str} {tail : Str} {p : Comps} (H : SrcOK es gaps tail p) (ev : Str → EvalResult)
include H

theorem SrcOK.good : C16.Good (denSrcEs es []) := ⟨H.hdom, norm_den H.hwf, den_docKeys' H.hwf H.hd, H.hn₂⟩

theorem SrcOK.path : C16.PathOK p := ⟨H.hj, H.hx, H.hr⟩

/-- the first read of the source, counter valid afterwards -/
theorem read_source (hdr : Bool) {c : Counter} (hc : C13.ValidCounter Gen.counterLimit c) :
    ∃ c', C13.ValidCounter Gen.counterLimit c' ∧
      readFile ev [(p, .native (srcText hdr es gaps tail))] {} c p = .ok (.ok (firstRead hdr (denSrcEs es [])) c') := by
  cases hdr with
  | false =>
    obtain ⟨c', hv, h1⟩ := read_layout true (pathStr p.dropLast) H.hwf H.hg H.ht hc H.hn H.hd
    refine ⟨c', hv, ?_⟩
    simp only [srcText, firstRead, Bool.false_eq_true, if_false, List.nil_append]
    exact readFile_of_parse ev p _ h1 (C02.den_noPh H.hwf) (C02.den_nodup es) H.hj H.hx H.hr
  | true =>
    have h1 := C12.read_header_gen (c := c) (pathStr p.dropLast) H.hwf H.hg H.ht hc H.hn
      (C02.den_docKeys H.hwf H.hd).1 (C02.den_docKeys H.hwf H.hd).2
    refine ⟨_, parseNative_valid h1 hc, ?_⟩
    simp only [srcText, firstRead, if_true]
    exact C01.readFile_of_parse_hdr ev p _ h1 (C02.den_noPh H.hwf) (C02.den_nodup es) H.hj H.hx H.hr

/-- **C03, bytes** — the statement of `C03_bytes_stable_statement` for a source without includes whose only comment
    is (at most) the library's header: the text written in the second cycle is, byte for byte, the text written in the
    first, and reading it again returns the same data.  (The counter states are those of an actual run: `c` is one
    that can occur, and so is `c₃`.) -/
theorem C03_bytes_stable (hdr : Bool) (c c₁ c₂ : Counter) (sd₀ sd₁ sd₂ : SD) (t₁ t₂ : Str)
    (hc : C13.ValidCounter Gen.counterLimit c) :
    readFile ev [(p, .native (srcText hdr es gaps tail))] {} c p = .ok (.ok sd₀ c₁) →
    fmtSD .native sd₀ = some t₁ →
    readFile ev [(p, .native t₁)] {} c₁ p = .ok (.ok sd₁ c₂) →
    fmtSD .native sd₁ = some t₂ →
    sd₀.incl = [] ∧ t₂ = t₁ ∧
      (∀ c₃ c₄, C13.ValidCounter Gen.counterLimit c₃ →
        readFile ev [(p, .native t₂)] {} c₃ p = .ok (.ok sd₂ c₄) → sd₂.data = sd₁.data) := by
  intro h0 hw1 h1 hw2
  obtain ⟨c₁', hv₁, e0⟩ := read_source H ev hdr hc
  rw [e0] at h0
  injection h0 with h0; injection h0 with hs0 hc0
  subst hs0 hc0
  rw [write_good H.good (firstRead_cases hdr _)] at hw1
  injection hw1 with hw1; subst hw1
  obtain ⟨c₂', hv₂, e1⟩ := read_good H.good ev H.path hv₁
  rw [e1] at h1
  injection h1 with h1; injection h1 with hs1 hc1
  subst hs1 hc1
  rw [write_good H.good (Or.inr rfl)] at hw2
  injection hw2 with hw2; subst hw2
  refine ⟨by cases hdr <;> rfl, rfl, ?_⟩
  intro c₃ c₄ hv₃ h2
  obtain ⟨c₄', _, e2⟩ := read_good H.good ev H.path hv₃
  rw [e2] at h2
  injection h2 with h2; injection h2 with hs2 _
  rw [← hs2]

/-! ### every cycle -/

/-- **C03, bytes, every cycle.**  After the first read of the source, `n` write–read cycles with the real writer all
    write the same bytes `nativeHeader ++ fmtPlain D` and all read the same SDict; its data is the data of the first
    read (`D`) with the header placeholder entry in front — exactly the data of the first read when the source had the
    header already. -/
theorem C03_bytes_all_cycles (hdr : Bool) {c : Counter} (hc : C13.ValidCounter Gen.counterLimit c) (n : Nat) :
    ∃ c₁, readFile ev [(p, .native (srcText hdr es gaps tail))] {} c p =
        .ok (.ok (firstRead hdr (denSrcEs es [])) c₁) ∧
      sdCycles ev p n (firstRead hdr (denSrcEs es [])) c₁ =
        List.replicate n (cycleText (denSrcEs es []), C12.hdrSD (denSrcEs es [])) ∧
      C01.dropPhEntries (firstRead hdr (denSrcEs es [])).data = denSrcEs es [] ∧
      C01.dropPhEntries (C12.hdrSD (denSrcEs es [])).data = denSrcEs es [] ∧
      (hdr = true → (C12.hdrSD (denSrcEs es [])).data = (firstRead hdr (denSrcEs es [])).data) := by
  obtain ⟨c₁, hv₁, e0⟩ := read_source H ev hdr hc
  refine ⟨c₁, e0, sdCycles_good H.good ev H.path n _ c₁ (firstRead_cases hdr _) hv₁, ?_,
    C01.dropPh_hdr (C02.den_noPh H.hwf), ?_⟩
  · cases hdr with
    | true => exact C01.dropPh_hdr (C02.den_noPh H.hwf)
    | false =>
      show List.filter _ (denSrcEs es []) = _
      exact List.filter_eq_self.mpr fun e he => by
        rw [C07.noPhEs_keys (C02.den_noPh H.hwf) e.1 (List.mem_map_of_mem he)]; rfl
  · intro h; subst h; rfl

end

/-! ## non-vacuity: the example document of `C02lex`, with the header in front, three cycles -/

theorem ex_bytes (ev : Str → EvalResult) :
    ∃ c₁, readFile ev [(["f".toList], .native (srcText true C02.exSrc C02.exSGapsLoose ['\r', '\n']))] {} none ["f".toList] =
        .ok (.ok (C12.hdrSD C02.exData) c₁) ∧
      sdCycles ev ["f".toList] 3 (C12.hdrSD C02.exData) c₁ =
        List.replicate 3 (nativeHeader ++ fmtPlain .native C02.exData, C12.hdrSD C02.exData) := by
  have H : SrcOK C02.exSrc C02.exSGapsLoose ['\r', '\n'] ["f".toList] :=
    ⟨C02.exSrc_wf, C02.exSGapsLoose_ok, by decide, by rw [C02.exSrc_count]; decide, C02.exSrc_docKeys,
      by rw [C02.exSrc_den]; exact exData_dom, by rw [C02.exSrc_den]; decide +kernel, by decide, by decide, by decide⟩
  obtain ⟨c₁, h1, h2, _⟩ := C03_bytes_all_cycles H ev true (c := none) (Or.inl rfl) 3
  simp only [firstRead, if_true, C02.exSrc_den, cycleText] at h1 h2
  exact ⟨c₁, h1, h2⟩

end DictIO.C03
