/-
  C08 -- the renaming of placeholder ids, and `_clean`.

  A read draws the ids of its line comments and include directives from the process-global counter, and numbers its
  block comments locally.  Two reads of one text from two counter values therefore differ by a renaming of the ids
  inside placeholder words (`LINECOMMENT%06d`, `BLOCKCOMMENT%06d`, `INCLUDE%06d`), wherever such a word stands as a key
  or as a string leaf, and by the same renaming of the keys of the side tables.  `C08nat` (comments: `renWord f g`) and
  `C08incl` (comments and include directives: `renWord3 f g h`) state this for their documents; the renaming itself and
  what does not depend on the kind of document is here.

    1  `phIdOf`: the id of an exact placeholder word `kw ++ padSix i`.  It, the three kinds of placeholder, the words
       `ph a i` and what the recognisers (`firstSixDigits`, `containsPh`, the selectors of `_clean_data`) make of them
       are in `Lemmas/Ph`; `inclPh i` (`C12idoc`) is `ph .incl i`
    2  `mapV φ` / `mapEs φ` / `mapXs φ`   a map `φ` on words applied to every string key and string leaf, also inside
       lists; `wordsV` / `wordsEs` / `wordsXs`   those strings in traversal order ("entries in order, key before value").
       `mapV` is a functor on word maps that only looks at the words present (`map_comp`, `map_congr`, `words_map`) and
       keeps the nesting depth
    3  `renTbl`, `TRel3`    side tables re-keyed
    4  `wordIds`, `idsV` / `idsEs` / `idsXs`, `rankOf`   the placeholder ids of a kind in a value: `idsV kw v` collects
       `wordIds kw` over `wordsV v` (`ids_words`), so the ids of `mapV φ v` are those of `v` mapped when `φ` maps the ids
       of every word (`idsV_map`)
    5  `renK ρ`             the renaming of words: the id of a placeholder word of kind `a` by `ρ a` (`renK_spec`: complete,
                            exclusive case analysis).  On ids (`wordIds_renK`), composition, dependence on the ids
                            present only (`renK_comp`, `renK_congr`); on the keys `_clean` must find (`PhKey`) it is
                            injective, is not seen by the selectors of `_clean_data`, and moves the id read off a
                            selected key by the function of its kind (`renK_key_inj`, `renK_sel`, `renK_sel_id`)
       `RenOK f`            injective, and six-digit ids stay six-digit
    6  `renSDK ρ`           the renaming on an `SDict`: data by `mapEs (renK ρ)`, the three tables re-keyed by `ρ .line`,
                            `ρ .block`, `ρ .incl`.  It is used through four facts.  `_clean` commutes with it
                            (`clean_renSDK`) for `RenOK (ρ a)`, provided every key `_clean` looks at is an exact
                            placeholder word or contains no placeholder; this covers the merging of identical
                            directives of one level.  The ids of a kind (`idsSD a`: data, then table keys) are mapped
                            by `ρ a` (`idsSD_ren`); renaming twice is renaming once by anything that agrees with the
                            composition on the ids present (`renSDK_comp_congr`); and so ranking the ids by first
                            appearance forgets an injective renaming (`rankOf_idsSD_ren`, `rank_renSDK`)
       `tri f g h`          a renaming given by three functions, as `C08nat` (`renWord f g = renK (tri f g id)`) and
                            `C08incl` (`renWord3 f g h = renK (tri f g h)`) need it
    7  `mapV_denSrcV`       the meaning of a comment-free document is fixed by a word map that fixes its words
-/
import DictIO.Props.C02main
import DictIO.Lemmas.Literal
import DictIO.Lemmas.Induct
import DictIO.Lemmas.Ph

namespace DictIO.C08
open DictIO

open _root_.DictIO.Ph (Kind ph)

theorem phIdOf_of_not_contains {kw s : Str} (hkw : kw ≠ []) (h : containsPh kw s = false) : phIdOf kw s = none :=
  phIdOf_none fun i hi e => by rw [e, Ph.containsPh_word hkw hi] at h; cases h

theorem containsPh_self {kw : Str} (hkw : kw ≠ []) {t : Str} (ht : (digitRun 6 t).isSome = true) :
    containsPh kw (kw ++ t) = true := Ph.containsPh_kw_append hkw ht

theorem padSix_not {a : Char} (ha : ¬ ('0' ≤ a ∧ a ≤ '9')) (n : Nat) : a ∉ padSix n :=
  fun h => ha (digit_table a (padSix_digit n a h)).2.2

theorem containsPh_notin {kw s : Str} (a : Char) (hsub : isInfix [a] kw = true) (h : a ∉ s) : containsPh kw s = false :=
  containsPh_false hsub (isInfix_false_of_head (c := a) (p := []) (w := s) h)


def keyMap (φ : Str → Str) : Key → Key
  | .str s => .str (φ s)
  | .int z => .int z

def scalarMap (φ : Str → Str) : Scalar → Scalar
  | .str s => .str (φ s)
  | x => x

mutual
  def mapV (φ : Str → Str) : Val → Val
    | .leaf x => .leaf (scalarMap φ x)
    | .dict es => .dict (mapEs φ es)
    | .list xs => .list (mapXs φ xs)
  def mapEs (φ : Str → Str) : Entries → Entries
    | [] => []
    | (k, v) :: es => (keyMap φ k, mapV φ v) :: mapEs φ es
  def mapXs (φ : Str → Str) : List Val → List Val
    | [] => []
    | v :: xs => mapV φ v :: mapXs φ xs
end

def keyWords : Key → List Str
  | .str s => [s]
  | .int _ => []

def scalarWords : Scalar → List Str
  | .str s => [s]
  | _ => []

mutual
  def wordsV : Val → List Str
    | .leaf x => scalarWords x
    | .dict es => wordsEs es
    | .list xs => wordsXs xs
  def wordsEs : Entries → List Str
    | [] => []
    | (k, v) :: es => keyWords k ++ wordsV v ++ wordsEs es
  def wordsXs : List Val → List Str
    | [] => []
    | v :: xs => wordsV v ++ wordsXs xs
end

theorem mapEs_nil (φ : Str → Str) : mapEs φ [] = [] := by simp only [mapEs]
theorem mapEs_cons (φ : Str → Str) (k : Key) (v : Val) (es : Entries) :
    mapEs φ ((k, v) :: es) = (keyMap φ k, mapV φ v) :: mapEs φ es := by simp only [mapEs]
theorem mapV_dict (φ : Str → Str) (es : Entries) : mapV φ (.dict es) = .dict (mapEs φ es) := by simp only [mapV]
theorem mapV_leaf (φ : Str → Str) (x : Scalar) : mapV φ (.leaf x) = .leaf (scalarMap φ x) := by simp only [mapV]
theorem mapV_list (φ : Str → Str) (xs : List Val) : mapV φ (.list xs) = .list (mapXs φ xs) := by simp only [mapV]
theorem mapXs_nil (φ : Str → Str) : mapXs φ [] = [] := by simp only [mapXs]
theorem mapXs_cons (φ : Str → Str) (v : Val) (xs : List Val) : mapXs φ (v :: xs) = mapV φ v :: mapXs φ xs := by
  simp only [mapXs]

theorem wordsEs_cons (k : Key) (v : Val) (es : Entries) : wordsEs ((k, v) :: es) = keyWords k ++ wordsV v ++ wordsEs es := by
  simp only [wordsEs]
theorem wordsXs_cons (v : Val) (xs : List Val) : wordsXs (v :: xs) = wordsV v ++ wordsXs xs := by simp only [wordsXs]

theorem keyWords_map (φ : Str → Str) (k : Key) : keyWords (keyMap φ k) = (keyWords k).map φ := by cases k <;> rfl
theorem scalarWords_map (φ : Str → Str) (x : Scalar) : scalarWords (scalarMap φ x) = (scalarWords x).map φ := by
  cases x <;> rfl

theorem keyMap_congr {φ ψ : Str → Str} {k : Key} (h : ∀ w ∈ keyWords k, φ w = ψ w) : keyMap φ k = keyMap ψ k := by
  cases k with
  | int z => rfl
  | str s => simp only [keyMap, h s List.mem_cons_self]

theorem scalarMap_congr {φ ψ : Str → Str} {x : Scalar} (h : ∀ w ∈ scalarWords x, φ w = ψ w) :
    scalarMap φ x = scalarMap ψ x := by
  cases x with
  | str s => simp only [scalarMap, h s List.mem_cons_self]
  | _ => rfl

theorem depth_map (φ : Str → Str) : (∀ v, depthV (mapV φ v) = depthV v) ∧
    (∀ es, depthV.depthEs (mapEs φ es) = depthV.depthEs es) ∧ (∀ xs, depthV.depthVs (mapXs φ xs) = depthV.depthVs xs) :=
  Val.ind_all (fun x => by simp only [mapV, depthV]) (fun es h => by simp only [mapV, depthV, h])
    (fun xs h => by simp only [mapV, depthV, h]) (by simp only [mapEs])
    (fun k v es hv hes => by simp only [mapEs, depthV.depthEs, hv, hes]) (by simp only [mapXs])
    (fun v xs hv hxs => by simp only [mapXs, depthV.depthVs, hv, hxs])

theorem map_comp (φ ψ : Str → Str) : (∀ v, mapV φ (mapV ψ v) = mapV (φ ∘ ψ) v) ∧
    (∀ es, mapEs φ (mapEs ψ es) = mapEs (φ ∘ ψ) es) ∧ (∀ xs, mapXs φ (mapXs ψ xs) = mapXs (φ ∘ ψ) xs) :=
  Val.ind_all (fun x => by cases x <;> rfl) (fun es h => by simp only [mapV, h]) (fun xs h => by simp only [mapV, h])
    (by simp only [mapEs])
    (fun k v es hv hes => by
      simp only [mapEs, hv, hes]
      cases k <;> rfl)
    (by simp only [mapXs]) (fun v xs hv hxs => by simp only [mapXs, hv, hxs])

theorem map_congr {φ ψ : Str → Str} : (∀ v, (∀ w ∈ wordsV v, φ w = ψ w) → mapV φ v = mapV ψ v) ∧
    (∀ es, (∀ w ∈ wordsEs es, φ w = ψ w) → mapEs φ es = mapEs ψ es) ∧
    (∀ xs, (∀ w ∈ wordsXs xs, φ w = ψ w) → mapXs φ xs = mapXs ψ xs) :=
  Val.ind_all
    (fun x h => by rw [mapV_leaf, mapV_leaf, scalarMap_congr (by simpa only [wordsV] using h)])
    (fun es ih h => by rw [mapV_dict, mapV_dict, ih (by simpa only [wordsV] using h)])
    (fun xs ih h => by rw [mapV_list, mapV_list, ih (by simpa only [wordsV] using h)])
    (fun _ => by rw [mapEs_nil, mapEs_nil])
    (fun k v es hv hes h => by
      rw [wordsEs_cons] at h
      rw [mapEs_cons, mapEs_cons, keyMap_congr fun w hw => h w (by simp [hw]), hv fun w hw => h w (by simp [hw]),
        hes fun w hw => h w (by simp [hw])])
    (fun _ => by rw [mapXs_nil, mapXs_nil])
    (fun v xs hv hxs h => by
      rw [wordsXs_cons] at h
      rw [mapXs_cons, mapXs_cons, hv fun w hw => h w (by simp [hw]), hxs fun w hw => h w (by simp [hw])])

theorem words_map (φ : Str → Str) : (∀ v, wordsV (mapV φ v) = (wordsV v).map φ) ∧
    (∀ es, wordsEs (mapEs φ es) = (wordsEs es).map φ) ∧ (∀ xs, wordsXs (mapXs φ xs) = (wordsXs xs).map φ) :=
  Val.ind_all (fun x => by simp only [mapV, wordsV, scalarWords_map]) (fun es h => by simp only [mapV, wordsV, h])
    (fun xs h => by simp only [mapV, wordsV, h]) (by simp only [mapEs, wordsEs, List.map_nil])
    (fun k v es hv hes => by simp only [mapEs, wordsEs, keyWords_map, hv, hes, List.map_append])
    (by simp only [mapXs, wordsXs, List.map_nil])
    (fun v xs hv hxs => by simp only [mapXs, wordsXs, hv, hxs, List.map_append])

theorem keys_mapEs (φ : Str → Str) : ∀ es : Entries, keys (mapEs φ es) = (keys es).map (keyMap φ)
  | [] => by simp only [mapEs_nil, keys, List.map_nil]
  | (k, v) :: es => by
    have := keys_mapEs φ es
    simp only [keys] at this
    simp only [mapEs_cons, keys, List.map_cons, this]

theorem mapEs_append (φ : Str → Str) : ∀ a b : Entries, mapEs φ (a ++ b) = mapEs φ a ++ mapEs φ b
  | [], b => by simp only [mapEs_nil, List.nil_append]
  | (k, v) :: a, b => by simp only [List.cons_append, mapEs_cons, mapEs_append φ a b]

theorem mapEs_fix (φ : Str → Str) : ∀ {es : Entries}, (∀ e ∈ es, keyMap φ e.1 = e.1 ∧ mapV φ e.2 = e.2) → mapEs φ es = es
  | [], _ => mapEs_nil φ
  | (k, v) :: es, h => by
    have h0 := h (k, v) List.mem_cons_self
    rw [mapEs_cons, h0.1, h0.2, mapEs_fix φ (fun e he => h e (List.mem_cons_of_mem _ he))]

theorem keysOK_setKey {OK : Key → Prop} {k : Key} {v : Val} {acc : Entries} (hk : OK k) (hacc : ∀ x ∈ keys acc, OK x) :
    ∀ x ∈ keys (setKey k v acc), OK x := by
  intro x hx
  rcases keys_setKey_sub hx with rfl | hx
  · exact hk
  · exact hacc x hx

section
variable {φ : Str → Str} {OK : Key → Prop} (hinj : ∀ {k k'}, OK k → OK k' → keyMap φ k = keyMap φ k' → k = k')
include hinj

theorem setKey_map {k : Key} (hk : OK k) (v : Val) : ∀ acc : Entries, (∀ x ∈ keys acc, OK x) →
    mapEs φ (setKey k v acc) = setKey (keyMap φ k) (mapV φ v) (mapEs φ acc)
  | [], _ => by simp only [setKey, mapEs_cons, mapEs_nil]
  | (k', v') :: es, h => by
    have hk' : OK k' := h k' (by simp [keys])
    have ih := setKey_map hk v es (fun x hx => h x (by simp only [keys, List.map_cons, List.mem_cons] at hx ⊢; exact Or.inr hx))
    by_cases e : k' = k
    · subst e
      simp only [setKey, if_true, mapEs_cons]
    · have e' : ¬ keyMap φ k' = keyMap φ k := fun h' => e (hinj hk' hk h')
      simp only [setKey, e, if_false, mapEs_cons, e', ih]

theorem delKey_map {k : Key} (hk : OK k) : ∀ acc : Entries, (∀ x ∈ keys acc, OK x) →
    mapEs φ (delKey k acc) = delKey (keyMap φ k) (mapEs φ acc)
  | [], _ => by simp only [delKey, mapEs_nil]
  | (k', v') :: es, h => by
    have hk' : OK k' := h k' (by simp [keys])
    have ih := delKey_map hk es (fun x hx => h x (by simp only [keys, List.map_cons, List.mem_cons] at hx ⊢; exact Or.inr hx))
    by_cases e : k' = k
    · subst e
      simp only [delKey, if_true, mapEs_cons]
    · have e' : ¬ keyMap φ k' = keyMap φ k := fun h' => e (hinj hk' hk h')
      simp only [delKey, e, if_false, mapEs_cons, e', ih]

end


def renTbl {α} (f : Nat → Nat) (t : Tbl α) : Tbl α := t.map fun e => (f e.1, e.2)

theorem renTbl_id {α} (t : Tbl α) : renTbl id t = t := by
  simp only [renTbl, id]; exact List.map_id' t

theorem renTbl_texts {α} (f : Nat → Nat) (t : Tbl α) : (renTbl f t).map (·.2) = t.map (·.2) := by
  simp only [renTbl, List.map_map]; rfl

theorem renTbl_length {α} (f : Nat → Nat) (t : Tbl α) : (renTbl f t).length = t.length := by
  simp only [renTbl, List.length_map]

theorem renTbl_append {α} (f : Nat → Nat) (t u : Tbl α) : renTbl f (t ++ u) = renTbl f t ++ renTbl f u := by
  simp only [renTbl, List.map_append]

theorem renTbl_keys {α} (f : Nat → Nat) (t : Tbl α) : (renTbl f t).map (·.1) = (t.map (·.1)).map f := by
  simp only [renTbl, List.map_map]; rfl

theorem renTbl_comp {α} (F f : Nat → Nat) (t : Tbl α) : renTbl F (renTbl f t) = renTbl (F ∘ f) t := by
  simp only [renTbl, List.map_map]; rfl

theorem renTbl_congr {α} {F F' : Nat → Nat} (t : Tbl α) (h : ∀ i ∈ t.map (·.1), F i = F' i) : renTbl F t = renTbl F' t := by
  simp only [renTbl]
  apply List.map_congr_left
  intro e he
  rw [h e.1 (List.mem_map_of_mem (f := (·.1)) he)]

theorem renTbl_get {α} {f : Nat → Nat} (hf : Function.Injective f) (i : Nat) :
    ∀ t : Tbl α, Tbl.get? (f i) (renTbl f t) = Tbl.get? i t
  | [] => rfl
  | (j, a) :: t => by
    have ih := renTbl_get hf i t
    simp only [renTbl] at ih
    by_cases e : j = i
    · subst e; simp only [renTbl, List.map_cons, Tbl.get?, if_true]
    · have e' : ¬ f j = f i := fun h => e (hf h)
      simp only [renTbl, List.map_cons, Tbl.get?, e, e', if_false, ih]

theorem renTbl_set {α} {f : Nat → Nat} (hf : Function.Injective f) (i : Nat) (a : α) :
    ∀ t : Tbl α, Tbl.set (f i) a (renTbl f t) = renTbl f (Tbl.set i a t)
  | [] => rfl
  | (j, b) :: t => by
    have ih := renTbl_set hf i a t
    simp only [renTbl] at ih
    by_cases e : j = i
    · subst e; simp only [renTbl, List.map_cons, Tbl.set, if_true]
    · have e' : ¬ f j = f i := fun h => e (hf h)
      simp only [renTbl, List.map_cons, Tbl.set, e, e', if_false, ih]

theorem renTbl_del {α} {f : Nat → Nat} (hf : Function.Injective f) (i : Nat) :
    ∀ t : Tbl α, Tbl.del (f i) (renTbl f t) = renTbl f (Tbl.del i t)
  | [] => rfl
  | (j, b) :: t => by
    have ih := renTbl_del hf i t
    simp only [renTbl] at ih
    by_cases e : j = i
    · subst e; simp only [renTbl, List.map_cons, Tbl.del, if_true]
    · have e' : ¬ f j = f i := fun h => e (hf h)
      simp only [renTbl, List.map_cons, Tbl.del, e, e', if_false, ih]

structure TRel3 (f g h : Nat → Nat) (s s' : SD) : Prop where
  lineC : s'.lineC = renTbl f s.lineC
  blockC : s'.blockC = renTbl g s.blockC
  incl : s'.incl = renTbl h s.incl
  exprs : s'.exprs = s.exprs

theorem sd_ext {a b : SD} (h1 : a.data = b.data) (h2 : a.exprs = b.exprs) (h3 : a.lineC = b.lineC) (h4 : a.blockC = b.blockC)
    (h5 : a.incl = b.incl) : a = b := by
  cases a; cases b; simp_all


def wordIds (kw s : Str) : List Nat := (phIdOf kw s).toList

def keyIds (kw : Str) : Key → List Nat
  | .str s => wordIds kw s
  | .int _ => []

def scalarIds (kw : Str) : Scalar → List Nat
  | .str s => wordIds kw s
  | _ => []

mutual
  def idsV (kw : Str) : Val → List Nat
    | .leaf x => scalarIds kw x
    | .dict es => idsEs kw es
    | .list xs => idsXs kw xs
  def idsEs (kw : Str) : Entries → List Nat
    | [] => []
    | (k, v) :: es => keyIds kw k ++ idsV kw v ++ idsEs kw es
  def idsXs (kw : Str) : List Val → List Nat
    | [] => []
    | v :: xs => idsV kw v ++ idsXs kw xs
end

def rankOf (ids : List Nat) (i : Nat) : Nat := ids.eraseDups.idxOf i

theorem idsEs_nil (kw : Str) : idsEs kw [] = [] := by simp only [idsEs]
theorem idsEs_cons (kw : Str) (k : Key) (v : Val) (es : Entries) :
    idsEs kw ((k, v) :: es) = keyIds kw k ++ idsV kw v ++ idsEs kw es := by simp only [idsEs]
theorem idsXs_nil (kw : Str) : idsXs kw [] = [] := by simp only [idsXs]
theorem idsXs_cons (kw : Str) (v : Val) (xs : List Val) : idsXs kw (v :: xs) = idsV kw v ++ idsXs kw xs := by
  simp only [idsXs]
theorem idsV_leaf (kw : Str) (x : Scalar) : idsV kw (.leaf x) = scalarIds kw x := by simp only [idsV]
theorem idsV_dict (kw : Str) (es : Entries) : idsV kw (.dict es) = idsEs kw es := by simp only [idsV]
theorem idsV_list (kw : Str) (xs : List Val) : idsV kw (.list xs) = idsXs kw xs := by simp only [idsV]

theorem mem_wordIds {kw s : Str} {i : Nat} : i ∈ wordIds kw s ↔ phIdOf kw s = some i := by
  simp [wordIds, Option.mem_toList]

theorem wordIds_own (a : Kind) {i : Nat} (hi : i < 1000000) : wordIds a.kw (ph a i) = [i] := by
  simp only [wordIds, ph, phIdOf_ph _ hi, Option.toList_some]

theorem wordIds_none {kw s : Str} (h : ∀ i, i < 1000000 → s ≠ kw ++ padSix i) : wordIds kw s = [] := by
  simp only [wordIds, phIdOf_none h, Option.toList_none]

theorem wordIds_lt {kw s : Str} {i : Nat} (h : i ∈ wordIds kw s) : i < 1000000 := (phIdOf_some (mem_wordIds.mp h)).1

theorem ids_words (kw : Str) : (∀ v, idsV kw v = (wordsV v).flatMap (wordIds kw)) ∧
    (∀ es, idsEs kw es = (wordsEs es).flatMap (wordIds kw)) ∧ (∀ xs, idsXs kw xs = (wordsXs xs).flatMap (wordIds kw)) :=
  Val.ind_all (fun x => by cases x <;> simp [idsV, wordsV, scalarIds, scalarWords])
    (fun es h => by simp only [idsV, wordsV, h]) (fun xs h => by simp only [idsV, wordsV, h])
    (by simp only [idsEs, wordsEs, List.flatMap_nil])
    (fun k v es hv hes => by
      simp only [idsEs, wordsEs, List.flatMap_append, hv, hes]
      cases k <;> simp [keyIds, keyWords])
    (by simp only [idsXs, wordsXs, List.flatMap_nil])
    (fun v xs hv hxs => by simp only [idsXs, wordsXs, List.flatMap_append, hv, hxs])

theorem flatMap_wordIds_map {kw : Str} {φ : Str → Str} {m : Nat → Nat} : ∀ {l : List Str},
    (∀ w ∈ l, wordIds kw (φ w) = (wordIds kw w).map m) →
    (l.map φ).flatMap (wordIds kw) = (l.flatMap (wordIds kw)).map m
  | [], _ => rfl
  | w :: l, h => by
    rw [List.map_cons, List.flatMap_cons, List.flatMap_cons, List.map_append, h w List.mem_cons_self,
      flatMap_wordIds_map fun w' hw' => h w' (List.mem_cons_of_mem _ hw')]

theorem mem_idsV {kw w : Str} {i : Nat} {v : Val} (hw : w ∈ wordsV v) (hi : i ∈ wordIds kw w) : i ∈ idsV kw v := by
  rw [(ids_words kw).1]; exact List.mem_flatMap.mpr ⟨w, hw, hi⟩
theorem mem_idsEs {kw w : Str} {i : Nat} {es : Entries} (hw : w ∈ wordsEs es) (hi : i ∈ wordIds kw w) : i ∈ idsEs kw es := by
  rw [(ids_words kw).2.1]; exact List.mem_flatMap.mpr ⟨w, hw, hi⟩
theorem mem_idsXs {kw w : Str} {i : Nat} {xs : List Val} (hw : w ∈ wordsXs xs) (hi : i ∈ wordIds kw w) :
    i ∈ idsXs kw xs := by
  rw [(ids_words kw).2.2]; exact List.mem_flatMap.mpr ⟨w, hw, hi⟩

section
variable {kw : Str} {φ : Str → Str} {m : Nat → Nat}

theorem idsV_map (v : Val) (h : ∀ w ∈ wordsV v, wordIds kw (φ w) = (wordIds kw w).map m) :
    idsV kw (mapV φ v) = (idsV kw v).map m := by
  rw [(ids_words kw).1, (ids_words kw).1, (words_map φ).1]; exact flatMap_wordIds_map h
theorem idsEs_map (es : Entries) (h : ∀ w ∈ wordsEs es, wordIds kw (φ w) = (wordIds kw w).map m) :
    idsEs kw (mapEs φ es) = (idsEs kw es).map m := by
  rw [(ids_words kw).2.1, (ids_words kw).2.1, (words_map φ).2.1]; exact flatMap_wordIds_map h
theorem idsXs_map (xs : List Val) (h : ∀ w ∈ wordsXs xs, wordIds kw (φ w) = (wordIds kw w).map m) :
    idsXs kw (mapXs φ xs) = (idsXs kw xs).map m := by
  rw [(ids_words kw).2.2, (ids_words kw).2.2, (words_map φ).2.2]; exact flatMap_wordIds_map h

end

theorem flatMap_wordIds_lt (kw : Str) (l : List Str) : ∀ a ∈ l.flatMap (wordIds kw), a < 1000000 := fun a ha => by
  obtain ⟨w, _, hw⟩ := List.mem_flatMap.mp ha
  exact wordIds_lt hw

structure RenOK (f : Nat → Nat) : Prop where
  inj : Function.Injective f
  lt : ∀ i, i < 1000000 → f i < 1000000

theorem renOK_id : RenOK id := ⟨fun _ _ h => h, fun _ h => h⟩

def kindOf (s : Str) : Option (Kind × Nat) :=
  match phIdOf kwIncl s with
  | some i => some (.incl, i)
  | none => match phIdOf kwLine s with
    | some i => some (.line, i)
    | none => match phIdOf kwBlock s with
      | some i => some (.block, i)
      | none => none

theorem kindOf_ph (a : Kind) {i : Nat} (hi : i < 1000000) : kindOf (ph a i) = some (a, i) := by
  have hL := phIdOf_kind .line a hi
  have hB := phIdOf_kind .block a hi
  have hI := phIdOf_kind .incl a hi
  simp only [Kind.kw] at hL hB hI
  cases a <;> simp [kindOf, hL, hB, hI]

theorem kindOf_some {s : Str} {a : Kind} {i : Nat} (h : kindOf s = some (a, i)) : i < 1000000 ∧ s = ph a i := by
  simp only [kindOf] at h
  split at h
  · cases h; exact phIdOf_some ‹_›
  · split at h
    · cases h; exact phIdOf_some ‹_›
    · split at h
      · cases h; exact phIdOf_some ‹_›
      · cases h

def renK (ρ : Kind → Nat → Nat) (s : Str) : Str :=
  match kindOf s with
  | some (a, i) => ph a (ρ a i)
  | none => s

theorem renK_ph (ρ : Kind → Nat → Nat) (a : Kind) {i : Nat} (hi : i < 1000000) : renK ρ (ph a i) = ph a (ρ a i) := by
  simp only [renK, kindOf_ph a hi]

theorem renK_spec (ρ : Kind → Nat → Nat) (s : Str) :
    (∃ a i, i < 1000000 ∧ s = ph a i ∧ renK ρ s = ph a (ρ a i)) ∨ ((∀ a i, i < 1000000 → s ≠ ph a i) ∧ renK ρ s = s) := by
  cases h : kindOf s with
  | some ai =>
    obtain ⟨hi, e⟩ := kindOf_some (a := ai.1) (i := ai.2) h
    exact Or.inl ⟨ai.1, ai.2, hi, e, by simp only [renK, h]⟩
  | none => exact Or.inr ⟨fun a i hi e => (by rw [e, kindOf_ph a hi] at h; cases h), by simp only [renK, h]⟩

theorem renK_other (ρ : Kind → Nat → Nat) {s : Str} (hn : ∀ a i, i < 1000000 → s ≠ ph a i) : renK ρ s = s := by
  rcases renK_spec ρ s with ⟨a, i, hi, e, _⟩ | ⟨_, r⟩
  · exact absurd e (hn a i hi)
  · exact r

theorem renK_noPh (ρ : Kind → Nat → Nat) {s : Str} (h : ∀ a : Kind, containsPh a.kw s = false) : renK ρ s = s :=
  renK_other ρ fun a i hi e => by have := h a; rw [e, Ph.containsPh_own a hi] at this; cases this

theorem renK_id {ρ : Kind → Nat → Nat} (hρ : ∀ a i, ρ a i = i) (s : Str) : renK ρ s = s := by
  rcases renK_spec ρ s with ⟨a, i, _, e, r⟩ | ⟨_, r⟩
  · rw [r, e, hρ]
  · exact r

theorem renK_plain (ρ : Kind → Nat → Nat) {s : Str} (hc : isInfix "COMMENT".toList s = false)
    (hi : isInfix "INCLUDE".toList s = false) : renK ρ s = s := by
  refine renK_noPh ρ fun a => ?_
  cases a
  · exact containsPh_false (kw := kwLine) (sub := "COMMENT".toList) (by rw [kwLine_eq]; literal_chars; decide) hc
  · exact containsPh_false (kw := kwBlock) (sub := "COMMENT".toList) (by rw [kwBlock_eq]; literal_chars; decide) hc
  · exact containsPh_false (kw := kwIncl) (sub := "INCLUDE".toList) (by rw [kwIncl_eq]; literal_chars; decide) hi

theorem renK_linePh (ρ : Kind → Nat → Nat) {i : Nat} (hi : i < 1000000) : renK ρ (linePh i) = linePh (ρ .line i) :=
  renK_ph ρ .line hi
theorem renK_blockPh (ρ : Kind → Nat → Nat) {i : Nat} (hi : i < 1000000) : renK ρ (blockPh i) = blockPh (ρ .block i) :=
  renK_ph ρ .block hi
theorem renK_inclPh (ρ : Kind → Nat → Nat) {i : Nat} (hi : i < 1000000) :
    renK ρ (kwIncl ++ padSix i) = kwIncl ++ padSix (ρ .incl i) := renK_ph ρ .incl hi

theorem wordIds_renK (ρ : Kind → Nat → Nat) (a : Kind) (s : Str) (hb : ∀ i ∈ wordIds a.kw s, ρ a i < 1000000) :
    wordIds a.kw (renK ρ s) = (wordIds a.kw s).map (ρ a) := by
  rcases renK_spec ρ s with ⟨b, i, hi, e, r⟩ | ⟨hn, r⟩ <;> rw [r]
  · by_cases hab : a = b
    · subst hab
      have := hb i (by rw [e, wordIds_own a hi]; exact List.mem_cons_self)
      rw [e, wordIds_own a hi, wordIds_own a this]; rfl
    · rw [e, wordIds, wordIds, phIdOf_other hab, phIdOf_other hab]; rfl
  · rw [wordIds_none (hn a)]; rfl

theorem renK_comp (P ρ : Kind → Nat → Nat) (s : Str) (hb : ∀ a, ∀ i ∈ wordIds a.kw s, ρ a i < 1000000) :
    renK P (renK ρ s) = renK (fun a => P a ∘ ρ a) s := by
  rcases renK_spec ρ s with ⟨a, i, hi, e, r⟩ | ⟨hn, r⟩ <;> rw [r]
  · have := hb a i (by rw [e, wordIds_own a hi]; exact List.mem_cons_self)
    rw [e, renK_ph P a this, renK_ph _ a hi]; rfl
  · rw [renK_other P hn, renK_other _ hn]

theorem renK_congr {ρ ρ' : Kind → Nat → Nat} (s : Str) (hb : ∀ a, ∀ i ∈ wordIds a.kw s, ρ a i = ρ' a i) :
    renK ρ s = renK ρ' s := by
  rcases renK_spec ρ s with ⟨a, i, hi, e, r⟩ | ⟨hn, r⟩ <;> rw [r]
  · rw [e, renK_ph _ a hi, hb a i (by rw [e, wordIds_own a hi]; exact List.mem_cons_self)]
  · rw [renK_other _ hn]

/-- a key of a dict level as `_clean` must find it: an exact placeholder word, or a key without any placeholder -/
def PhKey (k : Key) : Prop := (∃ a i, i < 1000000 ∧ k = .str (ph a i)) ∨ C07.isPhKey k = false

theorem renK_key_noPh (ρ : Kind → Nat → Nat) {k : Key} (hk : C07.isPhKey k = false) : keyMap (renK ρ) k = k := by
  cases k with
  | int z => rfl
  | str s => rw [keyMap, renK_other ρ fun a i hi e => by rw [e, Ph.isPhKey_ph a hi] at hk; cases hk]

section
variable {ρ : Kind → Nat → Nat} (hρ : ∀ a, RenOK (ρ a))
include hρ

theorem renK_key_cases {k : Key} (hk : PhKey k) :
    (∃ a i, i < 1000000 ∧ ρ a i < 1000000 ∧ k = .str (ph a i) ∧ keyMap (renK ρ) k = .str (ph a (ρ a i))) ∨
    (C07.isPhKey k = false ∧ keyMap (renK ρ) k = k) := by
  rcases hk with ⟨a, i, hi, rfl⟩ | hk
  · exact Or.inl ⟨a, i, hi, (hρ a).lt i hi, rfl, by rw [keyMap, renK_ph ρ a hi]⟩
  · exact Or.inr ⟨hk, renK_key_noPh ρ hk⟩

theorem renK_key_inj {k k' : Key} (hk : PhKey k) (hk' : PhKey k') (e : keyMap (renK ρ) k = keyMap (renK ρ) k') : k = k' := by
  rcases renK_key_cases hρ hk with ⟨a, i, hi, hfi, rfl, r⟩ | ⟨hp, r⟩ <;>
    rcases renK_key_cases hρ hk' with ⟨b, j, hj, hfj, rfl, r'⟩ | ⟨hp', r'⟩ <;> rw [r, r'] at e
  · by_cases hab : a = b
    · subst hab; rw [(hρ a).inj (Ph.ph_inj (Key.str.inj e))]
    · exact absurd (Key.str.inj e) (Ph.ph_ne hab _ _)
  · rw [← e, Ph.isPhKey_ph a hfi] at hp'; cases hp'
  · rw [e, Ph.isPhKey_ph b hfj] at hp; cases hp
  · exact e

theorem renK_sel (c : Kind) {k : Key} (hk : PhKey k) : Ph.selK c (keyMap (renK ρ) k) = Ph.selK c k := by
  rcases renK_key_cases hρ hk with ⟨a, i, hi, hfi, rfl, r⟩ | ⟨hp, r⟩ <;> rw [r]
  rw [Ph.selK_ph c a hfi, Ph.selK_ph c a hi]

theorem renK_sel_id (c : Kind) {k : Key} (hk : PhKey k) (hs : Ph.selK c k = true) :
    ∃ x i, k = .str x ∧ firstSixDigits x = some i ∧ firstSixDigits (renK ρ x) = some (ρ c i) := by
  rcases hk with ⟨a, i, hi, rfl⟩ | hk
  · rw [Ph.selK_ph c a hi, decide_eq_true_eq] at hs
    subst hs
    exact ⟨_, i, rfl, Ph.firstSix_ph c hi, by rw [renK_ph ρ c hi]; exact Ph.firstSix_ph c ((hρ c).lt i hi)⟩
  · rw [Ph.selK_noPh c hk] at hs; cases hs

end


theorem cstep_keys {α} [BEq α] (acc : Entries × Tbl α × List α) (k : Key) : ∀ x ∈ keys (cleanStepF acc k).1, x ∈ keys acc.1 := by
  obtain ⟨d, t, seen⟩ := acc
  intro x hx
  cases k with
  | int z => exact hx
  | str s =>
    simp only [cleanStepF] at hx
    split at hx
    · exact hx
    · split at hx
      · exact hx
      · split at hx
        · exact keys_delKey_sub hx
        · exact hx

theorem cleanStep_ok {α} [BEq α] {OK : Key → Prop} (sel : Key → Bool) (lvl : Entries) (tbl : Tbl α)
    (h : ∀ x ∈ keys lvl, OK x) : ∀ x ∈ keys (cleanStep sel lvl tbl).1, OK x :=
  cleanStep_inv (fun d => ∀ x ∈ keys d, OK x) sel (fun _ _ _ hd x hx => hd x (keys_delKey_sub hx)) lvl tbl h

section
variable {α : Type} [BEq α] {φ : Str → Str} {OK : Key → Prop}
  (hinj : ∀ {k k'}, OK k → OK k' → keyMap φ k = keyMap φ k' → k = k') {m : Nat → Nat} (hm : Function.Injective m)
include hinj hm

theorem cstep_map {x : Str} {i : Nat} (hk : OK (.str x)) (h1 : firstSixDigits x = some i)
    (h2 : firstSixDigits (φ x) = some (m i)) (d : Entries) (t : Tbl α) (seen : List α) (hd : ∀ x ∈ keys d, OK x) :
    cleanStepF (mapEs φ d, renTbl m t, seen) (.str (φ x)) =
      (mapEs φ (cleanStepF (d, t, seen) (.str x)).1, renTbl m (cleanStepF (d, t, seen) (.str x)).2.1,
        (cleanStepF (d, t, seen) (.str x)).2.2) := by
  simp only [cleanStepF, h1, h2, renTbl_get hm]
  cases ht : Tbl.get? i t with
  | none => rfl
  | some txt =>
    dsimp only
    by_cases hs : seen.contains txt = true
    · simp only [hs, if_true]
      rw [delKey_map hinj hk d hd, renTbl_del hm]
      rfl
    · simp only [hs, Bool.false_eq_true, if_false]

theorem cfold_map (sel : Key → Bool)
    (hid : ∀ {k}, OK k → sel k = true → ∃ x i, k = .str x ∧ firstSixDigits x = some i ∧ firstSixDigits (φ x) = some (m i)) :
    ∀ (cand : List Key), (∀ k ∈ cand, OK k ∧ sel k = true) →
      ∀ (d : Entries) (t : Tbl α) (seen : List α), (∀ x ∈ keys d, OK x) →
        (cand.map (keyMap φ)).foldl cleanStepF (mapEs φ d, renTbl m t, seen) =
          (mapEs φ (cand.foldl cleanStepF (d, t, seen)).1, renTbl m (cand.foldl cleanStepF (d, t, seen)).2.1,
            (cand.foldl cleanStepF (d, t, seen)).2.2)
  | [], _, _, _, _, _ => rfl
  | k :: cand, hc, d, t, seen, hd => by
    obtain ⟨hk, hs⟩ := hc k List.mem_cons_self
    obtain ⟨x, i, rfl, h1, h2⟩ := hid hk hs
    rw [List.map_cons, List.foldl_cons, List.foldl_cons]
    show List.foldl cleanStepF (cleanStepF (mapEs φ d, renTbl m t, seen) (.str (φ x))) _ = _
    rw [cstep_map hinj hm hk h1 h2 d t seen hd]
    exact cfold_map sel hid cand (fun k' hk' => hc k' (List.mem_cons_of_mem _ hk')) _ _ _
      (fun y hy => hd y (cstep_keys _ _ y hy))

theorem cleanStep_map (sel : Key → Bool) (lvl : Entries) (tbl : Tbl α) (hok : ∀ k ∈ keys lvl, OK k)
    (hsel : ∀ {k}, OK k → sel (keyMap φ k) = sel k)
    (hid : ∀ {k}, OK k → sel k = true → ∃ x i, k = .str x ∧ firstSixDigits x = some i ∧ firstSixDigits (φ x) = some (m i)) :
    cleanStep sel (mapEs φ lvl) (renTbl m tbl) =
      (mapEs φ (cleanStep sel lvl tbl).1, renTbl m (cleanStep sel lvl tbl).2) := by
  have hcnd : (keys (mapEs φ lvl)).filter sel = ((keys lvl).filter sel).map (keyMap φ) := by
    rw [keys_mapEs, List.filter_map]
    congr 1
    apply List.filter_congr
    intro k hk
    exact hsel (hok k hk)
  rw [cleanStep_eq, cleanStep_eq, hcnd,
    cfold_map hinj hm sel hid _ (fun k hk => ⟨hok k (List.mem_filter.mp hk).1, (List.mem_filter.mp hk).2⟩) lvl tbl [] hok]

end

def renSDK (ρ : Kind → Nat → Nat) (s : SD) : SD :=
  { s with data := mapEs (renK ρ) s.data, lineC := renTbl (ρ .line) s.lineC, blockC := renTbl (ρ .block) s.blockC,
           incl := renTbl (ρ .incl) s.incl }

abbrev TRelK (ρ : Kind → Nat → Nat) : SD → SD → Prop := TRel3 (ρ .line) (ρ .block) (ρ .incl)

section
variable {ρ : Kind → Nat → Nat} (hρ : ∀ a, RenOK (ρ a))
include hρ

theorem cleanLevel_map {s s' : SD} (hs : TRelK ρ s s') (lvl : Entries) (hok : ∀ k ∈ keys lvl, PhKey k) :
    TRelK ρ (cleanLevel s lvl).1 (cleanLevel s' (mapEs (renK ρ) lvl)).1 ∧
      (cleanLevel s' (mapEs (renK ρ) lvl)).2 = mapEs (renK ρ) (cleanLevel s lvl).2 := by
  have hinj := fun {k k'} => renK_key_inj hρ (k := k) (k' := k')
  have step := fun (c : Kind) {α : Type} [BEq α] (l : Entries) (t : Tbl α) (h : ∀ k ∈ keys l, PhKey k) =>
    cleanStep_map hinj (hρ c).inj (Ph.selK c) l t h (fun hk => renK_sel hρ c hk) fun hk => renK_sel_id hρ c hk
  have hB := step .block lvl s.blockC hok
  have hok1 := cleanStep_ok C06.selB lvl s.blockC hok
  have hI := step .incl _ s.incl hok1
  have hok2 := cleanStep_ok C06.selI _ s.incl hok1
  have hL := step .line _ s.lineC hok2
  simp only [Ph.selK] at hB hI hL
  rw [cleanLevel_eq, cleanLevel_eq]
  simp only [hs.blockC, hs.incl, hs.lineC, hB, hI, hL]
  exact ⟨⟨rfl, rfl, rfl, hs.exprs⟩, trivial⟩

variable {W : Entries → Prop} (hW : ∀ lvl, W lvl → ∀ e ∈ lvl, PhKey e.1 ∧ ∀ sub, e.2 = .dict sub → W sub)
include hW

theorem cleanRec_map : ∀ (fuel : Nat) (s s' : SD) (lvl : Entries), TRelK ρ s s' → W lvl →
    TRelK ρ (cleanRec fuel s lvl).1 (cleanRec fuel s' (mapEs (renK ρ) lvl)).1 ∧
      (cleanRec fuel s' (mapEs (renK ρ) lvl)).2 = mapEs (renK ρ) (cleanRec fuel s lvl).2
  | 0, _, _, _, hs, _ => ⟨hs, rfl⟩
  | fuel + 1, s, s', lvl, hs, hw => by
    have hlvl := hW lvl hw
    obtain ⟨hl1, hl2⟩ := cleanLevel_map hρ hs lvl (fun k hk => by
      obtain ⟨e, he, rfl⟩ := List.mem_map.mp hk
      exact (hlvl e he).1)
    have hsub : ∀ e ∈ (cleanLevel s lvl).2, PhKey e.1 ∧ ∀ sub, e.2 = .dict sub → W sub :=
      fun e he => hlvl e ((C06.cleanLevel_spec s lvl).1.subset he)
    rw [cleanRec_succ, cleanRec_succ, hl2]
    generalize (cleanLevel s' (mapEs (renK ρ) lvl)).1 = s1' at hl1
    generalize (cleanLevel s lvl).2 = lvl1 at hsub
    generalize (cleanLevel s lvl).1 = s1 at hl1
    suffices Hl : ∀ (l : Entries) (acc acc' : SD × Entries), (∀ e ∈ l, PhKey e.1 ∧ ∀ sub, e.2 = .dict sub → W sub) →
        TRelK ρ acc.1 acc'.1 → acc'.2 = mapEs (renK ρ) acc.2 → (∀ x ∈ keys acc.2, PhKey x) →
        TRelK ρ (l.foldl (cleanSub fuel) acc).1 ((mapEs (renK ρ) l).foldl (cleanSub fuel) acc').1 ∧
          ((mapEs (renK ρ) l).foldl (cleanSub fuel) acc').2 = mapEs (renK ρ) (l.foldl (cleanSub fuel) acc).2 from
      Hl lvl1 (s1, lvl1) (s1', mapEs (renK ρ) lvl1) hsub hl1 rfl (fun x hx => by
        obtain ⟨e, he, rfl⟩ := List.mem_map.mp hx
        exact (hsub e he).1)
    intro l
    induction l with
    | nil => intro acc acc' _ h1 h2 _; rw [mapEs_nil]; exact ⟨h1, h2⟩
    | cons e l ih =>
      intro acc acc' hl h1 h2 h3
      obtain ⟨k0, v0⟩ := e
      have he := hl _ List.mem_cons_self
      have hl' := fun e' he' => hl e' (List.mem_cons_of_mem _ he')
      rw [mapEs_cons, List.foldl_cons, List.foldl_cons]
      cases v0 with
      | leaf x => rw [mapV_leaf]; exact ih _ _ hl' h1 h2 h3
      | list xs => rw [mapV_list]; exact ih _ _ hl' h1 h2 h3
      | dict sub =>
        rw [mapV_dict]
        have ihs := cleanRec_map fuel acc.1 acc'.1 sub h1 (he.2 sub rfl)
        refine ih _ _ hl' ihs.1 ?_ (keysOK_setKey he.1 h3)
        show setKey _ _ acc'.2 = mapEs (renK ρ) (setKey _ _ acc.2)
        rw [ihs.2, h2, setKey_map (renK_key_inj hρ) he.1 _ _ h3, mapV_dict]

/-- **`_clean` commutes with the renaming** of the three kinds of placeholder ids, provided every key `_clean` looks at
    is an exact placeholder word or contains no placeholder (`hW`).  In particular on the include table, where `_clean`
    merges identical directives of one level. -/
theorem clean_renSDK (s : SD) (hw : W s.data) : (renSDK ρ s).clean = renSDK ρ s.clean := by
  obtain ⟨h1, h2⟩ := cleanRec_map hρ hW (depthV (.dict s.data) + 1) s (renSDK ρ s) s.data ⟨rfl, rfl, rfl, rfl⟩ hw
  have hd : (renSDK ρ s).data = mapEs (renK ρ) s.data := rfl
  have hdep : depthV (.dict (mapEs (renK ρ) s.data)) = depthV (.dict s.data) := by rw [← mapV_dict, (depth_map _).1]
  rw [SD.clean_eq s, SD.clean_eq (renSDK ρ s), hd, hdep]
  -- with the two results of `cleanRec` still in sight, comparing fields would unfold them
  generalize cleanRec _ s s.data = r at h1 h2 ⊢
  generalize cleanRec _ (renSDK ρ s) (mapEs (renK ρ) s.data) = r' at h1 h2 ⊢
  exact sd_ext h2 h1.exprs h1.lineC h1.blockC h1.incl

end


def tblIds (a : Kind) (s : SD) : List Nat :=
  match a with
  | .line => s.lineC.map (·.1)
  | .block => s.blockC.map (·.1)
  | .incl => s.incl.map (·.1)

def idsSD (a : Kind) (s : SD) : List Nat := idsEs a.kw s.data ++ tblIds a s

theorem tblIds_ren (ρ : Kind → Nat → Nat) (a : Kind) (s : SD) : tblIds a (renSDK ρ s) = (tblIds a s).map (ρ a) := by
  cases a <;> exact renTbl_keys _ _

theorem idsSD_ren (ρ : Kind → Nat → Nat) (a : Kind) (s : SD) (hb : ∀ i ∈ idsEs a.kw s.data, ρ a i < 1000000) :
    idsSD a (renSDK ρ s) = (idsSD a s).map (ρ a) := by
  rw [idsSD, idsSD, tblIds_ren, List.map_append]
  exact congrArg (· ++ _) (idsEs_map s.data fun w hw => wordIds_renK ρ a w fun i hi => hb i (mem_idsEs hw hi))

theorem renTbl_comp_congr {α} {F f F' : Nat → Nat} (t : Tbl α) (h : ∀ i ∈ t.map (·.1), F (f i) = F' i) :
    renTbl F (renTbl f t) = renTbl F' t := by
  rw [renTbl_comp]; exact renTbl_congr t h

theorem renSDK_comp_congr (R' R ρ : Kind → Nat → Nat) (s : SD) (hb : ∀ a, ∀ i ∈ idsEs a.kw s.data, ρ a i < 1000000)
    (h : ∀ a, ∀ i ∈ idsSD a s, R' a (ρ a i) = R a i) : renSDK R' (renSDK ρ s) = renSDK R s := by
  refine sd_ext ?_ rfl (renTbl_comp_congr _ fun i hi => h .line i (List.mem_append_right _ hi))
    (renTbl_comp_congr _ fun i hi => h .block i (List.mem_append_right _ hi))
    (renTbl_comp_congr _ fun i hi => h .incl i (List.mem_append_right _ hi))
  show mapEs (renK R') (mapEs (renK ρ) s.data) = mapEs (renK R) s.data
  rw [(map_comp _ _).2.1]
  exact map_congr.2.1 s.data fun w hw => (renK_comp R' ρ w fun a i hi => hb a i (mem_idsEs hw hi)).trans
    (renK_congr w fun a i hi => h a i (List.mem_append_left _ (mem_idsEs hw hi)))

theorem rankOf_map {f : Nat → Nat} {L : List Nat} (hinj : ∀ a ∈ L, ∀ b ∈ L, f a = f b → a = b) {i : Nat} (hi : i ∈ L) :
    rankOf (L.map f) (f i) = rankOf L i :=
  C13.rank_map_injOn hinj hi

theorem rankOf_idsSD_ren (ρ : Kind → Nat → Nat) (a : Kind) (s : SD) (hb : ∀ i ∈ idsEs a.kw s.data, ρ a i < 1000000)
    (hinj : ∀ i ∈ idsSD a s, ∀ j ∈ idsSD a s, ρ a i = ρ a j → i = j) {i : Nat} (hi : i ∈ idsSD a s) :
    rankOf (idsSD a (renSDK ρ s)) (ρ a i) = rankOf (idsSD a s) i := by
  rw [idsSD_ren ρ a s hb]; exact rankOf_map hinj hi

/-- **the canonical form forgets the ids**, by kind: ranking the ids of every kind after such a renaming is ranking
    them before it -/
theorem rank_renSDK (ρ : Kind → Nat → Nat) (s : SD) (hb : ∀ a, ∀ i ∈ idsEs a.kw s.data, ρ a i < 1000000)
    (hinj : ∀ a, ∀ i ∈ idsSD a s, ∀ j ∈ idsSD a s, ρ a i = ρ a j → i = j) :
    renSDK (fun a => rankOf (idsSD a (renSDK ρ s))) (renSDK ρ s) = renSDK (fun a => rankOf (idsSD a s)) s :=
  renSDK_comp_congr _ _ ρ s hb fun a _ hi => rankOf_idsSD_ren ρ a s (hb a) (hinj a) hi


def tri (f g h : Nat → Nat) : Kind → Nat → Nat
  | .line => f
  | .block => g
  | .incl => h

theorem tri_ok {f g h : Nat → Nat} (hf : RenOK f) (hg : RenOK g) (hh : RenOK h) : ∀ a, RenOK (tri f g h a)
  | .line => hf
  | .block => hg
  | .incl => hh

theorem tri_comp (F G H f g h : Nat → Nat) : (fun a => tri F G H a ∘ tri f g h a) = tri (F ∘ f) (G ∘ g) (H ∘ h) := by
  funext a; cases a <;> rfl


section
variable {φ : Str → Str} (hφ : ∀ {s : Str}, isInfix "COMMENT".toList s = false → isInfix "INCLUDE".toList s = false → φ s = s)
include hφ

theorem scalarMap_den {l : Lit} (h : l.ok = true) : scalarMap φ l.den = l.den := by
  cases l with
  | bare w =>
    simp only [Lit.ok] at h
    obtain ⟨_, hc, hi, _, _, hq, _⟩ := C02.Main.srcWord_iff.mp h
    simp only [Lit.den]
    cases hp : parseValue w with
    | str s =>
      have := C04.C04_idem hp (fun c hc => (hq c hc).1)
      subst this
      simp only [scalarMap, hφ hc hi]
    | _ => rfl
  | quoted q b =>
    simp only [Lit.ok] at h
    have hc := (C02.Main.srcQuoted_iff.mp h).2.2.2.2.2.2.2.1
    have hi := (C02.Main.srcQuoted_iff.mp h).2.2.2.2.2.2.2.2
    simp only [Lit.den]
    cases hp : parseValue b with
    | str s => simp only [scalarMap, hφ hc hi]
    | _ => rfl

variable (hk : ∀ {k : Key}, C07.isPhKey k = false → keyMap φ k = k)
include hk

set_option linter.unusedSectionVars false in
mutual
  theorem mapV_denSrcV : ∀ (v : Src) (d : Nat), SrcWFV d v = true → mapV φ (denSrcV v) = denSrcV v
    | .lit l, _, h => by
      simp only [SrcWFV, Bool.and_eq_true] at h
      simp only [denSrcV, mapV_leaf, scalarMap_den hφ h.1]
    | .dict es, d, h => by
      simp only [SrcWFV] at h
      simp only [denSrcV, mapV_dict]
      rw [mapEs_fix φ (mapV_denSrcEs es (d + 1) [] h (fun _ he => nomatch he))]
    | .list xs, d, h => by
      simp only [SrcWFV] at h
      simp only [denSrcV, mapV_list, mapV_denSrcXs xs (d + 1) h]
  theorem mapV_denSrcEs : ∀ (es : SrcEntries) (d : Nat) (acc : Entries), SrcWFEs d es = true →
      (∀ e ∈ acc, keyMap φ e.1 = e.1 ∧ mapV φ e.2 = e.2) →
      ∀ e ∈ denSrcEs es acc, keyMap φ e.1 = e.1 ∧ mapV φ e.2 = e.2
    | [], _, _, _, hacc => by simpa only [denSrcEs] using hacc
    | (k, v) :: es, d, acc, h, hacc => by
      obtain ⟨hkw, hp, hkey, hv, hes⟩ := C12.wf_cons h
      obtain ⟨key, hkey⟩ := Option.isSome_iff_exists.mp hkey
      simp only [denSrcEs, hkey]
      apply mapV_denSrcEs es d _ hes
      intro e he
      rcases mem_setKey he with rfl | he
      · exact ⟨hk (C02.Main.typedKey_noPh hkw hkey), mapV_denSrcV v d hv⟩
      · exact hacc e he
  theorem mapV_denSrcXs : ∀ (xs : List Src) (d : Nat), SrcWFXs d xs = true → mapXs φ (denSrcXs xs) = denSrcXs xs
    | [], _, _ => by simp only [denSrcXs, mapXs_nil]
    | v :: xs, d, h => by
      simp only [SrcWFXs, Bool.and_eq_true] at h
      simp only [denSrcXs, mapXs_cons, mapV_denSrcV v d h.1, mapV_denSrcXs xs d h.2]
end

end


end DictIO.C08
