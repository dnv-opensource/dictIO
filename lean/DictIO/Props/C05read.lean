/-
  C05 -- from the TEXT of a file to the completeness theorem of `_eval_expressions` (flat documents).

  C05acyclic proves `C05_complete_acyclic'` for an `SD` "as the native parser hands it over" (`AcyclicFlat'`).  This file
  supplies the missing link: the text of a file ↦ that `SD`, and composes everything through `DictReader.read`.

  Documents (`Doc`): a list of entries `key value;`, the value a plain literal (bare word / quoted string without `$`,
  `Lit` of Model/Grammar), a bare reference `$name` (`DV.ref`), or a double-quoted expression text (`DV.expr`).
  Layout: `renderG doc lay tail` -- ANY admissible layout (`LayOK`): per entry three white-space gaps (in front of the key,
  between key and value -- not empty --, between value and `;`), any white space at the end; gaps may hold line breaks,
  tabs, blank lines.  `render doc` is the fixed layout `key value;⏎` (`render_eq`: an instance).
  Meaning (`exprSD c doc`): `labelAll` threads the lexer state through the values in the reader's order -- pass 1: every
  quoted string draws an id (`STRINGLITERALnnnnnn`, text order); pass 2: every double-quoted expression draws an id
  (`EXPRESSIONnnnnnn`, text order); pass 3: every bare reference draws an id (text order) -- the data hold the typed
  literals and the placeholder words, the table the texts.  (Three documents `ex1`, `ex2`, `ex3` go through the theorem:
  `ex1_parse`, `ex2_parse`, `ex3_parse`; `ex3` wraps the counter at 999999.)

  Well-formedness (`DocWF`, decidable):
    names      `keyOK`: a source word (`isSrcWord`), all `\w`, typed as a *string* key (`parseKey k = .str k`: a name like
               `1` would be an int key), not `_variables` / `_includes`; pairwise distinct
    literals   `Lit.ok` (Model/Grammar, as in C02); that their values are usable scalars is proved (`lit_okScalar`)
    references `$name`, `name` a non-empty `\w` word (`wfExpr_ref`: its text is a well-formed expression text)
    expression texts `exprOK`: `wfExpr` of C05acyclic; no `"`; one line; no `//`, `/*` (the comment stages run first); the
               first non-blank character is not `;`; pairwise distinct.  The last two are NECESSARY, see `exSemi_differs`,
               `exDup_differs`: `lexExpressions` replaces every occurrence of the matched text in the whole block
               (`str.replace`).
  Further hypotheses: `C13.ValidCounter` for the counter, `countIds doc ≤ limit + 1` (one id per quoted string, expression,
  reference: no id is handed out twice).

  How a stage is followed through the text: an entry stands in the text as six pieces (`entry`: gap, key, gap, value,
  gap, `;`) and `segs_ind` is the induction over a document in an admissible layout, entry by entry.  The stages of the
  expression pass look for one character (`"` or `$`) and act on the values one selector chooses (`selE`, `selR`):
  `stage_segs` lets the entries that are not chosen join a prefix free of that character, so that each stage lemma only
  says what happens at a chosen value.

  Proved (no `sorry`; axioms: propext, Classical.choice, Quot.sound):
   §3  `renderG_noMarkup`, `normalise_renderG`   the comment/include stages are the identity; newline removal + `strip`
                                 leave the same document in the layout `normLay lay`: the text is an admissible layout
                                 of the tokens `stoks doc` (`renderG_spreadS`, `gapsOKS_all`), each with what the front
                                 stages need (`frontOK_stoks`, `stoks_ends`), so both are the facts of C02 about token
                                 layouts (`C02.Main.noMarkup_spread`, `C02.normalise_toks`)
   §4  `lex1_segs`               the literal stage is a one-pass transducer (`C02.LexPiece st t st1 o`, C02lex: what it
                                 does to the piece `t` whatever follows; composes along `++`); on a document: quoted
                                 strings ↦ placeholder words, `"…$…"` kept verbatim (`lexPiece_expr`)
   §5  `findExprs_segs`, `foldE_segs` (`replaceAll_once`, `noInfix_segs`)   the matches of `"[^"]*\$.*?"` and the loop over
                                 them
   §6  `lexRefs_segs`, `lexExpressions_pre` (**`lexExpressions_segs`**)   the expression stage: which substrings become which
                                 placeholders, the table, the layout untouched.  The stage lemmas of §4–6 speak of the
                                 document behind a prefix the stage copies.
   §7–9 `parseBlockSt'_flat`: the stages between newline removal and `_clean` from any lexer state (`labelFrom`), behind a
        copied prefix; after the expression stage the text is `$`-free and the `EXPRESSION…` words are ordinary word
        tokens, so tokenizer/scanner/literal re-insertion are those of C02.  With no prefix, from the state
        `{ counter := c }`: **`parse_flat_exprs_layout`** :
          `parseNative comments dir c (renderG doc lay tail) = .ok (exprSD c doc, (labelAll c doc).1.counter)`
        (`…_layout'`: the counter is `adv limit (countIds doc) c`; `parse_layout_independent`; `parse_flat_exprs`: the fixed
        layout)
   §10–11 **`exprSD_acyclicFlat`** : `docRefsOK doc` (references unindexed, naming entries) and `docAcyclic doc` (longest-chain
        rank decreases along every reference; both decidable on the document) give `AcyclicFlat' (exprSD c doc)`
   §12 `readFile_layout`, **`C05_read_layout`** (any `ev` with `EvOK`), `C05_read_layout_evalInt`, and the fixed-layout
        instances `readFile_flat`, `C05_read_flat`, `C05_read_flat_evalInt`: reading the file with `DictReader.read` -- if it
        succeeds -- leaves no expression, keeps the keys in file order, and every variable holds the value `topoVal` gives;
        `first_read_gen`: if `topoVal` gives every name a value, the data read are exactly these values (an equation)
   §13 non-vacuity: `a 1; ab 20; c "$d * 2 + $ab"; d "$a + $ab"; e $c;` : `exprSD none ex1` is the example `C05.exSD`
        (`ex1_exprSD`), so the read gives c = 62, d = 21, e = 62 (`ex1_read_eval`, `ex1_loose_read_eval` in a loose layout,
        `ex1_read_thm` through the completeness theorem); the two necessity witnesses, by kernel evaluation.
-/
import DictIO.Props.C05acyclic
import DictIO.Props.C12
import DictIO.Props.C01

namespace DictIO.C05R
open DictIO

/-! ## 1. flat source documents with references and expressions -/

/-- a written value: a plain literal (bare word or quoted string), a bare reference `$name`, or a double-quoted
    expression text -/
inductive DV where
  | lit (l : Lit)
  | ref (name : Str)
  | expr (body : Str)
  deriving DecidableEq, Repr, Inhabited

abbrev Doc := List (Str × DV)

def DV.text : DV → Str
  | .lit l => l.tok.text
  | .ref n => '$' :: n
  | .expr b => '"' :: (b ++ ['"'])

/-- `key value;` -/
def etext (e : Str × DV) : Str := e.1 ++ ' ' :: (e.2.text ++ [';'])

/-- the fixed layout: one entry per line -/
def render (doc : Doc) : Str := doc.flatMap fun e => etext e ++ ['\n']

/-- a value after (some of) the reader's labelling passes: a word standing in the text together with the scalar it
    will mean, or a reference / an expression still to be labelled -/
inductive LV where
  | done (w : Str) (x : Scalar)
  | ref (name : Str)
  | expr (body : Str)
  deriving DecidableEq, Repr, Inhabited

abbrev LDoc := List (Str × LV)

def LV.text : LV → Str
  | .done w _ => w
  | .ref n => '$' :: n
  | .expr b => '"' :: (b ++ ['"'])

def LV.val : LV → Scalar
  | .done _ x => x
  | .ref n => .str ('$' :: n)
  | .expr b => .str b

/-- thread the lexer state through the values of a flat document, in text order -/
def mapSt {α β : Type} (f : LexSt → α → LexSt × β) : LexSt → List (Str × α) → LexSt × List (Str × β)
  | st, [] => (st, [])
  | st, (k, v) :: es => ((mapSt f (f st v).1 es).1, (k, (f st v).2) :: (mapSt f (f st v).1 es).2)

/-- pass 1: quoted strings become `STRINGLITERALnnnnnn` -/
def lab1 (st : LexSt) : DV → LexSt × LV
  | .lit (.bare w) => (st, .done w (parseValue w))
  | .lit (.quoted _ b) =>
    ({ st.fresh.2 with lits := st.fresh.2.lits.set st.fresh.1 b }, .done (litPh st.fresh.1) (C02.litVal b))
  | .ref n => (st, .ref n)
  | .expr b => (st, .expr b)

def selE : LV → Option Str
  | .expr b => some b
  | _ => none

def selR : LV → Option Str
  | .ref n => some ('$' :: n)
  | _ => none

/-- passes 2 and 3: the selected values become `EXPRESSIONnnnnnn`, their text goes to the expression table -/
def labE (sel : LV → Option Str) (st : LexSt) (v : LV) : LexSt × LV :=
  match sel v with
  | some t => ({ st.fresh.2 with exprs := st.fresh.2.exprs.set st.fresh.1 ⟨t, C05.phOf st.fresh.1⟩ },
                .done (C05.phOf st.fresh.1) (.str (C05.phOf st.fresh.1)))
  | none => (st, v)

/-- the three passes in the reader's order: all quoted strings, then all double-quoted expressions, then all bare
    references, each in text order -/
def labelAll (c : Counter) (doc : Doc) : LexSt × LDoc :=
  let r1 := mapSt lab1 { counter := c } doc
  let r2 := mapSt (labE selE) r1.1 r1.2
  mapSt (labE selR) r2.1 r2.2

def ldata (d : LDoc) : Entries := d.map fun e => (.str e.1, .leaf e.2.val)

/-- what a flat document with expressions means to the native parser -/
def exprSD (c : Counter) (doc : Doc) : SD :=
  { data := ldata (labelAll c doc).2, exprs := (labelAll c doc).1.exprs }

/-! ### examples: `exprSD` against `parseNative` -/

def ex1 : Doc :=
  [("a".toList, .lit (.bare "1".toList)), ("ab".toList, .lit (.bare "20".toList)),
   ("c".toList, .expr "$d * 2 + $ab".toList), ("d".toList, .expr "$a + $ab".toList), ("e".toList, .ref "c".toList)]

def ex2 : Doc :=
  [("s".toList, .lit (.quoted '\'' "x y".toList)), ("r".toList, .ref "s".toList),
   ("t".toList, .lit (.quoted '"' "lit".toList)), ("u".toList, .expr "$s + 1".toList), ("v".toList, .ref "u".toList),
   ("w".toList, .expr "($r)".toList)]

def ex3 : Doc :=
  [("x".toList, .ref "y".toList), ("y".toList, .expr "$z*$z".toList), ("z".toList, .lit (.bare "3".toList)),
   ("n".toList, .lit (.quoted '"' "7".toList))]

theorem ex1_render : render ex1 = "a 1;\nab 20;\nc \"$d * 2 + $ab\";\nd \"$a + $ab\";\ne $c;\n".toList := by
  literal_chars
  decide +kernel

/-- all of a parse result that matters, as a decidable tuple -/
def fieldsOf (r : Except ParseErr (SD × Counter)) : Option (Entries × Tbl ExprEntry × Tbl Str × Tbl Str × Tbl InclEntry × Counter) :=
  match r with
  | .ok (s, c) => some (s.data, s.exprs, s.lineC, s.blockC, s.incl, c)
  | .error _ => none

theorem eq_of_fieldsOf {r : Except ParseErr (SD × Counter)} {s : SD} {c : Counter}
    (h : fieldsOf r = some (s.data, s.exprs, s.lineC, s.blockC, s.incl, c)) : r = .ok (s, c) := by
  cases r with
  | error e => simp [fieldsOf] at h
  | ok v =>
    obtain ⟨⟨d, x, l, b, i⟩, c'⟩ := v
    simp only [fieldsOf, Option.some.injEq, Prod.mk.injEq] at h
    obtain ⟨rfl, rfl, rfl, rfl, rfl, rfl⟩ := h
    rfl

set_option synthInstance.maxSize 1000 in
theorem ex1_sd : fieldsOf (.ok (exprSD none ex1, none)) = fieldsOf (.ok (C05.exSD, none)) := by
  unfold C05.exSD
  literal_chars
  decide +kernel

theorem ex1_exprSD : exprSD none ex1 = C05.exSD :=
  (Prod.mk.inj (Except.ok.inj (eq_of_fieldsOf (r := .ok (exprSD none ex1, none)) (s := C05.exSD) (c := none) ex1_sd))).1


/-! ## 2. well-formed documents -/

/-- a name: a source word made of word characters that types as a string key and is none of the two documentation keys -/
def keyOK (k : Str) : Bool :=
  isSrcWord k && k.all isWordChar && decide (parseKey k = .str k) &&
  decide (k ≠ "_variables".toList) && decide (k ≠ "_includes".toList)

/-- an expression text: well formed in the sense of C05acyclic, on one line, without `"`, `//`, `/*`, and its first
    non-blank character is not `;` (see `exSemi_differs`) -/
def exprOK (b : Str) : Bool :=
  C05.wfExpr b && !b.contains '"' && b.all (fun c => !isLineBreak c) &&
  !isInfix ['/', '/'] b && !isInfix ['/', '*'] b && !((b.dropWhile isWs).head? == some ';')

def dvOK : DV → Bool
  | .lit l => l.ok
  | .ref n => !n.isEmpty && n.all isWordChar
  | .expr b => exprOK b

def exprBodies (doc : Doc) : List Str := doc.filterMap fun e => match e.2 with | .expr b => some b | _ => none

def DocWF (doc : Doc) : Bool :=
  doc.all (fun e => keyOK e.1 && dvOK e.2) && decide (doc.map (·.1)).Nodup && decide (exprBodies doc).Nodup

/-! ### character facts -/

theorem wc_slash : isWordChar '/' = false := by decide +kernel
theorem wc_dquote : isWordChar '"' = false := by decide +kernel
theorem wc_squote : isWordChar '\'' = false := by decide +kernel
theorem wc_backslash : isWordChar '\\' = false := by decide +kernel
theorem wc_star : isWordChar '*' = false := by decide +kernel
theorem wc_semi : isWordChar ';' = false := by decide +kernel

theorem word_chars {n : Str} (h : n.all isWordChar = true) :
    ∀ c ∈ n, isWs c = false ∧ isQuote c = false ∧ c ≠ '\\' ∧ c ≠ '$' ∧ c ≠ '/' ∧ c ≠ '"' ∧ isLineBreak c = false := by
  intro c hc
  have hw := List.all_eq_true.mp h c hc
  have hws := C05.word_not_ws c hw
  refine ⟨hws, ?_, ?_, ?_, ?_, ?_, C02.Main.not_lineBreak_of_not_ws hws⟩
  · simp only [isQuote, Bool.or_eq_false_iff, beq_eq_false_iff_ne, ne_eq]
    constructor
    · rintro rfl; rw [wc_squote] at hw; cases hw
    · rintro rfl; rw [wc_dquote] at hw; cases hw
  · rintro rfl; rw [wc_backslash] at hw; cases hw
  · rintro rfl; rw [C05.isWordChar_dollar] at hw; cases hw
  · rintro rfl; rw [wc_slash] at hw; cases hw
  · rintro rfl; rw [wc_dquote] at hw; cases hw

theorem keyOK_iff {k : Str} : keyOK k = true ↔ isSrcWord k = true ∧ k.all isWordChar = true ∧ parseKey k = .str k ∧
    k ≠ "_variables".toList ∧ k ≠ "_includes".toList := by
  simp only [keyOK, Bool.and_eq_true, decide_eq_true_eq, and_assoc]

theorem exprOK_iff {b : Str} : exprOK b = true ↔ C05.wfExpr b = true ∧ '"' ∉ b ∧ (∀ c ∈ b, isLineBreak c = false) ∧
    isInfix ['/', '/'] b = false ∧ isInfix ['/', '*'] b = false ∧ (b.dropWhile isWs).head? ≠ some ';' := by
  simp only [exprOK, Bool.and_eq_true, Bool.not_eq_true', List.all_eq_true, List.contains_eq_mem,
    decide_eq_false_iff_not, and_assoc, beq_eq_false_iff_ne, ne_eq]

theorem docWF_iff {doc : Doc} : DocWF doc = true ↔
    (∀ e ∈ doc, keyOK e.1 = true ∧ dvOK e.2 = true) ∧ (doc.map (·.1)).Nodup ∧ (exprBodies doc).Nodup := by
  simp only [DocWF, Bool.and_eq_true, List.all_eq_true, decide_eq_true_eq, and_assoc]

theorem wfExpr_dollar {b : Str} (h : C05.wfExpr b = true) : '$' ∈ b := by
  simp only [C05.wfExpr, Bool.and_eq_true, beq_iff_eq, Bool.not_eq_true', List.isEmpty_eq_false_iff] at h
  obtain ⟨⟨⟨h1, _⟩, h3⟩, _⟩ := h
  rw [← h1, C05.Segs.render]
  exact List.mem_append_right _ (C05.rend_hasD _ h3)

/-- what the stages need to know about a written value -/
structure VFacts (s : Str) : Prop where
  nolb : ∀ c ∈ s, isLineBreak c = false
  noSS : isInfix ['/', '/'] s = false
  noSA : isInfix ['/', '*'] s = false

theorem vfacts_word {n : Str} (h : n.all isWordChar = true) : VFacts n :=
  ⟨fun c hc => (word_chars h c hc).2.2.2.2.2.2, isInfix_false_of_head fun hm => (word_chars h _ hm).2.2.2.2.1 rfl,
   isInfix_false_of_head fun hm => (word_chars h _ hm).2.2.2.2.1 rfl⟩

theorem vfacts_tok {t : STok} (ht : C02.TokOK t) : VFacts t.text := by
  obtain ⟨c0, r, e, hws, _, hr⟩ := C02.Main.tok_shape ht
  refine ⟨?_, (C02.Main.tok_noPair ht (Or.inl rfl)).1, (C02.Main.tok_noPair ht (Or.inr rfl)).1⟩
  rw [e]
  intro c hc
  rcases List.mem_cons.mp hc with rfl | hc
  · exact C02.Main.not_lineBreak_of_not_ws hws
  · exact hr c hc

theorem vfacts_cons {c : Char} {s : Str} (hc : isLineBreak c = false) (hc' : c ≠ '/') (h : VFacts s) : VFacts (c :: s) := by
  refine ⟨?_, ?_, ?_⟩
  · intro x hx
    rcases List.mem_cons.mp hx with rfl | hx
    · exact hc
    · exact h.nolb x hx
  · exact C02.Main.infix2_append (x := [c]) (C02.Main.infix2_single _ _ _) h.noSS (fun h1 _ => by simp at h1; exact hc' h1)
  · exact C02.Main.infix2_append (x := [c]) (C02.Main.infix2_single _ _ _) h.noSA (fun h1 _ => by simp at h1; exact hc' h1)

theorem vfacts_snoc {c : Char} {s : Str} (hc : isLineBreak c = false) (h1 : c ≠ '/') (h2 : c ≠ '*') (h : VFacts s) :
    VFacts (s ++ [c]) := by
  refine ⟨?_, ?_, ?_⟩
  · intro x hx
    rcases List.mem_append.mp hx with hx | hx
    · exact h.nolb x hx
    · simp at hx; subst hx; exact hc
  · exact C02.Main.infix2_append h.noSS (C02.Main.infix2_single _ _ _) (fun _ h' => by simp at h'; exact h1 h')
  · exact C02.Main.infix2_append h.noSA (C02.Main.infix2_single _ _ _) (fun _ h' => by simp at h'; exact h2 h')

theorem vfacts_append {x y : Str} (hx : VFacts x) (hy : VFacts y) (h : y.head? ≠ some '/' ∧ y.head? ≠ some '*') :
    VFacts (x ++ y) := by
  refine ⟨?_, ?_, ?_⟩
  · intro c hc
    rcases List.mem_append.mp hc with hc | hc
    · exact hx.nolb c hc
    · exact hy.nolb c hc
  · exact C02.Main.infix2_append hx.noSS hy.noSS (fun _ h' => h.1 h')
  · exact C02.Main.infix2_append hx.noSA hy.noSA (fun _ h' => h.2 h')

theorem vfacts_dv {v : DV} (h : dvOK v = true) : VFacts v.text := by
  cases v with
  | lit l => exact vfacts_tok (C02.tokOK_lit h)
  | ref n =>
    simp only [dvOK, Bool.and_eq_true, Bool.not_eq_true', List.isEmpty_eq_false_iff] at h
    exact vfacts_cons (by decide) (by decide) (vfacts_word h.2)
  | expr b =>
    obtain ⟨_, _, h3, h4, h5, _⟩ := exprOK_iff.mp h
    exact vfacts_cons (by decide) (by decide) (vfacts_snoc (by decide) (by decide) (by decide) ⟨h3, h4, h5⟩)

theorem key_tokOK {k : Str} (h : keyOK k = true) : C02.TokOK (.word k) := Or.inl (keyOK_iff.mp h).1

/-! ## 3. layouts; the front stages and the normalisation -/

/-- the white space in front of the key, between key and value, and between value and `;` -/
abbrev Gaps := Str × Str × Str

/-- a layout: one triple of gaps per entry -/
abbrev Lay := List Gaps

/-- the entries laid out one after the other -/
def segs {α : Type} (txt : α → Str) : Lay → List (Str × α) → Str
  | l :: ls, e :: es => l.1 ++ (e.1 ++ (l.2.1 ++ (txt e.2 ++ (l.2.2 ++ ';' :: segs txt ls es))))
  | _, _ => []

/-- the document in a given layout, followed by `tail` -/
def renderG (doc : Doc) (lay : Lay) (tail : Str) : Str := segs DV.text lay doc ++ tail

/-- gaps are white space; key and value are separated -/
def gapsOKb (l : Gaps) : Bool := l.1.all isWs && l.2.1.all isWs && !l.2.1.isEmpty && l.2.2.all isWs

/-- an admissible layout of a document with `n` entries -/
def LayOK (lay : Lay) (n : Nat) : Bool := decide (lay.length = n) && lay.all gapsOKb

theorem gapsOKb_iff {l : Gaps} : gapsOKb l = true ↔
    l.1.all isWs = true ∧ l.2.1.all isWs = true ∧ l.2.1 ≠ [] ∧ l.2.2.all isWs = true := by
  simp only [gapsOKb, Bool.and_eq_true, Bool.not_eq_true', List.isEmpty_eq_false_iff, and_assoc]

theorem layOK_length {lay : Lay} {n : Nat} (h : LayOK lay n = true) : lay.length = n := by
  simp only [LayOK, Bool.and_eq_true, decide_eq_true_eq] at h
  exact h.1

theorem layOK_nil {lay : Lay} (h : LayOK lay 0 = true) : lay = [] :=
  List.eq_nil_of_length_eq_zero (layOK_length h)

theorem layOK_succ {lay : Lay} {n : Nat} (h : LayOK lay (n + 1) = true) :
    ∃ l ls, lay = l :: ls ∧ gapsOKb l = true ∧ LayOK ls n = true := by
  simp only [LayOK, Bool.and_eq_true, decide_eq_true_eq] at h
  cases lay with
  | nil => simp at h
  | cons l ls =>
    simp only [List.length_cons, Nat.add_right_cancel_iff, List.all_cons, Bool.and_eq_true] at h
    exact ⟨l, ls, rfl, h.2.1, by simp [LayOK, h.1, h.2.2]⟩

theorem segs_nil {α : Type} (txt : α → Str) (lay : Lay) : segs txt lay [] = [] := by
  cases lay <;> rfl

theorem segs_cons {α : Type} (txt : α → Str) (l : Gaps) (ls : Lay) (e : Str × α) (es : List (Str × α)) :
    segs txt (l :: ls) (e :: es) = l.1 ++ (e.1 ++ (l.2.1 ++ (txt e.2 ++ (l.2.2 ++ ';' :: segs txt ls es)))) := rfl

def entry (l : Gaps) (k t : Str) : Str := l.1 ++ (k ++ (l.2.1 ++ (t ++ (l.2.2 ++ [';']))))

theorem segs_entry {α : Type} (txt : α → Str) (l : Gaps) (ls : Lay) (e : Str × α) (es : List (Str × α)) :
    segs txt (l :: ls) (e :: es) = entry l e.1 (txt e.2) ++ segs txt ls es := by
  simp [segs_cons, entry]

@[elab_as_elim]
theorem segs_ind {α : Type} {ok : Str × α → Prop} {M : Lay → List (Str × α) → Prop} (nil : M [] [])
    (cons : ∀ l ls e es, l.1.all isWs = true → l.2.1.all isWs = true → l.2.1 ≠ [] → l.2.2.all isWs = true → ok e →
      (∀ x ∈ es, ok x) → LayOK ls es.length = true → M ls es → M (l :: ls) (e :: es)) :
    ∀ (d : List (Str × α)) (lay : Lay), (∀ e ∈ d, ok e) → LayOK lay d.length = true → M lay d
  | [], lay, _, hl => by rw [layOK_nil hl]; exact nil
  | e :: es, lay, h, hl => by
    obtain ⟨l, ls, rfl, hg, hls⟩ := layOK_succ hl
    obtain ⟨g1, g2, g2ne, g3⟩ := gapsOKb_iff.mp hg
    have hes : ∀ x ∈ es, ok x := fun x hx => h x (List.mem_cons_of_mem _ hx)
    exact cons l ls e es g1 g2 g2ne g3 (h e List.mem_cons_self) hes hls (segs_ind nil cons es ls hes hls)

/-! ### tokens and gaps under the front stages -/

def tokOf : DV → STok
  | .lit l => l.tok
  | .ref n => .word ('$' :: n)
  | .expr b => .quoted '"' b

theorem tokOf_text (v : DV) : (tokOf v).text = v.text := by cases v <;> rfl

theorem frontOK_dv {v : DV} (hv : dvOK v = true) : C02.Main.FrontOK (tokOf v) := by
  have hf := vfacts_dv hv
  refine ⟨?_, fun hb => ?_⟩
  · cases v with
    | lit l => exact C02.Main.tok_shape (C02.tokOK_lit hv)
    | ref n => exact ⟨'$', n, rfl, by decide, by decide, fun c hc => hf.nolb c (by simp [DV.text, hc])⟩
    | expr b =>
      exact ⟨'"', b ++ ['"'], rfl, by decide, by decide, fun c hc => hf.nolb c (by simp [DV.text] at hc ⊢; exact Or.inr hc)⟩
  · rw [tokOf_text]
    rcases hb with rfl | rfl
    · exact hf.noSS
    · exact hf.noSA

def stoks (doc : Doc) : List STok := doc.flatMap fun e => [.word e.1, tokOf e.2, .word [';']]

/-- the gaps of a layout, one per token -/
def gapsOfLay (lay : Lay) : List Str := lay.flatMap fun l => [l.1, l.2.1, l.2.2]

theorem renderG_spreadS : ∀ (doc : Doc) (lay : Lay) (tail : Str), lay.length = doc.length →
    renderG doc lay tail = spreadS (stoks doc) (gapsOfLay lay) tail
  | [], lay, tail, _ => by rw [renderG, segs_nil]; rfl
  | e :: d, [], tail, h => by simp at h
  | e :: d, l :: ls, tail, h => by
    have ih := renderG_spreadS d ls tail (by simpa using h)
    have hw : ∀ w, (STok.word w).text = w := fun _ => rfl
    simp only [renderG, stoks, spreadS, gapsOfLay, List.flatMap_cons, List.map_cons, List.cons_append, List.nil_append,
      spread, segs_cons, tokOf_text, hw, List.append_assoc] at ih ⊢
    rw [← ih]

theorem gapsOKS_step2 (t u : STok) (ts : List STok) (g g' : Str) (gs : List Str) :
    GapsOKS (t :: u :: ts) (g :: g' :: gs) =
      (g.all isWs && (isDelimSTok t || isDelimSTok u || !g'.isEmpty) && GapsOKS (u :: ts) (g' :: gs)) := rfl

/-- admissible in the sense of C02: the gap between key and value is not empty, the `;` is a delimiter -/
theorem gapsOKS_lay : ∀ (d : Doc) (lay : Lay) (k : Str) (tv : STok) (l : Gaps), gapsOKb l = true →
    LayOK lay d.length = true →
    GapsOKS (.word k :: tv :: .word [';'] :: stoks d) (l.1 :: l.2.1 :: l.2.2 :: gapsOfLay lay) = true
  | [], lay, k, tv, l, hg, hl => by
    obtain ⟨g1, g2, g2ne, g3⟩ := gapsOKb_iff.mp hg
    rw [layOK_nil hl]
    have hs : isDelimSTok (.word [';']) = true := by decide
    have hne : l.2.1.isEmpty = false := by simpa using g2ne
    simp [stoks, gapsOfLay, GapsOKS, g1, g2, g3, hs, hne]
  | (k', v') :: d, lay, k, tv, l, hg, hl => by
    obtain ⟨g1, g2, g2ne, g3⟩ := gapsOKb_iff.mp hg
    obtain ⟨l', ls, rfl, hg', hls⟩ := layOK_succ hl
    have ih := gapsOKS_lay d ls k' (tokOf v') l' hg' hls
    have hs : isDelimSTok (.word [';']) = true := by decide
    have hne : l.2.1.isEmpty = false := by simpa using g2ne
    simp only [stoks, List.flatMap_cons, List.cons_append, List.nil_append, gapsOfLay] at ih ⊢
    rw [gapsOKS_step2, gapsOKS_step2, gapsOKS_step2, ih]
    simp [g1, g2, g3, hs, hne]

theorem gapsOKS_all : ∀ (d : Doc) (lay : Lay), LayOK lay d.length = true → GapsOKS (stoks d) (gapsOfLay lay) = true
  | [], _, _ => rfl
  | (k, v) :: d, lay, hl => by
    obtain ⟨l, ls, rfl, hg, hls⟩ := layOK_succ hl
    have := gapsOKS_lay d ls k (tokOf v) l hg hls
    simpa [stoks, gapsOfLay] using this

theorem frontOK_stoks {doc : Doc} (h : DocWF doc = true) : ∀ t ∈ stoks doc, C02.Main.FrontOK t := by
  intro t ht
  simp only [stoks, List.mem_flatMap, List.mem_cons, List.not_mem_nil, or_false] at ht
  obtain ⟨e, he, rfl | rfl | rfl⟩ := ht
  · exact .of_ok (key_tokOK ((docWF_iff.mp h).1 e he).1)
  · exact frontOK_dv ((docWF_iff.mp h).1 e he).2
  · exact .of_ok (C02.tokOK_delim (by decide))

theorem renderG_noMarkup {doc : Doc} {lay : Lay} {tail : Str} (h : DocWF doc = true) (hl : LayOK lay doc.length = true)
    (ht : tail.all isWs = true) : C02.NoMarkup (renderG doc lay tail) := by
  rw [renderG_spreadS doc lay tail (layOK_length hl)]
  exact C02.Main.noMarkup_spread _ _ tail (frontOK_stoks h) (gapsOKS_all doc lay hl) ht

theorem segs_noHash : ∀ (doc : Doc) (lay : Lay) (tail : Str), DocWF doc = true → LayOK lay doc.length = true →
    tail.all isWs = true → ∀ st, C02.Main.noHash st (segs DV.text lay doc ++ tail) = true := by
  intro doc lay tail h hl ht st
  have := C02.Main.noHash_spread _ _ tail (frontOK_stoks h) (gapsOKS_all doc lay hl) ht st
  rwa [← renderG_spreadS doc lay tail (layOK_length hl)] at this

/-! ### newline removal and `strip` -/

def nlmap (s : Str) : Str := s.map fun ch => if ch == '\n' then ' ' else ch

def nlGaps (l : Gaps) : Gaps := (nlmap l.1, nlmap l.2.1, nlmap l.2.2)

theorem nlGaps_ok {l : Gaps} (h : gapsOKb l = true) : gapsOKb (nlGaps l) = true := by
  obtain ⟨g1, g2, g2ne, g3⟩ := gapsOKb_iff.mp h
  rw [gapsOKb_iff]
  refine ⟨C02.nl_ws_all _ g1, C02.nl_ws_all _ g2, ?_, C02.nl_ws_all _ g3⟩
  simp only [nlGaps, nlmap]
  intro h0
  exact g2ne (List.map_eq_nil_iff.mp h0)

theorem layOK_map {lay : Lay} {n : Nat} (h : LayOK lay n = true) : LayOK (lay.map nlGaps) n = true := by
  simp only [LayOK, Bool.and_eq_true, decide_eq_true_eq, List.all_eq_true, List.length_map, List.mem_map] at h ⊢
  refine ⟨h.1, ?_⟩
  rintro x ⟨l, hl, rfl⟩
  exact nlGaps_ok (h.2 l hl)

def mapFirstGap (f : Str → Str) : Lay → Lay
  | [] => []
  | l :: ls => (f l.1, l.2.1, l.2.2) :: ls

theorem mapFirstGap_ok {f : Str → Str} (hf : ∀ x, x.all isWs = true → (f x).all isWs = true) {lay : Lay} {n : Nat}
    (h : LayOK lay n = true) : LayOK (mapFirstGap f lay) n = true := by
  cases lay with
  | nil => exact h
  | cons l ls =>
    show LayOK ((f l.1, l.2.1, l.2.2) :: ls) n = true
    simp only [LayOK, Bool.and_eq_true, decide_eq_true_eq, List.all_cons, List.length_cons] at h ⊢
    obtain ⟨g1, g2, g2ne, g3⟩ := gapsOKb_iff.mp h.2.1
    exact ⟨h.1, gapsOKb_iff.mpr ⟨hf _ g1, g2, g2ne, g3⟩, h.2.2⟩

/-- the layout after newline removal and `strip`: no line feed in a gap, nothing in front of the first key -/
def normLay (lay : Lay) : Lay := mapFirstGap (fun _ => []) (lay.map nlGaps)

theorem normLay_ok {lay : Lay} {n : Nat} (h : LayOK lay n = true) : LayOK (normLay lay) n = true :=
  mapFirstGap_ok (fun _ _ => rfl) (layOK_map h)

theorem dv_no_nl {v : DV} (hv : dvOK v = true) : ∀ c ∈ v.text, c ≠ '\n' := by
  intro c hc
  rintro rfl
  have := (vfacts_dv hv).nolb _ hc
  rw [C02.isLineBreak_nl] at this; cases this

theorem key_no_nl {k : Str} (hk : keyOK k = true) : ∀ c ∈ k, c ≠ '\n' := by
  intro c hc
  rintro rfl
  have := (vfacts_tok (t := .word k) (key_tokOK hk)).nolb _ hc
  rw [C02.isLineBreak_nl] at this; cases this

theorem gapsOfLay_map_nl (lay : Lay) : gapsOfLay (lay.map nlGaps) = (gapsOfLay lay).map nlmap := by
  induction lay with
  | nil => rfl
  | cons l ls ih =>
    simp only [gapsOfLay, List.map_cons, List.flatMap_cons, List.map_append] at ih ⊢
    rw [ih]; rfl

theorem nlmap_append (a b : Str) : nlmap (a ++ b) = nlmap a ++ nlmap b := by simp [nlmap]

theorem nlmap_semi (s : Str) : nlmap (';' :: s) = ';' :: nlmap s := by simp [nlmap]

theorem nlmap_segs : ∀ (doc : Doc) (lay : Lay), (∀ e ∈ doc, keyOK e.1 = true ∧ dvOK e.2 = true) →
    nlmap (segs DV.text lay doc) = segs DV.text (lay.map nlGaps) doc
  | [], lay, _ => by rw [segs_nil, segs_nil]; rfl
  | e :: es, [], _ => rfl
  | e :: es, l :: ls, h => by
    obtain ⟨hk, hv⟩ := h e (by simp)
    have ih := nlmap_segs es ls (fun x hx => h x (by simp [hx]))
    have e1 : nlmap e.1 = e.1 := C02.map_nl_id _ (key_no_nl hk)
    have e2 : nlmap e.2.text = e.2.text := C02.map_nl_id _ (dv_no_nl hv)
    rw [List.map_cons, segs_cons, segs_cons]
    simp only [nlmap_append, nlmap_semi, e1, e2, ih, nlGaps]

theorem gapsOfLay_normLay (lay : Lay) : gapsOfLay (normLay lay) = C02.normGaps (gapsOfLay lay) := by
  cases lay with
  | nil => rfl
  | cons l ls =>
    have := gapsOfLay_map_nl (l :: ls)
    simp only [gapsOfLay, List.map_cons, List.flatMap_cons, List.cons_append, List.nil_append] at this
    simp only [normLay, mapFirstGap, C02.normGaps, gapsOfLay, List.map_cons, List.flatMap_cons, List.cons_append,
      List.nil_append]
    simp only [nlmap, List.cons.injEq] at this ⊢
    exact ⟨trivial, this.2.1, this.2.2.1, this.2.2.2⟩

theorem ends_dv {v : DV} (hv : dvOK v = true) : C02.Ends (tokOf v).text := by
  cases v with
  | lit l => exact C02.tokOK'_ends (C02.tokOK'_of_ok (C02.tokOK_lit hv))
  | ref n =>
    simp only [dvOK, Bool.and_eq_true, Bool.not_eq_true', List.isEmpty_eq_false_iff] at hv
    refine ⟨⟨'$', n, rfl, by decide⟩, '$' :: n.dropLast, n.getLast hv.1, ?_, (word_chars hv.2 _ (List.getLast_mem hv.1)).1⟩
    show '$' :: n = '$' :: n.dropLast ++ [n.getLast hv.1]
    rw [List.cons_append, List.dropLast_concat_getLast]
  | expr b => exact ⟨⟨'"', b ++ ['"'], rfl, by decide⟩, '"' :: b, '"', rfl, by decide⟩

theorem stoks_ends {doc : Doc} (h : DocWF doc = true) :
    (∀ t ∈ stoks doc, ∀ c ∈ t.text, c ≠ '\n') ∧ ∀ t ∈ stoks doc, C02.Ends t.text := by
  have hall := (docWF_iff.mp h).1
  constructor <;> intro t ht <;>
    simp only [stoks, List.mem_flatMap, List.mem_cons, List.not_mem_nil, or_false] at ht <;>
    obtain ⟨e, he, rfl | rfl | rfl⟩ := ht
  · exact key_no_nl (hall e he).1
  · rw [tokOf_text]; exact dv_no_nl (hall e he).2
  · exact fun c hc => by rw [List.mem_singleton.mp hc]; decide
  · exact C02.tokOK'_ends (C02.tokOK'_of_ok (key_tokOK (hall e he).1))
  · exact ends_dv (hall e he).2
  · exact C02.tokOK'_ends (C02.tokOK'_of_ok (C02.tokOK_delim (by decide)))

theorem normalise_renderG {doc : Doc} {lay : Lay} {tail : Str} (h : DocWF doc = true)
    (hl : LayOK lay doc.length = true) (ht : tail.all isWs = true) :
    strip ((renderG doc lay tail).map fun ch => if ch == '\n' then ' ' else ch) = segs DV.text (normLay lay) doc := by
  rw [renderG_spreadS doc lay tail (layOK_length hl),
    (C02.normalise_toks (stoks doc) (gapsOfLay lay) tail (stoks_ends h).1 (stoks_ends h).2 (gapsOKS_all doc lay hl) ht).2,
    ← gapsOfLay_normLay, ← renderG_spreadS doc (normLay lay) [] (layOK_length (normLay_ok hl)), renderG, List.append_nil]

/-! ## 4. pass 1: the literal stage -/

theorem mapSt_cons {α β : Type} (f : LexSt → α → LexSt × β) (st : LexSt) (k : Str) (v : α) (es : List (Str × α)) :
    mapSt f st ((k, v) :: es) = ((mapSt f (f st v).1 es).1, (k, (f st v).2) :: (mapSt f (f st v).1 es).2) := rfl

theorem mapSt_nil {α β : Type} (f : LexSt → α → LexSt × β) (st : LexSt) : mapSt f st [] = (st, []) := rfl

/-- a double-quoted text with `$` is kept verbatim by the literal stage -/
theorem lexPiece_expr {b : Str} (st : LexSt) (hq : '"' ∉ b) (hd : '$' ∈ b) :
    C02.LexPiece st ('"' :: (b ++ ['"'])) st ('"' :: (b ++ ['"'])) := by
  intro rest st' out hrest fuel prev hf hp
  cases fuel with
  | zero => simp at hf
  | succ f =>
    have hpe : (prev == some '\\') = false := by simpa using hp
    have hs : splitAtChar '"' (b ++ ['"'] ++ rest) = some (b, rest) := by
      simpa using C02.splitAtChar_skip '"' b rest hq
    have hc : b.contains '$' = true := by simpa using hd
    have hr := hrest f (some '"') (by simp at hf ⊢; omega) (by decide)
    have hqq : isQuote '"' = true := by decide
    simp only [List.cons_append, lexLiteralsFuel, hqq, if_true, hpe, Bool.false_eq_true, if_false, hs, hc,
      beq_self_eq_true, Bool.and_self, hr]
    simp [bind, Except.bind, pure, Except.pure]

theorem lex1_val {v : DV} (hv : dvOK v = true) (st : LexSt) :
    C02.LexPiece st v.text (lab1 st v).1 (lab1 st v).2.text := by
  cases v with
  | lit l =>
    cases l with
    | bare w =>
      have hc := C02.okWord_chars (Or.inl hv)
      exact .copy st (fun c hc' => (hc c hc').1) (fun c hc' => (hc c hc').2.2.1)
    | quoted q b => exact .quoted st hv
  | ref n =>
    simp only [dvOK, Bool.and_eq_true, Bool.not_eq_true', List.isEmpty_eq_false_iff] at hv
    have hc := word_chars hv.2
    refine .copy st ?_ ?_
    · intro c hc'
      rcases List.mem_cons.mp hc' with rfl | hc'
      · decide
      · exact (hc c hc').2.1
    · intro c hc'
      rcases List.mem_cons.mp hc' with rfl | hc'
      · decide
      · exact (hc c hc').2.2.1
  | expr b =>
    obtain ⟨h1, h2, _⟩ := exprOK_iff.mp hv
    exact lexPiece_expr st h2 (wfExpr_dollar h1)

/-- the literal stage on a document in an admissible layout: the quoted strings are replaced by `STRINGLITERALnnnnnn`
    (ids in text order), references and `"…$…"` are copied, the layout stays -/
theorem lex1_segs (doc : Doc) (lay : Lay) (h : ∀ e ∈ doc, keyOK e.1 = true ∧ dvOK e.2 = true)
    (hl : LayOK lay doc.length = true) : ∀ st : LexSt,
    C02.LexPiece st (segs DV.text lay doc) (mapSt lab1 st doc).1 (segs LV.text lay (mapSt lab1 st doc).2) := by
  refine segs_ind ?_ ?_ doc lay h hl
  · exact fun st => .nil st
  · intro l ls e es g1 g2 _ g3 he _ _ ih st
    obtain ⟨k, v⟩ := e
    have hkc := C02.okWord_chars (Or.inl (keyOK_iff.mp he.1).1)
    have hk : C02.LexPiece st k st k := .copy st (fun c hc => (hkc c hc).1) (fun c hc => (hkc c hc).2.2.1)
    have hs : C02.LexPiece (lab1 st v).1 [';'] (lab1 st v).1 [';'] := .copy _ (by decide) (by decide)
    have := (C02.LexPiece.ws st g1).append (hk.append ((C02.LexPiece.ws st g2).append
      ((lex1_val he.2 st).append ((C02.LexPiece.ws _ g3).append (hs.append (ih (lab1 st v).1))))))
    rw [mapSt_cons, segs_entry, segs_entry, entry, entry]
    simpa only [List.append_assoc] using this

/-! ## 5. pass 2: double-quoted expressions -/

/-- a word standing in the text after a labelling pass -/
def wordOK (w : Str) : Prop := isWordTok w = true ∧ isPhTok w = false ∧ ∀ c ∈ w, c ≠ '"' ∧ c ≠ '$'

def lvOK : LV → Prop
  | .done w _ => wordOK w
  | .ref n => n ≠ [] ∧ n.all isWordChar = true
  | .expr b => exprOK b = true

def ldocOK (d : LDoc) : Prop := ∀ e ∈ d, keyOK e.1 = true ∧ lvOK e.2

def quoteE (b : Str) : Str := '"' :: (b ++ ['"'])

def exprBodiesL (d : LDoc) : List Str := d.filterMap fun e => selE e.2

def exprTexts (d : LDoc) : List Str := (exprBodiesL d).map quoteE

/-- the loop over the matches of `"[^"]*\$.*?"` in `lexExpressions` -/
def foldE (found : List Str) (st : LexSt) (s : Str) : LexSt × Str :=
  found.foldl (fun (acc : LexSt × Str) e =>
    ({ acc.1.fresh.2 with
        exprs := acc.1.fresh.2.exprs.set acc.1.fresh.1 ⟨e.filter (· != '"'), kwExpr ++ padSix acc.1.fresh.1⟩ },
      replaceAll e (kwExpr ++ padSix acc.1.fresh.1) acc.2)) (st, s)

theorem lexExpressions_eq (st : LexSt) (s : Str) :
    lexExpressions st s =
      lexRefsFuel ((foldE (findExprsFuel (s.length + 1) s) st s).2.length + 1)
        (foldE (findExprsFuel (s.length + 1) s) st s).1 (foldE (findExprsFuel (s.length + 1) s) st s).2 := rfl

theorem foldE_nil (st : LexSt) (s : Str) : foldE [] st s = (st, s) := rfl

theorem foldE_cons (e : Str) (fs : List Str) (st : LexSt) (s : Str) :
    foldE (e :: fs) st s =
      foldE fs { st.fresh.2 with
          exprs := st.fresh.2.exprs.set st.fresh.1 ⟨e.filter (· != '"'), kwExpr ++ padSix st.fresh.1⟩ }
        (replaceAll e (kwExpr ++ padSix st.fresh.1) s) := rfl

/-! ### `replaceAll` -/

theorem replaceAllFuel_nil (p rep : Str) (fuel : Nat) : replaceAllFuel p rep fuel [] = [] := by
  cases fuel <;> rfl

/-! ### where a quoted pattern can occur -/

theorem isInfix_skipQ (q : Str) : ∀ (A s : Str), '"' ∉ A → isInfix ('"' :: q) (A ++ s) = isInfix ('"' :: q) s :=
  isInfix_skip '"' q

theorem prefix_qf : ∀ (b b' R : Str), '"' ∉ b → '"' ∉ b' → (b ++ ['"']).isPrefixOf (b' ++ '"' :: R) = true → b = b'
  | [], [], _, _, _, _ => rfl
  | [], c :: b', R, _, h', h => by
    simp only [List.nil_append, List.cons_append, List.isPrefixOf_cons_cons, Bool.and_eq_true, beq_iff_eq] at h
    exact absurd h.1 (fun e => h' (by simp [← e]))
  | c :: b, [], R, hb, _, h => by
    simp only [List.nil_append, List.cons_append, List.isPrefixOf_cons_cons, Bool.and_eq_true, beq_iff_eq] at h
    exact absurd h.1 (fun e => hb (by simp [e]))
  | c :: b, c' :: b', R, hb, hb', h => by
    simp only [List.cons_append, List.isPrefixOf_cons_cons, Bool.and_eq_true, beq_iff_eq] at h
    rw [h.1, prefix_qf b b' R (fun hm => hb (by simp [hm])) (fun hm => hb' (by simp [hm])) h.2]

theorem lvOK_text_noq {v : LV} (hv : lvOK v) (hs : selE v = none) : '"' ∉ v.text := by
  cases v with
  | done w x => exact fun hm => (hv.2.2 _ hm).1 rfl
  | ref n =>
    intro hm
    rcases List.mem_cons.mp hm with h | hm
    · cases h
    · exact (word_chars hv.2 _ hm).2.2.2.2.2.1 rfl
  | expr b => simp [selE] at hs

theorem key_notin {a : Char} (ha : isWordChar a = false) {k : Str} (hk : keyOK k = true) : a ∉ k :=
  not_mem_of_all (keyOK_iff.mp hk).2.1 ha

theorem exprBodiesL_cons_none {e : Str × LV} (d : LDoc) (hs : selE e.2 = none) :
    exprBodiesL (e :: d) = exprBodiesL d := by simp [exprBodiesL, hs]

theorem exprBodiesL_cons_some {e : Str × LV} {b : Str} (d : LDoc) (hs : selE e.2 = some b) :
    exprBodiesL (e :: d) = b :: exprBodiesL d := by simp [exprBodiesL, hs]

theorem ws_noq {g : Str} (hg : g.all isWs = true) : '"' ∉ g := not_mem_of_all hg isWs_dq

theorem ws_nod {g : Str} (hg : g.all isWs = true) : '$' ∉ g := not_mem_of_all hg isWs_dollar

theorem entry_notin {a : Char} {l : Gaps} {k t : Str} (h1 : a ∉ l.1) (hk : a ∉ k) (h2 : a ∉ l.2.1) (ht : a ∉ t)
    (h3 : a ∉ l.2.2) (ha : a ≠ ';') : a ∉ entry l k t :=
  List.not_mem_append h1 (List.not_mem_append hk (List.not_mem_append h2 (List.not_mem_append ht
    (List.not_mem_append h3 (by simpa using ha)))))

theorem entry_split (P : Str) (l : Gaps) (k t S : Str) :
    P ++ (entry l k t ++ S) = (P ++ (l.1 ++ (k ++ l.2.1))) ++ (t ++ ((l.2.2 ++ [';']) ++ S)) := by
  simp [entry]

theorem text_expr (b : Str) (S : Str) : (LV.expr b).text ++ S = '"' :: (b ++ '"' :: S) := by simp [LV.text]

theorem selE_some {v : LV} {t : Str} (h : selE v = some t) : v = .expr t := by
  cases v <;> simp [selE] at h
  rw [h]

/-- Run on `P ++ segs …` with `P` free of `a`, the stage passes over an entry that is not chosen, which is free of `a`
    and joins the prefix (`skip` only says how the stage's description of the document follows); what it does at a
    chosen value, in front of which the text is free of `a`, is the one thing to show for each stage (`hit`). -/
@[elab_as_elim]
theorem stage_segs {a : Char} {sel : LV → Option Str} {ok : Str × LV → Prop} {M : LDoc → Lay → Str → Prop}
    (hws : ∀ {g : Str}, g.all isWs = true → a ∉ g) (hsemi : a ≠ ';') (hkey : ∀ e, ok e → a ∉ e.1)
    (hval : ∀ e, ok e → sel e.2 = none → a ∉ e.2.text)
    (nil : ∀ P, a ∉ P → M [] [] P)
    (skip : ∀ l ls k v d P, sel v = none → M d ls (P ++ entry l k v.text) → M ((k, v) :: d) (l :: ls) P)
    (hit : ∀ l ls k v d P t, sel v = some t → ok (k, v) → (∀ x ∈ d, ok x) → LayOK ls d.length = true →
      l.2.2.all isWs = true → a ∉ P ++ (l.1 ++ (k ++ l.2.1)) → (∀ P', a ∉ P' → M d ls P') → M ((k, v) :: d) (l :: ls) P)
    (d : LDoc) (lay : Lay) (hd : ∀ e ∈ d, ok e) (hl : LayOK lay d.length = true) (P : Str) (hP : a ∉ P) : M d lay P := by
  revert P
  refine segs_ind nil ?_ d lay hd hl
  intro l ls e d g1 g2 _ g3 he hd hls ih P hP
  obtain ⟨k, v⟩ := e
  cases hs : sel v with
  | none =>
    exact skip l ls k v d P hs (ih _ (List.not_mem_append hP
      (entry_notin (hws g1) (hkey _ he) (hws g2) (hval _ he hs) (hws g3) hsemi)))
  | some t =>
    exact hit l ls k v d P t hs he hd hls g3
      (List.not_mem_append hP (List.not_mem_append (hws g1) (List.not_mem_append (hkey _ he) (hws g2)))) ih

/-- the quoted form of a text whose first non-blank character is not `;` does not start at a closing quote -/
theorem prefix_gap_semi : ∀ (g b rest : Str), g.all isWs = true → '$' ∈ b → (b.dropWhile isWs).head? ≠ some ';' →
    (b ++ ['"']).isPrefixOf (g ++ ';' :: rest) = false
  | [], [], _, _, hd, _ => by cases hd
  | [], c :: b, rest, _, _, hh => by
    have hc : (c == ';') = false := by
      simp only [beq_eq_false_iff_ne, ne_eq]
      rintro rfl
      exact hh (by simp [List.dropWhile, show isWs ';' = false by decide])
    simp [List.isPrefixOf_cons_cons, hc]
  | a :: g, [], _, _, hd, _ => by cases hd
  | a :: g, c :: b, rest, hg, hd, hh => by
    simp only [List.all_cons, Bool.and_eq_true] at hg
    simp only [List.cons_append, List.isPrefixOf_cons_cons]
    cases hca : c == a with
    | false => rfl
    | true =>
      have hca' : c = a := by simpa using hca
      subst hca'
      have hd' : '$' ∈ b := by
        rcases List.mem_cons.mp hd with h | h
        · exact absurd h.symm (ws_noMark hg.1).dollar
        · exact h
      have := prefix_gap_semi g b rest hg.2 hd' (by simpa [List.dropWhile, hg.1] using hh)
      simpa using this

/-- the quoted form of an expression text does not occur in the text of a document that does not hold it -/
theorem noInfix_segs (b : Str) (hq : '"' ∉ b) (hd : '$' ∈ b) (hh : (b.dropWhile isWs).head? ≠ some ';')
    (d : LDoc) (lay : Lay) (hd' : ldocOK d) (hl : LayOK lay d.length = true) (hb : b ∉ exprBodiesL d) (P : Str)
    (hP : '"' ∉ P) : isInfix (quoteE b) (P ++ segs LV.text lay d) = false := by
  revert hb
  refine stage_segs (sel := selE) ws_noq (by decide) (fun e he => key_notin wc_dquote he.1) (fun e he => lvOK_text_noq he.2)
    ?_ ?_ ?_ d lay hd' hl P hP
  · intro P hP _
    rw [segs_nil, List.append_nil]
    exact isInfix_false_of_head hP
  · intro l ls k v d P hs ih hb
    rw [exprBodiesL_cons_none d hs] at hb
    rw [segs_entry, ← List.append_assoc]
    exact ih hb
  · intro l ls k v d P b' hs he _ _ g3 hA ih hb
    obtain rfl : v = .expr b' := selE_some hs
    rw [exprBodiesL_cons_some d hs] at hb
    simp only [List.mem_cons, not_or] at hb
    have hq' : '"' ∉ b' := (exprOK_iff.mp he.2).2.1
    have ih := ih [] (by simp) hb.2
    rw [quoteE, List.nil_append] at ih
    rw [segs_entry, entry_split, text_expr, quoteE, isInfix_skip _ _ _ _ hA, isInfix_cons, isInfix_skip _ _ _ _ hq',
      isInfix_cons, isInfix_skip _ _ _ _ (List.not_mem_append (ws_noq g3) (by simp)), ih]
    simp only [List.isPrefixOf_cons_cons, beq_self_eq_true, Bool.true_and, Bool.or_false, Bool.or_eq_false_iff]
    constructor
    · cases hp : (b ++ ['"']).isPrefixOf (b' ++ '"' :: (l.2.2 ++ [';'] ++ segs LV.text ls d)) with
      | false => rfl
      | true => exact absurd (prefix_qf b b' _ hq hq' hp) hb.1
    · have := prefix_gap_semi l.2.2 b (segs LV.text ls d) g3 hd hh
      simpa [List.append_assoc] using this

/-! ### the matches -/

theorem matchExprAt_ne {c : Char} (r : Str) (hc : c ≠ '"') : matchExprAt (c :: r) = none := by
  rw [matchExprAt.eq_def]
  split
  · rename_i h; simp only [List.cons.injEq] at h; exact absurd h.1 hc
  · rfl

theorem findExprsFuel_nil' (fuel : Nat) : findExprsFuel fuel [] = [] := by cases fuel <;> rfl

theorem findExprsFuel_skip : ∀ (A s : Str) (fuel : Nat), '"' ∉ A →
    findExprsFuel (fuel + A.length) (A ++ s) = findExprsFuel fuel s
  | [], s, fuel, _ => by simp
  | a :: A, s, fuel, h => by
    have ha : a ≠ '"' := by rintro rfl; exact h (by simp)
    have e : fuel + (a :: A).length = (fuel + A.length) + 1 := by simp; omega
    rw [e, List.cons_append]
    simp only [findExprsFuel, matchExprAt_ne _ ha]
    exact findExprsFuel_skip A s fuel (fun hm => h (by simp [hm]))

theorem findExprsFuel_hit (b s : Str) (fuel : Nat) (hq : '"' ∉ b) (hd : '$' ∈ b) :
    findExprsFuel (fuel + 1) ('"' :: (b ++ '"' :: s)) = quoteE b :: findExprsFuel fuel s := by
  have hs : splitAtChar '"' (b ++ '"' :: s) = some (b, s) := C02.splitAtChar_skip '"' b s hq
  have hc : b.contains '$' = true := by simpa using hd
  simp only [findExprsFuel, matchExprAt, hs, hc, if_true, quoteE]
  rfl

theorem findExprs_segs : ∀ (d : LDoc) (lay : Lay), ldocOK d → LayOK lay d.length = true → ∀ (P : Str) (fuel : Nat),
    '"' ∉ P → (P ++ segs LV.text lay d).length ≤ fuel → findExprsFuel fuel (P ++ segs LV.text lay d) = exprTexts d := by
  intro d lay hd hl P fuel hP
  revert fuel
  refine stage_segs (sel := selE) ws_noq (by decide) (fun e he => key_notin wc_dquote he.1) (fun e he => lvOK_text_noq he.2)
    ?_ ?_ ?_ d lay hd hl P hP
  · intro P hP fuel hf
    rw [segs_nil] at hf ⊢
    obtain ⟨f, rfl⟩ : ∃ f, fuel = f + P.length := ⟨fuel - P.length, by simp at hf; omega⟩
    rw [findExprsFuel_skip P _ f hP]
    simp [findExprsFuel_nil', exprTexts, exprBodiesL]
  · intro l ls k v d P hs ih fuel hf
    rw [segs_entry, ← List.append_assoc] at hf ⊢
    rw [exprTexts, exprBodiesL_cons_none d hs]
    exact ih fuel hf
  · intro l ls k v d P b' hs he _ _ g3 hA ih fuel hf
    obtain rfl : v = .expr b' := selE_some hs
    obtain ⟨h1, hq', _⟩ := exprOK_iff.mp he.2
    rw [segs_entry, entry_split, text_expr] at hf ⊢
    obtain ⟨f, rfl⟩ : ∃ f, fuel = (f + 1) + (P ++ (l.1 ++ (k ++ l.2.1))).length :=
      ⟨fuel - 1 - (P ++ (l.1 ++ (k ++ l.2.1))).length, by simp at hf ⊢; omega⟩
    rw [findExprsFuel_skip _ _ _ hA, findExprsFuel_hit _ _ _ hq' (wfExpr_dollar h1),
      ih (l.2.2 ++ [';']) (List.not_mem_append (ws_noq g3) (by simp)) f (by simp at hf ⊢; omega)]
    simp [exprTexts, exprBodiesL, selE]

/-! ### the placeholder word `EXPRESSIONnnnnnn` -/

theorem phOf_plain (i : Nat) : ∀ c ∈ C05.phOf i, Plain c := plain_ph (by simp [phKeywords]) i

theorem phOf_word (i : Nat) : isWordTok (C05.phOf i) = true :=
  C12.wordTok_of_chars (by have := (kw_table kwExpr (by simp [phKeywords])).1; rw [C05.phOf, List.length_append]; omega)
    fun c hc => ⟨(phOf_plain i c hc).nws, (phOf_plain i c hc).ndelim⟩

/-- `EXPRESSION` has no `C` (as `COMMENT` has), no `U` (`INCLUDE`) and no `T` (`STRINGLITERAL`) -/
theorem phOf_not_ph (i : Nat) : isPhTok (C05.phOf i) = false := by
  have hC : 'C' ∉ C05.phOf i := word_no_upper (by decide) (by rw [kwExpr_eq]; decide) i
  have hU : 'U' ∉ C05.phOf i := word_no_upper (by decide) (by rw [kwExpr_eq]; decide) i
  simp only [isPhTok, isCommentTok, isIncludeTok,
    isInfix_false_of_not_mem (c := 'C') (p := "COMMENT".toList) (by literal_chars; decide) hC,
    isInfix_false_of_not_mem (c := 'U') (p := "INCLUDE".toList) (by literal_chars; decide) hU, Bool.or_self]

theorem phOf_noLit (i : Nat) : isInfix kwLit (C05.phOf i) = false :=
  isInfix_false_of_not_mem (c := 'T') (by rw [kwLit_eq]; decide)
    (word_no_upper (by decide) (by rw [kwExpr_eq]; decide) i)

theorem phOf_wordOK (i : Nat) : wordOK (C05.phOf i) :=
  ⟨phOf_word i, phOf_not_ph i, fun c hc => ⟨(phOf_plain i c hc).ne_quote (by decide), (phOf_plain i c hc).ne (by decide)⟩⟩

/-! ### the loop -/

theorem filter_quoteE {b : Str} (hq : '"' ∉ b) : (quoteE b).filter (· != '"') = b := by
  have : b.filter (· != '"') = b := by
    apply List.filter_eq_self.mpr
    intro c hc
    simp only [bne_iff_ne, ne_eq]
    rintro rfl; exact hq hc
  simp [quoteE, List.filter_append, this]

theorem labE_none {sel : LV → Option Str} {v : LV} (st : LexSt) (h : sel v = none) : labE sel st v = (st, v) := by
  simp [labE, h]

theorem labE_some {sel : LV → Option Str} {v : LV} {t : Str} (st : LexSt) (h : sel v = some t) :
    labE sel st v = ({ st.fresh.2 with exprs := st.fresh.2.exprs.set st.fresh.1 ⟨t, C05.phOf st.fresh.1⟩ },
      .done (C05.phOf st.fresh.1) (.str (C05.phOf st.fresh.1))) := by
  simp [labE, h]

theorem foldE_segs : ∀ (d : LDoc) (lay : Lay), ldocOK d → LayOK lay d.length = true → (exprBodiesL d).Nodup →
    ∀ (P : Str) (st : LexSt), '"' ∉ P →
    foldE (exprTexts d) st (P ++ segs LV.text lay d) =
      ((mapSt (labE selE) st d).1, P ++ segs LV.text lay (mapSt (labE selE) st d).2) := by
  intro d lay hd hl hn P st hP
  revert hn st
  refine stage_segs (sel := selE) ws_noq (by decide) (fun e he => key_notin wc_dquote he.1) (fun e he => lvOK_text_noq he.2)
    ?_ ?_ ?_ d lay hd hl P hP
  · exact fun P _ _ st => rfl
  · intro l ls k v d P hs ih hn st
    rw [exprBodiesL_cons_none d hs] at hn
    have := ih hn st
    simp only [List.append_assoc] at this
    rw [exprTexts, exprBodiesL_cons_none d hs, mapSt_cons, labE_none st hs, segs_entry, segs_entry]
    exact this
  · intro l ls k v d P b hs he hd' hls g3 hA ih hn st
    obtain rfl : v = .expr b := selE_some hs
    rw [exprBodiesL_cons_some d hs] at hn
    obtain ⟨hnb, hn⟩ := List.nodup_cons.mp hn
    obtain ⟨h1, hq, _, _, _, hh⟩ := exprOK_iff.mp he.2
    have hni := noInfix_segs b hq (wfExpr_dollar h1) hh d ls hd' hls hnb (l.2.2 ++ [';'])
      (List.not_mem_append (ws_noq g3) (by simp))
    have ih := ih ((P ++ (l.1 ++ (k ++ l.2.1))) ++ (C05.phOf st.fresh.1 ++ (l.2.2 ++ [';'])))
      (List.not_mem_append hA (List.not_mem_append (fun hm => (phOf_plain _ _ hm).ne_quote (by decide) rfl)
        (List.not_mem_append (ws_noq g3) (by simp))))
      hn { st.fresh.2 with exprs := st.fresh.2.exprs.set st.fresh.1 ⟨b, C05.phOf st.fresh.1⟩ }
    rw [exprTexts, exprBodiesL_cons_some d hs, List.map_cons, foldE_cons, filter_quoteE hq, mapSt_cons, labE_some st hs,
      segs_entry, segs_entry, entry_split, entry_split]
    -- the one occurrence of the quoted text is replaced; it occurs nowhere behind (`hni`)
    refine (congrArg (foldE _ _) (replaceAll_once '"' (b ++ ['"']) (C05.phOf st.fresh.1) _ _ hA hni)).trans ?_
    simp only [List.append_assoc] at ih ⊢
    exact ih

theorem mapSt_length {α β : Type} (f : LexSt → α → LexSt × β) : ∀ (st : LexSt) (d : List (Str × α)),
    (mapSt f st d).2.length = d.length
  | _, [] => rfl
  | st, (k, v) :: d => by rw [mapSt_cons]; simp [mapSt_length f _ d]

/-! ## 6. pass 3: bare references -/

def countR (d : LDoc) : Nat := (d.filter fun e => (selR e.2).isSome).length

theorem lexRefs_zero (st : LexSt) (s : Str) : lexRefsFuel 0 st s = (st, s) := rfl

theorem lexRefs_some (f : Nat) (st : LexSt) (s b x a : Str) (h : findRef s = some (b, x, a)) :
    lexRefsFuel (f + 1) st s =
      lexRefsFuel f { st.fresh.2 with exprs := st.fresh.2.exprs.set st.fresh.1 ⟨x, C05.phOf st.fresh.1⟩ }
        (b ++ C05.phOf st.fresh.1 ++ a) := by
  simp only [lexRefsFuel, h]
  rfl

theorem selR_cases {v : LV} (h : selE v = none) : (∃ w x, v = .done w x ∧ selR v = none) ∨ (∃ n, v = .ref n ∧ selR v = some ('$' :: n)) := by
  cases v with
  | done w x => exact Or.inl ⟨w, x, rfl, rfl⟩
  | ref n => exact Or.inr ⟨n, rfl, rfl⟩
  | expr b => simp [selE] at h

theorem countR_cons_none {e : Str × LV} (d : LDoc) (h : selR e.2 = none) : countR (e :: d) = countR d := by
  simp [countR, h]

theorem countR_cons_some {e : Str × LV} {t : Str} (d : LDoc) (h : selR e.2 = some t) : countR (e :: d) = countR d + 1 := by
  simp [countR, h]

theorem ws_not_refChar {c : Char} (h : isWs c = true) : isRefChar c = false := by
  have hw : isWordChar c = false := by
    cases hw : isWordChar c with
    | false => rfl
    | true => rw [C05.word_not_ws c hw] at h; cases h
  have h1 : (c == '[') = false := by
    simp only [beq_eq_false_iff_ne, ne_eq]; rintro rfl; revert h; decide
  have h2 : (c == ']') = false := by
    simp only [beq_eq_false_iff_ne, ne_eq]; rintro rfl; revert h; decide
  simp [isRefChar, hw, h1, h2]

/-- white space or `;` ends a reference -/
theorem refStop_gap {g : Str} (hg : g.all isWs = true) (s : Str) : C05.refStop ((g ++ [';']) ++ s) = true := by
  cases g with
  | nil => simp [C05.refStop, isRefChar, wc_semi]
  | cons c g =>
    simp only [List.all_cons, Bool.and_eq_true] at hg
    simp [C05.refStop, ws_not_refChar hg.1]

theorem lvOK_text_nod {v : LV} (hv : lvOK v) (hE : selE v = none) (hR : selR v = none) : '$' ∉ v.text := by
  cases v with
  | done w x => exact fun hm => (hv.2.2 _ hm).2 rfl
  | ref n => cases hR
  | expr b => cases hE

theorem lexRefs_segs : ∀ (d : LDoc) (lay : Lay), ldocOK d → LayOK lay d.length = true → (∀ e ∈ d, selE e.2 = none) →
    ∀ (P : Str) (st : LexSt) (fuel : Nat), '$' ∉ P → countR d < fuel →
    lexRefsFuel fuel st (P ++ segs LV.text lay d) =
      ((mapSt (labE selR) st d).1, P ++ segs LV.text lay (mapSt (labE selR) st d).2) := by
  intro d lay hd hl hE P st fuel hP
  revert st fuel
  refine stage_segs (sel := selR) (ok := fun e => keyOK e.1 = true ∧ lvOK e.2 ∧ selE e.2 = none) ws_nod (by decide)
    (fun e he => key_notin C05.isWordChar_dollar he.1) (fun e he => lvOK_text_nod he.2.1 he.2.2) ?_ ?_ ?_
    d lay (fun e he => ⟨(hd e he).1, (hd e he).2, hE e he⟩) hl P hP
  · intro P hP st fuel _
    simpa [mapSt_nil, segs_nil] using lexRefs_none fuel st P (C05.findRef_none P hP)
  · intro l ls k v d P hs ih st fuel hf
    rw [countR_cons_none d hs] at hf
    have := ih st fuel hf
    simp only [List.append_assoc] at this
    rw [mapSt_cons, labE_none st hs, segs_entry, segs_entry]
    exact this
  · intro l ls k v d P t hs he _ _ g3 hA ih st fuel hf
    rcases selR_cases he.2.2 with ⟨w, x, rfl, hs'⟩ | ⟨n, rfl, hs'⟩
    · cases hs
    obtain rfl : '$' :: n = t := Option.some.inj hs
    rw [countR_cons_some d hs] at hf
    obtain ⟨f, rfl⟩ : ∃ f, fuel = f + 1 := ⟨fuel - 1, by omega⟩
    have hfind : findRef (P ++ segs LV.text (l :: ls) ((k, LV.ref n) :: d)) =
        some (P ++ (l.1 ++ (k ++ l.2.1)), '$' :: n, (l.2.2 ++ [';']) ++ segs LV.text ls d) := by
      rw [segs_entry, entry_split, C05.findRef_skip _ _ hA]
      refine (congrArg _ (C05.findRef_hit n _ he.2.1.1 he.2.1.2 (refStop_gap g3 _))).trans ?_
      simp
    have ih := ih ((P ++ (l.1 ++ (k ++ l.2.1))) ++ (C05.phOf st.fresh.1 ++ (l.2.2 ++ [';'])))
      (List.not_mem_append hA (List.not_mem_append (fun hm => (phOf_plain _ _ hm).ne (by decide) rfl)
        (List.not_mem_append (ws_nod g3) (by simp))))
      { st.fresh.2 with exprs := st.fresh.2.exprs.set st.fresh.1 ⟨'$' :: n, C05.phOf st.fresh.1⟩ } f (by omega)
    rw [lexRefs_some f st _ _ _ _ hfind, mapSt_cons, labE_some st hs, segs_entry, entry_split]
    simp only [List.append_assoc] at ih ⊢
    exact ih

theorem segs_length {α : Type} (txt : α → Str) : ∀ (d : List (Str × α)) (lay : Lay), lay.length = d.length →
    d.length ≤ (segs txt lay d).length
  | [], _, _ => Nat.zero_le _
  | e :: d, [], h => by simp at h
  | e :: d, l :: ls, h => by
    have := segs_length txt d ls (by simpa using h)
    rw [segs_cons]; simp; omega

theorem countR_le (d : LDoc) : countR d ≤ d.length := List.length_filter_le _ _

/-! ### what the passes keep -/

theorem mapSt_mem {α β : Type} (f : LexSt → α → LexSt × β) : ∀ (st : LexSt) (d : List (Str × α)) (e : Str × β),
    e ∈ (mapSt f st d).2 → ∃ st' v, (e.1, v) ∈ d ∧ e.2 = (f st' v).2
  | _, [], e, h => by simp [mapSt_nil] at h
  | st, (k, v) :: d, e, h => by
    rw [mapSt_cons] at h
    rcases List.mem_cons.mp h with rfl | h
    · exact ⟨st, v, by simp, rfl⟩
    · obtain ⟨st', v', h1, h2⟩ := mapSt_mem f _ d e h
      exact ⟨st', v', by simp [h1], h2⟩

theorem mapSt_keys {α β : Type} (f : LexSt → α → LexSt × β) : ∀ (st : LexSt) (d : List (Str × α)),
    (mapSt f st d).2.map (·.1) = d.map (·.1)
  | _, [] => rfl
  | st, (k, v) :: d => by rw [mapSt_cons]; simp [mapSt_keys f _ d]

theorem srcWord_wordOK {w : Str} (h : isSrcWord w = true) : wordOK w := by
  obtain ⟨h1, h2, h3⟩ := C02.srcWord_facts h
  refine ⟨h1, h2, fun c hc => ⟨?_, (h3 c hc).2.1⟩⟩
  rintro rfl
  have := (h3 _ hc).1
  simp [isQuote] at this

theorem litPh_wordOK (i : Nat) : wordOK (litPh i) := by
  exact ⟨C02.litPh_word i, C02.litPh_not_ph i, fun c hc =>
    ⟨(C02.litPh_plain i c hc).ne_quote (by decide), (C02.litPh_plain i c hc).ne (by decide)⟩⟩

theorem lab1_ok {v : DV} (st : LexSt) (h : dvOK v = true) : lvOK (lab1 st v).2 := by
  cases v with
  | lit l =>
    cases l with
    | bare w => exact srcWord_wordOK h
    | quoted q b => exact litPh_wordOK _
  | ref n =>
    simp only [dvOK, Bool.and_eq_true, Bool.not_eq_true', List.isEmpty_eq_false_iff] at h
    exact h
  | expr b => exact h

theorem labE_ok {sel : LV → Option Str} {v : LV} (st : LexSt) (h : lvOK v) : lvOK (labE sel st v).2 := by
  cases hs : sel v with
  | none => rw [labE_none st hs]; exact h
  | some t => rw [labE_some st hs]; exact phOf_wordOK _

theorem pass1_ok {doc : Doc} (h : DocWF doc = true) (st : LexSt) : ldocOK (mapSt lab1 st doc).2 := by
  intro e he
  obtain ⟨st', v, hm, hv⟩ := mapSt_mem lab1 st doc e he
  obtain ⟨hk, hv'⟩ := (docWF_iff.mp h).1 _ hm
  exact ⟨hk, by rw [hv]; exact lab1_ok st' hv'⟩

theorem passE_ok {sel : LV → Option Str} {d : LDoc} (h : ldocOK d) (st : LexSt) : ldocOK (mapSt (labE sel) st d).2 := by
  intro e he
  obtain ⟨st', v, hm, hv⟩ := mapSt_mem (labE sel) st d e he
  obtain ⟨hk, hv'⟩ := h _ hm
  exact ⟨hk, by rw [hv]; exact labE_ok st' hv'⟩

theorem pass1_bodies : ∀ (doc : Doc) (st : LexSt), exprBodiesL (mapSt lab1 st doc).2 = exprBodies doc
  | [], _ => rfl
  | (k, v) :: d, st => by
    rw [mapSt_cons]
    have ih := pass1_bodies d (lab1 st v).1
    cases v with
    | lit l => cases l <;> simpa [exprBodiesL, exprBodies, lab1, selE] using ih
    | ref n => simpa [exprBodiesL, exprBodies, lab1, selE] using ih
    | expr b => simpa [exprBodiesL, exprBodies, lab1, selE] using ih

theorem passE_noexpr {d : LDoc} (st : LexSt) : ∀ e ∈ (mapSt (labE selE) st d).2, selE e.2 = none := by
  intro e he
  obtain ⟨st', v, _, hv⟩ := mapSt_mem (labE selE) st d e he
  rw [hv]
  cases hs : selE v with
  | none => rw [labE_none st' hs]; exact hs
  | some t => rw [labE_some st' hs]; rfl

/-- **the expression stage** on the text the literal stage leaves, in any admissible layout, behind a text `P` that has
    neither `"` nor `$`: first every double-quoted expression, then every bare reference, each in text order, becomes
    `EXPRESSIONnnnnnn` with the next id of the counter; `P` and the layout stay -/
theorem lexExpressions_pre {d : LDoc} {lay : Lay} (hd : ldocOK d) (hl : LayOK lay d.length = true)
    (hn : (exprBodiesL d).Nodup) (P : Str) (hq : '"' ∉ P) (hdol : '$' ∉ P) (st : LexSt) :
    lexExpressions st (P ++ segs LV.text lay d) =
      ((mapSt (labE selR) (mapSt (labE selE) st d).1 (mapSt (labE selE) st d).2).1,
        P ++ segs LV.text lay (mapSt (labE selR) (mapSt (labE selE) st d).1 (mapSt (labE selE) st d).2).2) := by
  have hl2 : LayOK lay (mapSt (labE selE) st d).2.length = true := by rw [mapSt_length]; exact hl
  have hlen := layOK_length hl2
  have h1 := countR_le (mapSt (labE selE) st d).2
  have h2 := segs_length LV.text _ _ hlen
  rw [lexExpressions_eq, findExprs_segs _ _ hd hl P _ hq (Nat.le_succ _), foldE_segs _ _ hd hl hn P _ hq]
  exact lexRefs_segs _ _ (passE_ok hd st) hl2 (passE_noexpr st) P _ _ hdol (by simp only [List.length_append]; omega)

theorem lexExpressions_segs {d : LDoc} {lay : Lay} (hd : ldocOK d) (hl : LayOK lay d.length = true)
    (hn : (exprBodiesL d).Nodup) (st : LexSt) :
    lexExpressions st (segs LV.text lay d) =
      ((mapSt (labE selR) (mapSt (labE selE) st d).1 (mapSt (labE selE) st d).2).1,
        segs LV.text lay (mapSt (labE selR) (mapSt (labE selE) st d).1 (mapSt (labE selE) st d).2).2) := by
  simpa using lexExpressions_pre hd hl hn [] (by simp) (by simp) st

/-! ## 7. tokens, scanner, literal re-insertion -/

theorem parseValue_phOf (i : Nat) : parseValue (C05.phOf i) = .str (C05.phOf i) := parseValue_ph (by simp [phKeywords]) i

def allDone (d : LDoc) : Prop := ∀ e ∈ d, ∃ w x, e.2 = .done w x

/-- the token tree of a fully labelled document -/
def treeOf (d : LDoc) : Entries := d.map fun e => (.str e.1, .leaf (.str e.2.text))

theorem key_facts {k : Str} (hk : keyOK k = true) :
    isWordTok k = true ∧ isPhTok k = false ∧ keyOfScalar (parseKey k) = some (.str k) := by
  obtain ⟨h1, _, h3, _⟩ := keyOK_iff.mp hk
  obtain ⟨h4, h5, _⟩ := C02.srcWord_facts h1
  exact ⟨h4, h5, by rw [h3]; rfl⟩

theorem toks_tree : ∀ (d : LDoc), ldocOK d → toksEs (treeOf d) = d.flatMap fun e => [e.1, e.2.text, [';']]
  | [], _ => rfl
  | (k, v) :: d, hd => by
    obtain ⟨hk, _⟩ := hd (k, v) (by simp)
    have ih := toks_tree d (fun e he => hd e (by simp [he]))
    rw [treeOf] at ih ⊢
    simp only [List.map_cons, toksEs, (key_facts hk).2.1, Bool.false_eq_true, if_false, ih, List.flatMap_cons]

theorem gapsOK_step (t u : Str) (ts : List Str) (g g' : Str) (gs : List Str) :
    GapsOK (t :: u :: ts) (g :: g' :: gs) =
      (g.all isWs && (isDelimTok t || isDelimTok u || !g'.isEmpty) && GapsOK (u :: ts) (g' :: gs)) := rfl

theorem nodup_map_inj {α β : Type} {f : α → β} (hf : ∀ a b, f a = f b → a = b) {l : List α} (h : l.Nodup) :
    (l.map f).Nodup := by
  rw [List.Nodup, List.pairwise_map]
  exact List.Pairwise.imp (fun hab e => hab (hf _ _ e)) h

theorem nodup_strKeys {l : List Str} (h : l.Nodup) : (l.map Key.str).Nodup :=
  nodup_map_inj (fun a b h => by cases h; rfl) h

theorem spread_segs : ∀ (d : LDoc) (lay : Lay), ldocOK d → lay.length = d.length →
    spread (toksEs (treeOf d)) (gapsOfLay lay) [] = segs LV.text lay d
  | [], lay, _, _ => by rw [segs_nil]; rfl
  | (k, v) :: d, [], _, h => by simp at h
  | (k, v) :: d, l :: ls, hd, h => by
    have ih := spread_segs d ls (fun e he => hd e (by simp [he])) (by simpa using h)
    rw [toks_tree _ hd]
    rw [toks_tree _ (fun e he => hd e (by simp [he]))] at ih
    simp only [List.flatMap_cons, List.cons_append, List.nil_append, gapsOfLay, spread, segs_cons]
    rw [gapsOfLay] at ih
    rw [ih]
    simp

theorem gapsOK_lay : ∀ (d : LDoc) (lay : Lay) (k w : Str) (l : Gaps), gapsOKb l = true → ldocOK d →
    LayOK lay d.length = true →
    GapsOK (k :: w :: [';'] :: toksEs (treeOf d)) (l.1 :: l.2.1 :: l.2.2 :: gapsOfLay lay) = true
  | [], lay, k, w, l, hg, _, hl => by
    obtain ⟨g1, g2, g2ne, g3⟩ := gapsOKb_iff.mp hg
    rw [layOK_nil hl]
    have hs : isDelimTok [';'] = true := by decide
    have hne : l.2.1.isEmpty = false := by simpa using g2ne
    simp [treeOf, toksEs, gapsOfLay, GapsOK, g1, g2, g3, hs, hne]
  | (k', v') :: d, lay, k, w, l, hg, hd, hl => by
    obtain ⟨g1, g2, g2ne, g3⟩ := gapsOKb_iff.mp hg
    obtain ⟨l', ls, rfl, hg', hls⟩ := layOK_succ hl
    have ih := gapsOK_lay d ls k' v'.text l' hg' (fun e he => hd e (by simp [he])) hls
    rw [toks_tree _ hd, List.flatMap_cons]
    rw [toks_tree _ (fun e he => hd e (by simp [he]))] at ih
    have hs : isDelimTok [';'] = true := by decide
    have hne : l.2.1.isEmpty = false := by simpa using g2ne
    simp only [List.cons_append, List.nil_append, gapsOfLay, List.flatMap_cons] at ih ⊢
    rw [gapsOK_step, gapsOK_step, gapsOK_step, ih]
    simp [g1, g2, g3, hs, hne]

theorem gapsOK_all : ∀ (d : LDoc) (lay : Lay), ldocOK d → LayOK lay d.length = true →
    GapsOK (toksEs (treeOf d)) (gapsOfLay lay) = true
  | [], _, _, _ => rfl
  | (k, v) :: d, lay, hd, hl => by
    obtain ⟨l, ls, rfl, hg, hls⟩ := layOK_succ hl
    have := gapsOK_lay d ls k v.text l hg (fun e he => hd e (by simp [he])) hls
    rw [toks_tree _ hd, List.flatMap_cons]
    rw [toks_tree _ (fun e he => hd e (by simp [he]))] at this
    simpa [gapsOfLay] using this

theorem tokWF_tree : ∀ (d : LDoc), ldocOK d → allDone d → TokWFEs (treeOf d) = true
  | [], _, _ => rfl
  | (k, v) :: d, hd, ha => by
    obtain ⟨hk, hv⟩ := hd (k, v) (by simp)
    obtain ⟨w, x, hw⟩ := ha (k, v) (by simp)
    simp only at hw
    subst hw
    have ih := tokWF_tree d (fun e he => hd e (by simp [he])) (fun e he => ha e (by simp [he]))
    obtain ⟨h1, h2, h3⟩ := key_facts hk
    have ht : (LV.done w x).text = w := rfl
    have hv1 : isWordTok w = true := hv.1
    have hv2 : isPhTok w = false := hv.2.1
    rw [treeOf] at ih ⊢
    simp only [List.map_cons, TokWFEs, h2, Bool.false_eq_true, if_false, h1, h3, Option.isSome_some, ht, hv1, hv2,
      Bool.not_false, Bool.and_self, ih]

/-- entries assigned one after the other (`d[key] = value`) -/
def denAcc (f : LV → Val) : LDoc → Entries → Entries
  | [], acc => acc
  | e :: d, acc => denAcc f d (setKey (.str e.1) (f e.2) acc)

theorem denEs_tree : ∀ (d : LDoc), ldocOK d → ∀ (acc : Entries),
    denEs (treeOf d) acc = denAcc (fun v => .leaf (parseValue v.text)) d acc
  | [], _, _ => rfl
  | (k, v) :: d, hd, acc => by
    obtain ⟨hk, _⟩ := hd (k, v) (by simp)
    obtain ⟨_, h2, h3⟩ := key_facts hk
    have ih := denEs_tree d (fun e he => hd e (by simp [he])) (setKey (.str k) (.leaf (parseValue v.text)) acc)
    rw [treeOf] at ih ⊢
    simp only [List.map_cons, denEs, h2, Bool.false_eq_true, if_false, h3, denAcc, ih]

theorem denAcc_nodup (f : LV → Val) : ∀ (d : LDoc) (acc : Entries),
    (keys acc ++ d.map fun e => Key.str e.1).Nodup → denAcc f d acc = acc ++ d.map fun e => (.str e.1, f e.2)
  | [], acc, _ => by simp [denAcc]
  | e :: d, acc, h => by
    have hi : Key.str e.1 ∉ keys acc := by
      intro hm
      exact (List.nodup_append.mp h).2.2 _ hm _ (by simp) rfl
    rw [denAcc, setKey_of_not_mem _ _ _ hi, denAcc_nodup f d _ (by simpa [keys] using h)]
    simp

/-- what a labelled word means, through the literal table -/
def DoneRel (T : Tbl Str) : LV → Prop
  | .done w x => C02.RV T 1 (.leaf (parseValue w)) (.leaf x)
  | _ => True

theorem REs_denAcc (T : Tbl Str) : ∀ (d : LDoc), allDone d → (∀ e ∈ d, DoneRel T e.2) → ∀ (acc acc' : Entries),
    C02.REs T 1 acc acc' →
    C02.REs T 1 (denAcc (fun v => .leaf (parseValue v.text)) d acc) (denAcc (fun v => .leaf v.val) d acc')
  | [], _, _, acc, acc', h => h
  | (k, v) :: d, ha, hr, acc, acc', h => by
    obtain ⟨w, x, hw⟩ := ha (k, v) (by simp)
    simp only at hw
    subst hw
    have hrel := hr (k, .done w x) (by simp)
    exact REs_denAcc T d (fun e he => ha e (by simp [he])) (fun e he => hr e (by simp [he])) _ _
      (C02.REs_setKey (.str k) hrel acc acc' h)

theorem doneRel_ph (T : Tbl Str) (i : Nat) : DoneRel T (.done (C05.phOf i) (.str (C05.phOf i))) := by
  simp only [DoneRel, C02.RV, parseValue_phOf]
  exact Or.inl ⟨phOf_noLit i, trivial⟩

theorem labE_doneRel {T : Tbl Str} {sel : LV → Option Str} {v : LV} (st : LexSt) (h : DoneRel T v) :
    DoneRel T (labE sel st v).2 := by
  cases hs : sel v with
  | none => rw [labE_none st hs]; exact h
  | some t => rw [labE_some st hs]; exact doneRel_ph T _

/-! ## 8. the ids and tables of the passes -/

def cnt {α : Type} (p : α → Bool) (d : List (Str × α)) : Nat := (d.filter fun e => p e.2).length

theorem cnt_cons {α : Type} (p : α → Bool) (e : Str × α) (d : List (Str × α)) :
    cnt p (e :: d) = (if p e.2 then 1 else 0) + cnt p d := by
  simp only [cnt, List.filter_cons]
  split <;> simp <;> omega

theorem mapSt_cnt {α β : Type} (f : LexSt → α → LexSt × β) (p : α → Bool) (q : β → Bool)
    (h : ∀ st v, q (f st v).2 = p v) : ∀ (st : LexSt) (d : List (Str × α)), cnt q (mapSt f st d).2 = cnt p d
  | _, [] => rfl
  | st, (k, v) :: d => by rw [mapSt_cons, cnt_cons, cnt_cons, h, mapSt_cnt f p q h]

def isQuotedDV : DV → Bool
  | .lit (.quoted _ _) => true
  | _ => false

def isExprDV : DV → Bool
  | .expr _ => true
  | _ => false

def isRefDV : DV → Bool
  | .ref _ => true
  | _ => false

/-- number of ids a document draws: one per quoted string, expression and reference -/
def countIds (doc : Doc) : Nat := cnt isQuotedDV doc + cnt isExprDV doc + cnt isRefDV doc

theorem fresh_fst (st : LexSt) : st.fresh.1 = (Counter.next Gen.counterLimit st.counter).1 := rfl
theorem fresh_counter (st : LexSt) : st.fresh.2.counter = (Counter.next Gen.counterLimit st.counter).2 := rfl

/-- the `(id, body)` pairs pass 1 records -/
def drawn1 : LexSt → Doc → List (Nat × Str)
  | _, [] => []
  | st, (_, v) :: d =>
    (match v with | .lit (.quoted _ b) => [(st.fresh.1, b)] | _ => []) ++ drawn1 (lab1 st v).1 d

theorem lab1_split (st : LexSt) (v : DV) : (∃ q b, v = .lit (.quoted q b)) ∨
    (isQuotedDV v = false ∧ (lab1 st v).1 = st ∧ ∀ k d, drawn1 st ((k, v) :: d) = drawn1 st d) := by
  cases v with
  | lit l => cases l with
    | bare w => exact Or.inr ⟨rfl, rfl, fun _ _ => rfl⟩
    | quoted q b => exact Or.inl ⟨q, b, rfl⟩
  | _ => exact Or.inr ⟨rfl, rfl, fun _ _ => rfl⟩

theorem pass1_state : ∀ (doc : Doc) (st : LexSt),
    (mapSt lab1 st doc).1.lits = C02.setAll st.lits (drawn1 st doc) ∧
    (drawn1 st doc).map (·.1) = alloc Gen.counterLimit (cnt isQuotedDV doc) st.counter ∧
    (mapSt lab1 st doc).1.counter = C02.adv Gen.counterLimit (cnt isQuotedDV doc) st.counter ∧
    C02.Front.SameT (mapSt lab1 st doc).1 st
  | [], st => ⟨rfl, rfl, rfl, C02.Front.SameT.rfl' st⟩
  | (k, v) :: d, st => by
    obtain ⟨h1, h2, h3, h4⟩ := pass1_state d (lab1 st v).1
    rw [mapSt_cons, cnt_cons]
    rcases lab1_split st v with ⟨q, b, rfl⟩ | ⟨hq, hst, hd⟩
    · simp only [isQuotedDV, if_true]
      rw [show 1 + cnt isQuotedDV d = cnt isQuotedDV d + 1 by omega]
      refine ⟨?_, ?_, ?_, ?_⟩
      · rw [h1]; rfl
      · simp only [drawn1, List.singleton_append, List.map_cons, h2, alloc_succ]
        rfl
      · rw [h3]; rfl
      · exact C02.Front.SameT.trans h4 ⟨rfl, rfl, rfl, rfl⟩
    · rw [hd, hq]
      simp only [Bool.false_eq_true, if_false, Nat.zero_add]
      rw [hst] at h1 h2 h3 h4 ⊢
      exact ⟨h1, h2, h3, h4⟩

theorem drawn1_clean : ∀ (doc : Doc) (st : LexSt), (∀ e ∈ doc, dvOK e.2 = true) →
    ∀ p ∈ drawn1 st doc, isInfix kwLit p.2 = false
  | [], _, _, p, hp => by simp [drawn1] at hp
  | (k, v) :: d, st, h, p, hp => by
    have ih := drawn1_clean d (lab1 st v).1 (fun e he => h e (by simp [he])) p
    rcases lab1_split st v with ⟨q, b, rfl⟩ | ⟨_, hst, hd⟩
    · simp only [drawn1, List.singleton_append, List.mem_cons] at hp
      rcases hp with rfl | hp
      · exact C02.isSrcQuoted_clean (h (k, .lit (.quoted q b)) (by simp))
      · exact ih hp
    · rw [hd] at hp
      rw [hst] at ih
      exact ih hp

theorem pass1_rel (T : Tbl Str) : ∀ (doc : Doc) (st : LexSt), (∀ e ∈ doc, dvOK e.2 = true) →
    (∀ p ∈ drawn1 st doc, p ∈ T) → ∀ e ∈ (mapSt lab1 st doc).2, DoneRel T e.2
  | [], _, _, _, e, he => by simp [mapSt_nil] at he
  | (k, v) :: d, st, h, hT, e, he => by
    rw [mapSt_cons] at he
    simp only [drawn1, List.mem_append] at hT
    rcases List.mem_cons.mp he with rfl | he
    · cases v with
      | lit l =>
        have hv := h (k, .lit l) (by simp)
        cases l with
        | bare w =>
          simp only [lab1, DoneRel, C02.RV]
          exact Or.inl ⟨C02.clean_parseValue_word hv, trivial⟩
        | quoted q b =>
          simp only [lab1, DoneRel, C02.RV, C02.parseValue_litPh]
          exact Or.inr ⟨st.fresh.1, b, hT _ (Or.inl (by simp)), rfl, rfl, by decide⟩
      | ref n => trivial
      | expr b => trivial
    · exact pass1_rel T d _ (fun e he => h e (by simp [he])) (fun p hp => hT p (Or.inr hp)) e he

/-! ### passes 2 and 3 -/

/-- the `(id, key, text)` triples an expression pass records -/
def drawnE (sel : LV → Option Str) : LexSt → LDoc → List (Nat × Str × Str)
  | _, [] => []
  | st, (k, v) :: d =>
    (match sel v with | some t => [(st.fresh.1, k, t)] | none => []) ++ drawnE sel (labE sel st v).1 d

def toTbl (D : List (Nat × Str × Str)) : Tbl ExprEntry := D.map fun e => (e.1, ⟨e.2.2, C05.phOf e.1⟩)

def setAllE (t l : Tbl ExprEntry) : Tbl ExprEntry := l.foldl (fun t p => t.set p.1 p.2) t

theorem setAllE_nodup : ∀ (l t : Tbl ExprEntry), (t.map (·.1) ++ l.map (·.1)).Nodup → setAllE t l = t ++ l :=
  tbl_update_nodup

theorem setAllE_append (t l l' : Tbl ExprEntry) : setAllE t (l ++ l') = setAllE (setAllE t l) l' :=
  tbl_update_append t l l'

theorem passE_state (sel : LV → Option Str) : ∀ (d : LDoc) (st : LexSt),
    (mapSt (labE sel) st d).1.exprs = setAllE st.exprs (toTbl (drawnE sel st d)) ∧
    (drawnE sel st d).map (·.1) = alloc Gen.counterLimit (cnt (fun v => (sel v).isSome) d) st.counter ∧
    (mapSt (labE sel) st d).1.counter = C02.adv Gen.counterLimit (cnt (fun v => (sel v).isSome) d) st.counter ∧
    (mapSt (labE sel) st d).1.lits = st.lits ∧ C02.Front.SameC (mapSt (labE sel) st d).1 st
  | [], st => ⟨rfl, rfl, rfl, rfl, rfl, rfl, rfl⟩
  | (k, v) :: d, st => by
    obtain ⟨h1, h2, h3, h4, h5⟩ := passE_state sel d (labE sel st v).1
    rw [mapSt_cons, cnt_cons]
    cases hs : sel v with
    | none =>
      rw [labE_none st hs] at h1 h2 h3 h4 h5 ⊢
      simp only [drawnE, hs, List.nil_append, Option.isSome_none, Bool.false_eq_true, if_false, Nat.zero_add,
        labE_none st hs]
      exact ⟨h1, h2, h3, h4, h5⟩
    | some t =>
      rw [labE_some st hs] at h1 h2 h3 h4 h5 ⊢
      simp only [drawnE, hs, Option.isSome_some, if_true, labE_some st hs]
      rw [show 1 + cnt (fun v => (sel v).isSome) d = cnt (fun v => (sel v).isSome) d + 1 by omega]
      refine ⟨?_, ?_, ?_, ?_, ?_⟩
      · rw [h1]; rfl
      · simp only [List.singleton_append, List.map_cons, h2, alloc_succ]
        rfl
      · rw [h3]; rfl
      · rw [h4]; rfl
      · exact C02.Front.SameC.trans h5 ⟨rfl, rfl, rfl⟩

/-! ## 9. the native parser on a flat document with expressions -/

theorem passE_rel {T : Tbl Str} {sel : LV → Option Str} {d : LDoc} (st : LexSt) (h : ∀ e ∈ d, DoneRel T e.2) :
    ∀ e ∈ (mapSt (labE sel) st d).2, DoneRel T e.2 := by
  intro e he
  obtain ⟨st', v, hm, hv⟩ := mapSt_mem (labE sel) st d e he
  rw [hv]
  exact labE_doneRel st' (h _ hm)

theorem passR_allDone {d : LDoc} (st : LexSt) (hE : ∀ e ∈ d, selE e.2 = none) : allDone (mapSt (labE selR) st d).2 := by
  intro e he
  obtain ⟨st', v, hm, hv⟩ := mapSt_mem (labE selR) st d e he
  rcases selR_cases (hE _ hm) with ⟨w, x, rfl, hs⟩ | ⟨n, rfl, hs⟩
  · rw [labE_none st' hs] at hv; exact ⟨w, x, hv⟩
  · rw [labE_some st' hs] at hv; exact ⟨_, _, hv⟩

theorem limit_eq : Gen.counterLimit = 999999 := by decide

theorem alloc_ids {α : Type} {D : List (Nat × α)} {n : Nat} {c : Counter} (h : D.map (·.1) = alloc Gen.counterLimit n c)
    (hc : C13.ValidCounter Gen.counterLimit c) (hn : n ≤ Gen.counterLimit + 1) :
    (D.map (·.1)).Nodup ∧ ∀ p ∈ D, p.1 ≤ 999999 := by
  refine ⟨by rw [h]; exact C13.alloc_nodup hn hc, fun p hp => ?_⟩
  have := alloc_le _ _ _ _ (h ▸ List.mem_map.mpr ⟨p, hp, rfl⟩)
  rwa [limit_eq] at this

theorem ldata_keys (d : LDoc) : keys (ldata d) = (d.map (·.1)).map Key.str := by
  simp [ldata, keys]

theorem ldata_nodupV {d : LDoc} (hn : (d.map (·.1)).Nodup) : NodupKeysV (.dict (ldata d)) := by
  refine ⟨?_, ?_⟩
  · rw [ldata_keys]; exact nodup_strKeys hn
  · rw [nodupKeysEs_iff]
    intro e he
    simp only [ldata, List.mem_map] at he
    obtain ⟨a, _, rfl⟩ := he
    trivial

theorem ldata_noPh {d : LDoc} (hd : ldocOK d) : C07.NoPhEs (ldata d) := by
  rw [C07.noPhEs_iff]
  intro e he
  simp only [ldata, List.mem_map] at he
  obtain ⟨a, ha, rfl⟩ := he
  obtain ⟨hk, _⟩ := hd a ha
  exact ⟨C02.Main.typedKey_noPh (keyOK_iff.mp hk).1 (key_facts hk).2.2, trivial⟩

theorem ldata_clean {d : LDoc} (hd : ldocOK d) (hn : (d.map (·.1)).Nodup) (x : Tbl ExprEntry) :
    (({ data := ldata d, exprs := x } : SD).clean) = { data := ldata d, exprs := x } :=
  C07.clean_id _ (ldata_nodupV hn) (ldata_noPh hd)

theorem ldata_lookup_none {d : LDoc} {k : Str} (hk : ∀ e ∈ d, e.1 ≠ k) : lookup (.str k) (ldata d) = none := by
  rw [lookup_eq_none_iff, ldata_keys]
  intro hm
  simp only [List.mem_map] at hm
  obtain ⟨_, ⟨a, ha, rfl⟩, h⟩ := hm
  exact hk a ha (Key.str.inj h)

theorem ldata_docKeys {d : LDoc} (hd : ldocOK d) : dropDocKeys (ldata d) = ldata d :=
  C02.dropDocKeys_id (ldata_lookup_none fun a ha => (keyOK_iff.mp (hd a ha).1).2.2.2.1)
    (ldata_lookup_none fun a ha => (keyOK_iff.mp (hd a ha).1).2.2.2.2)

/-- the three passes from any lexer state -/
def labelFrom (st : LexSt) (doc : Doc) : LexSt × LDoc :=
  let r1 := mapSt lab1 st doc
  let r2 := mapSt (labE selE) r1.1 r1.2
  mapSt (labE selR) r2.1 r2.2

theorem labelAll_eq (c : Counter) (doc : Doc) : labelAll c doc = labelFrom { counter := c } doc := rfl

theorem labelFrom_facts {doc : Doc} (h : DocWF doc = true) (st : LexSt) :
    ldocOK (labelFrom st doc).2 ∧ allDone (labelFrom st doc).2 ∧ (labelFrom st doc).2.map (·.1) = doc.map (·.1) ∧
      (labelFrom st doc).2.length = doc.length :=
  ⟨passE_ok (sel := selR) (passE_ok (sel := selE) (pass1_ok h _) _) _, passR_allDone _ (passE_noexpr _),
    by simp only [labelFrom, mapSt_keys], by simp only [labelFrom, mapSt_length]⟩

theorem labelFrom_same (st : LexSt) (doc : Doc) : C02.Front.SameC (labelFrom st doc).1 st := by
  have s1 := (pass1_state doc st).2.2.2
  exact ((passE_state selR _ _).2.2.2.2).trans (((passE_state selE _ _).2.2.2.2).trans ⟨s1.1, s1.2.1, s1.2.2.1⟩)

/-- **the stages between newline removal and `_clean`** on a flat document behind a text `P` that the two lexer stages
    copy (nothing, or the header placeholder word), from any lexer state with an empty literal table.  `A` is what the
    scanner has assigned when it reaches the document, `A'` the same entries after literal re-insertion; the scanner's
    run (`hscan`) is the caller's, since what `P` means to it depends on `P`. -/
theorem parseBlockSt'_flat {doc : Doc} {lay : Lay} (st0 : LexSt) (P : Str) (A A' : Entries)
    (h : DocWF doc = true) (hl : LayOK lay doc.length = true)
    (hc : C13.ValidCounter Gen.counterLimit st0.counter) (hn : countIds doc ≤ Gen.counterLimit + 1)
    (hlits : st0.lits = []) (hP : ∀ c ∈ P, isQuote c = false ∧ c ≠ '\\' ∧ c ≠ '$')
    (hscan : parseDictToks true [] (levels 0 (tokenize (P ++ segs LV.text lay (labelFrom st0 doc).2))) [] =
      .ok (denEs (treeOf (labelFrom st0 doc).2) A))
    (hA : ∀ T, C02.REs T 1 A A') (hk : (keys A').Nodup) (hkd : ∀ e ∈ doc, Key.str e.1 ∉ keys A') :
    C12.parseBlockSt' st0 (P ++ segs DV.text lay doc) =
      .ok (A' ++ ldata (labelFrom st0 doc).2, (labelFrom st0 doc).1) := by
  obtain ⟨hall, hkeys, hbod⟩ := docWF_iff.mp h
  obtain ⟨hd3, ha3, hk3, hlen3⟩ := labelFrom_facts h st0
  have hd1 : ldocOK (mapSt lab1 st0 doc).2 := pass1_ok h _
  have hl1 : LayOK lay (mapSt lab1 st0 doc).2.length = true := by rw [mapSt_length]; exact hl
  have hb1 : (exprBodiesL (mapSt lab1 st0 doc).2).Nodup := by rw [pass1_bodies]; exact hbod
  have hq : '"' ∉ P := fun hm => by have := (hP _ hm).1; simp [isQuote] at this
  have hlex : lexLiteralsFuel ((P ++ segs DV.text lay doc).length + 1) st0 none (P ++ segs DV.text lay doc) =
      .ok ((mapSt lab1 st0 doc).1, P ++ segs LV.text lay (mapSt lab1 st0 doc).2) :=
    ((C02.LexPiece.copy st0 (fun c hc => (hP c hc).1) (fun c hc => (hP c hc).2.1)).append (lex1_segs doc lay hall hl st0)).run
  have hlexE := lexExpressions_pre hd1 hl1 hb1 P hq (fun hm => (hP _ hm).2.2 rfl) (mapSt lab1 st0 doc).1
  -- the literal table
  obtain ⟨p1, p2, _, _⟩ := pass1_state doc st0
  obtain ⟨hnd, hle⟩ := alloc_ids p2 hc (by unfold countIds at hn; omega)
  have hT : (labelFrom st0 doc).1.lits = drawn1 st0 doc := by
    simp only [labelFrom]
    rw [(passE_state selR _ _).2.2.2.1, (passE_state selE _ _).2.2.2.1, p1, hlits, C02.setAll_nodup _ _ (by simpa using hnd)]
    rfl
  have hrel : ∀ e ∈ (labelFrom st0 doc).2, DoneRel (drawn1 st0 doc) e.2 :=
    passE_rel _ (passE_rel _ (pass1_rel _ doc _ (fun e he => (hall e he).2) (fun _ hp => hp)))
  have hins : insertLiterals (labelFrom st0 doc).1.lits (denEs (treeOf (labelFrom st0 doc).2) A) =
      .ok (A' ++ ldata (labelFrom st0 doc).2) := by
    have hacc : denAcc (fun v => .leaf v.val) (labelFrom st0 doc).2 A' = A' ++ ldata (labelFrom st0 doc).2 := by
      have hkm : ((labelFrom st0 doc).2.map fun e => Key.str e.1) = (doc.map (·.1)).map Key.str := by
        rw [← hk3, List.map_map]; rfl
      rw [denAcc_nodup _ _ A' (List.nodup_append.mpr ⟨hk, by
        rw [hkm]; exact nodup_strKeys hkeys, fun a ha b hb hab => by
        rw [hkm, List.mem_map] at hb
        obtain ⟨k, hk', rfl⟩ := hb
        obtain ⟨e, he, rfl⟩ := List.mem_map.mp hk'
        exact hkd e he (hab ▸ ha)⟩)]
      rfl
    rw [hT, denEs_tree _ hd3, ← hacc]
    exact C02.insertLiterals_of_rel _ hnd hle (drawn1_clean doc _ (fun e he => (hall e he).2)) _ _
      (REs_denAcc _ _ ha3 hrel A A' (hA _))
  unfold C12.parseBlockSt'
  simp only [hlex, bind, Except.bind, hlexE]
  have e3 : mapSt (labE selR) (mapSt (labE selE) (mapSt lab1 st0 doc).1 (mapSt lab1 st0 doc).2).1
      (mapSt (labE selE) (mapSt lab1 st0 doc).1 (mapSt lab1 st0 doc).2).2 = labelFrom st0 doc := rfl
  simp only [e3, hscan, hins]
  rfl

/-- **the native parser on a well-formed flat document with references and expressions, in any admissible layout**: the
    data hold the typed literals and, for every reference and expression, the placeholder word `EXPRESSIONnnnnnn`; the
    expression table holds the texts; ids are drawn from the global counter: first one per quoted string, then one per
    double-quoted expression, then one per bare reference, each group in text order -/
theorem parse_flat_exprs_layout {doc : Doc} {lay : Lay} {tail : Str} (comments : Bool) (dir : Str) (c : Counter)
    (h : DocWF doc = true) (hl : LayOK lay doc.length = true) (ht : tail.all isWs = true)
    (hc : C13.ValidCounter Gen.counterLimit c) (hn : countIds doc ≤ Gen.counterLimit + 1) :
    parseNative comments dir c (renderG doc lay tail) = .ok (exprSD c doc, (labelAll c doc).1.counter) := by
  obtain ⟨hd3, ha3, hk3, hlen3⟩ := labelFrom_facts h { counter := c }
  have hl3 : LayOK (normLay lay) (labelFrom { counter := c } doc).2.length = true := by rw [hlen3]; exact normLay_ok hl
  have hscan := C02.C02_layout_tolerant_tokens (treeOf (labelFrom { counter := c } doc).2) (gapsOfLay (normLay lay)) []
    (tokWF_tree _ hd3 ha3) (gapsOK_all _ _ hd3 hl3) rfl
  rw [spread_segs _ _ hd3 (layOK_length hl3)] at hscan
  have hX := parseBlockSt'_flat { counter := c } [] [] [] h (normLay_ok hl) hc hn rfl (fun _ hc => by cases hc) hscan
    (fun _ => by simp only [C02.REs]) List.nodup_nil (fun _ _ hm => by cases hm)
  obtain ⟨m1, m2, m3⟩ := renderG_noMarkup h hl ht
  rw [C12.front_block comments dir c m1 m3 (C02.lexBlockComments_id comments _ 0 [] _ m2 (Nat.le_refl _)),
    C12.parseBlockSt, normalise_renderG h hl ht]
  simp only [List.nil_append] at hX
  rw [hX]
  obtain ⟨hL1, hL2, hL3⟩ := labelFrom_same { counter := c } doc
  simp only [Except.map, C12.finishSD, hL1, hL2, hL3]
  have hk3' : ((labelFrom { counter := c } doc).2.map (·.1)).Nodup := by rw [hk3]; exact (docWF_iff.mp h).2.1
  rw [ldata_clean hd3 hk3', ldata_docKeys hd3]
  rfl

/-- layout tolerance: two admissible layouts of the same document parse alike -/
theorem parse_layout_independent {doc : Doc} {lay₁ lay₂ : Lay} {tail₁ tail₂ : Str} (comments : Bool) (dir : Str)
    (c : Counter) (h : DocWF doc = true) (h₁ : LayOK lay₁ doc.length = true) (h₂ : LayOK lay₂ doc.length = true)
    (t₁ : tail₁.all isWs = true) (t₂ : tail₂.all isWs = true)
    (hc : C13.ValidCounter Gen.counterLimit c) (hn : countIds doc ≤ Gen.counterLimit + 1) :
    parseNative comments dir c (renderG doc lay₁ tail₁) = parseNative comments dir c (renderG doc lay₂ tail₂) := by
  rw [parse_flat_exprs_layout comments dir c h h₁ t₁ hc hn, parse_flat_exprs_layout comments dir c h h₂ t₂ hc hn]

/-! ### one entry per line; the fixed layout `key value;⏎` -/

/-- one entry per line, the gap between key and value a function of the key -/
def lineLay (g : Str → Str) : Doc → Lay
  | [] => []
  | e :: es => ([], g e.1, []) :: es.map fun e => (['\n'], g e.1, [])

def lineTail (doc : Doc) : Str := if doc.isEmpty then [] else ['\n']

theorem lineLay_ok {g : Str → Str} (hg : ∀ k, (g k).all isWs = true ∧ g k ≠ []) (doc : Doc) :
    LayOK (lineLay g doc) doc.length = true := by
  cases doc with
  | nil => rfl
  | cons e es =>
    simp only [LayOK, lineLay, Bool.and_eq_true, decide_eq_true_eq, List.length_cons, List.length_map, List.all_cons,
      List.all_map, List.all_eq_true, true_and]
    exact ⟨gapsOKb_iff.mpr ⟨rfl, (hg _).1, (hg _).2, rfl⟩,
      fun x _ => gapsOKb_iff.mpr ⟨(by decide : (['\n'] : Str).all isWs = true), (hg _).1, (hg _).2, rfl⟩⟩

theorem lineTail_ws (doc : Doc) : (lineTail doc).all isWs = true := by
  unfold lineTail; split <;> decide

theorem line_rest (g : Str → Str) : ∀ (es : Doc), segs DV.text (es.map fun e => (['\n'], g e.1, [])) es ++ ['\n'] =
    '\n' :: es.flatMap fun e => e.1 ++ (g e.1 ++ (e.2.text ++ [';'])) ++ ['\n']
  | [] => rfl
  | e :: es => by
    have ih := line_rest g es
    rw [List.map_cons, segs_cons]
    simp only [List.append_assoc, List.cons_append, List.nil_append, List.flatMap_cons] at ih ⊢
    rw [ih]

theorem renderG_lineLay (g : Str → Str) (doc : Doc) :
    renderG doc (lineLay g doc) (lineTail doc) = doc.flatMap fun e => e.1 ++ (g e.1 ++ (e.2.text ++ [';'])) ++ ['\n'] := by
  cases doc with
  | nil => rfl
  | cons e es =>
    have ih := line_rest g es
    rw [renderG, lineLay, segs_cons]
    simp only [lineTail, List.isEmpty_cons, Bool.false_eq_true, if_false, List.append_assoc, List.cons_append,
      List.nil_append, List.flatMap_cons] at ih ⊢
    rw [ih]

def fixedLay (doc : Doc) : Lay := lineLay (fun _ => [' ']) doc

def fixedTail (doc : Doc) : Str := lineTail doc

theorem render_eq (doc : Doc) : render doc = renderG doc (fixedLay doc) (fixedTail doc) := by
  rw [fixedLay, fixedTail, renderG_lineLay]
  simp only [render, etext, List.append_assoc, List.cons_append, List.nil_append]

theorem fixedLay_ok (doc : Doc) : LayOK (fixedLay doc) doc.length = true :=
  lineLay_ok (fun _ => ⟨by decide, by decide⟩) doc

theorem fixedTail_ws (doc : Doc) : (fixedTail doc).all isWs = true := lineTail_ws doc

/-- the parser on the fixed layout -/
theorem parse_flat_exprs {doc : Doc} (comments : Bool) (dir : Str) (c : Counter) (h : DocWF doc = true)
    (hc : C13.ValidCounter Gen.counterLimit c) (hn : countIds doc ≤ Gen.counterLimit + 1) :
    parseNative comments dir c (render doc) = .ok (exprSD c doc, (labelAll c doc).1.counter) := by
  rw [render_eq]
  exact parse_flat_exprs_layout comments dir c h (fixedLay_ok doc) (fixedTail_ws doc) hc hn

/-! ## 10. the shape of `exprSD` -/

theorem passE_fwd (sel : LV → Option Str) : ∀ (d : LDoc) (st : LexSt) (e : Str × LV), e ∈ (mapSt (labE sel) st d).2 →
    (∃ v, (e.1, v) ∈ d ∧ sel v = none ∧ e.2 = v) ∨
    (∃ i t v, (e.1, v) ∈ d ∧ sel v = some t ∧ (i, e.1, t) ∈ drawnE sel st d ∧
      e.2 = .done (C05.phOf i) (.str (C05.phOf i)))
  | [], _, e, h => by simp [mapSt_nil] at h
  | (k, v) :: d, st, e, h => by
    rw [mapSt_cons] at h
    rcases List.mem_cons.mp h with rfl | h
    · cases hs : sel v with
      | none => exact Or.inl ⟨v, by simp, hs, by rw [labE_none st hs]⟩
      | some t =>
        refine Or.inr ⟨st.fresh.1, t, v, by simp, hs, ?_, by rw [labE_some st hs]⟩
        simp [drawnE, hs]
    · rcases passE_fwd sel d _ e h with ⟨v', h1, h2, h3⟩ | ⟨i, t, v', h1, h2, h3, h4⟩
      · exact Or.inl ⟨v', by simp [h1], h2, h3⟩
      · exact Or.inr ⟨i, t, v', by simp [h1], h2, by simp only [drawnE, List.mem_append]; exact Or.inr h3, h4⟩

theorem passE_bwd (sel : LV → Option Str) : ∀ (d : LDoc) (st : LexSt) (p : Nat × Str × Str), p ∈ drawnE sel st d →
    ∃ v, (p.2.1, v) ∈ d ∧ sel v = some p.2.2 ∧
      (p.2.1, LV.done (C05.phOf p.1) (.str (C05.phOf p.1))) ∈ (mapSt (labE sel) st d).2
  | [], _, p, h => by simp [drawnE] at h
  | (k, v) :: d, st, p, h => by
    simp only [drawnE, List.mem_append] at h
    rw [mapSt_cons]
    rcases h with h | h
    · cases hs : sel v with
      | none => simp [hs] at h
      | some t =>
        simp only [hs, List.mem_singleton] at h
        subst h
        exact ⟨v, by simp, hs, by rw [labE_some st hs]; simp⟩
    · obtain ⟨v', h1, h2, h3⟩ := passE_bwd sel d _ p h
      exact ⟨v', by simp [h1], h2, by simp [h3]⟩

theorem passE_keep (sel : LV → Option Str) : ∀ (d : LDoc) (st : LexSt) (k : Str) (v : LV), (k, v) ∈ d → sel v = none →
    (k, v) ∈ (mapSt (labE sel) st d).2
  | [], _, _, _, h, _ => by cases h
  | (k', v') :: d, st, k, v, h, hs => by
    rw [mapSt_cons]
    rcases List.mem_cons.mp h with h | h
    · cases h
      rw [labE_none st hs]; simp
    · exact List.mem_cons_of_mem _ (passE_keep sel d _ k v h hs)

/-- the text a written value contributes to the expression table -/
def textOfDV : DV → Option Str
  | .lit _ => none
  | .ref n => some ('$' :: n)
  | .expr b => some b

/-- everything the proofs below use about `exprSD c doc`: `D` lists `(id, name, text)` of the table -/
structure Shape (c : Counter) (doc : Doc) (D : List (Nat × Str × Str)) : Prop where
  exprs_eq : (exprSD c doc).exprs = toTbl D
  ids_nodup : (D.map (·.1)).Nodup
  ids_le : ∀ p ∈ D, p.1 ≤ 999999
  keys_eq : (labelAll c doc).2.map (·.1) = doc.map (·.1)
  fwd : ∀ e ∈ (labelAll c doc).2, ∃ v, (e.1, v) ∈ doc ∧
    ((∃ l w, v = .lit l ∧ e.2 = .done w l.den) ∨
     (∃ i t, textOfDV v = some t ∧ (i, e.1, t) ∈ D ∧ e.2 = .done (C05.phOf i) (.str (C05.phOf i))))
  bwd : ∀ p ∈ D, (∃ v, (p.2.1, v) ∈ doc ∧ textOfDV v = some p.2.2) ∧
    (p.2.1, LV.done (C05.phOf p.1) (.str (C05.phOf p.1))) ∈ (labelAll c doc).2

theorem lab1_sel {sel : LV → Option Str} (hsel : sel = selE ∨ sel = selR) {st : LexSt} {v : DV} {t : Str}
    (h : sel (lab1 st v).2 = some t) : textOfDV v = some t := by
  cases v with
  | lit l => rcases hsel with rfl | rfl <;> cases l <;> cases h
  | ref n => rcases hsel with rfl | rfl; cases h; exact h
  | expr b => rcases hsel with rfl | rfl; exact h; cases h

theorem lab1_unsel {st : LexSt} {v : DV} (hE : selE (lab1 st v).2 = none) (hR : selR (lab1 st v).2 = none) :
    ∃ l w, v = .lit l ∧ (lab1 st v).2 = .done w l.den := by
  cases v with
  | lit l => cases l <;> exact ⟨_, _, rfl, rfl⟩
  | ref n => cases hR
  | expr b => cases hE

theorem cnt_pass1_E (st : LexSt) (doc : Doc) : cnt (fun v => (selE v).isSome) (mapSt lab1 st doc).2 = cnt isExprDV doc :=
  mapSt_cnt lab1 isExprDV _ (fun st v => by
    cases v with
    | lit l => cases l <;> rfl
    | _ => rfl) _ _

theorem cnt_pass1_R (st : LexSt) (doc : Doc) : cnt (fun v => (selR v).isSome) (mapSt lab1 st doc).2 = cnt isRefDV doc :=
  mapSt_cnt lab1 isRefDV _ (fun st v => by
    cases v with
    | lit l => cases l <;> rfl
    | _ => rfl) _ _

theorem cnt_pass2_R (st : LexSt) (d : LDoc) :
    cnt (fun v => (selR v).isSome) (mapSt (labE selE) st d).2 = cnt (fun v => (selR v).isSome) d :=
  mapSt_cnt (labE selE) _ _ (fun st v => by
    cases hs : selE v with
    | none => rw [labE_none st hs]
    | some t =>
      rw [labE_some st hs]
      cases v <;> simp [selE] at hs
      rfl) _ _

/-- the counter after the document: it has advanced by the number of ids drawn -/
theorem labelAll_counter (c : Counter) (doc : Doc) :
    (labelAll c doc).1.counter = C02.adv Gen.counterLimit (countIds doc) c := by
  obtain ⟨_, _, p3, _⟩ := pass1_state doc { counter := c }
  obtain ⟨_, _, q3, _, _⟩ := passE_state selE (mapSt lab1 { counter := c } doc).2 (mapSt lab1 { counter := c } doc).1
  obtain ⟨_, _, s3, _, _⟩ := passE_state selR
    (mapSt (labE selE) (mapSt lab1 { counter := c } doc).1 (mapSt lab1 { counter := c } doc).2).2
    (mapSt (labE selE) (mapSt lab1 { counter := c } doc).1 (mapSt lab1 { counter := c } doc).2).1
  show (mapSt (labE selR) _ _).1.counter = _
  rw [s3, q3, p3, cnt_pass2_R, cnt_pass1_R, cnt_pass1_E, countIds, C02.adv_add, C02.adv_add]

theorem toTbl_ids (D : List (Nat × Str × Str)) : (toTbl D).map (·.1) = D.map (·.1) := by
  simp [toTbl]

theorem toTbl_append (D D' : List (Nat × Str × Str)) : toTbl (D ++ D') = toTbl D ++ toTbl D' := by
  simp [toTbl]

set_option linter.unusedVariables false in
theorem exprSD_shape {doc : Doc} (c : Counter) (h : DocWF doc = true)
    (hc : C13.ValidCounter Gen.counterLimit c) (hn : countIds doc ≤ Gen.counterLimit + 1) :
    ∃ D, Shape c doc D := by
  -- the three passes
  let r1 := mapSt lab1 { counter := c } doc
  let r2 := mapSt (labE selE) r1.1 r1.2
  let D2 := drawnE selE r1.1 r1.2
  let D3 := drawnE selR r2.1 r2.2
  have e3 : labelAll c doc = mapSt (labE selR) r2.1 r2.2 := rfl
  obtain ⟨_, _, p3, p4⟩ := pass1_state doc { counter := c }
  obtain ⟨q1, q2, q3, _, _⟩ := passE_state selE r1.2 r1.1
  obtain ⟨s1, s2, _, _, _⟩ := passE_state selR r2.2 r2.1
  -- counts
  have cE : cnt (fun v => (selE v).isSome) r1.2 = cnt isExprDV doc := cnt_pass1_E _ _
  have cR : cnt (fun v => (selR v).isSome) r2.2 = cnt isRefDV doc := by
    rw [← cnt_pass1_R { counter := c } doc]; exact cnt_pass2_R _ _
  -- ids
  have hc1 : C13.ValidCounter Gen.counterLimit r1.1.counter := by
    show C13.ValidCounter _ (mapSt lab1 { counter := c } doc).1.counter
    rw [p3]; exact C02.adv_valid _ hc
  have hids : (D2 ++ D3).map (·.1) = alloc Gen.counterLimit (cnt isExprDV doc + cnt isRefDV doc) r1.1.counter := by
    rw [List.map_append, C02.alloc_add]
    show (drawnE selE r1.1 r1.2).map (·.1) ++ (drawnE selR r2.1 r2.2).map (·.1) = _
    rw [q2, s2, cE, cR]
    show _ ++ alloc _ _ (mapSt (labE selE) r1.1 r1.2).1.counter = _
    rw [q3, cE]
  obtain ⟨hnd, hle⟩ := alloc_ids hids hc1 (by unfold countIds at hn; omega)
  have hex1 : r1.1.exprs = [] := p4.2.2.2
  refine ⟨D2 ++ D3, ⟨?_, hnd, hle, ?_, ?_, ?_⟩⟩
  · -- the table
    show (mapSt (labE selR) r2.1 r2.2).1.exprs = _
    rw [s1]
    show setAllE (mapSt (labE selE) r1.1 r1.2).1.exprs _ = _
    rw [q1, hex1, ← setAllE_append, ← toTbl_append, setAllE_nodup _ _ (by simpa [toTbl_ids] using hnd)]
    rfl
  · simp only [labelAll, mapSt_keys]
  · -- forward
    intro e he
    rw [e3] at he
    rcases passE_fwd selR r2.2 r2.1 e he with ⟨v2, h1, h2, h3⟩ | ⟨i, t, v2, h1, h2, h3, h4⟩
    · rcases passE_fwd selE r1.2 r1.1 (e.1, v2) h1 with ⟨v1, g1, g2, g3⟩ | ⟨i, t, v1, g1, g2, g3, g4⟩
      · obtain ⟨st', v, hm, hv⟩ := mapSt_mem lab1 _ doc (e.1, v1) g1
        simp only at hm hv g3
        rw [g3, hv] at h2
        obtain ⟨l, w, hl, hw⟩ := lab1_unsel (hv ▸ g2) h2
        exact ⟨v, hm, Or.inl ⟨l, w, hl, by rw [h3, g3, hv, hw]⟩⟩
      · obtain ⟨st', v, hm, hv⟩ := mapSt_mem lab1 _ doc (e.1, v1) g1
        simp only at hm hv g4 g3
        exact ⟨v, hm, Or.inr ⟨i, t, lab1_sel (Or.inl rfl) (hv ▸ g2), List.mem_append_left _ g3, by rw [h3, g4]⟩⟩
    · rcases passE_fwd selE r1.2 r1.1 (e.1, v2) h1 with ⟨v1, g1, g2, g3⟩ | ⟨i', t', v1, g1, g2, g3, g4⟩
      · obtain ⟨st', v, hm, hv⟩ := mapSt_mem lab1 _ doc (e.1, v1) g1
        simp only at hm hv g3
        rw [g3, hv] at h2
        exact ⟨v, hm, Or.inr ⟨i, t, lab1_sel (Or.inr rfl) h2, List.mem_append_right _ h3, h4⟩⟩
      · simp only at g4
        rw [g4] at h2; simp [selR] at h2
  · -- backward
    intro p hp
    rcases List.mem_append.mp hp with hp | hp
    · obtain ⟨v1, g1, g2, g3⟩ := passE_bwd selE r1.2 r1.1 p hp
      obtain ⟨st', v, hm, hv⟩ := mapSt_mem lab1 _ doc (p.2.1, v1) g1
      simp only at hm hv
      refine ⟨⟨v, hm, lab1_sel (Or.inl rfl) (hv ▸ g2)⟩, ?_⟩
      rw [e3]
      exact passE_keep selR r2.2 r2.1 _ _ g3 rfl
    · obtain ⟨v2, h1, h2, h3⟩ := passE_bwd selR r2.2 r2.1 p hp
      rw [e3]
      refine ⟨?_, h3⟩
      rcases passE_fwd selE r1.2 r1.1 (p.2.1, v2) h1 with ⟨v1, g1, g2, g3⟩ | ⟨i', t', v1, g1, g2, g3, g4⟩
      · obtain ⟨st', v, hm, hv⟩ := mapSt_mem lab1 _ doc (p.2.1, v1) g1
        simp only at hm hv g3
        rw [g3, hv] at h2
        exact ⟨v, hm, lab1_sel (Or.inr rfl) h2⟩
      · simp only at g4
        rw [g4] at h2; simp [selR] at h2

/-! ## 11. acyclic documents: `AcyclicFlat'` -/

theorem wfExpr_ref {n : Str} (hne : n ≠ []) (hw : n.all isWordChar = true) : C05.wfExpr ('$' :: n) = true := by
  have hf : findRef ('$' :: n) = some ([], '$' :: n, []) := by
    have := C05.findRef_hit n [] hne hw rfl
    simpa using this
  have hf0 : findRef [] = none := rfl
  have hne' : n.isEmpty = false := by cases n <;> simp_all
  simp [C05.wfExpr, C05.toSegs, hf, C05.toPs, hf0, C05.Segs.render, C05.rend, C05.Pc.text, C05.Segs.wf, C05.noD,
    C05.wfPs, C05.pcOk, C05.refsOf, hw, hne']

/-- the expression text written under a name -/
def textOfKey (doc : Doc) (k : Str) : Option Str := (doc.find? fun e => e.1 == k).bind fun e => textOfDV e.2

/-- length of the longest reference chain that starts at a name (`fuel` = number of entries) -/
def rankF (doc : Doc) : Nat → Str → Nat
  | 0, _ => 0
  | f + 1, k => match textOfKey doc k with
    | some t => 1 + ((findRefs t).map fun r => rankF doc f (C05.refName r)).foldl max 0
    | none => 0

def docRank (doc : Doc) : Str → Nat := rankF doc doc.length

/-- every reference is unindexed and names an entry of the document -/
def docRefsOK (doc : Doc) : Bool := doc.all fun e => match textOfDV e.2 with
  | some t => (findRefs t).all fun r => !r.contains '[' && (doc.map (·.1)).contains (C05.refName r)
  | none => true

/-- the reference graph is acyclic: the longest-chain rank strictly decreases along every reference -/
def docAcyclic (doc : Doc) : Bool := doc.all fun e => match textOfDV e.2 with
  | some t => (findRefs t).all fun r => decide (docRank doc (C05.refName r) < docRank doc e.1)
  | none => true

theorem filter_unique {L : Entries} (hn : (keys L).Nodup) (p : Key × Val → Bool) (k0 : Key)
    (hex : ∃ x ∈ L, p x = true) (hall : ∀ x ∈ L, p x = true → x.1 = k0) : (L.filter p).length = 1 := by
  have hsub : ((L.filter p).map (·.1)).Nodup := hn.sublist (List.filter_sublist.map _)
  have hk : ∀ x ∈ L.filter p, x.1 = k0 := fun x hx => hall x (List.mem_filter.mp hx).1 (List.mem_filter.mp hx).2
  obtain ⟨x, hx, hpx⟩ := hex
  have hmem : x ∈ L.filter p := List.mem_filter.mpr ⟨hx, hpx⟩
  match hF : L.filter p, hsub, hk, hmem with
  | [], _, _, hmem => cases hmem
  | [a], _, _, _ => rfl
  | a :: b :: r, hsub, hk, _ =>
    have h1 := hk a (by simp)
    have h2 := hk b (by simp)
    simp only [List.map_cons, List.nodup_cons, List.mem_cons, not_or] at hsub
    exact absurd (h1.trans h2.symm) hsub.1.1

theorem find_toTbl : ∀ (D : List (Nat × Str × Str)) (i : Nat) (k t : Str), (D.map (·.1)).Nodup → (i, k, t) ∈ D →
    (toTbl D).find? (fun e => e.2.name == C05.phOf i) = some (i, ⟨t, C05.phOf i⟩)
  | [], _, _, _, _, h => by cases h
  | (j, k', t') :: D, i, k, t, hn, h => by
    simp only [List.map_cons, List.nodup_cons] at hn
    rw [toTbl, List.map_cons, List.find?_cons]
    by_cases hj : j = i
    · subst hj
      have : (j, k, t) = (j, k', t') := by
        rcases List.mem_cons.mp h with h | h
        · exact h
        · exact absurd (List.mem_map.mpr ⟨_, h, rfl⟩) hn.1
      cases this
      simp
    · have hne : (C05.phOf j == C05.phOf i) = false := by
        simp only [beq_eq_false_iff_ne, ne_eq]
        exact fun e => hj (C05.phOf_inj e)
      simp only [hne]
      rcases List.mem_cons.mp h with h | h
      · cases h; exact absurd rfl hj
      · exact find_toTbl D i k t hn.2 h

theorem usable_nonstr {x : Scalar} (hx : ∀ t, x ≠ .str t) : usable (.leaf x) = true := by
  cases x with
  | str t => exact absurd rfl (hx t)
  | _ => rfl

theorem okScalar_parse_nonstr {s : Str} {x : Scalar} (hd : '$' ∉ s) (hp : parseValue s = x) (hx : ∀ t, x ≠ .str t) :
    C05.okScalar x = true := by
  simp only [C05.okScalar, Bool.and_eq_true]
  refine ⟨usable_nonstr hx, ?_⟩
  cases x with
  | str t => exact absurd rfl (hx t)
  | int z => exact C05.noD_iff.mpr (C05.intRepr_noD z)
  | float l =>
    obtain ⟨rfl, _⟩ := C04.C04_float_sound hp
    exact C05.noD_iff.mpr hd
  | bool b => cases b <;> decide
  | none => decide

theorem okScalar_str {y : Str} (h1 : isInfix kwExpr y = false) (h2 : '$' ∉ y) : C05.okScalar (.str y) = true := by
  simp [C05.okScalar, usable, anyStrLeafV, h1, C05.noD, pyStrScalar]
  exact h2

/-- the value of a plain literal of a source document is a scalar the evaluation may use: its text carries neither `$`
    nor the placeholder word -/
theorem lit_okScalar {l : Lit} (h : l.ok = true) : C05.okScalar l.den = true := by
  cases l with
  | bare w =>
    obtain ⟨_, _, _, _, he, hc, _⟩ := C02.Main.srcWord_iff.mp h
    have hd : '$' ∉ w := fun hm => (hc _ hm).2.1 rfl
    cases hp : parseValue w with
    | str t =>
      have := C04.C04_idem hp (fun c hc' => (hc c hc').1)
      subst this
      simp only [Lit.den, hp]
      exact okScalar_str he hd
    | _ => simp only [Lit.den, hp]; exact okScalar_parse_nonstr hd hp (fun t => by simp)
  | quoted q b =>
    obtain ⟨_, _, hc, _, _, _, he, _⟩ := C02.Main.srcQuoted_iff.mp h
    have hd : '$' ∉ b := fun hm => (hc _ hm).2 rfl
    cases hp : parseValue b with
    | str t => simp only [Lit.den, hp]; exact okScalar_str he hd
    | _ => simp only [Lit.den, hp]; exact okScalar_parse_nonstr hd hp (fun t => by simp)

theorem okScalar_iff {x : Scalar} : C05.okScalar x = true ↔ usable (.leaf x) = true ∧ C05.noD (pyStrScalar x) = true := by
  simp [C05.okScalar]

theorem usable_str {y : Str} (h : usable (.leaf (.str y)) = true) : isInfix kwExpr y = false := by
  simp only [usable, anyStrLeafV, Bool.not_eq_true', Bool.or_eq_false_iff] at h
  exact h.1

theorem mem_ldata {d : LDoc} {x : Key × Val} : x ∈ ldata d ↔ ∃ e ∈ d, x = (.str e.1, .leaf e.2.val) := by
  simp only [ldata, List.mem_map]
  constructor
  · rintro ⟨e, he, rfl⟩; exact ⟨e, he, rfl⟩
  · rintro ⟨e, he, rfl⟩; exact ⟨e, he, rfl⟩

theorem prefix_infix {p s : Str} (h : p.isPrefixOf s = true) : isInfix p s = true := by
  cases s with
  | nil => simpa [isInfix, tails] using h
  | cons c r => rw [isInfix_cons, h]; rfl

theorem key_noPhKey {k : Str} (hk : keyOK k = true) : C05.isPhKey k = false := by
  obtain ⟨_, hc, hi, _⟩ := C02.Main.srcWord_iff.mp (keyOK_iff.mp hk).1
  have pre : ∀ (kw sub : Str), isInfix sub kw = true → isInfix sub k = false → isExactPh kw k = false := by
    intro kw sub h1 h2
    cases hp : kw.isPrefixOf k with
    | false => simp [isExactPh, hp]
    | true =>
      have := isInfix_trans h1 (prefix_infix hp)
      rw [h2] at this; cases this
  simp only [C05.isPhKey, pre kwBlock "COMMENT".toList (by decide +kernel) hc,
    pre kwIncl "INCLUDE".toList (by decide +kernel) hi, pre kwLine "COMMENT".toList (by decide +kernel) hc, Bool.or_self]

theorem wfExpr_of_text {v : DV} {t : Str} (hv : dvOK v = true) (ht : textOfDV v = some t) : C05.wfExpr t = true := by
  cases v with
  | lit l => cases ht
  | ref n =>
    simp only [textOfDV, Option.some.injEq] at ht
    subst ht
    simp only [dvOK, Bool.and_eq_true, Bool.not_eq_true', List.isEmpty_eq_false_iff] at hv
    exact wfExpr_ref hv.1 hv.2
  | expr b =>
    simp only [textOfDV, Option.some.injEq] at ht
    subst ht
    exact (exprOK_iff.mp hv).1

section shape
variable {c : Counter} {doc : Doc} {D : List (Nat × Str × Str)} (S : Shape c doc D)
include S

theorem Shape.exprOf_ph {i : Nat} {k t : Str} (h : (i, k, t) ∈ D) :
    C05.exprOf (exprSD c doc) (.leaf (.str (C05.phOf i))) = some t := by
  simp only [C05.exprOf, S.exprs_eq, find_toTbl D i k t S.ids_nodup h, Option.map_some]

theorem Shape.exprOf_lit {x : Scalar} (h : C05.okScalar x = true) : C05.exprOf (exprSD c doc) (.leaf x) = none := by
  cases x with
  | str y =>
    have hy := usable_str (okScalar_iff.mp h).1
    simp only [C05.exprOf, S.exprs_eq, Option.map_eq_none_iff, List.find?_eq_none]
    intro e he
    simp only [toTbl, List.mem_map] at he
    obtain ⟨p, _, rfl⟩ := he
    simp only [beq_iff_eq]
    intro e'
    have := C05.isInfix_kw_phOf p.1
    rw [e', hy] at this; cases this
  | _ => rfl

theorem Shape.mem_exprs {e : Nat × ExprEntry} (he : e ∈ (exprSD c doc).exprs) :
    ∃ p ∈ D, e = (p.1, ⟨p.2.2, C05.phOf p.1⟩) := by
  rw [S.exprs_eq, toTbl, List.mem_map] at he
  obtain ⟨p, hp, rfl⟩ := he
  exact ⟨p, hp, rfl⟩

theorem Shape.keys_data : keys (exprSD c doc).data = (doc.map (·.1)).map Key.str := by
  show keys (ldata (labelAll c doc).2) = _
  rw [ldata_keys, S.keys_eq]

theorem Shape.text_wf (hall : ∀ e ∈ doc, keyOK e.1 = true ∧ dvOK e.2 = true) {p : Nat × Str × Str} (hp : p ∈ D) :
    C05.wfExpr p.2.2 = true := by
  obtain ⟨⟨v, hm, ht⟩, _⟩ := S.bwd p hp
  exact wfExpr_of_text (hall _ hm).2 ht

end shape

/-- **a well-formed flat document whose references name entries of the document and whose reference graph is acyclic
    is, as the native parser hands it over, in the domain of the completeness theorem** -/
theorem exprSD_acyclicFlat {doc : Doc} (c : Counter) (h : DocWF doc = true)
    (hc : C13.ValidCounter Gen.counterLimit c) (hn : countIds doc ≤ Gen.counterLimit + 1)
    (hr : docRefsOK doc = true) (ha : docAcyclic doc = true) : C05.AcyclicFlat' (exprSD c doc) := by
  obtain ⟨D, S⟩ := exprSD_shape c h hc hn
  obtain ⟨hall, hkeys, _⟩ := docWF_iff.mp h
  have hdata : (exprSD c doc).data = ldata (labelAll c doc).2 := rfl
  have hdk := S.keys_data
  have hkn : (keys (exprSD c doc).data).Nodup := by
    rw [hdk]; exact nodup_strKeys hkeys
  -- a data entry comes from a document entry
  have hent : ∀ d ∈ (exprSD c doc).data, ∃ k v, (k, v) ∈ doc ∧ d.1 = .str k ∧
      ((∃ l, v = .lit l ∧ d.2 = .leaf l.den) ∨
       (∃ i t, textOfDV v = some t ∧ (i, k, t) ∈ D ∧ d.2 = .leaf (.str (C05.phOf i)))) := by
    intro d hd
    rw [hdata, mem_ldata] at hd
    obtain ⟨e, he, rfl⟩ := hd
    obtain ⟨v, hm, hv⟩ := S.fwd e he
    refine ⟨e.1, v, hm, rfl, ?_⟩
    rcases hv with ⟨l, w, rfl, e2⟩ | ⟨i, t, ht, hD, e2⟩
    · exact Or.inl ⟨l, rfl, by rw [e2]; rfl⟩
    · exact Or.inr ⟨i, t, ht, hD, by rw [e2]; rfl⟩
  have hlit : ∀ {k : Str} {l : Lit}, (k, DV.lit l) ∈ doc → C05.okScalar l.den = true := by
    intro k l hm
    exact lit_okScalar (hall _ hm).2
  have hbase : C05.AcyclicFlat (exprSD c doc) := by
    refine ⟨hkn, ?_, ?_, ?_, ?_, ?_, ?_, ?_⟩
    · -- flat
      intro d hd
      rw [hdata, mem_ldata] at hd
      obtain ⟨e, _, rfl⟩ := hd
      exact ⟨rfl, rfl⟩
    · rw [S.exprs_eq, toTbl_ids]; exact S.ids_nodup
    · intro e he
      obtain ⟨p, _, rfl⟩ := S.mem_exprs he
      rfl
    · -- placed
      intro e he
      obtain ⟨p, hp, rfl⟩ := S.mem_exprs he
      obtain ⟨i, k, t⟩ := p
      refine filter_unique hkn _ (.str k) ?_ ?_
      · refine ⟨(.str k, .leaf (.str (C05.phOf i))), ?_, by simp⟩
        rw [hdata, mem_ldata]
        exact ⟨_, (S.bwd _ hp).2, rfl⟩
      · intro d hd hpd
        simp only [beq_iff_eq] at hpd
        obtain ⟨k', v, hm, hk', hv⟩ := hent d hd
        rcases hv with ⟨l, rfl, e2⟩ | ⟨i', t', _, hD', e2⟩
        · rw [e2] at hpd
          have := S.exprOf_lit (hlit hm)
          rw [hpd, S.exprOf_ph hp] at this
          cases this
        · rw [e2] at hpd
          have hi : i' = i := C05.phOf_inj (by injection hpd with hpd; injection hpd)
          subst hi
          have := C05.nodup_fst_eq S.ids_nodup hD' hp rfl
          cases this
          exact hk'
    · -- plain_usable
      intro d hd hnone
      obtain ⟨k', v, hm, _, hv⟩ := hent d hd
      rcases hv with ⟨l, rfl, e2⟩ | ⟨i', t', _, hD', e2⟩
      · rw [e2]; exact (okScalar_iff.mp (hlit hm)).1
      · rw [e2, S.exprOf_ph hD'] at hnone; cases hnone
    · -- refs_ok
      intro e he r hr'
      obtain ⟨p, hp, rfl⟩ := S.mem_exprs he
      obtain ⟨⟨v, hm, ht⟩, _⟩ := S.bwd p hp
      have := List.all_eq_true.mp hr _ hm
      simp only [ht, List.all_eq_true, Bool.and_eq_true, Bool.not_eq_true', List.contains_eq_mem,
        decide_eq_false_iff_not, decide_eq_true_eq] at this
      obtain ⟨h1, h2⟩ := this r hr'
      refine ⟨h1, ?_⟩
      cases hl : lookup (.str (C05.refName r)) (exprSD c doc).data with
      | some x => rfl
      | none =>
        rw [lookup_eq_none_iff, hdk] at hl
        exact absurd (List.mem_map.mpr ⟨_, h2, rfl⟩) hl
    · -- acyclic
      refine ⟨docRank doc, ?_⟩
      simp only [C05.rankOk, List.all_eq_true]
      intro d hd
      obtain ⟨k', v, hm, hk', hv⟩ := hent d hd
      rcases hv with ⟨l, rfl, e2⟩ | ⟨i', t', ht, hD', e2⟩
      · rw [e2, S.exprOf_lit (hlit hm)]
        cases d.1 <;> rfl
      · rw [e2, S.exprOf_ph hD', hk']
        have := List.all_eq_true.mp ha _ hm
        simp only [ht] at this
        exact this
  refine ⟨hbase, ?_, ?_, ?_, ?_, ?_⟩
  · intro e he
    obtain ⟨p, hp, rfl⟩ := S.mem_exprs he
    have := S.ids_le p hp
    show p.1 < 1000000
    omega
  · intro d hd
    obtain ⟨k', v, hm, hk', _⟩ := hent d hd
    rw [hk']
    exact (keyOK_iff.mp (hall _ hm).1).2.1
  · intro d hd
    obtain ⟨k', v, hm, hk', _⟩ := hent d hd
    rw [hk']
    simp only [C05.keyNoPh, key_noPhKey (hall _ hm).1, Bool.not_false]
  · intro d hd
    obtain ⟨k', v, hm, _, hv⟩ := hent d hd
    rcases hv with ⟨l, rfl, e2⟩ | ⟨i', t', _, hD', e2⟩
    · simp only [C05.valText, e2, S.exprOf_lit (hlit hm)]
      exact (okScalar_iff.mp (hlit hm)).2
    · simp only [C05.valText, e2, S.exprOf_ph hD']
  · intro e he
    obtain ⟨p, hp, rfl⟩ := S.mem_exprs he
    exact S.text_wf hall hp

/-- `parse_flat_exprs_layout` with the counter spelled out -/
theorem parse_flat_exprs_layout' {doc : Doc} {lay : Lay} {tail : Str} (comments : Bool) (dir : Str) (c : Counter)
    (h : DocWF doc = true) (hl : LayOK lay doc.length = true) (ht : tail.all isWs = true)
    (hc : C13.ValidCounter Gen.counterLimit c) (hn : countIds doc ≤ Gen.counterLimit + 1) :
    parseNative comments dir c (renderG doc lay tail) =
      .ok (exprSD c doc, C02.adv Gen.counterLimit (countIds doc) c) := by
  rw [parse_flat_exprs_layout comments dir c h hl ht hc hn, labelAll_counter]

/-- `parse_flat_exprs` with the counter spelled out -/
theorem parse_flat_exprs' {doc : Doc} (comments : Bool) (dir : Str) (c : Counter) (h : DocWF doc = true)
    (hc : C13.ValidCounter Gen.counterLimit c) (hn : countIds doc ≤ Gen.counterLimit + 1) :
    parseNative comments dir c (render doc) = .ok (exprSD c doc, C02.adv Gen.counterLimit (countIds doc) c) := by
  rw [parse_flat_exprs comments dir c h hc hn, labelAll_counter]

/-! ## 12. reading the file -/

theorem labelAll_ok {doc : Doc} (c : Counter) (h : DocWF doc = true) : ldocOK (labelAll c doc).2 :=
  (labelFrom_facts h _).1

theorem labelAll_keys (c : Counter) (doc : Doc) : (labelAll c doc).2.map (·.1) = doc.map (·.1) := by
  simp only [labelAll, mapSt_keys]

theorem exprSD_length (c : Counter) (doc : Doc) : (exprSD c doc).data.length = doc.length := by
  show (ldata (labelAll c doc).2).length = _
  simp only [ldata, List.length_map, labelAll, mapSt_length]

/-- `DictReader.read` (default options) on a one-file file system holding the document in an admissible layout: parsing
    is `parse_flat_exprs_layout`, `_merge_includes` changes nothing, and what remains is `_eval_expressions` on
    `exprSD c doc` -/
theorem readFile_layout {doc : Doc} {lay : Lay} {tail : Str} (ev : Str → EvalResult) (p : Comps) (c : Counter)
    (h : DocWF doc = true) (hl : LayOK lay doc.length = true) (ht : tail.all isWs = true)
    (hc : C13.ValidCounter Gen.counterLimit c) (hn : countIds doc ≤ Gen.counterLimit + 1)
    (hj : isJsonPath p = false) (hx : isXmlPath p = false) (hres : resolveSpelled p = p) :
    readFile ev [(p, .native (renderG doc lay tail))] {} c p =
      (evalExpressions ev (exprSD c doc)).map fun s' => ReadOut.ok s' (labelAll c doc).1.counter := by
  have hparse := parse_flat_exprs_layout true (pathStr p.dropLast) c h hl ht hc hn
  have hpf : parseFile [(p, .native (renderG doc lay tail))] true c p =
      .ok (exprSD c doc, (labelAll c doc).1.counter) := by
    simp only [parseFile, hx, hres, C01.fs_get_single, hj, hparse]
    rfl
  have hkeys : ((labelAll c doc).2.map (·.1)).Nodup := by
    rw [labelAll_keys]; exact (docWF_iff.mp h).2.1
  have hmi := C01.mergeIncludes_clean [(p, .native (renderG doc lay tail))] true (exprSD c doc) p.dropLast
    (labelAll c doc).1.counter rfl (C07.clean_id _ (ldata_nodupV hkeys) (ldata_noPh (labelAll_ok c h))) (ldata_nodupV hkeys)
  simp only [readFile, hpf, bind, Except.bind, pure, Except.pure]
  simp only [if_true, hmi]
  cases evalExpressions ev (exprSD c doc) with
  | error e => rfl
  | ok s' => rfl

/-- **C05 from the text of a file.**  A well-formed flat document `key value;` (values: plain literals, bare references
    `$name`, double-quoted expression texts) whose references name entries of the document and form an acyclic graph is
    written in any admissible layout and read with `DictReader.read`: if the read succeeds (the evaluator does not leave
    the model), no expression is left, the keys are those of the file in file order, and every variable holds the value
    the topological specification gives -- for every evaluator with `EvOK`. -/
theorem C05_read_layout {doc : Doc} {lay : Lay} {tail : Str} (ev : Str → EvalResult) (E : C05.EvOK ev) (p : Comps)
    (c : Counter) (h : DocWF doc = true) (hl : LayOK lay doc.length = true) (ht : tail.all isWs = true)
    (hc : C13.ValidCounter Gen.counterLimit c) (hn : countIds doc ≤ Gen.counterLimit + 1)
    (hr : docRefsOK doc = true) (ha : docAcyclic doc = true)
    (hj : isJsonPath p = false) (hx : isXmlPath p = false) (hres : resolveSpelled p = p)
    {out : ReadOut} (hread : readFile ev [(p, .native (renderG doc lay tail))] {} c p = .ok out) :
    ∃ s', out = .ok s' (labelAll c doc).1.counter ∧ s'.exprs = [] ∧
      keys s'.data = (doc.map (·.1)).map Key.str ∧
      ∀ name v, C05.topoVal ev (exprSD c doc) (doc.length + 1) name = some v → lookup (.str name) s'.data = some v := by
  rw [readFile_layout ev p c h hl ht hc hn hj hx hres] at hread
  cases hev : evalExpressions ev (exprSD c doc) with
  | error e => rw [hev] at hread; cases hread
  | ok s' =>
    rw [hev] at hread
    simp only [Except.map, Except.ok.injEq] at hread
    obtain ⟨h1, h2, h3⟩ := C05.C05_complete_acyclic' ev _ s' E (exprSD_acyclicFlat c h hc hn hr ha) hev
    refine ⟨s', hread.symm, h1, ?_, ?_⟩
    · rw [h2]
      show keys (ldata (labelAll c doc).2) = _
      rw [ldata_keys, labelAll_keys]
    · rw [exprSD_length] at h3; exact h3

theorem entries_of_lookups : ∀ (es : Entries) (f : Key → Val), (keys es).Nodup →
    (∀ k ∈ keys es, lookup k es = some (f k)) → es = (keys es).map fun k => (k, f k)
  | [], _, _, _ => rfl
  | (k, v) :: es, f, hn, hl => by
    have hn' : k ∉ keys es ∧ (keys es).Nodup := by simpa [keys] using hn
    have h0 := hl k (by simp [keys])
    have hv : v = f k := by simpa [lookup] using h0
    have ih := entries_of_lookups es f hn'.2 (fun k' hk' => by
      have := hl k' (by simp [keys]; exact Or.inr (by simpa [keys] using hk'))
      have hne : k ≠ k' := fun h => hn'.1 (h ▸ hk')
      simpa [lookup, hne] using this)
    simp only [keys, List.map_cons] at ih ⊢
    rw [← ih, hv]

theorem evalExpressions_tables (ev : Str → EvalResult) (s s' : SD) (h : evalExpressions ev s = .ok s') :
    s' = { s with data := s'.data, exprs := [] } := by
  unfold evalExpressions at h
  simp only [bind, Except.bind, pure, Except.pure] at h
  split at h
  · cases h
  · split at h
    · cases h
    · split at h
      · cases h
      · cases h; rfl

/-- **the first read as an equation**: if moreover the specification gives every name a value, a successful read returns
    exactly these values under the names, in file order, and all side tables empty -/
theorem first_read_gen {doc : Doc} {lay : Lay} {tail : Str} (ev : Str → EvalResult) (E : C05.EvOK ev) (p : Comps)
    (c : Counter) (h : DocWF doc = true) (hl : LayOK lay doc.length = true) (ht : tail.all isWs = true)
    (hc : C13.ValidCounter Gen.counterLimit c) (hn : countIds doc ≤ Gen.counterLimit + 1)
    (hr : docRefsOK doc = true) (ha : docAcyclic doc = true)
    (hj : isJsonPath p = false) (hx : isXmlPath p = false) (hres : resolveSpelled p = p)
    (hall : ∀ a ∈ doc, (C05.topoVal ev (exprSD c doc) (doc.length + 1) a.1).isSome = true)
    {out : ReadOut} (hread : readFile ev [(p, .native (renderG doc lay tail))] {} c p = .ok out) :
    out = .ok { data := doc.map fun e =>
        (.str e.1, (C05.topoVal ev (exprSD c doc) (doc.length + 1) e.1).getD (.leaf .none)) } (labelAll c doc).1.counter := by
  obtain ⟨s', rfl, h1, h2, h3⟩ := C05_read_layout ev E p c h hl ht hc hn hr ha hj hx hres hread
  rw [readFile_layout ev p c h hl ht hc hn hj hx hres] at hread
  cases hev : evalExpressions ev (exprSD c doc) with
  | error e => rw [hev] at hread; cases hread
  | ok s'' =>
    rw [hev] at hread
    simp only [Except.map, Except.ok.injEq, ReadOut.ok.injEq] at hread
    have e' : s'' = s' := hread.1
    subst e'
    have htab := evalExpressions_tables ev _ _ hev
    have hnd : (keys s''.data).Nodup := by
      rw [h2]; exact nodup_strKeys (docWF_iff.mp h).2.1
    have hdata : s''.data = doc.map fun e =>
        (.str e.1, (C05.topoVal ev (exprSD c doc) (doc.length + 1) e.1).getD (.leaf .none)) := by
      have hlk : ∀ k ∈ keys s''.data, lookup k s''.data = some
          ((fun k => match k with
            | .str n => (C05.topoVal ev (exprSD c doc) (doc.length + 1) n).getD (.leaf .none)
            | .int _ => .leaf .none) k) := by
        intro k hk
        rw [h2] at hk
        simp only [List.mem_map] at hk
        obtain ⟨n, ⟨a, ha, rfl⟩, rfl⟩ := hk
        have hs := hall a ha
        cases ht : C05.topoVal ev (exprSD c doc) (doc.length + 1) a.1 with
        | none => rw [ht] at hs; cases hs
        | some v =>
          have := h3 _ _ ht
          simp only [ht, Option.getD_some]; exact this
      rw [entries_of_lookups _ _ hnd hlk, h2]
      simp
    rw [htab, hdata]
    rfl

/-- the fixed layout `key value;⏎` -/
theorem readFile_flat {doc : Doc} (ev : Str → EvalResult) (p : Comps) (c : Counter) (h : DocWF doc = true)
    (hc : C13.ValidCounter Gen.counterLimit c) (hn : countIds doc ≤ Gen.counterLimit + 1)
    (hj : isJsonPath p = false) (hx : isXmlPath p = false) (hres : resolveSpelled p = p) :
    readFile ev [(p, .native (render doc))] {} c p =
      (evalExpressions ev (exprSD c doc)).map fun s' => ReadOut.ok s' (labelAll c doc).1.counter := by
  rw [render_eq]
  exact readFile_layout ev p c h (fixedLay_ok doc) (fixedTail_ws doc) hc hn hj hx hres

theorem C05_read_flat {doc : Doc} (ev : Str → EvalResult) (E : C05.EvOK ev) (p : Comps) (c : Counter)
    (h : DocWF doc = true) (hc : C13.ValidCounter Gen.counterLimit c) (hn : countIds doc ≤ Gen.counterLimit + 1)
    (hr : docRefsOK doc = true) (ha : docAcyclic doc = true)
    (hj : isJsonPath p = false) (hx : isXmlPath p = false) (hres : resolveSpelled p = p)
    {out : ReadOut} (hread : readFile ev [(p, .native (render doc))] {} c p = .ok out) :
    ∃ s', out = .ok s' (labelAll c doc).1.counter ∧ s'.exprs = [] ∧
      keys s'.data = (doc.map (·.1)).map Key.str ∧
      ∀ name v, C05.topoVal ev (exprSD c doc) (doc.length + 1) name = some v → lookup (.str name) s'.data = some v := by
  rw [render_eq] at hread
  exact C05_read_layout ev E p c h (fixedLay_ok doc) (fixedTail_ws doc) hc hn hr ha hj hx hres hread

/-- the same for the executable integer evaluator -/
theorem C05_read_layout_evalInt {doc : Doc} {lay : Lay} {tail : Str} (p : Comps) (c : Counter)
    (h : DocWF doc = true) (hl : LayOK lay doc.length = true) (ht : tail.all isWs = true)
    (hc : C13.ValidCounter Gen.counterLimit c) (hn : countIds doc ≤ Gen.counterLimit + 1)
    (hr : docRefsOK doc = true) (ha : docAcyclic doc = true)
    (hj : isJsonPath p = false) (hx : isXmlPath p = false) (hres : resolveSpelled p = p)
    {out : ReadOut} (hread : readFile evalInt [(p, .native (renderG doc lay tail))] {} c p = .ok out) :
    ∃ s', out = .ok s' (labelAll c doc).1.counter ∧ s'.exprs = [] ∧
      keys s'.data = (doc.map (·.1)).map Key.str ∧
      ∀ name v, C05.topoVal evalInt (exprSD c doc) (doc.length + 1) name = some v →
        lookup (.str name) s'.data = some v :=
  C05_read_layout evalInt C05.evOK_evalInt p c h hl ht hc hn hr ha hj hx hres hread

theorem C05_read_flat_evalInt {doc : Doc} (p : Comps) (c : Counter)
    (h : DocWF doc = true) (hc : C13.ValidCounter Gen.counterLimit c) (hn : countIds doc ≤ Gen.counterLimit + 1)
    (hr : docRefsOK doc = true) (ha : docAcyclic doc = true)
    (hj : isJsonPath p = false) (hx : isXmlPath p = false) (hres : resolveSpelled p = p)
    {out : ReadOut} (hread : readFile evalInt [(p, .native (render doc))] {} c p = .ok out) :
    ∃ s', out = .ok s' (labelAll c doc).1.counter ∧ s'.exprs = [] ∧
      keys s'.data = (doc.map (·.1)).map Key.str ∧
      ∀ name v, C05.topoVal evalInt (exprSD c doc) (doc.length + 1) name = some v →
        lookup (.str name) s'.data = some v :=
  C05_read_flat evalInt C05.evOK_evalInt p c h hc hn hr ha hj hx hres hread

/-! ## 13. non-vacuity: `a 1; ab 20; c "$d * 2 + $ab"; d "$a + $ab"; e $c;` -/

/-- the three checks of the example in one evaluation (they scan the same expression texts) -/
theorem ex1_checks : DocWF ex1 = true ∧ docRefsOK ex1 = true ∧ docAcyclic ex1 = true := by decide +kernel

theorem ex1_wf : DocWF ex1 = true := ex1_checks.1
theorem ex1_count : countIds ex1 = 3 := by decide +kernel
theorem ex1_refsOK : docRefsOK ex1 = true := ex1_checks.2.1
theorem ex1_acyclic : docAcyclic ex1 = true := ex1_checks.2.2

def exPath : Comps := ["d".toList, "f".toList]

/-- the parser on the example, through the theorem -/
theorem ex1_parse_thm (dir : Str) :
    parseNative true dir none (render ex1) = .ok (exprSD none ex1, (labelAll none ex1).1.counter) :=
  parse_flat_exprs true dir none ex1_wf (Or.inl rfl) (by rw [ex1_count]; decide)

theorem ex1_parse : parseNative true [] none (render ex1) = .ok (exprSD none ex1, (labelAll none ex1).1.counter) :=
  ex1_parse_thm []

theorem ex1_acyclicFlat : C05.AcyclicFlat' (exprSD none ex1) :=
  exprSD_acyclicFlat none ex1_wf (Or.inl rfl) (by rw [ex1_count]; decide) ex1_refsOK ex1_acyclic

/-- the specification on the example: c = 62, d = 21, e = 62 -/
theorem ex1_topo : (["a", "ab", "c", "d", "e"].map fun n => C05.topoVal evalInt (exprSD none ex1) (ex1.length + 1) n.toList)
    = [some (.leaf (.int 1)), some (.leaf (.int 20)), some (.leaf (.int 62)), some (.leaf (.int 21)),
       some (.leaf (.int 62))] := by
  rw [ex1_exprSD]
  exact C05.exSD_topo

theorem readData_some {r : Except ParseErr ReadOut} {D : Entries} (h : C05.readData r = some D) :
    ∃ sd c, r = .ok (.ok sd c) ∧ sd.data = D := by
  cases r with
  | error e => cases h
  | ok out =>
    cases out with
    | exit1 => cases h
    | ok sd c => exact ⟨sd, c, rfl, Option.some.inj h⟩

theorem readData_map (r : Except ParseErr SD) (c : Counter) :
    C05.readData (r.map fun s' => ReadOut.ok s' c) = C05.dataOf r := by
  cases r <;> rfl

theorem ex1_read_eval :
    C05.readData (readFile evalInt [(exPath, .native (render ex1))] {} none exPath) =
      some [(.str "a".toList, .leaf (.int 1)), (.str "ab".toList, .leaf (.int 20)), (.str "c".toList, .leaf (.int 62)),
            (.str "d".toList, .leaf (.int 21)), (.str "e".toList, .leaf (.int 62))] := by
  rw [readFile_flat evalInt exPath none ex1_wf (Or.inl rfl) (by rw [ex1_count]; decide) (by decide) (by decide) (by decide),
    readData_map, ex1_exprSD]
  exact C05.exSD_eval

/-- … and through the theorem: whatever the read returns, `c = 62`, `d = 21`, `e = 62` (and `a = 1`, `ab = 20`), no
    expression is left, the keys are `a ab c d e` -/
theorem ex1_read_thm {out : ReadOut}
    (hread : readFile evalInt [(exPath, .native (render ex1))] {} none exPath = .ok out) :
    ∃ s' c', out = .ok s' c' ∧ s'.exprs = [] ∧
      keys s'.data = [.str "a".toList, .str "ab".toList, .str "c".toList, .str "d".toList, .str "e".toList] ∧
      lookup (.str "a".toList) s'.data = some (.leaf (.int 1)) ∧
      lookup (.str "ab".toList) s'.data = some (.leaf (.int 20)) ∧
      lookup (.str "c".toList) s'.data = some (.leaf (.int 62)) ∧
      lookup (.str "d".toList) s'.data = some (.leaf (.int 21)) ∧
      lookup (.str "e".toList) s'.data = some (.leaf (.int 62)) := by
  obtain ⟨s', h1, h2, h3, h4⟩ := C05_read_flat_evalInt exPath none ex1_wf (Or.inl rfl) (by rw [ex1_count]; decide)
    ex1_refsOK ex1_acyclic (by decide) (by decide) (by decide) hread
  have ht := ex1_topo
  simp only [List.map_cons, List.map_nil, List.cons.injEq, and_true] at ht
  obtain ⟨t1, t2, t3, t4, t5⟩ := ht
  exact ⟨s', _, h1, h2, h3, h4 _ _ t1, h4 _ _ t2, h4 _ _ t3, h4 _ _ t4, h4 _ _ t5⟩

/-- the read does succeed on the example -/
theorem ex1_read_ok : ∃ out, readFile evalInt [(exPath, .native (render ex1))] {} none exPath = .ok out := by
  obtain ⟨sd, c, hr, _⟩ := readData_some ex1_read_eval
  exact ⟨_, hr⟩


/-- two more documents through the theorem: quoted strings draw the first ids, then the expressions, then the references;
    the counter wraps at its limit -/
theorem ex2_parse_thm (dir : Str) :
    parseNative true dir (some 5) (render ex2) = .ok (exprSD (some 5) ex2, (labelAll (some 5) ex2).1.counter) :=
  parse_flat_exprs true dir (some 5) (by decide +kernel) (Or.inr ⟨5, rfl, by decide⟩) (by decide +kernel)

theorem ex3_parse_thm (dir : Str) :
    parseNative true dir (some 999998) (render ex3) =
      .ok (exprSD (some 999998) ex3, (labelAll (some 999998) ex3).1.counter) :=
  parse_flat_exprs true dir (some 999998) (by decide +kernel) (Or.inr ⟨999998, rfl, by decide⟩) (by decide +kernel)

theorem ex2_parse : parseNative true ['d'] (some 5) (render ex2) = .ok (exprSD (some 5) ex2, (labelAll (some 5) ex2).1.counter) :=
  ex2_parse_thm ['d']

theorem ex3_parse : parseNative true ['d'] (some 999998) (render ex3) =
    .ok (exprSD (some 999998) ex3, (labelAll (some 999998) ex3).1.counter) :=
  ex3_parse_thm ['d']

theorem ex3_ids : (exprSD (some 999998) ex3).exprs.map (·.1) = [0, 1] ∧ (labelAll (some 999998) ex3).1.counter = some 1 := by
  decide +kernel

/-! ### the same document in a loose layout: tabs, blank lines, a value on the next line, `;` on a line of its own,
    two entries on one line -/

def exLay1 : Lay :=
  [(['\n', ' '], ['\t'], [' ']), ([' '], [' ', ' '], []), (['\n'], ['\n', ' '], []), ([], [' '], ['\r', '\n']),
   (['\n', '\n'], [' '], [])]

theorem exLay1_ok : LayOK exLay1 ex1.length = true := by decide

theorem ex1_loose_text : renderG ex1 exLay1 "  \n".toList =
    "\n a\t1 ; ab  20;\nc\n \"$d * 2 + $ab\";d \"$a + $ab\"\r\n;\n\ne $c;  \n".toList := by
  literal_chars
  decide +kernel

theorem ex1_loose_parse (dir : Str) :
    parseNative true dir none (renderG ex1 exLay1 "  \n".toList) = .ok (exprSD none ex1, some 2) := by
  rw [parse_flat_exprs_layout' true dir none ex1_wf exLay1_ok (by decide) (Or.inl rfl) (by rw [ex1_count]; decide),
    ex1_count]
  rfl

theorem ex1_loose_read_eval :
    C05.readData (readFile evalInt [(exPath, .native (renderG ex1 exLay1 "  \n".toList))] {} none exPath) =
      some [(.str "a".toList, .leaf (.int 1)), (.str "ab".toList, .leaf (.int 20)), (.str "c".toList, .leaf (.int 62)),
            (.str "d".toList, .leaf (.int 21)), (.str "e".toList, .leaf (.int 62))] := by
  rw [readFile_layout evalInt exPath none ex1_wf exLay1_ok (by decide) (Or.inl rfl) (by rw [ex1_count]; decide)
    (by decide) (by decide) (by decide), readData_map, ex1_exprSD]
  exact C05.exSD_eval

/-- a reference cycle is rejected by the check -/
theorem exCycle_rejected :
    docAcyclic [("a".toList, .ref "b".toList), ("b".toList, .ref "a".toList)] = false := by decide +kernel

/-! ### why `DocWF` asks for distinct expression texts and for texts that do not begin with `;`

  Both conditions are necessary for `parse_flat_exprs` as stated: `lexExpressions` replaces *every* occurrence of the
  matched text `"…"` in the whole block (`str.replace`). -/

/-- `a "$x"; b "$x"; x 1;` : the first match replaces both occurrences, the second match draws an id, records an entry
    and replaces nothing: `a` and `b` share `EXPRESSION000000`, entry 1 of the table stands nowhere -/
def exDup : Doc :=
  [("a".toList, .expr "$x".toList), ("b".toList, .expr "$x".toList), ("x".toList, .lit (.bare "1".toList))]

set_option synthInstance.maxSize 1000 in
theorem exDup_differs :
    (exDup.all fun e => keyOK e.1 && dvOK e.2) = true ∧ (exDup.map (·.1)).Nodup ∧ ¬ (exprBodies exDup).Nodup ∧
    fieldsOf (parseNative true [] none (render exDup)) =
      some ([(.str "a".toList, .leaf (.str "EXPRESSION000000".toList)),
             (.str "b".toList, .leaf (.str "EXPRESSION000000".toList)), (.str "x".toList, .leaf (.int 1))],
            [(0, ⟨"$x".toList, "EXPRESSION000000".toList⟩), (1, ⟨"$x".toList, "EXPRESSION000001".toList⟩)],
            [], [], [], some 1) ∧
    fieldsOf (parseNative true [] none (render exDup)) ≠
      fieldsOf (.ok (exprSD none exDup, (labelAll none exDup).1.counter)) := by
  refine ⟨by decide +kernel, by decide +kernel, by decide +kernel, ?_⟩
  -- the parser is evaluated once: its result first, then the comparison with that result
  refine (fun h4 => ⟨h4, ?_⟩) (by literal_chars; decide +kernel)
  rw [h4]
  literal_chars
  decide +kernel

/-- an expression text that begins with `;` can occur a second time, between the closing quote of one expression and
    the opening quote of the next: in `a "; b $c; d "; x "$y"; b $c; d "$z"; …` the text `"; b $c; d "` is also what
    stands between `"$y` and `$z"`; the replacement glues `x`'s and `d`'s expressions together and the entries `b`, `d`
    disappear -/
def exSemi : Doc :=
  [("a".toList, .expr "; b $c; d ".toList), ("x".toList, .expr "$y".toList), ("b".toList, .ref "c".toList),
   ("d".toList, .expr "$z".toList), ("c".toList, .lit (.bare "1".toList)), ("y".toList, .lit (.bare "2".toList)),
   ("z".toList, .lit (.bare "3".toList))]

set_option synthInstance.maxSize 1000 in
theorem exSemi_differs :
    (exSemi.all fun e => keyOK e.1 && (match e.2 with
      | .expr b => C05.wfExpr b && !b.contains '"' && b.all (fun c => !isLineBreak c) && !isInfix ['/', '/'] b &&
          !isInfix ['/', '*'] b
      | v => dvOK v)) = true ∧
    (exSemi.map (·.1)).Nodup ∧ (exprBodies exSemi).Nodup ∧ DocWF exSemi = false ∧
    (fieldsOf (parseNative true [] none (render exSemi))).map (fun r => keys r.1) =
      some [.str "a".toList, .str "x".toList, .str "c".toList, .str "y".toList, .str "z".toList] ∧
    fieldsOf (parseNative true [] none (render exSemi)) ≠
      fieldsOf (.ok (exprSD none exSemi, (labelAll none exSemi).1.counter)) := by
  decide +kernel


end DictIO.C05R
