/-
  C02 (literal re-insertion): after the quoted strings of a source document have been replaced by placeholder
  words (`labelEs`) and the token tree has been given its meaning (`denEs`), `insertLiterals` over the literal
  table restores exactly what the document means (`denSrcEs`).

  The facts about documents (`drawn_clean_all`, `rel_all`) are proved by `SrcPWF.ind` (C02lex) for plain values and
  lists and for LABELLED entry lists, so that `insert_literals_labelled` holds with comment entries at any dict level
  and `insert_literals` is its instance.  With it the reader after its comment stages is complete:
  `parseRest_labelled_counter`, from any lexer state with an empty literal table.
-/
import DictIO.Props.C02lex
import DictIO.Props.C04
import DictIO.Props.C13name
import DictIO.Lemmas.Tbl
import DictIO.Lemmas.Ph

namespace DictIO.C02
open DictIO

theorem parseValue_litPh (i : Nat) : parseValue (litPh i) = .str (litPh i) := parseValue_ph (by simp [phKeywords]) i

/-- a scalar that is not a string containing the reserved word `STRINGLITERAL` -/
def Clean : Scalar → Prop
  | .str s => isInfix kwLit s = false
  | _ => True

/-- the value a quoted string stands for (`Lit.den` of a quoted literal; also what `insertLiterals` inserts) -/
def litVal (b : Str) : Scalar :=
  match parseValue b with
  | .str _ => .str b
  | x => x

theorem litDen_quoted (q : Char) (b : Str) : Lit.den (.quoted q b) = litVal b := rfl

theorem clean_litVal {b : Str} (h : isInfix kwLit b = false) : Clean (litVal b) := by
  unfold litVal
  cases parseValue b with
  | str s => exact h
  | _ => trivial

theorem isSrcWord_facts {w : Str} (h : isSrcWord w = true) :
    isPhTok w = false ∧ isInfix kwLit w = false ∧ C04.QF w :=
  ⟨(srcWord_facts h).2.1, (Main.srcWord_iff.mp h).2.2.2.1, fun c hc => ((srcWord_facts h).2.2 c hc).1⟩

theorem clean_parseValue_word {w : Str} (h : isSrcWord w = true) : Clean (parseValue w) := by
  obtain ⟨_, hk, hq⟩ := isSrcWord_facts h
  cases hp : parseValue w with
  | str t => rw [C04.C04_idem hp hq]; exact hk
  | _ => trivial

theorem isSrcQuoted_clean {q : Char} {b : Str} (h : isSrcQuoted q b = true) : isInfix kwLit b = false :=
  (Main.srcQuoted_iff.mp h).2.2.2.2.2.1

/-! #### the relation between the labelled tree and the document's meaning

  `RV T d a b`: `b` is `a` with every leaf that is *exactly* the placeholder word of an entry `(i, body)` of the
  table `T` replaced by `litVal body` (such a leaf sits at key-path length `d ≤ 10`), all other leaves being equal
  and free of the reserved word; keys are equal. -/

mutual
  def RV (T : Tbl Str) (d : Nat) : Val → Val → Prop
    | .leaf x, b => (Clean x ∧ b = .leaf x) ∨
        (∃ i body, (i, body) ∈ T ∧ x = .str (litPh i) ∧ b = .leaf (litVal body) ∧ d ≤ 10)
    | .dict es, b => ∃ fs, b = .dict fs ∧ REs T (d + 1) es fs
    | .list xs, b => ∃ ys, b = .list ys ∧ RXs T (d + 1) xs ys
  def REs (T : Tbl Str) (d : Nat) : Entries → Entries → Prop
    | [], fs => fs = []
    | (k, v) :: es, fs => ∃ v' fs', fs = (k, v') :: fs' ∧ RV T d v v' ∧ REs T d es fs'
  def RXs (T : Tbl Str) (d : Nat) : List Val → List Val → Prop
    | [], ys => ys = []
    | v :: xs, ys => ∃ v' ys', ys = v' :: ys' ∧ RV T d v v' ∧ RXs T d xs ys'
end

/-! with an empty table the two trees are equal -/
mutual
theorem RV_nil : ∀ (a : Val) (d : Nat) (b : Val), RV [] d a b → b = a
  | .leaf x, d, b, h => by
    simp only [RV] at h
    rcases h with ⟨_, h⟩ | ⟨i, body, hm, _⟩
    · exact h
    · cases hm
  | .dict es, d, b, h => by
    simp only [RV] at h
    obtain ⟨fs, rfl, h⟩ := h
    rw [REs_nil es _ _ h]
  | .list xs, d, b, h => by
    simp only [RV] at h
    obtain ⟨ys, rfl, h⟩ := h
    rw [RXs_nil xs _ _ h]
theorem REs_nil : ∀ (es : Entries) (d : Nat) (fs : Entries), REs [] d es fs → fs = es
  | [], d, fs, h => by simpa only [REs] using h
  | (k, v) :: es, d, fs, h => by
    simp only [REs] at h
    obtain ⟨v', fs', rfl, hv, h⟩ := h
    rw [RV_nil v _ _ hv, REs_nil es _ _ h]
theorem RXs_nil : ∀ (xs : List Val) (d : Nat) (ys : List Val), RXs [] d xs ys → ys = xs
  | [], d, ys, h => by simpa only [RXs] using h
  | v :: xs, d, ys, h => by
    simp only [RXs] at h
    obtain ⟨v', ys', rfl, hv, h⟩ := h
    rw [RV_nil v _ _ hv, RXs_nil xs _ _ h]
end

/-- `d[k] = v` on both sides keeps the relation (the key, and hence the position, is the same) -/
theorem REs_setKey {T : Tbl Str} {d : Nat} (k : Key) {v v' : Val} (hv : RV T d v v') :
    ∀ (acc acc' : Entries), REs T d acc acc' → REs T d (setKey k v acc) (setKey k v' acc')
  | [], acc', h => by
    simp only [REs] at h
    subst h
    simp only [setKey, REs]
    exact ⟨v', [], rfl, hv, rfl⟩
  | (k0, v0) :: acc, acc', h => by
    simp only [REs] at h
    obtain ⟨v0', fs', rfl, h0, h⟩ := h
    simp only [setKey]
    by_cases hk : k0 = k
    · simp only [hk, if_true, REs]
      exact ⟨v', fs', rfl, hv, h⟩
    · simp only [hk, if_false, REs]
      exact ⟨v0', _, rfl, h0, REs_setKey k hv acc fs' h⟩

/-! #### one pass of `substLeaf*` handles the first table entry -/

section step
variable {i : Nat} {body : Str} {T : Tbl Str}
  (hi : i ≤ 999999) (hT : ∀ p ∈ T, p.1 ≤ 999999) (hnd : ∀ b', (i, b') ∉ T) (hb : isInfix kwLit body = false)
include hi hT hnd hb
-- the linter does not see the use in `stepEs`, `stepXs` through the mutual recursion
set_option linter.unusedSectionVars false

mutual
theorem stepV : ∀ (a : Val) (d : Nat) (b : Val), RV ((i, body) :: T) d a b →
    ∃ a', substLeafV (litPh i) (litVal body) d a = .ok a' ∧ RV T d a' b
  | .leaf x, d, b, h => by
    simp only [RV] at h
    rcases h with ⟨hc, rfl⟩ | ⟨j, body', hm, rfl, rfl, hd⟩
    · refine ⟨.leaf x, ?_, by rw [RV]; exact Or.inl ⟨hc, rfl⟩⟩
      cases x with
      | str s => simp only [substLeafV, litPh, isInfix_append_false _ hc, Bool.false_eq_true, if_false]
      | _ => simp only [substLeafV]
    · rcases List.mem_cons.mp hm with heq | hm'
      · simp only [Prod.mk.injEq] at heq
        obtain ⟨rfl, rfl⟩ := heq
        refine ⟨.leaf (litVal body'), ?_, by rw [RV]; exact Or.inl ⟨clean_litVal hb, rfl⟩⟩
        have : ¬ d > 10 := by omega
        simp only [substLeafV, isInfix_self, if_true, this, if_false]
      · have hj : j ≤ 999999 := hT _ hm'
        have hne : i ≠ j := fun e => hnd body' (e ▸ hm')
        refine ⟨.leaf (.str (litPh j)), ?_, by simp only [RV]; exact Or.inr ⟨j, body', hm', rfl, rfl, hd⟩⟩
        simp only [substLeafV, litPh, ph_infix_ne _ hi hj hne, Bool.false_eq_true, if_false]
  | .dict es, d, b, h => by
    simp only [RV] at h
    obtain ⟨fs, rfl, h⟩ := h
    obtain ⟨es', h1, h2⟩ := stepEs es _ _ h
    exact ⟨.dict es', by simp only [substLeafV, h1, Except.map], by simp only [RV]; exact ⟨fs, rfl, h2⟩⟩
  | .list xs, d, b, h => by
    simp only [RV] at h
    obtain ⟨ys, rfl, h⟩ := h
    obtain ⟨xs', h1, h2⟩ := stepXs xs _ _ h
    exact ⟨.list xs', by simp only [substLeafV, h1, Except.map], by simp only [RV]; exact ⟨ys, rfl, h2⟩⟩
theorem stepEs : ∀ (es : Entries) (d : Nat) (fs : Entries), REs ((i, body) :: T) d es fs →
    ∃ es', substLeafEs (litPh i) (litVal body) d es = .ok es' ∧ REs T d es' fs
  | [], d, fs, h => ⟨[], by simp only [substLeafEs], by simpa only [REs] using h⟩
  | (k, v) :: es, d, fs, h => by
    simp only [REs] at h
    obtain ⟨v', fs', rfl, hv, h⟩ := h
    obtain ⟨a', h1, h2⟩ := stepV v _ _ hv
    obtain ⟨es', h3, h4⟩ := stepEs es _ _ h
    refine ⟨(k, a') :: es', ?_, by simp only [REs]; exact ⟨v', fs', rfl, h2, h4⟩⟩
    simp only [substLeafEs, h1, h3, bind, Except.bind, pure, Except.pure]
theorem stepXs : ∀ (xs : List Val) (d : Nat) (ys : List Val), RXs ((i, body) :: T) d xs ys →
    ∃ xs', substLeafXs (litPh i) (litVal body) d xs = .ok xs' ∧ RXs T d xs' ys
  | [], d, ys, h => ⟨[], by simp only [substLeafXs], by simpa only [RXs] using h⟩
  | v :: xs, d, ys, h => by
    simp only [RXs] at h
    obtain ⟨v', ys', rfl, hv, h⟩ := h
    obtain ⟨a', h1, h2⟩ := stepV v _ _ hv
    obtain ⟨xs', h3, h4⟩ := stepXs xs _ _ h
    refine ⟨a' :: xs', ?_, by simp only [RXs]; exact ⟨v', ys', rfl, h2, h4⟩⟩
    simp only [substLeafXs, h1, h3, bind, Except.bind, pure, Except.pure]
end

end step

/-- one step of the fold in `insertLiterals` -/
def insStep (acc : Except ParseErr Entries) (e : Nat × Str) : Except ParseErr Entries :=
  match acc with
  | .error x => .error x
  | .ok es => substLeafEs (litPh e.1) (litVal e.2) 1 es

theorem insertLiterals_eq (T : Tbl Str) (es : Entries) : insertLiterals T es = T.foldl insStep (.ok es) := rfl

theorem insertLiterals_of_rel : ∀ (T : Tbl Str), (T.map (·.1)).Nodup → (∀ p ∈ T, p.1 ≤ 999999) →
    (∀ p ∈ T, isInfix kwLit p.2 = false) → ∀ (a b : Entries), REs T 1 a b → insertLiterals T a = .ok b
  | [], _, _, _, a, b, h => by rw [REs_nil a _ _ h]; rfl
  | (i, body) :: T, hnd, hle, hcl, a, b, h => by
    rw [List.map_cons, List.nodup_cons] at hnd
    have hnd' : ∀ b', (i, b') ∉ T := fun b' hm => hnd.1 (List.mem_map.mpr ⟨(i, b'), hm, rfl⟩)
    obtain ⟨a', h1, h2⟩ := stepEs (hle _ List.mem_cons_self) (fun p hp => hle p (List.mem_cons_of_mem _ hp)) hnd'
      (hcl _ List.mem_cons_self) a 1 b h
    have ih := insertLiterals_of_rel T hnd.2 (fun p hp => hle p (List.mem_cons_of_mem _ hp))
      (fun p hp => hcl p (List.mem_cons_of_mem _ hp)) a' b h2
    rw [insertLiterals_eq] at ih ⊢
    rw [List.foldl_cons]
    show List.foldl insStep (substLeafEs (litPh i) (litVal body) 1 a) T = _
    rw [h1, ih]

mutual
  /-- number of quoted literals -/
  def countQuotedV : Src → Nat
    | .lit (.bare _) => 0
    | .lit (.quoted _ _) => 1
    | .dict es => countQuotedEs es
    | .list xs => countQuotedXs xs
  def countQuotedEs : SrcEntries → Nat
    | [] => 0
    | (_, v) :: es => countQuotedV v + countQuotedEs es
  def countQuotedXs : List Src → Nat
    | [] => 0
    | v :: xs => countQuotedV v + countQuotedXs xs
end

mutual
  /-- the `(id, body)` pairs recorded by `labelV`, in document order -/
  def drawnV (st : LabelSt) : Src → List (Nat × Str)
    | .lit (.bare _) => []
    | .lit (.quoted _ b) => [((st.fresh b).1, b)]
    | .dict es => drawnEs st es
    | .list xs => drawnXs st xs
  def drawnEs (st : LabelSt) : SrcEntries → List (Nat × Str)
    | [] => []
    | (_, v) :: es => drawnV st v ++ drawnEs (labelV st v).1 es
  def drawnXs (st : LabelSt) : List Src → List (Nat × Str)
    | [] => []
    | v :: xs => drawnV st v ++ drawnXs (labelV st v).1 xs
end

/-! what `label*` does to the state: the table gets the drawn entries, the ids are the next values of the counter -/
mutual
theorem labelV_state : ∀ (v : Src) (st : LabelSt),
    (labelV st v).1.lits = setAll st.lits (drawnV st v) ∧
    (drawnV st v).map (·.1) = alloc Gen.counterLimit (countQuotedV v) st.counter ∧
    (labelV st v).1.counter = adv Gen.counterLimit (countQuotedV v) st.counter
  | .lit (.bare w), st => by simp [labelV, drawnV, countQuotedV, setAll, alloc, adv]
  | .lit (.quoted q b), st => by
    simp [labelV, drawnV, countQuotedV, setAll, alloc, adv, LabelSt.fresh]
  | .dict es, st => by
    have := labelEs_state es st
    simpa only [labelV, drawnV, countQuotedV] using this
  | .list xs, st => by
    have := labelXs_state xs st
    simpa only [labelV, drawnV, countQuotedV] using this
theorem labelEs_state : ∀ (es : SrcEntries) (st : LabelSt),
    (labelEs st es).1.lits = setAll st.lits (drawnEs st es) ∧
    (drawnEs st es).map (·.1) = alloc Gen.counterLimit (countQuotedEs es) st.counter ∧
    (labelEs st es).1.counter = adv Gen.counterLimit (countQuotedEs es) st.counter
  | [], st => by simp [labelEs, drawnEs, countQuotedEs, setAll, alloc, adv]
  | (k, v) :: es, st => by
    obtain ⟨h1, h2, h3⟩ := labelV_state v st
    obtain ⟨h4, h5, h6⟩ := labelEs_state es (labelV st v).1
    rw [labelEs_cons]
    simp only [drawnEs, countQuotedEs, setAll_append, List.map_append, alloc_add, adv_add]
    rw [h4, h1, h5, h2, h6, h3]
    exact ⟨rfl, rfl, rfl⟩
theorem labelXs_state : ∀ (xs : List Src) (st : LabelSt),
    (labelXs st xs).1.lits = setAll st.lits (drawnXs st xs) ∧
    (drawnXs st xs).map (·.1) = alloc Gen.counterLimit (countQuotedXs xs) st.counter ∧
    (labelXs st xs).1.counter = adv Gen.counterLimit (countQuotedXs xs) st.counter
  | [], st => by simp [labelXs, drawnXs, countQuotedXs, setAll, alloc, adv]
  | v :: xs, st => by
    obtain ⟨h1, h2, h3⟩ := labelV_state v st
    obtain ⟨h4, h5, h6⟩ := labelXs_state xs (labelV st v).1
    rw [labelXs_cons]
    simp only [drawnXs, countQuotedXs, setAll_append, List.map_append, alloc_add, adv_add]
    rw [h4, h1, h5, h2, h6, h3]
    exact ⟨rfl, rfl, rfl⟩
end

theorem drawn_clean_all :
    (∀ v d, SrcWFV d v = true → ∀ st, ∀ p ∈ drawnV st v, isInfix kwLit p.2 = false) ∧
    (∀ es d, SrcPWFEs d es = true → ∀ st, ∀ p ∈ drawnEs st es, isInfix kwLit p.2 = false) ∧
    (∀ xs d, SrcWFXs d xs = true → ∀ st, ∀ p ∈ drawnXs st xs, isInfix kwLit p.2 = false) := by
  refine SrcPWF.ind ?_ ?_ ?_ ?_ ?_ ?_ ?_ ?_ ?_
  · intro d l hl _ st p hp
    cases l with
    | bare w => simp [drawnV] at hp
    | quoted q b =>
      simp only [drawnV, List.mem_singleton] at hp
      subst hp
      exact isSrcQuoted_clean hl
  · intro d es _ ih st p hp
    simp only [drawnV] at hp
    exact ih st p hp
  · intro d xs _ ih st p hp
    simp only [drawnV] at hp
    exact ih st p hp
  · intro d st p hp
    simp [drawnEs] at hp
  · intro d k es _ _ _ _ ih st p hp
    simp only [drawnEs, drawnV, List.nil_append] at hp
    exact ih _ p hp
  · intro d k key v es _ _ _ _ _ ihv ih st p hp
    simp only [drawnEs, List.mem_append] at hp
    exact hp.elim (ihv st p) (ih _ p)
  · intro d k key dd es _ _ _ ihd ih st p hp
    simp only [drawnEs, drawnV, List.mem_append] at hp
    exact hp.elim (ihd st p) (ih _ p)
  · intro d st p hp
    simp [drawnXs] at hp
  · intro d v xs ihv ih st p hp
    simp only [drawnXs, List.mem_append] at hp
    exact hp.elim (ihv st p) (ih _ p)

theorem drawnXs_clean : ∀ (xs : List Src) (st : LabelSt) (d : Nat), SrcWFXs d xs = true →
    ∀ p ∈ drawnXs st xs, isInfix kwLit p.2 = false :=
  fun xs st d h => drawn_clean_all.2.2 xs d h st

theorem denSrcEs_cons {k : Str} {key : Key} (hk : keyOfScalar (parseKey k) = some key)
    (v : Src) (es : SrcEntries) (acc : Entries) :
    denSrcEs ((k, v) :: es) acc = denSrcEs es (setKey key (denSrcV v) acc) := by
  simp [denSrcEs, hk]

theorem denPV_flat {v : Src} (hv : ∀ dd, v ≠ .dict dd) : denPV v = denSrcV v := by
  match v, hv with
  | .lit l, _ => rfl
  | .list xs, _ => rfl
  | .dict dd, h => exact absurd rfl (h dd)

/-- the meaning of the token tree of a document and the meaning of the document are related through the literal
    table; comment entries are string leaves without the reserved word, hence untouched -/
theorem rel_all :
    (∀ v d, SrcWFV d v = true → ∀ (T : Tbl Str) st, (∀ p ∈ drawnV st v, p ∈ T) →
      RV T d (denV (labelV st v).2) (denSrcV v)) ∧
    (∀ es d, SrcPWFEs d es = true → ∀ (T : Tbl Str) st acc acc', (∀ p ∈ drawnEs st es, p ∈ T) → REs T d acc acc' →
      REs T d (denEs (labelEs st es).2 acc) (denPEs es acc')) ∧
    (∀ xs d, SrcWFXs d xs = true → ∀ (T : Tbl Str) st, (∀ p ∈ drawnXs st xs, p ∈ T) →
      RXs T d (denXs (labelXs st xs).2) (denSrcXs xs)) := by
  refine SrcPWF.ind ?_ ?_ ?_ ?_ ?_ ?_ ?_ ?_ ?_
  · intro d l hl hd T st hT
    cases l with
    | bare w =>
      simp only [labelV, denV, denSrcV, Lit.den, RV]
      exact Or.inl ⟨clean_parseValue_word hl, trivial⟩
    | quoted q b =>
      simp only [labelV, denV, denSrcV, parseValue_litPh, RV]
      exact Or.inr ⟨(st.fresh b).1, b, hT _ (by simp [drawnV]), rfl, rfl, hd⟩
  · intro d es h ih T st hT
    simp only [drawnV] at hT
    simp only [labelV, denV, denSrcV, RV, ← C12.denPEs_plain es (d + 1) [] h]
    exact ⟨_, rfl, ih T st [] [] hT (by simp only [REs])⟩
  · intro d xs _ ih T st hT
    simp only [drawnV] at hT
    simp only [labelV, denV, denSrcV, RV]
    exact ⟨_, rfl, ih T st hT⟩
  · intro d T st acc acc' _ hacc
    simpa only [labelEs, denEs, denPEs] using hacc
  · intro d k es hp _ _ hl ih T st acc acc' hT hacc
    rw [labelEs_cons, C12.denPEs_cons_ph hp]
    simp only [labelV]
    rw [denEs_cons_ph hp]
    exact ih T _ _ _ (fun p hp' => hT p (List.mem_append_right _ hp'))
      (REs_setKey _ (by simp only [RV]; exact Or.inl ⟨hl, trivial⟩) acc acc' hacc)
  · intro d k key v es hp _ hkey hv _ ihv ih T st acc acc' hT hacc
    rw [labelEs_cons, denEs_cons hp hkey, C12.denPEs_cons hp hkey, denPV_flat hv]
    exact ih T _ _ _ (fun p hp' => hT p (List.mem_append_right _ hp'))
      (REs_setKey _ (ihv T st fun p hp' => hT p (List.mem_append_left _ hp')) acc acc' hacc)
  · intro d k key dd es hp _ hkey ihd ih T st acc acc' hT hacc
    rw [labelEs_cons, denEs_cons hp hkey, C12.denPEs_cons hp hkey]
    refine ih T _ _ _ (fun p hp' => hT p (List.mem_append_right _ hp')) (REs_setKey _ ?_ acc acc' hacc)
    simp only [labelV, denV, denPV, RV]
    exact ⟨_, rfl, ihd T st [] [] (fun p hp' => hT p (List.mem_append_left _ hp')) (by simp only [REs])⟩
  · intro d T st _
    simp only [labelXs, denXs, denSrcXs, RXs]
  · intro d v xs ihv ih T st hT
    simp only [drawnXs, List.mem_append] at hT
    rw [labelXs_cons]
    simp only [denXs, denSrcXs, RXs]
    exact ⟨_, _, rfl, ihv T st (fun p hp => hT p (Or.inl hp)), ih T _ (fun p hp => hT p (Or.inr hp))⟩

theorem relXs (T : Tbl Str) : ∀ (xs : List Src) (st : LabelSt) (d : Nat), SrcWFXs d xs = true →
    (∀ p ∈ drawnXs st xs, p ∈ T) → RXs T d (denXs (labelXs st xs).2) (denSrcXs xs) :=
  fun xs st d h hT => rel_all.2.2 xs d h T st hT

/-- literal re-insertion restores the meaning of a labelled document (comment entries at any dict level) -/
theorem insert_literals_labelled {es : SrcEntries} {c : Counter} (hwf : SrcPWFEs 1 es = true)
    (hc : C13.ValidCounter Gen.counterLimit c) (hn : countQuotedEs es ≤ Gen.counterLimit + 1) :
    insertLiterals (labelEs { counter := c } es).1.lits (denEs (labelEs { counter := c } es).2 []) =
      .ok (denPEs es []) := by
  obtain ⟨h1, h2, _⟩ := labelEs_state es { counter := c }
  have hnd : ((drawnEs { counter := c } es).map (·.1)).Nodup := by
    rw [h2]; exact C13.alloc_nodup hn hc
  have hle : ∀ p ∈ drawnEs { counter := c } es, p.1 ≤ 999999 := by
    intro p hp
    have : p.1 ∈ alloc Gen.counterLimit (countQuotedEs es) c := by
      rw [← h2]; exact List.mem_map.mpr ⟨p, hp, rfl⟩
    exact alloc_le _ _ _ _ this
  have hlits : (labelEs { counter := c } es).1.lits = drawnEs { counter := c } es := by
    rw [h1, setAll_nodup _ _ (by simpa using hnd)]
    rfl
  rw [hlits]
  exact insertLiterals_of_rel _ hnd hle (drawn_clean_all.2.1 es 1 hwf _) _ _
    (rel_all.2.1 es 1 hwf _ _ [] [] (fun _ hp => hp) (by simp only [REs]))

/-- Literal re-insertion restores the document's meaning: for a well-formed source document whose quoted strings
    were replaced by placeholder words with ids drawn from a valid counter (at most `limit + 1` of them, so that
    the wrapping counter hands out no id twice), `insertLiterals` over the recorded table, applied to the meaning
    of the placeholder tree, succeeds and yields exactly the meaning of the source document. -/
theorem insert_literals {es : SrcEntries} {c : Counter} (hwf : SrcWFEs 1 es = true)
    (hc : C13.ValidCounter Gen.counterLimit c) (hn : countQuotedEs es ≤ Gen.counterLimit + 1) :
    let r := labelEs { counter := c } es
    insertLiterals r.1.lits (denEs r.2 []) = .ok (denSrcEs es []) := by
  intro r
  rw [← C12.denPEs_plain es 1 [] hwf]
  exact insert_literals_labelled (C12.srcPWF_plain es 1 hwf) hc hn

/-- the reader after its comment stages on any admissible layout of a well-formed labelled document, from any lexer
    state with an empty literal table: the SDict is `C12.finishSD` of the document's meaning (taken apart through
    `dropDocKeys_clean`, `finish_hdr`, `finishSD_noPh`, never by unfolding `finishSD` against a `.clean`
    that has to be evaluated); the counter has advanced by the number of quoted strings -/
theorem parseRest_labelled_counter {es : SrcEntries} {gaps : List Str} {tail : Str} {st : LexSt}
    (h : SrcPWFEs 1 es = true) (hg : GapsOKS (srcToksPEs es) gaps = true) (ht : tail.all isWs = true)
    (hl : st.lits = []) (hc : C13.ValidCounter Gen.counterLimit st.counter)
    (hn : countQuotedEs es ≤ Gen.counterLimit + 1) :
    parseRest st (spreadS (srcToksPEs es) gaps tail) =
      .ok ((C12.finishSD (denPEs es []) st).1, adv Gen.counterLimit (countQuotedEs es) st.counter) := by
  have hlab : labOf st = ({ counter := st.counter } : LabelSt) := by
    simp only [labOf, hl]
  rw [C12.parseRest_eq, C12.parseBlockSt_labelled st es gaps tail h hg ht, hlab, insert_literals_labelled h hc hn]
  simp only [Except.map, C12.finishSD, withLab, (labelEs_state es { counter := st.counter }).2.2]

/-- a document without quoted strings records nothing … -/
theorem insert_literals_none {es : SrcEntries} (st : LabelSt) (h : countQuotedEs es = 0) :
    (labelEs st es).1.lits = st.lits := by
  obtain ⟨h1, h2, _⟩ := labelEs_state es st
  rw [h, alloc] at h2
  rw [h1, List.map_eq_nil_iff.mp h2, setAll_nil]

/-- … and re-insertion over an empty table is the identity -/
theorem insertLiterals_nil (d : Entries) : insertLiterals [] d = .ok d := rfl

theorem insert_literals_none' {es : SrcEntries} {c : Counter} (h : countQuotedEs es = 0) (d : Entries) :
    insertLiterals (labelEs { counter := c } es).1.lits d = .ok d := by
  rw [insert_literals_none _ h]; rfl

/-! ## non-vacuity: a document with two quoted strings, one in a dict (its content spells a number), one in a list -/

/-- `d { s '1.5'; }   l ( "two words" 7 );` -/
def exDoc : SrcEntries :=
  [ ("d".toList, .dict [("s".toList, .lit (.quoted '\'' "1.5".toList))]),
    ("l".toList, .list [.lit (.quoted '"' "two words".toList), .lit (.bare "7".toList)]) ]

theorem exDoc_wf : SrcWFEs 1 exDoc = true := by decide +kernel

theorem exDoc_count : countQuotedEs exDoc = 2 := by decide

theorem exDoc_label :
    (labelEs { counter := none } exDoc).1.lits = [(0, "1.5".toList), (1, "two words".toList)] ∧
    (labelEs { counter := none } exDoc).2 =
      [ (.str "d".toList, .dict [(.str "s".toList, .leaf (.str "STRINGLITERAL000000".toList))]),
        (.str "l".toList, .list [.leaf (.str "STRINGLITERAL000001".toList), .leaf (.str "7".toList)]) ] := by
  literal_chars; decide +kernel

/-- the document's meaning: the numeric content is typed (`'1.5'` is the float 1.5), the other literal keeps its text -/
theorem exDoc_den : denSrcEs exDoc [] =
    [ (.str "d".toList, .dict [(.str "s".toList, .leaf (.float "1.5".toList))]),
      (.str "l".toList, .list [.leaf (.str "two words".toList), .leaf (.int 7)]) ] := by
  literal_chars; decide +kernel

/-- left side of `insert_literals` for `c = none`, evaluated … -/
theorem exDoc_lhs :
    insertLiterals (labelEs { counter := none } exDoc).1.lits (denEs (labelEs { counter := none } exDoc).2 []) =
    .ok [ (.str "d".toList, .dict [(.str "s".toList, .leaf (.float "1.5".toList))]),
          (.str "l".toList, .list [.leaf (.str "two words".toList), .leaf (.int 7)]) ] := by
  apply ok_of_toOption
  literal_chars; decide +kernel

/-- … and the instance of the theorem -/
example : insertLiterals (labelEs { counter := none } exDoc).1.lits (denEs (labelEs { counter := none } exDoc).2 []) =
    .ok (denSrcEs exDoc []) :=
  insert_literals exDoc_wf (Or.inl rfl) (by rw [exDoc_count]; decide)

/-! #### the reserved-word hypothesis of `SrcWFEs` is needed

  `a 'STRINGLITERAL000001';  b 'x';` : the first literal's *content* looks like the placeholder of the second one.
  Re-insertion first restores `a`, then the second table entry matches the restored text (the test is "contains",
  and it runs over the whole tree again) and overwrites it: `a` comes back as `x`.  Such documents are excluded by
  `isSrcQuoted` (`!isInfix kwLit b`); `isSrcWord` excludes the same for bare words. -/

def exBad : SrcEntries :=
  [ ("a".toList, .lit (.quoted '\'' "STRINGLITERAL000001".toList)),
    ("b".toList, .lit (.quoted '\'' "x".toList)) ]

theorem exBad_result :
    insertLiterals (labelEs { counter := none } exBad).1.lits (denEs (labelEs { counter := none } exBad).2 []) =
      .ok [ (.str "a".toList, .leaf (.str "x".toList)), (.str "b".toList, .leaf (.str "x".toList)) ] ∧
    denSrcEs exBad [] =
      [ (.str "a".toList, .leaf (.str "STRINGLITERAL000001".toList)), (.str "b".toList, .leaf (.str "x".toList)) ] := by
  constructor
  · apply ok_of_toOption
    literal_chars; decide +kernel
  · literal_chars; decide +kernel

end DictIO.C02
