/-
  C12 -- stages 1 and 2 of the native reader (line comments, include directives) on a stretch of text, character by
  character.  Nothing here speaks of tokens or layouts; Props/C12stages.lean composes these stretches, and those of
  stage 3 (`BL_pass`, `BL_block`: Props/C02front.lean §4), along an admissible layout.

  Stages 1 and 2 over a stretch `p` in front of a text `q`: the relation `Seg` (stage 1, `LM`, moves its state; the
  first line, still incomplete, is no directive: `H2`; stage 2, `Incl.incMap`, over the lines the stretch completes:
  `Incl.TL`), closed under concatenation (`Seg.append`, `Seg.whole`).  Its stretch lemmas:
    `Seg.step`    one character in front of a text: the first line gets it, or a new line starts; CR LF
    `Seg.pass`    a stretch without `//` (`PassA`)
    `Seg.lineC`   a line comment up to its line feed
    `Seg.dir`     a directive line (`parse_dirText`, `lexInclude_dir`: stage 2 on it, extends `C18.parse_include_body`)
  `LM_pass`, `LM_lineC`: stage 1 alone; `noHash_complete`, `blockTok_noHash`, `blockTok_noSS`: a block comment is a
  stretch that stages 1 and 2 pass over.
-/
import DictIO.Props.C12idoc
import DictIO.Props.C18

namespace DictIO.C12
open DictIO

/-! ## 1. stage 1 (line comments), character by character -/

namespace Stages
open DictIO.C02.Main (nextSt noHash lineSt)

def consLine (c : Char) : List Str → List Str
  | [] => [[c]]
  | l :: ls => (c :: l) :: ls

theorem cr_break : isLineBreak '\r' = true := by decide

theorem split_crlf (r : Str) : splitLinesKeep ('\r' :: '\n' :: r) = ['\r', '\n'] :: splitLinesKeep r := by
  rw [splitLinesKeep]

theorem split_break {c : Char} (r : Str) (hb : isLineBreak c = true) (h : ¬(c = '\r' ∧ r.head? = some '\n')) :
    splitLinesKeep (c :: r) = [c] :: splitLinesKeep r := by
  rw [splitLinesKeep]
  · simp [hb]
  · intro r' e1 e2
    exact h ⟨e1, by rw [e2]; rfl⟩

theorem split_plain {c : Char} (r : Str) (hb : isLineBreak c = false) :
    splitLinesKeep (c :: r) = consLine c (splitLinesKeep r) := by
  rw [splitLinesKeep]
  · simp only [hb, Bool.false_eq_true, if_false]
    cases splitLinesKeep r <;> rfl
  · intro r' e1 _
    rw [e1, cr_break] at hb; cases hb

theorem lines_ne_nil (s : Str) : ∀ l ∈ splitLinesKeep s, l ≠ [] := by
  fun_induction splitLinesKeep s with
  | case1 => simp
  | case2 r ih => intro l hl; rcases List.mem_cons.mp hl with rfl | hl; simp; exact ih l hl
  | case3 c r hne hb ih => intro l hl; rcases List.mem_cons.mp hl with rfl | hl; simp; exact ih l hl
  | case4 c r hne hb hnil ih => simp
  | case5 c r hne hb l0 ls hcons ih =>
    intro l hl
    rcases List.mem_cons.mp hl with rfl | hl
    · simp
    · exact ih l (by rw [hcons]; simp [hl])

theorem first_line {s l : Str} {ls : List Str} (h : splitLinesKeep s = l :: ls) : l ≠ [] ∧ s = l ++ ls.flatten := by
  refine ⟨lines_ne_nil s l (by rw [h]; simp), ?_⟩
  have := C02.splitLines_flatten s
  rw [h] at this
  simpa using this.symm

theorem lines_nil {s : Str} (h : splitLinesKeep s = []) : s = [] := by
  have := C02.splitLines_flatten s
  rw [h] at this
  simpa using this.symm

/-- the loop of a reader stage over the lines (a fold that appends each line to those done) is the recursive map `m`
    that passes the state along -/
theorem foldl_stage {σ : Type} (f : σ → Str → σ × Str) (m : σ → List Str → σ × List Str) (hnil : ∀ s, m s [] = (s, []))
    (hcons : ∀ s l ls, m s (l :: ls) = ((m (f s l).1 ls).1, (f s l).2 :: (m (f s l).1 ls).2)) :
    ∀ (ls : List Str) (s : σ) (acc : List Str),
    ls.foldl (fun (acc : σ × List Str) l => let (s, l') := f acc.1 l; (s, acc.2 ++ [l'])) (s, acc) =
      ((m s ls).1, acc ++ (m s ls).2)
  | [], s, acc => by simp [hnil]
  | l :: ls, s, acc => by
    rw [List.foldl_cons, hcons]
    rcases f s l with ⟨s1, l'⟩
    simp only
    rw [foldl_stage f m hnil hcons ls s1 (acc ++ [l'])]
    simp

/-- stage 1 over a list of lines, as a recursive function -/
def lineMap (comments : Bool) : LexSt → List Str → LexSt × List Str
  | st, [] => (st, [])
  | st, l :: ls =>
    ((lineMap comments (lexLineComment comments st l).1 ls).1,
     (lexLineComment comments st l).2 :: (lineMap comments (lexLineComment comments st l).1 ls).2)

theorem foldl_lineMap (comments : Bool) : ∀ (ls : List Str) (st : LexSt) (acc : List Str),
    ls.foldl (fun (acc : LexSt × List Str) l =>
      let (st, l') := lexLineComment comments acc.1 l; (st, acc.2 ++ [l'])) (st, acc) =
      ((lineMap comments st ls).1, acc ++ (lineMap comments st ls).2) :=
  foldl_stage (lexLineComment comments) (lineMap comments) (fun _ => rfl) (fun _ _ _ => rfl)

/-- stage 1 on a text -/
def LM (comments : Bool) (st : LexSt) (s : Str) : LexSt × List Str := lineMap comments st (splitLinesKeep s)

theorem LM_nil (cm : Bool) (st : LexSt) : LM cm st [] = (st, []) := by simp [LM, splitLinesKeep, lineMap]

theorem findLC_prev (prev : Option Char) (l : Str) (h : ¬(prev = some ':' ∧ ['/', '/'] <+: l)) :
    findLineComment prev l = findLineComment none l := by
  cases l with
  | nil => simp [findLineComment]
  | cons c r =>
    by_cases hc : c = '/' ∧ r.head? = some '/'
    · obtain ⟨rfl, hr⟩ := hc
      cases r with
      | nil => simp at hr
      | cons d r' =>
        simp only [List.head?_cons, Option.some.injEq] at hr
        subst hr
        have hp : (prev == some ':') = false := by
          cases hpe : prev == some ':' with
          | false => rfl
          | true =>
            exact absurd ⟨by simpa using hpe, ⟨r', rfl⟩⟩ h
        simp [findLineComment, hp]
    · rw [findLineComment, findLineComment]
      · intro r' e1 e2; exact hc ⟨e1, by rw [e2]; rfl⟩
      · intro r' e1 e2; exact hc ⟨e1, by rw [e2]; rfl⟩

theorem findLC_shape (prev : Option Char) (l : Str) : ∀ b tail, findLineComment prev l = some (b, tail) →
    ∃ r, tail = '/' :: '/' :: r := by
  fun_induction findLineComment prev l with
  | case1 prev r hp ih =>
    intro b tail h
    simp only [Option.map_eq_some_iff] at h
    obtain ⟨⟨b', t'⟩, h1, h2⟩ := h
    simp only [Prod.mk.injEq] at h2
    obtain ⟨_, rfl⟩ := h2
    exact ih _ _ h1
  | case2 prev r hp =>
    intro b tail h
    simp only [Option.some.injEq, Prod.mk.injEq] at h
    exact ⟨r, h.2.symm⟩
  | case3 prev c r hne ih =>
    intro b tail h
    simp only [Option.map_eq_some_iff] at h
    obtain ⟨⟨b', t'⟩, h1, h2⟩ := h
    simp only [Prod.mk.injEq] at h2
    obtain ⟨_, rfl⟩ := h2
    exact ih _ _ h1
  | case4 => intro b tail h; cases h

theorem dropFinalNl_shape (r : Str) : ∃ r', (dropFinalNl ('/' :: '/' :: r)).1 = '/' :: '/' :: r' := by
  unfold dropFinalNl
  split
  · next hl =>
    cases r with
    | nil => simp at hl
    | cons d r' => exact ⟨(d :: r').dropLast, by simp [List.dropLast]⟩
  · exact ⟨r, rfl⟩

theorem replaceAll_cons (r' ph : Str) (c : Char) (l : Str) (h : ¬(c = '/' ∧ l.head? = some '/')) :
    replaceAll ('/' :: '/' :: r') ph (c :: l) = c :: replaceAll ('/' :: '/' :: r') ph l := by
  unfold replaceAll
  have hl : (c :: l).length + 1 = (l.length + 1) + 1 := rfl
  rw [hl, replaceAllFuel]
  have hp : ('/' :: '/' :: r').isPrefixOf (c :: l) = false := by
    cases l with
    | nil => simp [List.isPrefixOf]
    | cons d l' =>
      simp only [List.isPrefixOf, Bool.and_eq_false_imp, beq_iff_eq]
      intro e1 e2
      exact absurd ⟨e1.symm, by rw [← e2]; rfl⟩ h
  simp [hp]

/-- a character in front of a line that neither completes a `//` nor is a `:` in front of one is passed through -/
theorem lexLine_cons (cm : Bool) (st : LexSt) (c : Char) (l : Str) (h1 : ¬(c = '/' ∧ l.head? = some '/'))
    (h2 : ¬(c = ':' ∧ ['/', '/'] <+: l)) :
    lexLineComment cm st (c :: l) = ((lexLineComment cm st l).1, c :: (lexLineComment cm st l).2) := by
  have e1 : findLineComment none (c :: l) = (findLineComment (some c) l).map fun (b, t) => (c :: b, t) := by
    rw [findLineComment]
    intro r' e1 e2; exact h1 ⟨e1, by rw [e2]; rfl⟩
  have e2 : findLineComment (some c) l = findLineComment none l :=
    findLC_prev (some c) l (fun ⟨a, b⟩ => h2 ⟨by simpa using a, b⟩)
  unfold lexLineComment
  rw [e1, e2]
  cases hf : findLineComment none l with
  | none => rfl
  | some p =>
    obtain ⟨b, tail⟩ := p
    simp only [Option.map_some]
    rcases dropFinalNl tail with ⟨cmt, nl⟩
    rfl

theorem lexLine_single (cm : Bool) (st : LexSt) (c : Char) : lexLineComment cm st [c] = (st, [c]) :=
  C02.lexLineComment_id cm st (C02.Main.infix2_single _ _ _)

theorem lexLine_crlf (cm : Bool) (st : LexSt) : lexLineComment cm st ['\r', '\n'] = (st, ['\r', '\n']) :=
  C02.lexLineComment_id cm st (by decide)

theorem LM_crlf (cm : Bool) (st : LexSt) (r : Str) :
    LM cm st ('\r' :: '\n' :: r) = ((LM cm st r).1, ['\r', '\n'] :: (LM cm st r).2) := by
  simp only [LM, split_crlf, lineMap, lexLine_crlf]

theorem LM_break (cm : Bool) (st : LexSt) {c : Char} (r : Str) (hb : isLineBreak c = true)
    (h : ¬(c = '\r' ∧ r.head? = some '\n')) :
    LM cm st (c :: r) = ((LM cm st r).1, [c] :: (LM cm st r).2) := by
  simp only [LM, split_break r hb h, lineMap, lexLine_single]

theorem LM_plain (cm : Bool) (st : LexSt) {c : Char} (r : Str) (hb : isLineBreak c = false)
    (h1 : ¬(c = '/' ∧ r.head? = some '/')) (h2 : ¬(c = ':' ∧ ['/', '/'] <+: r)) :
    LM cm st (c :: r) = ((LM cm st r).1, consLine c (LM cm st r).2) := by
  simp only [LM, split_plain r hb]
  cases hs : splitLinesKeep r with
  | nil => simp only [consLine, lineMap, lexLine_single]
  | cons l ls =>
    obtain ⟨hne, hr⟩ := first_line hs
    have h1' : ¬(c = '/' ∧ l.head? = some '/') := by
      rintro ⟨e1, e2⟩
      refine h1 ⟨e1, ?_⟩
      rw [hr]
      cases l with
      | nil => exact absurd rfl hne
      | cons d l' => simpa using e2
    have h2' : ¬(c = ':' ∧ ['/', '/'] <+: l) := by
      rintro ⟨e1, e2⟩
      refine h2 ⟨e1, ?_⟩
      rw [hr]
      exact e2.trans (List.prefix_append _ _)
    simp only [consLine, lineMap, lexLine_cons cm st c l h1' h2']

/-- no include directive on the line -/
def IFree (l : Str) : Prop := (dropWs l).head? ≠ some '#'

/-- when only white space precedes it on its line, the first line is no directive -/
def H2 (bit : Bool) (ls : List Str) : Prop := bit = true → ∀ l ∈ ls.head?, IFree l

theorem h2_weaken {ls : List Str} (h : H2 true ls) (b : Bool) : H2 b ls := fun _ => h rfl

theorem h2_cons {l : Str} (h : IFree l) (b : Bool) (ls : List Str) : H2 b (l :: ls) := fun _ l' hl => by
  simp only [List.head?_cons, Option.mem_def, Option.some.injEq] at hl
  subst hl
  exact h

theorem iFree_ws {c : Char} (h : isWs c = true) (l : Str) : IFree (c :: l) ↔ IFree l := by
  simp only [IFree, C02.Main.dropWs_cons_ws h]

theorem iFree_nws {c : Char} (h : isWs c = false) (hc : c ≠ '#') (l : Str) : IFree (c :: l) := by
  simp [IFree, C02.Main.dropWs_cons_nws h, hc]

theorem iFree_nil : IFree [] := by simp [IFree, dropWs]

theorem iFree_any {c : Char} (hc : c ≠ '#') : IFree [c] := by
  cases hw : isWs c with
  | true => exact (iFree_ws hw []).mpr iFree_nil
  | false => exact iFree_nws hw hc []

end Stages

namespace Incl
open Stages

def incMap (dir : Str) : LexSt → List Str → LexSt × List Str
  | st, [] => (st, [])
  | st, l :: ls =>
    ((incMap dir (lexInclude dir st l).1 ls).1,
     (lexInclude dir st l).2 :: (incMap dir (lexInclude dir st l).1 ls).2)

theorem foldl_incMap (dir : Str) : ∀ (ls : List Str) (st : LexSt) (acc : List Str),
    ls.foldl (fun (acc : LexSt × List Str) l =>
      let (st, l') := lexInclude dir acc.1 l; (st, acc.2 ++ [l'])) (st, acc) =
      ((incMap dir st ls).1, acc ++ (incMap dir st ls).2) :=
  foldl_stage (lexInclude dir) (incMap dir) (fun _ => rfl) (fun _ _ _ => rfl)

def incFlat (dir : Str) (st : LexSt) (ls : List Str) : LexSt × Str :=
  ((incMap dir st ls).1, (incMap dir st ls).2.flatten)

/-- stage 2 over all lines but the first, which is copied (it is incomplete: more text will be put in front of it) -/
def TL (dir : Str) (st : LexSt) (ls : List Str) : LexSt × Str :=
  ((incMap dir st ls.tail).1, ls.headD [] ++ (incMap dir st ls.tail).2.flatten)

theorem TL_nil (dir : Str) (st : LexSt) : TL dir st [] = (st, []) := rfl

theorem TL_cons (dir : Str) (st : LexSt) (l : Str) (ls : List Str) :
    TL dir st (l :: ls) = ((incMap dir st ls).1, l ++ (incMap dir st ls).2.flatten) := rfl

theorem incFlat_of_free (dir : Str) (st : LexSt) {ls : List Str} (h : H2 true ls) : incFlat dir st ls = TL dir st ls := by
  cases ls with
  | nil => rfl
  | cons l ls =>
    have := C02.lexInclude_id dir st (h rfl l (by simp))
    simp only [incFlat, incMap, this, TL_cons, List.flatten_cons]

theorem TL_consLine (dir : Str) (st : LexSt) (c : Char) (ls : List Str) :
    TL dir st (consLine c ls) = ((TL dir st ls).1, c :: (TL dir st ls).2) := by
  cases ls <;> rfl

end Incl

namespace Stages
open Incl
open DictIO.C02.Main (nextSt noHash lineSt)

/-- `c` in front of `r` is passed through and leaves what stage 1 does to `r` as it is: it starts no `//`, and is no `:`
    in front of one (`findLineComment` does not take a `//` behind `:`) -/
def PassC (c : Char) (r : Str) : Prop := ¬(c = '/' ∧ r.head? = some '/') ∧ ¬(c = ':' ∧ ['/', '/'] <+: r)

/-- **a stretch of text through stages 1 and 2.**  `p` stands in front of `q`.  Stage 1 over `p` takes its state from
    `st` to `st'`.  If the first line of what stage 1 makes of `q` (incomplete: `p` ends in front of it) is no directive
    (asked when `b'`), then the first line of the whole is none (when `b`), and stage 2 over the lines `p` completes,
    started in any state `s`, goes on in state `f s` and leaves `out s` for the stretch (`TL`: the first line is copied). -/
def Seg (cm : Bool) (dir : Str) (p q : Str) (st st' : LexSt) (f : LexSt → LexSt) (out : LexSt → Str) (b b' : Bool) :
    Prop :=
  (LM cm st (p ++ q)).1 = (LM cm st' q).1 ∧
  (H2 b' (LM cm st' q).2 →
    H2 b (LM cm st (p ++ q)).2 ∧
    ∀ s, TL dir s (LM cm st (p ++ q)).2 = ((TL dir (f s) (LM cm st' q).2).1, out s ++ (TL dir (f s) (LM cm st' q).2).2))

theorem Seg.nil (cm : Bool) (dir : Str) (st : LexSt) (q : Str) (b : Bool) : Seg cm dir [] q st st id (fun _ => []) b b :=
  ⟨rfl, fun h => ⟨h, fun _ => rfl⟩⟩

theorem Seg.append {cm : Bool} {dir : Str} {p1 p2 q : Str} {st st1 st' : LexSt} {f g : LexSt → LexSt}
    {o1 o2 : LexSt → Str} {b b1 b' : Bool}
    (h1 : Seg cm dir p1 (p2 ++ q) st st1 f o1 b b1) (h2 : Seg cm dir p2 q st1 st' g o2 b1 b') :
    Seg cm dir (p1 ++ p2) q st st' (g ∘ f) (fun s => o1 s ++ o2 (f s)) b b' := by
  rw [Seg, List.append_assoc]
  refine ⟨h1.1.trans h2.1, fun hq => ?_⟩
  obtain ⟨a1, a2⟩ := h2.2 hq
  obtain ⟨c1, c2⟩ := h1.2 a1
  exact ⟨c1, fun s => by rw [c2 s, a2 (f s)]; simp⟩

theorem Seg.append_end {cm : Bool} {dir : Str} {p1 p2 : Str} {st st1 st' : LexSt} {f g : LexSt → LexSt}
    {o1 o2 : LexSt → Str} {b b1 b' : Bool}
    (h1 : Seg cm dir p1 p2 st st1 f o1 b b1) (h2 : Seg cm dir p2 [] st1 st' g o2 b1 b') :
    Seg cm dir (p1 ++ p2) [] st st' (g ∘ f) (fun s => o1 s ++ o2 (f s)) b b' :=
  Seg.append (by rwa [List.append_nil]) h2

theorem Seg.weaken {cm : Bool} {dir : Str} {p q : Str} {st st' : LexSt} {f : LexSt → LexSt} {o : LexSt → Str} {b b' : Bool}
    (h : Seg cm dir p q st st' f o b b') : Seg cm dir p q st st' f o b true :=
  ⟨h.1, fun hq => h.2 (h2_weaken hq b')⟩

theorem Seg.congr {cm : Bool} {dir : Str} {p q : Str} {st st' st'' : LexSt} {f f' : LexSt → LexSt} {o o' : LexSt → Str}
    {b b' : Bool} (h : Seg cm dir p q st st' f o b b') (e0 : st' = st'') (e1 : ∀ s, f s = f' s) (e2 : ∀ s, o s = o' s) :
    Seg cm dir p q st st'' f' o' b b' := by
  obtain rfl := e0; obtain rfl := funext e1; obtain rfl := funext e2; exact h

theorem Seg.whole {cm : Bool} {dir : Str} {p : Str} {st st' : LexSt} {f : LexSt → LexSt} {o : LexSt → Str} {b b' : Bool}
    (h : Seg cm dir p [] st st' f o b b') :
    (LM cm st p).1 = st' ∧ H2 b (LM cm st p).2 ∧ ∀ s, TL dir s (LM cm st p).2 = (f s, o s) := by
  obtain ⟨h1, h2⟩ := h
  simp only [List.append_nil, LM_nil, TL_nil] at h1 h2
  obtain ⟨a1, a2⟩ := h2 (fun _ l hl => by cases hl)
  exact ⟨h1, a1, a2⟩

theorem Seg.step (cm : Bool) (dir : Str) (st : LexSt) {c : Char} {r : Str} (h : PassC c r) {b : Bool}
    (hc : b = true → c ≠ '#') : Seg cm dir [c] r st st id (fun _ => [c]) b (nextSt b c) := by
  show (LM cm st (c :: r)).1 = _ ∧ (_ → H2 b (LM cm st (c :: r)).2 ∧ ∀ s, TL dir s (LM cm st (c :: r)).2 = _)
  by_cases hb : isLineBreak c = true
  · have hws := C02.Main.lineBreak_ws hb
    have hnext : nextSt b c = true := by simp [nextSt, hb]
    by_cases hcr : c = '\r' ∧ r.head? = some '\n'
    · obtain ⟨rfl, hr⟩ := hcr
      cases r with
      | nil => simp at hr
      | cons d r2 =>
        simp only [List.head?_cons, Option.some.injEq] at hr
        subst hr
        rw [LM_crlf, LM_break cm st r2 C02.isLineBreak_nl (by simp)]
        exact ⟨rfl, fun _ => ⟨h2_cons (by simp [IFree]; decide) _ _, fun s => by simp only [TL_cons]; rfl⟩⟩
    · rw [LM_break cm st r hb hcr, hnext]
      -- the first line of `r` is complete now: stage 2 looks at it, and it is no directive
      refine ⟨rfl, fun hinv => ⟨h2_cons ((iFree_ws hws []).mpr iFree_nil) _ _, fun s => ?_⟩⟩
      have := incFlat_of_free dir s hinv
      simp only [incFlat] at this
      show _ = ((TL dir s _).1, [c] ++ (TL dir s _).2)
      rw [TL_cons, ← this]
  · have hb' : isLineBreak c = false := by simpa using hb
    have hnext : nextSt b c = (b && isWs c) := by simp [nextSt, hb']
    rw [LM_plain cm st r hb' h.1 h.2, hnext]
    refine ⟨rfl, fun hinv => ⟨?_, fun s => TL_consLine dir s c _⟩⟩
    intro hbt l hl
    cases hls : (LM cm st r).2 with
    | nil =>
      rw [hls] at hl
      simp only [consLine, List.head?_cons, Option.mem_def, Option.some.injEq] at hl
      subst hl
      exact iFree_any (hc hbt)
    | cons l0 ls =>
      rw [hls] at hl hinv
      simp only [consLine, List.head?_cons, Option.mem_def, Option.some.injEq] at hl
      subst hl
      cases hw : isWs c with
      | true =>
        rw [iFree_ws hw]
        exact hinv (by simp [hbt, hw]) l0 (by simp)
      | false => exact iFree_nws hw (hc hbt) _

def PassA : Str → Str → Prop
  | [], _ => True
  | c :: p, q => PassC c (p ++ q) ∧ PassA p q

theorem Seg.pass (cm : Bool) (dir : Str) (st : LexSt) : ∀ (p q : Str) (b : Bool), PassA p q → noHash b p = true →
    Seg cm dir p q st st id (fun _ => p) b (lineSt b p)
  | [], q, b, _, _ => Seg.nil cm dir st q b
  | c :: p, q, b, h, hn => by
    simp only [noHash, Bool.and_eq_true, Bool.not_eq_true', Bool.and_eq_false_imp, beq_eq_false_iff_ne] at hn
    exact (Seg.step cm dir st h.1 hn.1).append (Seg.pass cm dir st p q (nextSt b c) h.2 hn.2)

theorem passA_plain : ∀ (p q : Str), (∀ c ∈ p, c ≠ '/' ∧ c ≠ ':') → PassA p q
  | [], _, _ => trivial
  | c :: p, q, h =>
    ⟨⟨fun e => (h c (by simp)).1 e.1, fun e => (h c (by simp)).2 e.1⟩,
      passA_plain p q (fun d hd => h d (by simp [hd]))⟩

theorem passA_of : ∀ (p q : Str), isInfix ['/', '/'] p = false → q.head? ≠ some '/' → PassA p q
  | [], _, _, _ => trivial
  | _ :: p, q, h, hq =>
    ⟨⟨fun ⟨e, e'⟩ => noPair_head (e ▸ h) hq e', fun ⟨_, e'⟩ => noPair_prefix (isInfix_tail_false h) hq e'⟩,
      passA_of p q (isInfix_tail_false h) hq⟩

theorem delim_ne : ∀ c ∈ Gen.delimiters, c ≠ '/' ∧ c ≠ ':' ∧ c ≠ '*' ∧ c ≠ '#' ∧ isWs c = false := fun c h =>
  ⟨(delim_noMark h).slash, (delim_noMark h).colon, (delim_noMark h).star, (delim_noMark h).hash, (delim_table c h).1⟩

theorem lines_nobreak_nl : ∀ (a b : Str), (∀ c ∈ a, isLineBreak c = false) →
    splitLinesKeep (a ++ '\n' :: b) = (a ++ ['\n']) :: splitLinesKeep b
  | [], b, _ => split_break b C02.isLineBreak_nl (by simp)
  | c :: a, b, h => by
    rw [List.cons_append, split_plain _ (h c (by simp)), lines_nobreak_nl a b (fun d hd => h d (by simp [hd]))]
    rfl

theorem lines_nobreak : ∀ (a : Str), a ≠ [] → (∀ c ∈ a, isLineBreak c = false) → splitLinesKeep a = [a]
  | [], h, _ => absurd rfl h
  | [c], _, h => by rw [split_plain _ (h c (by simp))]; rfl
  | c :: d :: a, _, h => by
    rw [split_plain _ (h c (by simp)), lines_nobreak (d :: a) (by simp) (fun e he => h e (by simp [he]))]
    rfl

/-- the lexer state after a line comment with text `x` -/
def stL (st : LexSt) (x : Str) : LexSt :=
  { st.fresh.2 with lineC := st.fresh.2.lineC.set st.fresh.1 ('/' :: '/' :: x) }

/-- the placeholder the next line comment gets -/
def phL (cm : Bool) (st : LexSt) : Str := if cm then kwLine ++ padSix st.fresh.1 else []

theorem nl_not_mem {x : Str} (hx : ∀ c ∈ x, isLineBreak c = false) : '\n' ∉ x := fun hm => by
  have := hx _ hm; rw [C02.isLineBreak_nl] at this; cases this

theorem lexLine_comment (cm : Bool) (st : LexSt) (x nl : Str) (hx : ∀ c ∈ x, isLineBreak c = false)
    (hnl : nl = [] ∨ nl = ['\n']) :
    lexLineComment cm st ('/' :: '/' :: x ++ nl) = (stL st x, phL cm st ++ nl) := by
  have := C12_lineComment cm st [] x nl (by simp) (by simp) (nl_not_mem hx) hnl
  simpa [stL, phL] using this

theorem iFree_ph (cm : Bool) (st : LexSt) (nl : Str) (hnl : nl = [] ∨ nl = ['\n']) : IFree (phL cm st ++ nl) := by
  cases cm with
  | true =>
    -- the first character of a placeholder word is a capital
    show IFree (Ph.ph .line st.fresh.1 ++ nl)
    cases h : Ph.ph .line st.fresh.1 with
    | nil => exact absurd (List.append_eq_nil_iff.mp h).1 (Ph.kw_ne_nil (Ph.kw_mem .line))
    | cons c r =>
      have p := Ph.plain .line st.fresh.1 c (by rw [h]; simp)
      exact iFree_nws p.nws (p.ne (by decide)) _
  | false =>
    rcases hnl with rfl | rfl
    · simpa [phL] using iFree_nil
    · simp [phL, IFree]; decide

theorem Seg.lineC (cm : Bool) (dir : Str) (st : LexSt) {x q : Str} (b b' : Bool) (hx : ∀ c ∈ x, isLineBreak c = false)
    (hq : q = [] ∨ q.head? = some '\n') :
    Seg cm dir ('/' :: '/' :: x) q st (stL st x) id (fun _ => phL cm st) b b' := by
  suffices h : (LM cm st ('/' :: '/' :: x ++ q)).1 = (LM cm (stL st x) q).1 ∧
      H2 true (LM cm st ('/' :: '/' :: x ++ q)).2 ∧
      ∀ s, TL dir s (LM cm st ('/' :: '/' :: x ++ q)).2 =
        ((TL dir s (LM cm (stL st x) q).2).1, phL cm st ++ (TL dir s (LM cm (stL st x) q).2).2) from
    ⟨h.1, fun _ => ⟨h2_weaken h.2.1 b, h.2.2⟩⟩
  have hx' : ∀ c ∈ '/' :: '/' :: x, isLineBreak c = false := by
    intro c hc
    simp only [List.mem_cons] at hc
    rcases hc with rfl | rfl | hc
    · decide
    · decide
    · exact hx c hc
  rcases hq with rfl | hq
  · have h1 := lexLine_comment cm st x [] hx (Or.inl rfl)
    simp only [List.append_nil] at h1 ⊢
    simp only [LM, lines_nobreak _ (by simp) hx', lineMap, h1, splitLinesKeep]
    exact ⟨trivial, h2_cons (by simpa using iFree_ph cm st [] (Or.inl rfl)) _ _,
      fun s => by simp [TL_cons, TL_nil, incMap]⟩
  · cases q with
    | nil => simp at hq
    | cons d q' =>
      simp only [List.head?_cons, Option.some.injEq] at hq
      subst hq
      have h1 := lexLine_comment cm st x ['\n'] hx (Or.inr rfl)
      rw [LM_break cm (stL st x) q' C02.isLineBreak_nl (by simp)]
      simp only [LM, lines_nobreak_nl _ q' hx', lineMap, h1]
      exact ⟨trivial, h2_cons (iFree_ph cm st ['\n'] (Or.inr rfl)) _ _, fun s => by simp [TL_cons]⟩

/-! ### stage 1 alone on a stretch of text

What stage 1 does to the lines, whatever stage 2 makes of them: the text stays as it is (`.flatten`; a line comment
becomes its placeholder word), and no line the stretch completes is a directive (`InvB`). -/

def InvB (bit : Bool) (ls : List Str) : Prop := (∀ l ∈ ls.tail, IFree l) ∧ H2 bit ls

theorem invB_all {ls : List Str} (h : InvB true ls) : ∀ l ∈ ls, IFree l := by
  cases ls with
  | nil => simp
  | cons l0 ls =>
    intro l hl
    rcases List.mem_cons.mp hl with rfl | hl
    · exact h.2 rfl l (by simp)
    · exact h.1 l hl

/-- one character that stage 1 passes through: when it ends a line, the line behind it joins the complete ones -/
theorem LM_step_lines (cm : Bool) (st : LexSt) {c : Char} {r : Str} (h : PassC c r) :
    (LM cm st (c :: r)).2.flatten = c :: (LM cm st r).2.flatten ∧
    ∀ b, H2 (nextSt b c) (LM cm st r).2 → (∀ l ∈ (LM cm st r).2.tail, IFree l) →
      ∀ l ∈ (LM cm st (c :: r)).2.tail, IFree l := by
  by_cases hb : isLineBreak c = true
  · by_cases hcr : c = '\r' ∧ r.head? = some '\n'
    · obtain ⟨rfl, hr⟩ := hcr
      cases r with
      | nil => simp at hr
      | cons d r2 =>
        simp only [List.head?_cons, Option.some.injEq] at hr
        subst hr
        rw [LM_crlf, LM_break cm st r2 C02.isLineBreak_nl (by simp)]
        exact ⟨by simp, fun _ _ ht => ht⟩
    · rw [LM_break cm st r hb hcr]
      refine ⟨by simp, fun b hinv ht => invB_all ⟨ht, ?_⟩⟩
      rwa [show nextSt b c = true by simp [nextSt, hb]] at hinv
  · have hb' : isLineBreak c = false := by simpa using hb
    rw [LM_plain cm st r hb' h.1 h.2]
    generalize (LM cm st r).2 = ls
    cases ls <;> exact ⟨by simp [consLine], fun _ _ ht => ht⟩

theorem LM_pass (cm : Bool) : ∀ (p q : Str) (st : LexSt), PassA p q →
    (LM cm st (p ++ q)).1 = (LM cm st q).1 ∧ (LM cm st (p ++ q)).2.flatten = p ++ (LM cm st q).2.flatten ∧
    ∀ b, noHash b p = true → InvB (lineSt b p) (LM cm st q).2 → InvB b (LM cm st (p ++ q)).2
  | [], q, st, _ => ⟨rfl, rfl, fun _ _ h => h⟩
  | c :: p, q, st, h => by
    obtain ⟨i1, i2, i3⟩ := LM_pass cm p q st h.2
    obtain ⟨s2, s3⟩ := LM_step_lines cm st h.1
    rw [List.cons_append]
    refine ⟨(Seg.step cm [] st h.1 (b := false) (fun hb => by cases hb)).1.trans i1, by rw [s2, i2]; rfl,
      fun b hn hinv => ?_⟩
    simp only [noHash, Bool.and_eq_true, Bool.not_eq_true', Bool.and_eq_false_imp, beq_eq_false_iff_ne] at hn
    obtain ⟨j1, j2⟩ := i3 (nextSt b c) hn.2 ⟨hinv.1, by simpa [lineSt] using hinv.2⟩
    exact ⟨s3 b j2 j1, ((Seg.step cm [] st h.1 (fun hb => hn.1 hb)).2 j2).1⟩

theorem LM_lineC (cm : Bool) (st : LexSt) (x q : Str) (hx : ∀ c ∈ x, isLineBreak c = false)
    (hq : q = [] ∨ q.head? = some '\n') :
    (LM cm st ('/' :: '/' :: x ++ q)).1 = (LM cm (stL st x) q).1 ∧
    (LM cm st ('/' :: '/' :: x ++ q)).2.flatten = phL cm st ++ (LM cm (stL st x) q).2.flatten ∧
    (InvB true (LM cm (stL st x) q).2 → InvB true (LM cm st ('/' :: '/' :: x ++ q)).2) := by
  -- the comment is one line: the lines behind its line end are those of `q`
  have hlines : (LM cm st ('/' :: '/' :: x ++ q)).2.flatten = phL cm st ++ (LM cm (stL st x) q).2.flatten ∧
      (LM cm st ('/' :: '/' :: x ++ q)).2.tail = (LM cm (stL st x) q).2.tail := by
    have hx' : ∀ c ∈ '/' :: '/' :: x, isLineBreak c = false := by
      simp only [List.mem_cons]
      rintro c (rfl | rfl | hc)
      · decide
      · decide
      · exact hx c hc
    rcases hq with rfl | hq
    · have h1 := lexLine_comment cm st x [] hx (Or.inl rfl)
      simp only [List.append_nil] at h1 ⊢
      simp only [LM, lines_nobreak _ (by simp) hx', lineMap, h1, splitLinesKeep]
      simp
    · cases q with
      | nil => simp at hq
      | cons d q' =>
        simp only [List.head?_cons, Option.some.injEq] at hq
        subst hq
        have h1 := lexLine_comment cm st x ['\n'] hx (Or.inr rfl)
        rw [LM_break cm (stL st x) q' C02.isLineBreak_nl (by simp)]
        simp only [LM, lines_nobreak_nl _ q' hx', lineMap, h1]
        simp
  obtain ⟨h1, h2⟩ := Seg.lineC cm [] st true true hx hq
  exact ⟨h1, hlines.1, fun hinv => ⟨by rw [hlines.2]; exact hinv.1, (h2 hinv.2).1⟩⟩

theorem iFree_head {c : Char} {l : Str} (h : IFree (c :: l)) : c ≠ '#' := by
  rintro rfl
  exact h (by simp [C02.Main.dropWs_cons_nws (by decide : isWs '#' = false)])

/-- the scan `noHash` is complete for `splitLinesKeep` -/
theorem noHash_complete (s : Str) : ∀ b, (∀ l ∈ (splitLinesKeep s).tail, IFree l) →
    (b = true → ∀ l ∈ (splitLinesKeep s).head?, IFree l) → noHash b s = true := by
  fun_induction splitLinesKeep s with
  | case1 => intro b _ _; rfl
  | case2 r ih =>
    intro b h1 _
    have e1 : nextSt b '\r' = true := by simp [nextSt]; left; decide
    have e2 : nextSt true '\n' = true := by simp [nextSt]; decide
    have := ih true (fun l hl => h1 l (by simp [List.mem_of_mem_tail hl]))
      (fun _ l hl => h1 l (by simp [List.mem_of_mem_head? hl]))
    simp [noHash, e1, e2, this]
  | case3 c r hne hb ih =>
    intro b h1 _
    have e1 : nextSt b c = true := by simp [nextSt, hb]
    have hc : c ≠ '#' := (ws_noMark (C02.Main.lineBreak_ws hb)).hash
    have := ih true (fun l hl => h1 l (by simp [List.mem_of_mem_tail hl]))
      (fun _ l hl => h1 l (by simp [List.mem_of_mem_head? hl]))
    simp [noHash, e1, this, hc]
  | case4 c r hne hb hnil ih =>
    intro b _ h2
    have hr := lines_nil hnil
    subst hr
    simp only [noHash, Bool.and_true, Bool.not_eq_true', Bool.and_eq_false_imp, beq_eq_false_iff_ne]
    intro hb
    exact iFree_head (h2 hb [c] (by simp))
  | case5 c r hne hb l0 ls hcons ih =>
    intro b h1 h2
    have hb' : isLineBreak c = false := by simpa using hb
    rw [hcons] at ih
    have hc : b = true → c ≠ '#' := fun hbt => iFree_head (h2 hbt (c :: l0) (by simp))
    have := ih (b && isWs c) (by simpa using h1) (by
      intro hbw l hl
      simp only [List.head?_cons, Option.mem_def, Option.some.injEq] at hl
      subst hl
      simp only [Bool.and_eq_true] at hbw
      have := h2 hbw.1 (c :: l0) (by simp)
      rwa [iFree_ws hbw.2] at this)
    simp only [noHash, nextSt, hb', Bool.false_eq_true, if_false, this, Bool.and_true, Bool.not_eq_true',
      Bool.and_eq_false_imp, beq_eq_false_iff_ne]
    exact hc

theorem noHash_mono : ∀ (s : Str), noHash true s = true → noHash false s = true
  | [], _ => rfl
  | c :: s, h => by
    simp only [noHash, Bool.and_eq_true] at h ⊢
    refine ⟨by simp, ?_⟩
    by_cases hb : isLineBreak c = true
    · simpa [nextSt, hb] using h.2
    · have hb' : isLineBreak c = false := by simpa using hb
      simp only [nextSt, hb', Bool.false_eq_true, if_false, Bool.false_and] at h ⊢
      cases hw : isWs c with
      | true => rw [hw] at h; exact noHash_mono s h.2
      | false => rw [hw] at h; simpa using h.2

/-- everything `isBlockCText` says -/
theorem blockText_iff {x : Str} : isBlockCText x = true ↔
    isInfix ['*', '/'] x = false ∧ isInfix ['/', '/'] x = false ∧ x.getLast? ≠ some '*' ∧ x.head? ≠ some '/' ∧
    ∀ l ∈ splitLinesKeep x, IFree l := by
  simp only [isBlockCText, IFree, Bool.and_eq_true, Bool.not_eq_true', List.all_eq_true, bne_iff_ne, ne_eq,
    beq_eq_false_iff_ne, and_assoc]

theorem blockTok_noHash {x : Str} (hx : isBlockCText x = true) (b : Bool) :
    noHash b ('/' :: '*' :: x ++ ['*', '/']) = true ∧ lineSt b ('/' :: '*' :: x ++ ['*', '/']) = false := by
  obtain ⟨_, _, _, _, hl⟩ := blockText_iff.mp hx
  have h1 : noHash false x = true :=
    noHash_mono x (noHash_complete x true (fun l hl' => hl l (List.mem_of_mem_tail hl'))
      (fun _ l hl' => hl l (List.mem_of_mem_head? hl')))
  have c1 : isLineBreak '/' = false := by decide
  have c2 : isWs '/' = false := by decide
  have c3 : isLineBreak '*' = false := by decide
  have c4 : isWs '*' = false := by decide
  have e1 : nextSt b '/' = false := by simp [nextSt, c1, c2]
  have e2 : nextSt false '*' = false := by simp [nextSt, c3]
  have e3 : ∀ b, nextSt b '*' = false := by intro b; simp [nextSt, c3, c4]
  have e4 : nextSt false '/' = false := by simp [nextSt, c1]
  have a1 : '/' :: '*' :: x ++ ['*', '/'] = ['/', '*'] ++ (x ++ ['*', '/']) := by simp
  have hend : ∀ b, noHash b ['*', '/'] = true ∧ lineSt b ['*', '/'] = false := by
    intro b
    simp [noHash, lineSt, e3, e4]
  constructor
  · rw [a1, C02.Main.noHash_append, C02.Main.noHash_append]
    simp [noHash, lineSt, e1, e2, h1]
  · have lineSt_append : ∀ (a c : Str) (b : Bool), lineSt b (a ++ c) = lineSt (lineSt b a) c := by
      intro a c
      induction a with
      | nil => intro b; rfl
      | cons d a ih => intro b; simp [lineSt, ih]
    rw [a1, lineSt_append, lineSt_append, (hend _).2]

theorem blockTok_noSS {x : Str} (hx : isBlockCText x = true) :
    isInfix ['/', '/'] ('/' :: '*' :: x ++ ['*', '/']) = false := by
  obtain ⟨_, h2, _, h4, _⟩ := blockText_iff.mp hx
  have a1 : '/' :: '*' :: x ++ ['*', '/'] = (['/', '*'] ++ x) ++ ['*', '/'] := by simp
  rw [a1]
  refine C02.Main.infix2_append (C02.Main.infix2_append (by decide) h2 ?_) (by decide) ?_
  · intro h _; simp at h
  · intro _ h; simp at h

end Stages

/-! ## 2. stage 2 on a directive line -/

namespace Incl
open Stages
open DictIO.C02.Main (nextSt noHash lineSt)

/-- `\s*$` removes the white space behind the argument -/
theorem rstrip_ws {body ws : Str} {l : Char} (hl : body.getLast? = some l) (hw : isWs l = false)
    (hws : ws.all isWs = true) : ((body ++ ws).reverse.dropWhile isWs).reverse = body := by
  rw [List.reverse_append, List.dropWhile_append_of_pos (by simpa using hws)]
  exact C18.rstrip_of_last hl hw

/-- `C18.parse_include_body` with white space (the line end) behind the argument -/
theorem parse_dir_line {b l : Char} {bs ws : Str} (hb : isWs b = false) (hl : (b :: bs).getLast? = some l)
    (hlw : isWs l = false) (hws : ws.all isWs = true) :
    parseIncludeLine ("#include ".toList ++ (b :: bs) ++ ws) = some (removeQuotes (b :: bs)) := by
  rw [C18.includeKw_lit]
  simp only [parseIncludeLine, C18.include_lit, dropWs, List.cons_append, List.nil_append, List.dropWhile, C18.isWs_hash,
    C18.isWs_i]
  simp only [List.isPrefixOf, List.drop, beq_self_eq_true, Bool.true_and, if_true, List.dropWhile, isWs_space, hb]
  have := rstrip_ws hl hlw hws
  simp only [List.cons_append] at this
  rw [this]

/-- everything `isInclName` says -/
theorem inclName_iff {q : Option Char} {name : Str} : isInclName q name = true ↔
    isInfix ['/', '/'] name = false ∧
    (match q with
     | none => name ≠ [] ∧ ∀ c ∈ name, isQuote c = false ∧ isWs c = false
     | some q => isQuote q = true ∧ ∀ c ∈ name, isLineBreak c = false) := by
  cases q <;>
    simp [isInclName, List.all_eq_true]

theorem parse_dirText {q : Option Char} {name ws : Str} (h : isInclName q name = true) (hws : ws.all isWs = true) :
    parseIncludeLine (dirText q name ++ ws) = some name := by
  obtain ⟨_, h2⟩ := inclName_iff.mp h
  cases q with
  | none =>
    obtain ⟨hne, hc⟩ := h2
    cases name with
    | nil => exact absurd rfl hne
    | cons b bs =>
      have hl : (b :: bs).getLast? = some ((b :: bs).getLast (by simp)) := List.getLast?_eq_some_getLast _
      refine (parse_dir_line (hc b (by simp)).2 hl (hc _ (List.getLast_mem _)).2 hws).trans ?_
      exact congrArg some (C04.removeQuotes_of_qf fun c hm => (hc c hm).1)
  | some q =>
    obtain ⟨hq, _⟩ := h2
    have hqw : isWs q = false := (quote_facts hq).1
    refine (parse_dir_line (b := q) (l := q) (bs := name ++ [q]) hqw (by simp [List.getLast?_cons]) hqw hws).trans ?_
    simp only [removeQuotes, hq, if_true]
    rw [C18.dropEndQuote_append_quote hq]

theorem dirText_eq (q : Option Char) (n : Str) :
    dirText q n = '#' :: 'i' :: 'n' :: 'c' :: 'l' :: 'u' :: 'd' :: 'e' :: ' ' :: quoteName q n := by
  unfold dirText
  rw [C18.includeKw_lit]
  rfl

theorem quoteName_nobreak {q : Option Char} {n : Str} (h : isInclName q n = true) :
    ∀ c ∈ quoteName q n, isLineBreak c = false := by
  obtain ⟨_, h2⟩ := inclName_iff.mp h
  cases q with
  | none =>
    intro c hc
    exact C02.Main.not_lineBreak_of_not_ws (h2.2 c hc).2
  | some q =>
    intro c hc
    simp only [quoteName, List.mem_cons, List.mem_append, List.not_mem_nil, or_false] at hc
    rcases hc with (rfl | hc) | rfl
    · exact (quote_facts h2.1).2.1
    · exact h2.2 c hc
    · exact (quote_facts h2.1).2.1

theorem dir_nobreak {q : Option Char} {n : Str} (h : isInclName q n = true) :
    ∀ c ∈ dirText q n, isLineBreak c = false := by
  intro c hc
  rw [dirText_eq] at hc
  simp only [List.mem_cons] at hc
  rcases hc with rfl | rfl | rfl | rfl | rfl | rfl | rfl | rfl | rfl | hc
  any_goals decide
  exact quoteName_nobreak h c hc

theorem quoteName_noSS {q : Option Char} {n : Str} (h : isInclName q n = true) :
    isInfix ['/', '/'] (quoteName q n) = false := by
  obtain ⟨h1, h2⟩ := inclName_iff.mp h
  cases q with
  | none => exact h1
  | some q =>
    have hq := (NoMark.of (quote_facts h2.1).2.2.2).slash
    have e : quoteName (some q) n = ([q] ++ n) ++ [q] := by simp [quoteName]
    rw [e]
    refine C02.Main.infix2_append (C02.Main.infix2_append (C02.Main.infix2_single _ _ _) h1 ?_)
      (C02.Main.infix2_single _ _ _) ?_
    · intro hl _; simp at hl; exact hq hl
    · intro _ hh; simp at hh; exact hq hh

/-- a directive line has no `//`: the line-comment stage leaves it alone -/
theorem dir_noSS {q : Option Char} {n : Str} (h : isInclName q n = true) (nl : Str) (hnl : nl = [] ∨ nl = ['\n']) :
    isInfix ['/', '/'] (dirText q n ++ nl) = false := by
  have h0 : isInfix ['/', '/'] (dirText q n) = false := by
    have e : dirText q n = ['#', 'i', 'n', 'c', 'l', 'u', 'd', 'e', ' '] ++ quoteName q n := dirText_eq q n
    rw [e]
    refine C02.Main.infix2_append (by decide) (quoteName_noSS h) ?_
    intro hl _; simp at hl
  rcases hnl with rfl | rfl
  · simpa using h0
  · refine C02.Main.infix2_append h0 (C02.Main.infix2_single _ _ _) ?_
    intro _ hh; simp at hh

/-- the lexer state after a directive -/
def stI (dir : Str) (st : LexSt) (q : Option Char) (n : Str) : LexSt :=
  { st.fresh.2 with incl := st.fresh.2.incl.set st.fresh.1 (inclEntry dir q n) }

theorem lexInclude_dir (dir : Str) (st : LexSt) {q : Option Char} {n : Str} (h : isInclName q n = true) :
    lexInclude dir st (dirText q n ++ ['\n']) = (stI dir st q n, inclPh st.fresh.1 ++ ['\n']) := by
  unfold lexInclude
  rw [parse_dirText h (ws := ['\n']) rfl]
  simp only [dropFinalNl_nl]
  rfl

end Incl

namespace Stages
open Incl
open DictIO.C02.Main (nextSt noHash lineSt)

/-! ## 3. a directive line, as stage 1 and stage 2 see it -/

/-- **a directive line** (with the line-break character in front of it): stage 1 leaves it alone, stage 2 puts the
    placeholder word in its place -/
theorem Seg.dir (cm : Bool) (dir : Str) (st : LexSt) {q : Option Char} {n : Str} (hn : isInclName q n = true)
    {brk : Char} (hbrk : isLineBreak brk = true) {Q : Str} (hQ : Q.head? = some '\n') (b b' : Bool) :
    Seg cm dir (brk :: dirText q n) Q st st (fun s => stI dir s q n) (fun s => brk :: inclPh s.fresh.1) b b' := by
  suffices h : (LM cm st (brk :: (dirText q n ++ Q))).1 = (LM cm st Q).1 ∧
      H2 b (LM cm st (brk :: (dirText q n ++ Q))).2 ∧
      ∀ s, TL dir s (LM cm st (brk :: (dirText q n ++ Q))).2 =
        ((TL dir (stI dir s q n) (LM cm st Q).2).1,
         brk :: (inclPh s.fresh.1 ++ (TL dir (stI dir s q n) (LM cm st Q).2).2)) from
    ⟨h.1, fun _ => ⟨h.2.1, h.2.2⟩⟩
  cases Q with
  | nil => simp at hQ
  | cons d q' =>
    simp only [List.head?_cons, Option.some.injEq] at hQ
    subst hQ
    have hhead : ¬(brk = '\r' ∧ (dirText q n ++ '\n' :: q').head? = some '\n') := by
      rw [dirText_eq]; simp
    have e1 := LM_break cm st (dirText q n ++ '\n' :: q') hbrk hhead
    have e2 := LM_break cm st q' C02.isLineBreak_nl (by simp)
    have e3 : LM cm st (dirText q n ++ '\n' :: q') =
        ((LM cm st q').1, (dirText q n ++ ['\n']) :: (LM cm st q').2) := by
      simp only [LM, lines_nobreak_nl _ q' (dir_nobreak hn), lineMap,
        C02.lexLineComment_id cm st (dir_noSS hn ['\n'] (Or.inr rfl))]
    rw [e1, e2, e3]
    refine ⟨rfl, h2_cons ((iFree_ws (C02.Main.lineBreak_ws hbrk) []).mpr iFree_nil) _ _, fun st2 => ?_⟩
    simp only [TL_cons, incMap, lexInclude_dir dir st2 hn]
    simp

end Stages

end DictIO.C12
