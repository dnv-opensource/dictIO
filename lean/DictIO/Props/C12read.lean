/-
  C12 -- reading a document with comments (composition of `C12stages` and `C12rest`).

  `C12_read_commented`: for every well-formed commented document `items` (line and block comments at statement
  boundaries of every dict level, `CSrcWFItems`), every admissible layout of it (`GapsOKC`: the gap conditions of C02 plus
  "a line comment is followed by a line break"), every directory and every valid counter value, the reader returns exactly
  `denC c items`: the denotation of the document with one `LINECOMMENTnnnnnn` / `BLOCKCOMMENTnnnnnn` entry per comment at
  the place and dict level where the comment stands, ids drawn in the order the reader stages draw them, and the comment
  texts in the two tables.  Unbounded in the size and nesting of the document, the number and texts of comments, and the
  layout.

  `C12W.parseNative_nl`, `C12W.parse_spreadC_top`: the reader does not see a line feed in front of the text (the text
  the writer gives is an admissible layout only with a line feed in front: the round trips read it through these).
-/
import DictIO.Props.C12stages
import DictIO.Props.C12rest

namespace DictIO.C12
open DictIO

/-- the reader on a commented document, any admissible layout -/
theorem C12_read_commented {items : List CItem} {gaps : List Str} {tail : Str} (dir : Str) (c : Counter)
    (hwf : CSrcWFItems 1 items = true) (hg : GapsOKC (ctoksItems items) gaps tail = true)
    (htail : items = [] → tail.all isWs = true)
    (hc : C13.ValidCounter Gen.counterLimit c)
    (hn : C02.countQuotedEs (plainItems items) ≤ Gen.counterLimit + 1)
    (hd : C02.DocKeysAbsent (plainItems items)) :
    parseNative true dir c (spreadC (ctoksItems items) gaps tail) =
      .ok (denC c items,
           C02.adv Gen.counterLimit (C02.countQuotedEs (plainItems items)) (labelCItems { counter := c } items).1.counter) := by
  obtain ⟨gaps', tail', hst, hgs, ht⟩ := comment_stages_on_doc dir c hwf hg htail
  exact read_commented_denC' hst rfl rfl rfl rfl rfl rfl (labelled_wf _ hwf) hgs ht hc hn hd

/-- layout tolerance with comments: two admissible layouts of the same commented document read alike -/
theorem C12_layout_tolerant_commented {items : List CItem} {g₁ g₂ : List Str} {t₁ t₂ : Str} (dir : Str) (c : Counter)
    (hwf : CSrcWFItems 1 items = true)
    (h₁ : GapsOKC (ctoksItems items) g₁ t₁ = true) (h₂ : GapsOKC (ctoksItems items) g₂ t₂ = true)
    (ht₁ : items = [] → t₁.all isWs = true) (ht₂ : items = [] → t₂.all isWs = true)
    (hc : C13.ValidCounter Gen.counterLimit c)
    (hn : C02.countQuotedEs (plainItems items) ≤ Gen.counterLimit + 1)
    (hd : C02.DocKeysAbsent (plainItems items)) :
    parseNative true dir c (spreadC (ctoksItems items) g₁ t₁) = parseNative true dir c (spreadC (ctoksItems items) g₂ t₂) := by
  rw [C12_read_commented dir c hwf h₁ ht₁ hc hn hd, C12_read_commented dir c hwf h₂ ht₂ hc hn hd]

end DictIO.C12

namespace DictIO.C12
open DictIO

/-! ### non-vacuity: the hypotheses hold for a document with five line comments, two block comments (one spanning two
    lines), a nested dict, a quoted string, a list and a comment text that contains quotes, `;`, `{` and `$` -/

theorem exDoc_read (dir : Str) :
    parseNative true dir none (spreadC (ctoksItems exDoc) exGaps ['\n']) =
      .ok (denC none exDoc,
           C02.adv Gen.counterLimit (C02.countQuotedEs (plainItems exDoc)) (labelCItems { counter := none } exDoc).1.counter) :=
  C12_read_commented dir none exDoc_wf exGaps_ok (fun h => by cases h) (Or.inl rfl) (by decide +kernel) (by decide +kernel)

end DictIO.C12

namespace DictIO.C12W
open DictIO

/-! ### a line feed in front of the text does not matter to the reader -/

theorem nl_facts : isLineBreak '\n' = true ∧ (dropWs ['\n']).head? ≠ some '#' := by decide

theorem commentStages_nl (cm : Bool) (dir : Str) (c : Counter) (t : Str) :
    commentStages cm dir c ('\n' :: t) = ((commentStages cm dir c t).1, '\n' :: (commentStages cm dir c t).2) := by
  have hsplit : splitLinesKeep ('\n' :: t) = ['\n'] :: splitLinesKeep t :=
    C12.Stages.split_break t nl_facts.1 (by rintro ⟨h, _⟩; cases h)
  have f1 := fun ls => C12.Stages.foldl_lineMap cm ls { counter := c } []
  have f2 := fun ls st => C12.Incl.foldl_incMap dir ls st []
  simp only [List.nil_append] at f1 f2
  unfold commentStages
  simp only [f1, f2, hsplit, C12.Stages.lineMap, C12.Stages.lexLine_single, C12.Incl.incMap,
    C02.lexInclude_id dir _ nl_facts.2, List.flatten_cons, List.singleton_append]
  have := C12.Stages.BL_step cm 0 [] '\n' (C12.Incl.incMap dir (C12.Stages.lineMap cm { counter := c } (splitLinesKeep t)).1
    (C12.Stages.lineMap cm { counter := c } (splitLinesKeep t)).2).2.flatten (by rintro ⟨h, _⟩; cases h)
  simp only [C12.Stages.BL] at this
  rw [this]

theorem strip_ws_cons {c : Char} (hc : isWs c = true) (s : Str) : strip (c :: s) = strip s := by
  simp [strip, hc]

theorem parseRest_nl (st : LexSt) (b : Str) : parseRest st ('\n' :: b) = parseRest st b := by
  unfold parseRest
  have : strip (('\n' :: b).map fun ch => if ch == '\n' then ' ' else ch) =
      strip (b.map fun ch => if ch == '\n' then ' ' else ch) := by
    simp only [List.map_cons, beq_self_eq_true, if_true]
    exact strip_ws_cons (by decide) _
  simp only [this]

theorem parseNative_nl (cm : Bool) (dir : Str) (c : Counter) (t : Str) :
    parseNative cm dir c ('\n' :: t) = parseNative cm dir c t := by
  rw [parseNative_stages, parseNative_stages, commentStages_nl, parseRest_nl]

theorem parse_spreadC_top (cm : Bool) (dir : Str) (c : Counter) (ts : List CTok) (gaps : List Str) (tl : Str) :
    parseNative cm dir c (spreadC ts (['\n'] :: gaps) tl) = parseNative cm dir c (spreadC ts ([] :: gaps) tl) := by
  cases ts with
  | nil => rfl
  | cons t ts =>
    rw [show spreadC (t :: ts) (['\n'] :: gaps) tl = '\n' :: spreadC (t :: ts) ([] :: gaps) tl by simp [spreadC, spread],
      parseNative_nl]

end DictIO.C12W
