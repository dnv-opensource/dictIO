/-
  C02, front end of the native reader: on a text without comment markers (`//`, `/*`) and without include
  directive lines the first stages of `parseNative` (splitlines, line comments, include directives, join, block
  comments) are the identity, so the reader is `parseBlock` (Grammar) followed by `_clean` and the removal of the
  two documentation keys.

    1. `splitLines_flatten`, `splitLines_infix`, `splitLines_mem_sub`
    2. `findLineComment_none`, `lexLineComment_id`
    3. `parseIncludeLine_none`, `lexInclude_id`
    4. stage 3 over a stretch of text, character by character (`C12.Stages.BL`: `lexBlockCommentsFuel` with the fuel
       `parseNative` gives it, `block_fuel`): `BL_step`, `BL_pass` (a stretch without `/*`, `PassB`), `BL_block` (one
       block comment); `lexBlockComments_id` is `BL_pass` on the whole text
    5. `NoMarkup`, `commentStages_lines`, `commentStages_id`, `front_gen` (no further hypothesis: the reader is the
       pipeline `C12.parseBlockSt` of C02lex from the fresh state, which keeps the expression table),
       `C12.front_block` (`front_gen` for a text with block comments: only the line stages are identities),
       `parseBlockSt_tables`, `front_id` (with `'$' ∉ t`), `front_id_needs_no_dollar` (the hypothesis cannot be dropped)
    6. `clean_plain`, `dropDocKeys_id`, `finishSD_noPh`
    7. `Main.noMarkup_spread`: an admissible layout (`GapsOKS`) of tokens with `Main.FrontOK` (every admissible token:
       `FrontOK.of_ok`) is `NoMarkup`.  No `//`, no `/*`, also not across a token boundary (`tok_noPair`, `noPair_spread`,
       `noInfix_spread`); no line starts with `#` (`noHash` with the state `lineSt`/`nextSt` "only white space since the
       last line break", `noHash_spread`, `noHash_sound`).  The stage files use the same facts token by token
    8. `exFrontText_noMarkup`, `exFrontText_block`, `exFrontText_native`
-/
import DictIO.Props.C02lex
import DictIO.Props.C07

namespace DictIO.C02
open DictIO

/-! The helpers stand in the sub-namespace `DictIO.C02.Front`, so that they cannot collide with those of the sibling
  files of namespace `DictIO.C02`. -/

namespace Front

theorem foldl_id_lines {σ : Type} (f : σ → Str → σ × Str) (st : σ) :
    ∀ (L acc : List Str), (∀ l ∈ L, f st l = (st, l)) →
      L.foldl (fun (a : σ × List Str) l => let (st, l') := f a.1 l; (st, a.2 ++ [l'])) (st, acc) = (st, acc ++ L)
  | [], acc, _ => by simp
  | l :: L, acc, h => by
    simp only [List.foldl_cons, h l (by simp)]
    rw [foldl_id_lines f st L (acc ++ [l]) (fun l' hl' => h l' (by simp [hl']))]
    simp

/-- two lexer states agree on all tables except the literal table (and the counter) -/
def SameT (a b : LexSt) : Prop := a.lineC = b.lineC ∧ a.incl = b.incl ∧ a.blockC = b.blockC ∧ a.exprs = b.exprs

theorem SameT.rfl' (a : LexSt) : SameT a a := ⟨rfl, rfl, rfl, rfl⟩

theorem SameT.trans {a b c : LexSt} (h1 : SameT a b) (h2 : SameT b c) : SameT a c :=
  ⟨h1.1.trans h2.1, h1.2.1.trans h2.2.1, h1.2.2.1.trans h2.2.2.1, h1.2.2.2.trans h2.2.2.2⟩

theorem lexLiterals_inv : ∀ (fuel : Nat) (st : LexSt) (prev : Option Char) (s : Str) (st' : LexSt) (out : Str),
    lexLiteralsFuel fuel st prev s = .ok (st', out) → SameT st' st ∧ ('$' ∉ s → '$' ∉ out)
  | 0, st, prev, s, st', out, h => by
    simp [lexLiteralsFuel] at h; obtain ⟨rfl, rfl⟩ := h; exact ⟨SameT.rfl' _, id⟩
  | fuel + 1, st, prev, [], st', out, h => by
    simp [lexLiteralsFuel] at h; obtain ⟨rfl, rfl⟩ := h; exact ⟨SameT.rfl' _, id⟩
  | fuel + 1, st, prev, c :: r, st', out, h => by
    simp only [lexLiteralsFuel, bind, Except.bind, pure, Except.pure] at h
    split at h
    · split at h
      · cases h
      · split at h
        · cases hr : lexLiteralsFuel fuel st (some c) r with
          | error e => simp [hr] at h
          | ok v =>
            simp only [hr, Except.ok.injEq, Prod.mk.injEq] at h; obtain ⟨rfl, rfl⟩ := h
            have ih := lexLiterals_inv fuel st (some c) r v.1 v.2 hr
            refine ⟨ih.1, fun hd => ?_⟩
            simp only [List.mem_cons, not_or] at hd ⊢
            exact ⟨hd.1, ih.2 hd.2⟩
        · rename_i body rest hsp
          have hm := splitAtChar_mem hsp
          split at h
          · cases hr : lexLiteralsFuel fuel st (some '"') rest with
            | error e => simp [hr] at h
            | ok v =>
              simp only [hr, Except.ok.injEq, Prod.mk.injEq] at h; obtain ⟨rfl, rfl⟩ := h
              have ih := lexLiterals_inv fuel st (some '"') rest v.1 v.2 hr
              refine ⟨ih.1, fun hd => ?_⟩
              simp only [List.mem_cons, not_or] at hd
              have hb : '$' ∉ body := fun hx => hd.2 (hm _ (Or.inl hx))
              have hr' : '$' ∉ rest := fun hx => hd.2 (hm _ (Or.inr hx))
              simp [hd.1, hb, ih.2 hr']
          · cases hr : lexLiteralsFuel fuel
                { counter := st.fresh.snd.counter, lineC := st.fresh.snd.lineC, incl := st.fresh.snd.incl,
                  blockC := st.fresh.snd.blockC, lits := Tbl.set st.fresh.fst body st.fresh.snd.lits,
                  exprs := st.fresh.snd.exprs } (some c) rest with
            | error e => simp [hr] at h
            | ok v =>
              simp only [hr, Except.ok.injEq, Prod.mk.injEq] at h; obtain ⟨rfl, rfl⟩ := h
              have ih := lexLiterals_inv fuel _ (some c) rest v.1 v.2 hr
              refine ⟨ih.1.trans ⟨rfl, rfl, rfl, rfl⟩, fun hd => ?_⟩
              simp only [List.mem_cons, not_or] at hd
              have hr' : '$' ∉ rest := fun hx => hd.2 (hm _ (Or.inr hx))
              have hph : '$' ∉ kwLit ∧ '$' ∉ padSix st.fresh.1 := by
                simpa [litPh] using fun h => (litPh_plain st.fresh.1 '$' h).ne (by decide) rfl
              simp [hph, ih.2 hr']
    · cases hr : lexLiteralsFuel fuel st (some c) r with
      | error e => simp [hr] at h
      | ok v =>
        simp only [hr, Except.ok.injEq, Prod.mk.injEq] at h; obtain ⟨rfl, rfl⟩ := h
        have ih := lexLiterals_inv fuel st (some c) r v.1 v.2 hr
        refine ⟨ih.1, fun hd => ?_⟩
        simp only [List.mem_cons, not_or] at hd ⊢
        exact ⟨hd.1, ih.2 hd.2⟩

/-- two lexer states agree on the comment and include tables -/
def SameC (a b : LexSt) : Prop := a.lineC = b.lineC ∧ a.incl = b.incl ∧ a.blockC = b.blockC

theorem SameC.trans {a b c : LexSt} (h1 : SameC a b) (h2 : SameC b c) : SameC a c :=
  ⟨h1.1.trans h2.1, h1.2.1.trans h2.2.1, h1.2.2.trans h2.2.2⟩

theorem lexRefs_tables : ∀ (fuel : Nat) (st : LexSt) (s : Str), SameC (lexRefsFuel fuel st s).1 st
  | 0, st, s => ⟨rfl, rfl, rfl⟩
  | fuel + 1, st, s => by
    unfold lexRefsFuel
    split
    · exact ⟨rfl, rfl, rfl⟩
    · exact (lexRefs_tables fuel _ _).trans ⟨rfl, rfl, rfl⟩

theorem lexExpressions_tables (st : LexSt) (s : Str) : SameC (lexExpressions st s).1 st := by
  unfold lexExpressions
  refine (lexRefs_tables _ _ _).trans
    (foldl_inv (fun acc : LexSt × Str => SameC acc.1 st) _ _ (fun _ h _ _ => ?_) (st, s) ⟨rfl, rfl, rfl⟩)
  exact SameC.trans ⟨rfl, rfl, rfl⟩ h

theorem strip_mem (s : Str) : ∀ c ∈ strip s, c ∈ s := by
  intro c hc
  simp only [strip, List.mem_reverse] at hc
  have := (List.dropWhile_sublist _).subset hc
  simp only [List.mem_reverse] at this
  exact (List.dropWhile_sublist _).subset this

end Front
open Front

/-! ## 1. `splitlines(keepends=True)` -/

theorem splitLines_flatten (s : Str) : (splitLinesKeep s).flatten = s := by
  fun_induction splitLinesKeep s with
  | case1 => rfl
  | case2 r ih => simp [ih]
  | case3 c r hne hb ih => simp [ih]
  | case4 c r hne hb hnil ih =>
    rw [hnil] at ih; simp at ih; simp [← ih]
  | case5 c r hne hb l ls hcons ih =>
    rw [hcons] at ih; simp at ih; simp [← ih]

theorem splitLines_infix {l s : Str} (h : l ∈ splitLinesKeep s) : isInfix l s = true := by
  rw [isInfix_iff]
  obtain ⟨L1, L2, hL⟩ := List.mem_iff_append.mp h
  refine ⟨L1.flatten, L2.flatten, ?_⟩
  have := splitLines_flatten s
  rw [hL] at this
  simp at this; simp [← this]

theorem splitLines_mem_sub {l s : Str} (h : l ∈ splitLinesKeep s) : ∀ c ∈ l, c ∈ s :=
  isInfix_mem (splitLines_infix h)

/-! ## 2. line comments -/

theorem findLineComment_none {l : Str} (prev : Option Char) (h : isInfix ['/', '/'] l = false) :
    findLineComment prev l = none := by
  fun_induction findLineComment prev l with
  | case1 prev r hp ih => simp [isInfix_cons, List.isPrefixOf] at h
  | case2 prev r hp => simp [isInfix_cons, List.isPrefixOf] at h
  | case3 prev c r hne ih =>
    rw [isInfix_cons] at h
    simp only [Bool.or_eq_false_iff] at h
    simp [ih h.2]
  | case4 => rfl

theorem lexLineComment_id {l : Str} (comments : Bool) (st : LexSt) (h : isInfix ['/', '/'] l = false) :
    lexLineComment comments st l = (st, l) := by
  simp [lexLineComment, findLineComment_none none h]

/-! ## 3. include directives -/

theorem parseIncludeLine_none {l : Str} (h : (dropWs l).head? ≠ some '#') : parseIncludeLine l = none := by
  unfold parseIncludeLine
  split
  · rename_i r hr; simp [hr] at h
  · rfl

theorem lexInclude_id {l : Str} (dir : Str) (st : LexSt) (h : (dropWs l).head? ≠ some '#') :
    lexInclude dir st l = (st, l) := by
  simp [lexInclude, parseIncludeLine_none h]

/-! ## 4. block comments: stage 3 over a stretch of text -/

end DictIO.C02

namespace DictIO.C12
open DictIO

theorem takeToCommentEnd_hit (post : Str) : ∀ body : Str, isInfix ['*', '/'] body = false →
    takeToCommentEnd (body ++ '*' :: '/' :: post) = some (body ++ ['*', '/'], post)
  | [], _ => by simp [takeToCommentEnd]
  | c :: body, h => by
    rw [List.cons_append, takeToCommentEnd]
    · rw [takeToCommentEnd_hit post body (isInfix_tail_false h)]; rfl
    · intro r e1 e2
      exact noPair_head (q := '*' :: '/' :: post) (e1 ▸ h) (by simp) (by rw [e2]; rfl)

theorem lexBlock_step (comments : Bool) (fuel n : Nat) (tbl : Tbl Str) (c : Char) (r : Str)
    (h : ¬ (c = '/' ∧ r.head? = some '*')) :
    lexBlockCommentsFuel comments (fuel + 1) n tbl (c :: r) =
      ((lexBlockCommentsFuel comments fuel n tbl r).1, c :: (lexBlockCommentsFuel comments fuel n tbl r).2) := by
  rw [lexBlockCommentsFuel]
  intro r' e1 e2
  exact h ⟨e1, by rw [e2]; rfl⟩

namespace Stages

/-- stage 3 with exactly the fuel `parseNative` gives it -/
def BL (cm : Bool) (n : Nat) (tbl : Tbl Str) (s : Str) : Tbl Str × Str :=
  lexBlockCommentsFuel cm (s.length + 1) n tbl s

theorem takeEnd_len (r : Str) : ∀ body rest, takeToCommentEnd r = some (body, rest) → rest.length < r.length := by
  fun_induction takeToCommentEnd r with
  | case1 r =>
    intro body rest h
    simp only [Option.some.injEq, Prod.mk.injEq] at h
    obtain ⟨_, rfl⟩ := h
    simp only [List.length_cons]; omega
  | case2 c r hne ih =>
    intro body rest h
    simp only [Option.map_eq_some_iff] at h
    obtain ⟨⟨a, b⟩, h1, h2⟩ := h
    simp only [Prod.mk.injEq] at h2
    obtain ⟨_, rfl⟩ := h2
    have := ih _ _ h1
    simp; omega
  | case3 => intro body rest h; cases h

theorem block_fuel (cm : Bool) : ∀ (f1 f2 n : Nat) (tbl : Tbl Str) (s : Str), s.length < f1 → s.length < f2 →
    lexBlockCommentsFuel cm f1 n tbl s = lexBlockCommentsFuel cm f2 n tbl s
  | 0, _, _, _, _, h, _ => by omega
  | _ + 1, 0, _, _, _, _, h => by omega
  | f1 + 1, f2 + 1, n, tbl, [], _, _ => by simp [lexBlockCommentsFuel]
  | f1 + 1, f2 + 1, n, tbl, c :: r, h1, h2 => by
    simp only [List.length_cons] at h1 h2
    by_cases hc : c = '/' ∧ r.head? = some '*'
    · obtain ⟨rfl, hr⟩ := hc
      cases r with
      | nil => simp at hr
      | cons d r' =>
        simp only [List.head?_cons, Option.some.injEq] at hr
        subst hr
        simp only [List.length_cons] at h1 h2
        rw [lexBlockCommentsFuel, lexBlockCommentsFuel]
        cases ht : takeToCommentEnd r' with
        | none =>
          simp only []
          rw [block_fuel cm f1 f2 n tbl ('*' :: r') (by simp; omega) (by simp; omega)]
        | some p =>
          obtain ⟨body, rest⟩ := p
          have := takeEnd_len r' body rest ht
          simp only []
          rw [block_fuel cm f1 f2 (n + 1) _ rest (by omega) (by omega)]
    · rw [lexBlock_step cm f1 n tbl c r hc, lexBlock_step cm f2 n tbl c r hc,
        block_fuel cm f1 f2 n tbl r (by omega) (by omega)]

theorem BL_nil (cm : Bool) (n : Nat) (tbl : Tbl Str) : BL cm n tbl [] = (tbl, []) := by
  simp [BL, lexBlockCommentsFuel]

theorem BL_step (cm : Bool) (n : Nat) (tbl : Tbl Str) (c : Char) (r : Str) (h : ¬(c = '/' ∧ r.head? = some '*')) :
    BL cm n tbl (c :: r) = ((BL cm n tbl r).1, c :: (BL cm n tbl r).2) :=
  lexBlock_step cm (r.length + 1) n tbl c r h

/-- no character of `p`, in front of what follows it in `p ++ q`, opens a block comment -/
def PassB : Str → Str → Prop
  | [], _ => True
  | c :: p, q => ¬(c = '/' ∧ (p ++ q).head? = some '*') ∧ PassB p q

theorem BL_pass (cm : Bool) (n : Nat) (tbl : Tbl Str) : ∀ (p q : Str), PassB p q →
    BL cm n tbl (p ++ q) = ((BL cm n tbl q).1, p ++ (BL cm n tbl q).2)
  | [], q, _ => rfl
  | c :: p, q, h => by
    rw [List.cons_append, BL_step cm n tbl c (p ++ q) h.1, BL_pass cm n tbl p q h.2]
    rfl

theorem passB_plain : ∀ (p q : Str), (∀ c ∈ p, c ≠ '/') → PassB p q
  | [], _, _ => trivial
  | c :: p, q, h => ⟨fun e => h c (by simp) e.1, passB_plain p q (fun d hd => h d (by simp [hd]))⟩

theorem passB_of : ∀ (p q : Str), isInfix ['/', '*'] p = false → q.head? ≠ some '*' → PassB p q
  | [], _, _, _ => trivial
  | _ :: p, q, h, hq => ⟨fun ⟨e, e'⟩ => noPair_head (e ▸ h) hq e', passB_of p q (isInfix_tail_false h) hq⟩

/-- what stage 3 puts in the place of block comment number `n` -/
def padB (cm : Bool) (n : Nat) : Str := if cm then [' '] ++ kwBlock ++ padSix n ++ [' '] else []

theorem BL_block (cm : Bool) (n : Nat) (tbl : Tbl Str) (x q : Str) (hx : isInfix ['*', '/'] x = false) :
    BL cm n tbl (('/' :: '*' :: x ++ ['*', '/']) ++ q) =
      ((BL cm (n + 1) (tbl ++ [(n, '/' :: '*' :: x ++ ['*', '/'])]) q).1,
       padB cm n ++ (BL cm (n + 1) (tbl ++ [(n, '/' :: '*' :: x ++ ['*', '/'])]) q).2) := by
  have e : ('/' :: '*' :: x ++ ['*', '/']) ++ q = '/' :: '*' :: (x ++ '*' :: '/' :: q) := by simp
  rw [e]
  unfold BL
  rw [lexBlockCommentsFuel, takeToCommentEnd_hit q x hx]
  simp only []
  rw [block_fuel cm _ (q.length + 1) (n + 1) _ q (by simp; omega) (by omega)]
  rfl

end Stages

end DictIO.C12

namespace DictIO.C02
open DictIO
open Front

theorem lexBlockComments_id (comments : Bool) (fuel n : Nat) (tbl : Tbl Str) (s : Str)
    (h : isInfix ['/', '*'] s = false) (hf : fuel ≥ s.length + 1) : lexBlockCommentsFuel comments fuel n tbl s = (tbl, s) := by
  rw [C12.Stages.block_fuel comments fuel (s.length + 1) n tbl s (by omega) (by omega)]
  have := C12.Stages.BL_pass comments n tbl s [] (C12.Stages.passB_of s [] h (by simp))
  rwa [List.append_nil, C12.Stages.BL_nil, List.append_nil] at this

/-! ## 5. the front stages are the identity on markup-free text -/

/-- the text contains no `//`, no `/*`, and none of its lines starts (after white space) with `#` -/
def NoMarkup (t : Str) : Prop :=
  isInfix ['/', '/'] t = false ∧ isInfix ['/', '*'] t = false ∧ (∀ l ∈ splitLinesKeep t, (dropWs l).head? ≠ some '#')

/-- the two line stages are the identity on a text without `//` none of whose lines starts with `#`: what is left of
    the comment stages is the block-comment stage on the fresh state -/
theorem commentStages_lines {t : Str} (comments : Bool) (dir : Str) (c : Counter)
    (h1 : isInfix ['/', '/'] t = false) (h3 : ∀ l ∈ splitLinesKeep t, (dropWs l).head? ≠ some '#') :
    commentStages comments dir c t =
      ({ counter := c, blockC := (lexBlockCommentsFuel comments (t.length + 1) 0 [] t).1 },
        (lexBlockCommentsFuel comments (t.length + 1) 0 [] t).2) := by
  have hl1 : ∀ l ∈ splitLinesKeep t, lexLineComment comments { counter := c } l = ({ counter := c }, l) :=
    fun l hl => lexLineComment_id comments _ (isInfix_false_of_infix h1 (splitLines_infix hl))
  have hl2 : ∀ l ∈ splitLinesKeep t, lexInclude dir { counter := c } l = ({ counter := c }, l) :=
    fun l hl => lexInclude_id dir _ (h3 l hl)
  have f1 := foldl_id_lines (lexLineComment comments) { counter := c } (splitLinesKeep t) [] hl1
  have f2 := foldl_id_lines (lexInclude dir) { counter := c } (splitLinesKeep t) [] hl2
  simp only [List.nil_append] at f1 f2
  simp only [commentStages, f1, f2, splitLines_flatten]

theorem commentStages_id {t : Str} (comments : Bool) (dir : Str) (c : Counter) (h : NoMarkup t) :
    commentStages comments dir c t = ({ counter := c }, t) := by
  rw [commentStages_lines comments dir c h.1 h.2.2, lexBlockComments_id comments _ 0 [] t h.2.1 (Nat.le_refl _)]

/-- **front_gen**: on markup-free text the reader is the pipeline `C12.parseBlockSt` from the fresh state, then `_clean`
    and the removal of the two documentation keys (`C12.finishSD`).  No hypothesis about `$`. -/
theorem front_gen {t : Str} (comments : Bool) (dir : Str) (c : Counter) (h : NoMarkup t) :
    parseNative comments dir c t = (C12.parseBlockSt { counter := c } t).map fun r => C12.finishSD r.1 r.2 := by
  rw [parseNative_stages, commentStages_id comments dir c h, C12.parseRest_eq]

end DictIO.C02

namespace DictIO.C12
open DictIO

/-- the line stages are identities; the block-comment stage is given -/
theorem front_block {t T' : Str} {tbl : Tbl Str} (comments : Bool) (dir : Str) (c : Counter)
    (h1 : isInfix ['/', '/'] t = false) (h3 : ∀ l ∈ splitLinesKeep t, (dropWs l).head? ≠ some '#')
    (hblk : lexBlockCommentsFuel comments (t.length + 1) 0 [] t = (tbl, T')) :
    parseNative comments dir c t =
      (parseBlockSt { counter := c, blockC := tbl } T').map (fun r => finishSD r.1 r.2) := by
  rw [← parseRest_eq, parseNative_stages, C02.commentStages_lines comments dir c h1 h3, hblk]

end DictIO.C12

namespace DictIO.C02
open DictIO
open Front

/-- the stages after the comment stages leave the comment and include tables alone, and without `$` in the text also
    the expression table -/
theorem parseBlockSt_tables {st0 : LexSt} {t : Str} {r : Entries × LexSt} (h : C12.parseBlockSt st0 t = .ok r) :
    SameC r.2 st0 ∧ ('$' ∉ t → r.2.exprs = st0.exprs) := by
  simp only [C12.parseBlockSt, C12.parseBlockSt', bind, Except.bind, pure, Except.pure] at h
  cases hl : lexLiteralsFuel _ st0 none (strip (List.map (fun ch => if (ch == '\n') = true then ' ' else ch) t)) with
  | error e => rw [hl] at h; cases h
  | ok v =>
    obtain ⟨hv, hdol⟩ := lexLiterals_inv _ _ _ _ v.1 v.2 hl
    rw [hl] at h
    simp only [] at h
    cases hs : parseDictToks true [] (levels 0 (tokenize (lexExpressions v.fst v.snd).snd)) [] with
    | error e => rw [hs] at h; cases h
    | ok es =>
      rw [hs] at h
      simp only [] at h
      cases hi : insertLiterals (lexExpressions v.fst v.snd).fst.lits es with
      | error e => rw [hi] at h; cases h
      | ok es' =>
        rw [hi] at h
        cases h
        refine ⟨(lexExpressions_tables v.1 v.2).trans ⟨hv.1, hv.2.1, hv.2.2.1⟩, fun hd => ?_⟩
        have hb : '$' ∉ v.2 := hdol fun hx => by
          obtain ⟨a, ha, he⟩ := List.mem_map.mp (strip_mem _ _ hx)
          split at he
          · cases he
          · subst he; exact hd ha
        rw [lex_expressions_id v.1 v.2 fun _ hc e => hb (e ▸ hc)]
        exact hv.2.2.2

/-- **front_id**: on a text without comment markers and include directives — and, for the expression table to be
    empty, without `$` (see `front_id_needs_no_dollar`) — the reader is `parseBlock`, then `_clean`, then the
    removal of the two documentation keys; all side tables of the result start empty. -/
theorem front_id {t : Str} (comments : Bool) (dir : Str) (c : Counter) (h : NoMarkup t) (hd : '$' ∉ t) :
    parseNative comments dir c t = (parseBlock c t).map (fun r =>
      ({ ({ data := r.1 } : SD).clean with data := dropDocKeys (({ data := r.1 } : SD).clean).data }, r.2)) := by
  rw [front_gen comments dir c h, C12.parseBlock_eq_St]
  cases hr : C12.parseBlockSt { counter := c } t with
  | error e => rfl
  | ok r =>
    obtain ⟨⟨e1, e2, e3⟩, e4⟩ := parseBlockSt_tables hr
    simp only [Except.map, C12.finishSD, e1, e2, e3, e4 hd]

/-! ## 6. `_clean` and the documentation keys on plain data -/

theorem clean_plain {es : Entries} (hp : C07.NoPhEs es) (hn : NodupKeysV (.dict es)) :
    (({ data := es } : SD).clean) = { data := es } :=
  C07.clean_id { data := es } hn hp

theorem dropDocKeys_id {es : Entries} (h1 : lookup (.str "_variables".toList) es = none)
    (h2 : lookup (.str "_includes".toList) es = none) : dropDocKeys es = es := by
  rw [dropDocKeys, delKey_of_not_mem _ es (lookup_eq_none_iff.mp h1), delKey_of_not_mem _ es (lookup_eq_none_iff.mp h2)]

theorem finishSD_noPh {D : Entries} (st : LexSt) (hp : C07.NoPhEs D) (hn : NodupKeysV (.dict D))
    (h1 : lookup (.str "_variables".toList) D = none) (h2 : lookup (.str "_includes".toList) D = none) :
    C12.finishSD D st =
      ({ data := D, exprs := st.exprs, lineC := st.lineC, blockC := st.blockC, incl := st.incl }, st.counter) := by
  simp only [C12.finishSD]
  rw [C07.clean_id _ hn hp, dropDocKeys_id h1 h2]

/-! ## 7. an admissible layout of tokens that pass the front stages is markup-free -/

namespace Main

/-- a property that holds for the empty text and is kept when white space or a token is put in front holds for every
    admissible layout -/
theorem spreadS_build (P : Str → Prop) (h0 : P [])
    (hws : ∀ g rest, g.all isWs = true → P rest → P (g ++ rest)) :
    ∀ (ts : List STok) (gaps : List Str) (tail : Str), (∀ t ∈ ts, ∀ rest, P rest → P (t.text ++ rest)) →
      GapsOKS ts gaps = true → tail.all isWs = true → P (spreadS ts gaps tail)
  | [], gaps, tail, _, _, ht => by
    have := hws tail [] ht h0
    simpa [spreadS_nil] using this
  | t :: ts, gaps, tail, htok, hg, ht => by
    obtain ⟨h1, h2, _⟩ := gapsOKS_step hg
    rw [spreadS_cons, List.append_assoc]
    exact hws _ _ h1 (htok t (by simp) _
      (spreadS_build P h0 hws ts gaps.tail tail (fun u hu => htok u (by simp [hu])) h2 ht))

theorem lineBreak_ws_nat : ∀ n ∈ Gen.lineBreaks, inRanges Gen.wsRanges n = true := by decide

/-- every character `splitlines` breaks at is white space -/
theorem lineBreak_ws {c : Char} (h : isLineBreak c = true) : isWs c = true := by
  simp only [isLineBreak, List.contains_eq_mem, decide_eq_true_eq] at h
  exact lineBreak_ws_nat _ h

theorem not_lineBreak_of_not_ws {c : Char} (h : isWs c = false) : isLineBreak c = false := by
  cases hb : isLineBreak c with
  | false => rfl
  | true => rw [lineBreak_ws hb] at h; cases h

theorem tok_shape {t : STok} (ht : TokOK t) :
    ∃ c0 r, t.text = c0 :: r ∧ isWs c0 = false ∧ c0 ≠ '#' ∧ ∀ c ∈ r, isLineBreak c = false := by
  cases t with
  | word w =>
    rcases ht with h | h
    · obtain ⟨hw, _, _, _, _, _, _, _, hh⟩ := srcWord_iff.mp h
      obtain ⟨hne, hws, _⟩ := wordTok_chars hw
      cases w with
      | nil => exact absurd rfl hne
      | cons c0 r =>
        refine ⟨c0, r, rfl, hws c0 (by simp), ?_, fun c hc => not_lineBreak_of_not_ws (hws c (by simp [hc]))⟩
        rintro rfl; exact hh rfl
    · obtain ⟨c, rfl, hc⟩ := delimTok_inv h
      exact ⟨c, [], rfl, (delim_table c hc).1, (delim_noMark hc).hash, fun _ h => by cases h⟩
  | quoted q b =>
    obtain ⟨hq, _, hb, _⟩ := srcQuoted_iff.mp ht
    have hqf := quote_facts hq
    refine ⟨q, b ++ [q], rfl, hqf.1, (NoMark.of hqf.2.2.2).hash, ?_⟩
    intro c hc
    simp only [List.mem_append, List.mem_singleton] at hc
    rcases hc with hc | rfl
    · exact (hb c hc).1
    · exact not_lineBreak_of_not_ws hqf.1

/-- what the comment and include stages need of a token: it starts with a character that is neither white space nor
    `#`, holds no line break, no `//` and no `/*` (an admissible token: `FrontOK.of_ok`; also a `$name` or a string with
    `$` in it, which `TokOK` excludes) -/
structure FrontOK (t : STok) : Prop where
  shape : ∃ c0 r, t.text = c0 :: r ∧ isWs c0 = false ∧ c0 ≠ '#' ∧ ∀ c ∈ r, isLineBreak c = false
  noPair : ∀ {b : Char}, b = '/' ∨ b = '*' → isInfix ['/', b] t.text = false

/-! ### no line starts with `#`

  A scan with one bit of state: `st` = "only white space since the last line break (or the start)". -/

def nextSt (st : Bool) (c : Char) : Bool := if isLineBreak c then true else st && isWs c

/-- no `#` is met in state `true` -/
def noHash : Bool → Str → Bool
  | _, [] => true
  | st, c :: r => !(st && c == '#') && noHash (nextSt st c) r

def lineSt : Bool → Str → Bool
  | st, [] => st
  | st, c :: r => lineSt (nextSt st c) r

theorem noHash_append : ∀ (x y : Str) (st : Bool), noHash st (x ++ y) = (noHash st x && noHash (lineSt st x) y)
  | [], y, st => by simp [noHash, lineSt]
  | c :: x, y, st => by simp [noHash, lineSt, noHash_append x y, Bool.and_assoc]

theorem noHash_ws : ∀ (g : Str) (st : Bool), g.all isWs = true → noHash st g = true
  | [], _, _ => rfl
  | c :: g, st, h => by
    simp only [List.all_cons, Bool.and_eq_true] at h
    have hc : (c == '#') = false := by simpa using (ws_noMark h.1).hash
    simp [noHash, hc, noHash_ws g _ h.2]

theorem noHash_false : ∀ (x : Str), (∀ c ∈ x, isLineBreak c = false) → noHash false x = true ∧ lineSt false x = false
  | [], _ => ⟨rfl, rfl⟩
  | c :: x, h => by
    have hc := h c (by simp)
    have ih := noHash_false x (fun d hd => h d (by simp [hd]))
    simp [noHash, lineSt, nextSt, hc, ih]

theorem noHash_front {t : STok} (ht : FrontOK t) (st : Bool) : noHash st t.text = true ∧ lineSt st t.text = false := by
  obtain ⟨c0, r, e, hws, hh, hr⟩ := ht.shape
  have hlb := not_lineBreak_of_not_ws hws
  have hc : (c0 == '#') = false := by simpa using hh
  have := noHash_false r hr
  rw [e]
  simp [noHash, lineSt, nextSt, hlb, hws, hc, this]

theorem noHash_spread (ts : List STok) (gaps : List Str) (tail : Str) (hts : ∀ t ∈ ts, FrontOK t)
    (hg : GapsOKS ts gaps = true) (ht : tail.all isWs = true) : ∀ st, noHash st (spreadS ts gaps tail) = true := by
  refine spreadS_build (fun s => ∀ st, noHash st s = true) (fun _ => rfl) ?_ ts gaps tail ?_ hg ht
  · intro g rest hgw hr st
    rw [noHash_append, noHash_ws g st hgw, hr]; rfl
  · intro t htm rest hr st
    rw [noHash_append, (noHash_front (hts t htm) st).1, hr]; rfl

theorem dropWs_cons_ws {c : Char} (h : isWs c = true) (l : Str) : dropWs (c :: l) = dropWs l := by
  simp [dropWs, List.dropWhile, h]

theorem dropWs_cons_nws {c : Char} (h : isWs c = false) (l : Str) : dropWs (c :: l) = c :: l := by
  simp [dropWs, List.dropWhile, h]

/-- the scan is sound for `splitlines`: no line starts, after white space, with `#` -/
theorem noHash_lines (s : Str) : ∀ st, noHash st s = true →
    (∀ l ∈ (splitLinesKeep s).tail, (dropWs l).head? ≠ some '#') ∧
    (st = true → ∀ l ∈ (splitLinesKeep s).head?, (dropWs l).head? ≠ some '#') := by
  fun_induction splitLinesKeep s with
  | case1 => intro st _; simp
  | case2 r ih =>
    intro st h
    have h' : noHash true r = true := by
      have e1 : nextSt st '\r' = true := by simp [nextSt]; left; decide
      have e2 : nextSt true '\n' = true := by simp [nextSt]; decide
      simp only [noHash, e1, e2, Bool.and_eq_true] at h
      exact h.2.2
    obtain ⟨i1, i2⟩ := ih true h'
    constructor
    · exact forall_of_head_tail i1 (i2 rfl)
    · intro _ l hl
      simp only [List.head?_cons, Option.mem_def, Option.some.injEq] at hl
      subst hl
      have : dropWs ['\r', '\n'] = [] := by decide
      simp [this]
  | case3 c r hne hb ih =>
    intro st h
    have h' : noHash true r = true := by
      have e1 : nextSt st c = true := by simp [nextSt, hb]
      simp only [noHash, e1, Bool.and_eq_true] at h
      exact h.2
    obtain ⟨i1, i2⟩ := ih true h'
    constructor
    · exact forall_of_head_tail i1 (i2 rfl)
    · intro _ l hl
      simp only [List.head?_cons, Option.mem_def, Option.some.injEq] at hl
      subst hl
      rw [dropWs_cons_ws (lineBreak_ws hb)]; simp [dropWs]
  | case4 c r hne hb hnil ih =>
    intro st h
    constructor
    · intro l hl; simp at hl
    · intro hst l hl
      simp only [List.head?_cons, Option.mem_def, Option.some.injEq] at hl
      subst hl hst
      have hc : c ≠ '#' := by
        simp only [noHash, Bool.true_and, Bool.and_eq_true, Bool.not_eq_true', beq_eq_false_iff_ne] at h
        exact h.1
      cases hw : isWs c with
      | true => rw [dropWs_cons_ws hw]; simp [dropWs]
      | false => simp [dropWs_cons_nws hw, hc]
  | case5 c r hne hb l0 ls hcons ih =>
    intro st h
    have hb' : isLineBreak c = false := by simpa using hb
    have h' : noHash (st && isWs c) r = true := by
      simp only [noHash, nextSt, hb', Bool.false_eq_true, if_false, Bool.and_eq_true] at h
      exact h.2
    obtain ⟨i1, i2⟩ := ih _ h'
    rw [hcons] at i1 i2
    constructor
    · intro l hl; exact i1 l (by simpa using hl)
    · intro hst l hl
      simp only [List.head?_cons, Option.mem_def, Option.some.injEq] at hl
      subst hl hst
      have hc : c ≠ '#' := by
        simp only [noHash, Bool.true_and, Bool.and_eq_true, Bool.not_eq_true', beq_eq_false_iff_ne] at h
        exact h.1
      cases hw : isWs c with
      | true =>
        rw [dropWs_cons_ws hw]
        exact i2 (by simp [hw]) l0 (by simp)
      | false => simp [dropWs_cons_nws hw, hc]

theorem noHash_sound {s : Str} (h : noHash true s = true) : ∀ l ∈ splitLinesKeep s, (dropWs l).head? ≠ some '#' := by
  obtain ⟨i1, i2⟩ := noHash_lines s true h
  exact forall_of_head_tail i1 (i2 rfl)

theorem infix2_append {a b : Char} : ∀ {x y : Str}, isInfix [a, b] x = false → isInfix [a, b] y = false →
    (x.getLast? = some a → y.head? = some b → False) → isInfix [a, b] (x ++ y) = false := by
  intro x y hx hy hs
  cases hi : isInfix [a, b] (x ++ y) with
  | false => rfl
  | true =>
    rcases isInfix_append_seam hi with h | h | ⟨p1, c2, p2, hp, hne, ⟨t, rfl⟩, ⟨u, rfl⟩⟩
    · rw [hx] at h; cases h
    · rw [hy] at h; cases h
    · match p1, hne, hp with
      | [c], _, hp =>
        obtain ⟨rfl, rfl, rfl⟩ : a = c ∧ b = c2 ∧ p2 = [] := by simpa using hp
        exact (hs (by simp) rfl).elim
      | c :: d :: r, _, hp => simp at hp

theorem infix2_single (a b c : Char) : isInfix [a, b] [c] = false := by
  simp [isInfix, tails, List.isPrefixOf]

theorem tok_noPair {t : STok} (ht : TokOK t) {b : Char} (hb : b = '/' ∨ b = '*') :
    isInfix ['/', b] t.text = false ∧ (isDelimSTok t = true → ∀ c ∈ t.text, c ≠ '/' ∧ c ≠ b) := by
  cases t with
  | word w =>
    rcases ht with h | h
    · obtain ⟨hw, _, _, _, _, _, h1, h2, _⟩ := srcWord_iff.mp h
      refine ⟨by rcases hb with rfl | rfl <;> assumption, fun hd => ?_⟩
      have : isDelimTok w = false := wordTok_not_delimTok hw
      simp only [isDelimSTok, this] at hd
      cases hd
    · obtain ⟨c, rfl, hc⟩ := delimTok_inv h
      refine ⟨infix2_single _ _ _, fun _ x hx => ?_⟩
      simp only [STok.text, List.mem_singleton] at hx
      subst hx
      have := delim_noMark hc
      exact ⟨this.slash, by rcases hb with rfl | rfl; exact this.slash; exact this.star⟩
  | quoted q body =>
    obtain ⟨hq, _, _, h1, h2, _⟩ := srcQuoted_iff.mp ht
    have hqf := NoMark.of (quote_facts hq).2.2.2
    have hbody : isInfix ['/', b] body = false := by rcases hb with rfl | rfl <;> assumption
    refine ⟨?_, fun hd => by cases hd⟩
    have e : (STok.quoted q body).text = ([q] ++ body) ++ [q] := rfl
    rw [e]
    refine infix2_append (infix2_append (infix2_single _ _ _) hbody ?_) (infix2_single _ _ _) ?_
    · intro h _; simp at h; exact hqf.slash h
    · intro _ h; simp at h
      rcases hb with rfl | rfl
      · exact hqf.slash h
      · exact hqf.star h

theorem FrontOK.of_ok {t : STok} (h : TokOK t) : FrontOK t := ⟨tok_shape h, fun hb => (tok_noPair h hb).1⟩

/-- a pattern of non-blank characters that no token contains and no delimiter is part of does not occur in an
    admissible layout -/
theorem noInfix_spread (p : Str) (hne : p ≠ []) (hp : ∀ c ∈ p, isWs c = false) :
    ∀ (ts : List STok) (gaps : List Str) (tail : Str),
    (∀ t ∈ ts, isInfix p t.text = false ∧ (isDelimSTok t = true → ∃ d, t.text = [d] ∧ d ∉ p)) →
    GapsOKS ts gaps = true → tail.all isWs = true → isInfix p (spreadS ts gaps tail) = false
  | [], gaps, tail, _, _, ht => by
    rw [spreadS_nil]
    exact noInfix_ws hne fun c hc hm => Bool.false_ne_true ((hp c hm).symm.trans (List.all_eq_true.mp ht c hc))
  | t :: ts, gaps, tail, hts, hg, ht => by
    have gap : ∀ {g : Str}, g.all isWs = true → ∀ c ∈ g, c ∉ p := fun hg c hc hm =>
      Bool.false_ne_true ((hp c hm).symm.trans (List.all_eq_true.mp hg c hc))
    obtain ⟨h1, h2, h3⟩ := gapsOKS_step hg
    have ih := noInfix_spread p hne hp ts gaps.tail tail (fun u hu => hts u (by simp [hu])) h2 ht
    have htk := hts t (by simp)
    rw [spreadS_cons, List.append_assoc]
    refine noInfix_app (noInfix_ws hne (gap h1)) (noInfix_app htk.1 ih ?_) (Or.inl (gap h1))
    -- the junction between the token and what follows: a gap, a delimiter on one side, or the tail
    cases ts with
    | nil =>
      rw [spreadS_nil]
      exact Or.inr fun c hc => gap ht c (List.mem_of_mem_head? hc)
    | cons u ts' =>
      obtain ⟨g1, _, _⟩ := gapsOKS_step h2
      rw [spreadS_cons, List.append_assoc]
      cases hgap : gaps.tail.headD [] with
      | cons c g' =>
        rw [hgap] at g1
        refine Or.inr fun x hx => ?_
        simp only [List.cons_append, List.head?_cons, Option.some.injEq] at hx
        exact hx ▸ gap g1 c List.mem_cons_self
      | nil =>
        rw [List.nil_append]
        rcases h3 u ts' rfl with hd | hd | hgne
        · obtain ⟨d, hd1, hd2⟩ := htk.2 hd
          exact Or.inl fun c hc => by rw [hd1, List.mem_singleton] at hc; exact hc ▸ hd2
        · obtain ⟨d, hd1, hd2⟩ := (hts u (by simp)).2 hd
          refine Or.inr fun x hx => ?_
          rw [hd1] at hx
          simp only [List.cons_append, List.head?_cons, Option.some.injEq] at hx
          exact hx ▸ hd2
        · exact absurd hgap hgne

/-- an admissible layout of such tokens contains neither `//` nor `/*`: a delimiter is neither `/` nor `*` -/
theorem noPair_spread {b : Char} (hb : b = '/' ∨ b = '*') (ts : List STok) (gaps : List Str) (tail : Str)
    (hts : ∀ t ∈ ts, FrontOK t) (hg : GapsOKS ts gaps = true) (ht : tail.all isWs = true) :
    isInfix ['/', b] (spreadS ts gaps tail) = false := by
  refine noInfix_spread ['/', b] (by simp) ?_ ts gaps tail (fun t h => ⟨(hts t h).noPair hb, fun hd => ?_⟩) hg ht
  · intro c hc
    simp only [List.mem_cons, List.not_mem_nil, or_false] at hc
    rcases hc with rfl | rfl
    · decide
    · rcases hb with rfl | rfl <;> decide
  · cases t with
    | quoted q x => cases hd
    | word w =>
      obtain ⟨d, rfl, hdm⟩ := delimTok_inv hd
      have := delim_noMark hdm
      exact ⟨d, rfl, by rcases hb with rfl | rfl <;> simp [this.slash, this.star]⟩

theorem noMarkup_spread (ts : List STok) (gaps : List Str) (tail : Str) (hts : ∀ t ∈ ts, FrontOK t)
    (hg : GapsOKS ts gaps = true) (ht : tail.all isWs = true) : NoMarkup (spreadS ts gaps tail) :=
  ⟨noPair_spread (Or.inl rfl) ts gaps tail hts hg ht, noPair_spread (Or.inr rfl) ts gaps tail hts hg ht,
    noHash_sound (noHash_spread ts gaps tail hts hg ht true)⟩

end Main

/-! ## 8. non-vacuity -/

def exFrontText : Str := "a 1;\nsub { x 'y z'; }\n".toList

theorem exFrontText_noMarkup : NoMarkup exFrontText := by
  unfold NoMarkup exFrontText
  literal_chars; decide +kernel

theorem exFrontText_no_dollar : '$' ∉ exFrontText := by
  unfold exFrontText
  literal_chars; decide +kernel

def exFrontData : Entries :=
  [(.str ['a'], .leaf (.int 1)), (.str "sub".toList, .dict [(.str ['x'], .leaf (.str "y z".toList))])]

/-- the right-hand side of `front_id` on the example: `parseBlock` evaluated (kernel reduction) -/
theorem exFrontText_block : parseBlock none exFrontText = .ok (exFrontData, some 0) := by
  apply ok_of_toOption
  unfold exFrontText exFrontData
  literal_chars; decide +kernel

/-- the left-hand side: the whole reader on the example, through `front_id`, `clean_plain`, `dropDocKeys_id` -/
theorem exFrontText_native (comments : Bool) (dir : Str) :
    parseNative comments dir none exFrontText = .ok ({ data := exFrontData }, some 0) := by
  rw [front_id comments dir none exFrontText_noMarkup exFrontText_no_dollar, exFrontText_block]
  simp only [Except.map, clean_plain (es := exFrontData)
    (by simp [exFrontData, C07.NoPhEs, C07.NoPhV, C07.isPhKey]; decide)
    (by simp [exFrontData, NodupKeysV, NodupKeysEs]), dropDocKeys_id (es := exFrontData) (by decide) (by decide)]

/-! ### the hypothesis `'$' ∉ t` of `front_id` is needed

  `NoMarkup` alone does not keep the expression table empty: `$b` is a reference, the lexer files it in `exprs`,
  and `parseBlock` does not return that table.  (`front_gen` is the statement without the hypothesis.) -/
theorem front_id_needs_no_dollar :
    ¬ ∀ (t : Str), NoMarkup t → parseNative true [] none t = (parseBlock none t).map (fun r =>
      ({ ({ data := r.1 } : SD).clean with data := dropDocKeys (({ data := r.1 } : SD).clean).data }, r.2)) := by
  intro h
  have hm : NoMarkup "$b".toList := ⟨by decide, by decide, by decide⟩
  have hx : (C12.parseBlockSt { counter := none } "$b".toList).map (fun r => (r.1, r.2.exprs)) =
      .ok ([], [(0, { expression := "$b".toList, name := "EXPRESSION000000".toList })]) := by
    apply ok_of_toOption
    decide +kernel
  have h := h _ hm
  rw [front_gen true [] none hm, C12.parseBlock_eq_St] at h
  cases hr : C12.parseBlockSt { counter := none } "$b".toList with
  | error e => rw [hr] at hx; cases hx
  | ok r =>
    rw [hr] at h hx
    simp only [Except.map, Except.ok.injEq, C12.finishSD, Prod.mk.injEq] at h hx
    -- `_clean` keeps the expression table the lexer built; `parseBlock` has forgotten it
    have := congrArg SD.exprs h.1
    simp only [hx.1, hx.2] at this
    rw [C07.clean_id _ C07.nodupV_nil (by simp only [C07.NoPhEs]),
      C07.clean_id _ C07.nodupV_nil (by simp only [C07.NoPhEs])] at this
    cases this

end DictIO.C02
