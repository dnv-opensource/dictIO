/-
  C12 -- the comment round trip: the writer side (`C12write`) composed with the reader side (`C12read`).

    `C12_roundtrip_commented2`  writing `denC c items` (under `HW2 c items`) and reading the text again, with any
          valid counter, gives `denC c₂ (writtenDoc2 items)`; `read_written2` is the same with the counter after the
          read valid again (what `C03cycles` iterates)
    `C12_roundtrip_commented`   the case `HW c items` (no level repeats a comment), with `writtenDoc items`;
          `skel_cnormI`, `writtenDoc_top`: every comment of every level is there, at its place among the entries of
          its level; at top level the block comments stand first, in their order (the writer hoists them)
    `exW_roundtrip`, `exDup_roundtrip`   the round trip on the two examples of `C12write`

  The writer gives a layout `spreadC … ([] :: gaps) "\n"` that is admissible with a line feed in front
  (`C12_write_commented2`); the reader theorem `C12.C12_read_commented` applies to that text, and the reader does not
  see the line feed (`parse_spreadC_top`).
-/
import DictIO.Props.C12write
import DictIO.Props.C12read

namespace DictIO.C12W
open DictIO

theorem read_written2 {c c₂ : Counter} {items : List CItem} (dir : Str) (H : HW2 c items)
    (hc₂ : C13.ValidCounter Gen.counterLimit c₂)
    (hn : C02.countQuotedEs (plainItems (writtenDoc2 items)) ≤ Gen.counterLimit + 1)
    (hd : C02.DocKeysAbsent (plainItems (writtenDoc2 items))) :
    ∃ text c', fmtSD .native (denC c items) = some text ∧ C13.ValidCounter Gen.counterLimit c' ∧
      parseNative true dir c₂ text = .ok (denC c₂ (writtenDoc2 items), c') := by
  obtain ⟨gaps, hw, hg⟩ := C12_write_commented2 H
  have hread := C12.C12_read_commented dir c₂ (writtenDoc2_wf H) hg (fun _ => by decide) hc₂ hn hd
  rw [parse_spreadC_top] at hread
  exact ⟨_, _, hw, parseNative_valid hread hc₂, hread⟩

/-- **Comments may repeat.**  Reading the written text (any valid counter) returns the
    meaning of `writtenDoc2 items`.  Its comments are those of `dedupI items` — per level and kind every text once, at
    its first place (`lvl_dedup`) —, each at its place among the entries of its level (`skel_cnormI`); at top level
    the block comments stand first, the default header in front of them unless the document has its own
    (`writtenDoc2_top`). -/
theorem C12_roundtrip_commented2 {c c₂ : Counter} {items : List CItem} (dir : Str) (H : HW2 c items)
    (hc₂ : C13.ValidCounter Gen.counterLimit c₂)
    (hn : C02.countQuotedEs (plainItems (writtenDoc2 items)) ≤ Gen.counterLimit + 1)
    (hd : C02.DocKeysAbsent (plainItems (writtenDoc2 items))) :
    ∃ text c', fmtSD .native (denC c items) = some text ∧
      parseNative true dir c₂ text = .ok (denC c₂ (writtenDoc2 items), c') ∧
      skelI (cnormI (dedupI items)) = skelI (dedupI items) := by
  obtain ⟨text, c', hw, _, hr⟩ := read_written2 dir H hc₂ hn hd
  exact ⟨text, c', hw, hr, skel_cnormI _⟩

/-- Writing the SDict read from a commented document and reading the text again
    (any valid counter) returns the meaning of `writtenDoc items`: the document in the writer's spelling with the
    top-level block comments moved to the top (in their order) and the default header in front when the document has
    no header of its own.  Every comment of every level is there, at its place among the entries of its level
    (`skel_cnormI`, `writtenDoc_top`). -/
theorem C12_roundtrip_commented {c c₂ : Counter} {items : List CItem} (dir : Str) (H : HW c items)
    (hc₂ : C13.ValidCounter Gen.counterLimit c₂)
    (hn : C02.countQuotedEs (plainItems (writtenDoc items)) ≤ Gen.counterLimit + 1)
    (hd : C02.DocKeysAbsent (plainItems (writtenDoc items))) :
    ∃ text c', fmtSD .native (denC c items) = some text ∧
      parseNative true dir c₂ text = .ok (denC c₂ (writtenDoc items), c') ∧
      skelI (cnormI items) = skelI items ∧
      (writtenDoc items).filter (fun it => !isBlockItem it) = (cnormI items).filter (fun it => !isBlockItem it) ∧
      (writtenDoc items).filter isBlockItem =
        (if ownHeaderI items then [] else [.blockC C12.hdrBody]) ++ (cnormI items).filter isBlockItem := by
  have e := H.writtenDoc2_eq
  obtain ⟨text, c', h1, h2, _⟩ := C12_roundtrip_commented2 dir H.toHW2 hc₂ (by rw [e]; exact hn) (by rw [e]; exact hd)
  rw [e] at h2
  exact ⟨text, c', h1, h2, skel_cnormI items, (writtenDoc_top items).1, (writtenDoc_top items).2⟩

/-- `C12_roundtrip_commented` on the example: reading the written text gives the meaning of `writtenDoc exW` -/
theorem exW_roundtrip (dir : Str) : ∃ c', parseNative true dir none exWText = .ok (denC none (writtenDoc exW), c') := by
  obtain ⟨text, c', h1, h2, _⟩ := C12_roundtrip_commented (c₂ := none) dir exW_hw (Or.inl rfl) (by decide +kernel)
    (by decide +kernel)
  rw [exW_written] at h1
  cases h1
  exact ⟨c', h2⟩

theorem exDup_roundtrip (dir : Str) :
    ∃ c', parseNative true dir none exDupText = .ok (denC none (writtenDoc2 exDup), c') := by
  obtain ⟨text, c', h1, h2, _⟩ := C12_roundtrip_commented2 (c₂ := none) dir exDup_hw (Or.inl rfl) (by decide +kernel)
    (by decide +kernel)
  rw [exDup_written] at h1
  cases h1
  exact ⟨c', h2⟩

end DictIO.C12W
