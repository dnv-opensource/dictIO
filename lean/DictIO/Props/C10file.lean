/-
  C10, through files -- `DictWriter.write(d, x.foam, mode)` then `DictReader.read(x.foam)`: the analogue of
  `C01.C01_roundtrip_file` for the OpenFOAM flavour, built from `C10.C10_roundtrip_string_dropped`.

  Model: `writeStep ev .foam target none mode false d c` (Model/Writer.lean) = `fmtPlain .foam (normEs d)`: for a plain
  dict the Foam writer writes NO banner and NO `FoamFile` block (`fmtPlain` has no header; only `fmtSD`, the `SDict`
  route, has one: `C10.C10_banner`), so there is no header entry to account for on this route.
  `readFile` → `parseFile` (Model/Reader.lean): the suffix dispatch of the model knows `.json` (`isJsonPath`) and
  `.xml`/`.ssd` (`isXmlPath`); every other path — `.foam` included — goes to `parseNative`: the Foam reader *is* the
  native reader (`FoamParser(NativeParser)` overrides nothing that matters).  The path hypothesis is therefore
  "not a JSON path, not an XML path"; `foamPath_dispatch` shows that a path with suffix `.foam` satisfies it.

    `normV_drop`, `normEs_drop`, `normXs_drop`   `_retype_values` commutes with the removal of private keys
    `docKeys_dropped`                            `_variables` / `_includes` are private keys: after the removal they are
                                                 absent — the Foam route needs no `DocKeysAbsent'` hypothesis
    `norm_invariants_foam`                       no placeholder key, unique keys at every level (Foam domain)
    `read_written_foam`                          `DictReader.read` of a file that holds the Foam writer's text
    `C10_roundtrip_file`                         the statement
    `C10_roundtrip_file_never_fails`, `C10_roundtrip_foam_suffix`   corollaries
    `exF…`                                       `{'_variables': {'x': 1}, 'a': [{'_z': 1, 'y': "it's"}], 's': {'_p': 'q', 't': "2"}, 'k': 'x y'}`

  The `SDict` route (`fmtSD .foam`: banner + `FoamFile` block in front, read back as a block-comment placeholder
  entry plus a `FoamFile` dict entry) is Props/C10sd.lean.
-/
import DictIO.Props.C01
import DictIO.Props.C10

namespace DictIO.C10
open DictIO

/-! ## `_retype_values` and the removal of private keys commute -/

mutual
  theorem normV_drop (fl : Flavor) : ∀ v : Val, normV (dropUnderscoreV fl v) = dropUnderscoreV fl (normV v)
    | .leaf _ => rfl
    | .dict es => by simp only [dropUnderscoreV, normV, normEs_drop fl es]
    | .list xs => by simp only [dropUnderscoreV, normV, normXs_drop fl xs]
  /-- the removal looks at keys only, `normEs` at leaves only -/
  theorem normEs_drop (fl : Flavor) : ∀ es : Entries, normEs (dropUnderscoreEs fl es) = dropUnderscoreEs fl (normEs es)
    | [] => rfl
    | (k, v) :: es => by
      simp only [dropUnderscoreEs, normEs]
      split
      · exact normEs_drop fl es
      · simp only [normEs, normV_drop fl v, normEs_drop fl es]
  theorem normXs_drop (fl : Flavor) : ∀ xs : List Val, normXs (dropUnderscoreXs fl xs) = dropUnderscoreXs fl (normXs xs)
    | [] => rfl
    | v :: xs => by simp only [dropUnderscoreXs, normXs, normV_drop fl v, normXs_drop fl xs]
end

/-- what the reader returns for the text of `normEs d`: normalising once more changes nothing -/
theorem norm_drop_norm (d : Entries) :
    normEs (dropUnderscoreEs .foam (normEs d)) = normEs (dropUnderscoreEs .foam d) := by
  rw [← normEs_drop, C01.normEs_idem]

/-! ## the documentation keys are private keys -/

theorem mem_noUnderscore : ∀ {es : Entries}, NoUnderscoreEs es → ∀ e ∈ es, (formatKey .foam e.1).head? ≠ some '_'
  | [], _, e, he => by simp at he
  | (k, v) :: es, h, e, he => by
    rcases List.mem_cons.mp he with rfl | hm
    · exact h.1
    · exact mem_noUnderscore h.2.2 e hm

/-- `_variables` and `_includes` start with `_`: the Foam writer never writes them, so the reader never deletes them -/
theorem docKeys_dropped (es : Entries) : C01.DocKeysAbsent' (dropUnderscoreEs .foam es) := by
  intro e he
  have h := mem_noUnderscore (C10_underscore es) e he
  refine ⟨fun hk => h ?_, fun hk => h ?_⟩
  · rw [hk]; decide +kernel
  · rw [hk]; decide +kernel

/-! ## the reader stages above the parser -/

/-- a dict of the Foam value domain, normalised, has no placeholder key and unique keys at every level -/
theorem norm_invariants_foam {es : Entries} (h : DomC01 .foam es = true) :
    C07.NoPhEs (normEs es) ∧ NodupKeysV (.dict (normEs es)) := by
  have hdom : domEs .foam 1 es = true := by
    simp only [DomC01, Bool.and_eq_true] at h; exact h.1
  have hwf := Foam.srcOf_wf_f 1 es hdom
  rw [← Foam.den_written_f h]
  exact ⟨C02.den_noPh hwf, C02.den_nodup _⟩

/-- `DictReader.read` of a file that holds the Foam writer's text for a dict `e` whose private-key-free copy lies in
    the Foam value domain: the normalised copy comes back, all side tables empty -/
theorem read_written_foam {e : Entries} {c : Counter} (ev : Str → EvalResult) (target : Comps)
    (hdom : DomC01 .foam (dropUnderscoreEs .foam e) = true)
    (hn : C02.countQuotedEs (srcOfEs .foam (dropUnderscoreEs .foam e)) ≤ Gen.counterLimit + 1)
    (hc : C13.ValidCounter Gen.counterLimit c)
    (hj : isJsonPath target = false) (hx : isXmlPath target = false) (hr : resolveSpelled target = target) :
    ∃ c', readFile ev [(target, .native (fmtPlain .foam e))] {} c target =
      .ok (.ok { data := normEs (dropUnderscoreEs .foam e) } c') := by
  obtain ⟨c', hparse⟩ := C10_roundtrip_string_dropped (c := c) true (pathStr target.dropLast) hdom (docKeys_dropped e)
    hn hc
  have hinv := norm_invariants_foam hdom
  exact ⟨c', C01.readFile_clean (o := {}) (by rw [hr]; exact C01.fs_get_single _ _) hx hj hparse rfl rfl
    (C07.clean_id _ hinv.2 hinv.1) hinv.2⟩

/-- **C10, through files** (DictWriter + DictReader, OpenFOAM flavour, plain dict).  For a dict `d` — private `_` keys
    allowed at every level, also inside lists — whose normalised private-key-free copy
    `normEs (dropUnderscoreEs .foam d)` lies in the Foam value domain (`DomC01 .foam`: in particular no string leaf
    contains `"`), writing it in Foam flavour with any `mode` to a target that does not exist yet writes the plain Foam
    text of `normEs d` (no banner, no `FoamFile` block: `d` is a plain dict), and reading that file with the default
    options returns exactly `normEs d` without its private keys, all side tables empty; no key with a leading `_` is
    left at any level.

    Hypotheses as in `C01.C01_roundtrip_file`, except that `DocKeysAbsent'` is not needed (`docKeys_dropped`).  The path
    must not be a `.json` / `.xml` / `.ssd` path (`.foam` is fine: `foamPath_dispatch`) and must be normalised. -/
theorem C10_roundtrip_file {d : Entries} {c : Counter} (ev : Str → EvalResult) (target : Comps) (mode : Str) :
    DomC01 .foam (normEs (dropUnderscoreEs .foam d)) = true →
    C02.countQuotedEs (srcOfEs .foam (normEs (dropUnderscoreEs .foam d))) ≤ Gen.counterLimit + 1 →
    C13.ValidCounter Gen.counterLimit c →
    isJsonPath target = false → isXmlPath target = false → resolveSpelled target = target →
    writeStep ev .foam target none mode false d c = .ok (fmtPlain .foam (normEs d), c) ∧
    (∃ c', readFile ev [(target, .native (fmtPlain .foam (normEs d)))] {} c target =
      .ok (.ok { data := normEs (dropUnderscoreEs .foam d) } c')) ∧
    NoUnderscoreEs (normEs (dropUnderscoreEs .foam d)) := by
  intro hdom hn hc hj hx hr
  refine ⟨rfl, ?_, ?_⟩
  · rw [normEs_drop] at hdom hn
    have h := read_written_foam (e := normEs d) ev target hdom hn hc hj hx hr
    rw [norm_drop_norm] at h
    exact h
  · rw [normEs_drop]; exact C10_underscore _

/-- the Foam file route never fails on the domain -/
theorem C10_roundtrip_file_never_fails {d : Entries} {c : Counter} (ev : Str → EvalResult) (target : Comps) (mode : Str)
    (hdom : DomC01 .foam (normEs (dropUnderscoreEs .foam d)) = true)
    (hn : C02.countQuotedEs (srcOfEs .foam (normEs (dropUnderscoreEs .foam d))) ≤ Gen.counterLimit + 1)
    (hc : C13.ValidCounter Gen.counterLimit c)
    (hj : isJsonPath target = false) (hx : isXmlPath target = false) (hr : resolveSpelled target = target) :
    ∃ t c₁ r, writeStep ev .foam target none mode false d c = .ok (t, c₁) ∧
      readFile ev [(target, .native t)] {} c₁ target = .ok r := by
  obtain ⟨hw, ⟨c', hrd⟩, _⟩ := C10_roundtrip_file ev target mode hdom hn hc hj hx hr
  exact ⟨_, _, _, hw, hrd⟩

/-- without private keys the Foam file route returns `normEs d` itself, as the native route does -/
theorem C10_roundtrip_file_no_private {d : Entries} {c : Counter} (ev : Str → EvalResult) (target : Comps) (mode : Str)
    (hu : NoUnderscoreEs d) (hdom : DomC01 .foam (normEs d) = true)
    (hn : C02.countQuotedEs (srcOfEs .foam (normEs d)) ≤ Gen.counterLimit + 1)
    (hc : C13.ValidCounter Gen.counterLimit c)
    (hj : isJsonPath target = false) (hx : isXmlPath target = false) (hr : resolveSpelled target = target) :
    ∃ c', readFile ev [(target, .native (fmtPlain .foam (normEs d)))] {} c target = .ok (.ok { data := normEs d } c') := by
  have e := C10_drop_id d hu
  have h := (C10_roundtrip_file (d := d) (c := c) ev target mode (by rw [e]; exact hdom) (by rw [e]; exact hn) hc hj hx hr).2.1
  rw [e] at h
  exact h

/-! ## the suffix dispatch -/

/-- the target is a `.foam` file -/
def isFoamPath (p : Comps) : Bool :=
  match p.getLast? with
  | some n => suffixOf n == ".foam".toList
  | none => false

/-- a `.foam` path is neither a JSON nor an XML path: `parseFile` hands it to `parseNative` (= the Foam reader) -/
theorem foamPath_dispatch {p : Comps} (h : isFoamPath p = true) : isJsonPath p = false ∧ isXmlPath p = false := by
  unfold isFoamPath at h
  unfold isJsonPath isXmlPath
  cases hl : p.getLast? with
  | none => rw [hl] at h; cases h
  | some n =>
    rw [hl] at h
    simp only [beq_iff_eq] at h
    simp only [h]
    decide

/-- `C10_roundtrip_file` for a target with suffix `.foam` -/
theorem C10_roundtrip_foam_suffix {d : Entries} {c : Counter} (ev : Str → EvalResult) (target : Comps) (mode : Str)
    (hdom : DomC01 .foam (normEs (dropUnderscoreEs .foam d)) = true)
    (hn : C02.countQuotedEs (srcOfEs .foam (normEs (dropUnderscoreEs .foam d))) ≤ Gen.counterLimit + 1)
    (hc : C13.ValidCounter Gen.counterLimit c)
    (hf : isFoamPath target = true) (hr : resolveSpelled target = target) :
    writeStep ev .foam target none mode false d c = .ok (fmtPlain .foam (normEs d), c) ∧
    ∃ c', readFile ev [(target, .native (fmtPlain .foam (normEs d)))] {} c target =
      .ok (.ok { data := normEs (dropUnderscoreEs .foam d) } c') := by
  obtain ⟨hj, hx⟩ := foamPath_dispatch hf
  obtain ⟨hw, hrd, _⟩ := C10_roundtrip_file ev target mode hdom hn hc hj hx hr
  exact ⟨hw, hrd⟩

/-! ## non-vacuity -/

/-- `{'_variables': {'x': 1}, 'a': [{'_z': 1, 'y': "it's"}], 's': {'_p': 'q', 't': "2"}, 'k': 'x y'}`: a
    documentation key, private keys on the top level, in a nested dict and in a dict inside a list, a string leaf that
    spells a number -/
def exF : Entries :=
  [(.str "_variables".toList, .dict [(.str "x".toList, .leaf (.int 1))]),
   (.str "a".toList, .list [.dict [(.str "_z".toList, .leaf (.int 1)), (.str "y".toList, .leaf (.str "it's".toList))]]),
   (.str "s".toList, .dict [(.str "_p".toList, .leaf (.str "q".toList)), (.str "t".toList, .leaf (.str "2".toList))]),
   (.str "k".toList, .leaf (.str "x y".toList))]

/-- what comes back: `{'a': [{'y': "it's"}], 's': {'t': 2}, 'k': 'x y'}` -/
def exFBack : Entries :=
  [(.str "a".toList, .list [.dict [(.str "y".toList, .leaf (.str "it's".toList))]]),
   (.str "s".toList, .dict [(.str "t".toList, .leaf (.int 2))]),
   (.str "k".toList, .leaf (.str "x y".toList))]

theorem exF_back : normEs (dropUnderscoreEs .foam exF) = exFBack := by decide +kernel
theorem exFBack_dom : DomC01 .foam exFBack = true := by decide +kernel
theorem exFBack_count : C02.countQuotedEs (srcOfEs .foam exFBack) = 2 := by decide +kernel
theorem exF_docKey : ¬ C01.DocKeysAbsent' exF := by decide +kernel

theorem intRepr_2 : intRepr 2 = ['2'] := by
  show intRepr (Int.ofNat 2) = _
  simp [intRepr, natDigits]

/-- the raw text of the private-key-free copy (before trailing-space removal) -/
theorem exFBack_raw : fmtEntries .foam 0 exFBack = C01.unlines
    ["a",
     "(",
     "    ",
     "    {",
     "        y                     \"it's\";",
     "    }",
     ");",
     "s",
     "{",
     "    t                         2;",
     "}",
     "k                             \"x y\";"] := by
  simp only [C01.unlines, List.flatMap_cons, List.flatMap_nil]
  literal_chars
  simp only [exFBack, fmtEntries, fmtList, fmtItems, formatKey, keyStr, formatScalar, intRepr_2]
  decide +kernel

/-- the text of the file: no banner, no `FoamFile` block, no private key, double quotes only -/
theorem exF_text : fmtPlain .foam (normEs exF) = C01.unlines
    ["a",
     "(",
     "",
     "    {",
     "        y                     \"it's\";",
     "    }",
     ");",
     "s",
     "{",
     "    t                         2;",
     "}",
     "k                             \"x y\";"] := by
  have hu : NoUnderscoreEs exFBack := by rw [← exF_back, normEs_drop]; exact C10_underscore _
  rw [← C10_fmtPlain_drop, ← normEs_drop, exF_back, C10_input_unchanged, C10_drop_id _ hu, Foam.hoist_id_f exFBack_dom,
    exFBack_raw]
  simp only [C01.unlines, List.flatMap_cons, List.flatMap_nil]
  literal_chars
  decide +kernel

def exTarget : Comps := ["w".toList, "dict.foam".toList]

theorem exTarget_foam : isFoamPath exTarget = true ∧ resolveSpelled exTarget = exTarget := by decide +kernel

/-- the example written to `/w/dict.foam` and read back -/
theorem exF_file (ev : Str → EvalResult) (mode : Str) :
    writeStep ev .foam exTarget none mode false exF none = .ok (fmtPlain .foam (normEs exF), none) ∧
    ∃ c', readFile ev [(exTarget, .native (fmtPlain .foam (normEs exF)))] {} none exTarget =
      .ok (.ok { data := exFBack } c') := by
  have h := C10_roundtrip_foam_suffix (d := exF) (c := none) ev exTarget mode
    (by rw [exF_back]; exact exFBack_dom) (by rw [exF_back, exFBack_count]; decide) (Or.inl rfl)
    exTarget_foam.1 exTarget_foam.2
  rw [exF_back] at h
  exact h

end DictIO.C10
