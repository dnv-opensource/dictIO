/-
  C08 -- history independence for documents WITH comments: naturality of the comment stages in the placeholder ids.

  The reader gives every line comment an id drawn from the process-global counter (`Counter.next`, ids `0 … 999999`, wrapping),
  puts an entry `LINECOMMENTnnnnnn ↦ LINECOMMENTnnnnnn` into the data where the comment stands and the text into the table
  `lineC` under that id.  Block comments are numbered `0, 1, 2, …` per text (`lexBlockCommentsFuel`, `labelCItems`): their ids
  do not depend on the counter.  So two reads of the same text from two counter values differ exactly by a renaming of the
  line-comment ids; this file proves that, through `_clean` (which deletes comment entries whose text repeats) and through
  the whole reader (`C12_read_commented`).

    0  `firstSix_linePh` … `sel_noPh`   what `Lemmas/Ph` says of a placeholder word of any kind, at `linePh` and `blockPh`
    1  `renWord f g`, `renKey`, `renScalar`, `renV` / `renEs` / `renXs`, `renSD f g`
           the renaming: a word `LINECOMMENT%06d` (id below 10^6) gets its id mapped by `f`, `BLOCKCOMMENT%06d` by `g`, every
           other string is left alone (`renWord_spec`: complete, exclusive case analysis); on values:
           keys and string leaves, also inside lists; on an `SDict`: data, `lineC` re-keyed by `f`, `blockC` by `g`.
           `renWord f g` is `renK (tri f g id)` and `renV f g` is `mapV (renK (tri f g id))` of `C08ren` (`renWord_eq`,
           `renV_eq`), which is where the general facts come from
    2a `clean_ren`            `(renSD f g s).clean = renSD f g s.clean` for `RenOK f`, `RenOK g`, provided every key `_clean`
                              looks at is an exact placeholder word or contains no placeholder (`PhWFEs s.data`):
                              `clean_renSDK` of `C08ren`, `renSD f g` being `renSDK (tri f g id)` (`renSD_eq`: the include
                              ids left alone)
       `clean_ren_needs_wf`   … which is needed: refuted on a witness without it
    2b `ren_denSrcV/Es/Xs`    the comment-free part of a well-formed document is untouched by any renaming
    2c `label_natII`          labelling a document with comments and directives (`labelIItems`) from two pairs of counters,
                              the line-comment counters related by `f` (`CRel f c₁ c₂`: `f` maps the `j`-th id drawn from
                              `c₁` to the `j`-th id drawn from `c₂`, all `j`), the include counters by `h`: states and
                              meanings related by the renaming `renK (tri f id h)` of `C08ren`
       `label_natV`           its case for a commented document (`embCV`: no include id is drawn)
       `phWF_labelI`          the meaning of a commented document satisfies `PhWFEs` (`levels_labelII` of `C12incl` on
                              the embedded document, which has no directive)
    2d `shift c₁ c₂`, `shift_ok`, `shift_rel`   the rotation of `0 … 999999` by `start c₂ - start c₁`: a bijection, so the
                              collision pattern across the wrap-around is the same in both reads and NO bound on the number of
                              line comments is needed
       `sdOf_natural`         "label, then `_clean`" from two related labelling states (`StRelI f h`): the meanings
                              differ by `renSDK (tri f id h)`; `denC` is the case of an embedded document and `h = id`,
                              `denI` (in `C08incl`) the case `h = f`
       `denC_natural`         `denC c₂ items = renSD (shift c₁ c₂) id (denC c₁ items)`, with `shift` injective and
                              `(alloc limit k c₁).map (shift c₁ c₂) = alloc limit k c₂` for every `k`
       `drawn_ids`            with at most `limit + 1` line comments the table built is keyed by `alloc limit n c`
    3  `C08_commented_read_natural`   both reads `.ok`, results related by `renSD (shift c₁ c₂) id`
       `counterAfter_rel`     … and so are the counters they leave: sequences of reads stay related
       `C08_commented_read_stripped`  stripped data, line-comment texts in table order, block-comment table: EQUAL
    4  `canonSD`, `canonSD_ren'`, `C08_denC_canon`, `C08_commented_canon`
           canonical form (ids ↦ rank of first appearance per kind, in the traversal "entries in order, key before value",
           then the table keys; tables re-keyed): invariant under every injective renaming (`renSDK_comp_congr`);
           the canonical forms of the two reads are EQUAL (what the harness compares on the real code)
    5  `exDoc_reads` … `exDoc_canon_eval`   the example of `C12stages` from `none` and from `some 999998` (ids 999999, 0, 1)
    6  `exDoc_block_ids_local`, `clean_ren_needs_wf`   negatives on witnesses

  Added hypothesis (beyond those of `C12_read_commented` for both counters): `nBlockI items ≤ 1000000`.  Block comments are
  numbered locally; from the 1 000 001-st on the reader's own placeholder has seven digits (`BLOCKCOMMENT1000000`), which
  `_clean`'s `\d{6}` reads as id 100000: outside the placeholder format this file's renaming speaks about (`KeyOK`).  The
  statement is probably still true there (both reads agree on block comments), but it is not proved.  A bound of
  `limit + 1` comments in all implies it; line comments need no bound at all.
  Scope: documents of `CSrc` (comments at statement boundaries, no include directives, no `$`), as in `C12_read_commented`.
-/
import DictIO.Props.C12incl
import DictIO.Props.C08ren
import DictIO.Props.C12off

namespace DictIO.C08
open DictIO

/-! ## 0. the lemmas of `Ph` and `phIdOf_other` at `linePh`, `blockPh` and the three selectors of `_clean_data` -/

theorem firstSix_linePh {n : Nat} (h : n < 1000000) : firstSixDigits (linePh n) = some n := Ph.firstSix_ph .line h

theorem firstSix_blockPh {n : Nat} (h : n < 1000000) : firstSixDigits (blockPh n) = some n := Ph.firstSix_ph .block h

theorem containsIncl_linePh (n : Nat) : containsPh kwIncl (linePh n) = false :=
  Ph.containsPh_other (a := .incl) (b := .line) (by decide) n

theorem containsIncl_blockPh (n : Nat) : containsPh kwIncl (blockPh n) = false :=
  Ph.containsPh_other (a := .incl) (b := .block) (by decide) n

theorem linePh_ne_blockPh (i j : Nat) : linePh i ≠ blockPh j := Ph.ph_ne (a := .line) (b := .block) (by decide) i j

theorem linePh_inj {i j : Nat} (h : linePh i = linePh j) : i = j := Ph.ph_inj (a := .line) h
theorem blockPh_inj {i j : Nat} (h : blockPh i = blockPh j) : i = j := Ph.ph_inj (a := .block) h

theorem phIdOf_line_blockPh (n : Nat) : phIdOf kwLine (blockPh n) = none :=
  phIdOf_other (a := .line) (b := .block) (by decide) n

theorem phIdOf_block_linePh (n : Nat) : phIdOf kwBlock (linePh n) = none :=
  phIdOf_other (a := .block) (b := .line) (by decide) n

theorem isPhKey_linePh {i : Nat} (h : i < 1000000) : C07.isPhKey (.str (linePh i)) = true := Ph.isPhKey_ph .line h

theorem isPhKey_blockPh {i : Nat} (h : i < 1000000) : C07.isPhKey (.str (blockPh i)) = true := Ph.isPhKey_ph .block h

theorem sel_linePh {i : Nat} (hi : i < 1000000) :
    C06.selB (.str (linePh i)) = false ∧ C06.selI (.str (linePh i)) = false ∧ C06.selL (.str (linePh i)) = true :=
  ⟨Ph.selK_ph .block .line hi, Ph.selK_ph .incl .line hi, Ph.selK_ph .line .line hi⟩

theorem sel_blockPh {i : Nat} (hi : i < 1000000) :
    C06.selB (.str (blockPh i)) = true ∧ C06.selI (.str (blockPh i)) = false ∧ C06.selL (.str (blockPh i)) = false :=
  ⟨Ph.selK_ph .block .block hi, Ph.selK_ph .incl .block hi, Ph.selK_ph .line .block hi⟩

theorem sel_noPh {k : Key} (h : C07.isPhKey k = false) : C06.selB k = false ∧ C06.selI k = false ∧ C06.selL k = false :=
  ⟨Ph.selK_noPh .block h, Ph.selK_noPh .incl h, Ph.selK_noPh .line h⟩

/-! ## 1. renaming of placeholder ids -/

/-- rename the id of a placeholder word: line-comment ids by `f`, block-comment ids by `g`; every other string stays -/
def renWord (f g : Nat → Nat) (s : Str) : Str :=
  match phIdOf kwLine s with
  | some i => linePh (f i)
  | none => match phIdOf kwBlock s with
    | some i => blockPh (g i)
    | none => s

def renKey (f g : Nat → Nat) : Key → Key
  | .str s => .str (renWord f g s)
  | .int z => .int z

def renScalar (f g : Nat → Nat) : Scalar → Scalar
  | .str s => .str (renWord f g s)
  | x => x

mutual
  def renV (f g : Nat → Nat) : Val → Val
    | .leaf x => .leaf (renScalar f g x)
    | .dict es => .dict (renEs f g es)
    | .list xs => .list (renXs f g xs)
  def renEs (f g : Nat → Nat) : Entries → Entries
    | [] => []
    | (k, v) :: es => (renKey f g k, renV f g v) :: renEs f g es
  def renXs (f g : Nat → Nat) : List Val → List Val
    | [] => []
    | v :: xs => renV f g v :: renXs f g xs
end

/-- the renaming on an `SDict`: data renamed, line-comment table re-keyed by `f`, block-comment table by `g` -/
def renSD (f g : Nat → Nat) (s : SD) : SD :=
  { s with data := renEs f g s.data, lineC := renTbl f s.lineC, blockC := renTbl g s.blockC }

theorem renSD_data (f g : Nat → Nat) (s : SD) : (renSD f g s).data = renEs f g s.data := rfl
theorem renSD_lineC (f g : Nat → Nat) (s : SD) : (renSD f g s).lineC = renTbl f s.lineC := rfl
theorem renSD_blockC (f g : Nat → Nat) (s : SD) : (renSD f g s).blockC = renTbl g s.blockC := rfl
theorem renSD_incl (f g : Nat → Nat) (s : SD) : (renSD f g s).incl = s.incl := rfl
theorem renSD_exprs (f g : Nat → Nat) (s : SD) : (renSD f g s).exprs = s.exprs := rfl

/-! ### the renaming on words and keys -/

theorem renWord_eq (f g : Nat → Nat) (s : Str) : renWord f g s = renK (tri f g id) s := by
  cases h0 : phIdOf kwIncl s with
  | none =>
    simp only [renWord, renK, kindOf, h0]
    cases phIdOf kwLine s <;> cases phIdOf kwBlock s <;> rfl
  | some i =>
    obtain ⟨hi, rfl⟩ := phIdOf_some h0
    rw [show kwIncl ++ padSix i = Ph.ph .incl i from rfl, renK_ph _ .incl hi]
    simp only [renWord, show phIdOf kwLine (Ph.ph .incl i) = none from phIdOf_other (a := .line) (by decide) i,
      show phIdOf kwBlock (Ph.ph .incl i) = none from phIdOf_other (a := .block) (by decide) i]
    rfl

theorem renWord_linePh (f g : Nat → Nat) {i : Nat} (h : i < 1000000) : renWord f g (linePh i) = linePh (f i) :=
  (renWord_eq f g _).trans (renK_linePh _ h)

theorem renWord_blockPh (f g : Nat → Nat) {i : Nat} (h : i < 1000000) : renWord f g (blockPh i) = blockPh (g i) :=
  (renWord_eq f g _).trans (renK_blockPh _ h)

theorem renWord_noPh (f g : Nat → Nat) {s : Str} (hl : containsPh kwLine s = false) (hb : containsPh kwBlock s = false) :
    renWord f g s = s := by
  simp only [renWord, phIdOf_of_not_contains (kw := kwLine) (Ph.kw_ne_nil (Ph.kw_mem .line)) hl,
    phIdOf_of_not_contains (kw := kwBlock) (Ph.kw_ne_nil (Ph.kw_mem .block)) hb]

/-- the specification of `renWord`, complete: the three cases are exhaustive and exclusive -/
theorem renWord_spec (f g : Nat → Nat) (s : Str) :
    (∃ i, i < 1000000 ∧ s = linePh i ∧ renWord f g s = linePh (f i)) ∨
    (∃ i, i < 1000000 ∧ s = blockPh i ∧ renWord f g s = blockPh (g i)) ∨
    ((∀ i, i < 1000000 → s ≠ linePh i) ∧ (∀ i, i < 1000000 → s ≠ blockPh i) ∧ renWord f g s = s) := by
  rw [renWord_eq]
  rcases renK_spec (tri f g id) s with ⟨a, i, hi, e, r⟩ | ⟨hn, r⟩
  · cases a
    · exact Or.inl ⟨i, hi, e, r⟩
    · exact Or.inr (Or.inl ⟨i, hi, e, r⟩)
    · exact Or.inr (Or.inr ⟨fun j _ e' => Ph.ph_ne (a := .line) (b := .incl) (by decide) j i (e'.symm.trans e),
        fun j _ e' => Ph.ph_ne (a := .block) (b := .incl) (by decide) j i (e'.symm.trans e), r.trans e.symm⟩)
  · exact Or.inr (Or.inr ⟨hn .line, hn .block, r⟩)

theorem renWord_id (s : Str) : renWord id id s = s := by
  rw [renWord_eq]; exact renK_id (fun a i => by cases a <;> rfl) s

/-- a key of a dict level as `_clean` must find it: an exact line- or block-comment placeholder word, or a key without
    any placeholder in it -/
def KeyOK (k : Key) : Prop :=
  (∃ i, i < 1000000 ∧ k = .str (linePh i)) ∨ (∃ i, i < 1000000 ∧ k = .str (blockPh i)) ∨ C07.isPhKey k = false

theorem KeyOK.ph {k : Key} : KeyOK k → PhKey k
  | .inl ⟨i, hi, e⟩ => .inl ⟨.line, i, hi, e⟩
  | .inr (.inl ⟨i, hi, e⟩) => .inl ⟨.block, i, hi, e⟩
  | .inr (.inr h) => .inr h

theorem renKey_eq (f g : Nat → Nat) (k : Key) : renKey f g k = keyMap (renK (tri f g id)) k := by
  cases k with
  | int z => rfl
  | str s => rw [renKey, renWord_eq]; rfl

theorem renKey_noPh (f g : Nat → Nat) {k : Key} (h : C07.isPhKey k = false) : renKey f g k = k := by
  rw [renKey_eq, renK_key_noPh _ h]

theorem renKey_ok {f g : Nat → Nat} (hf : RenOK f) (hg : RenOK g) {k : Key} (h : KeyOK k) : KeyOK (renKey f g k) := by
  rcases h with ⟨i, hi, rfl⟩ | ⟨i, hi, rfl⟩ | h
  · exact Or.inl ⟨f i, hf.lt i hi, by simp only [renKey, renWord_linePh f g hi]⟩
  · exact Or.inr (Or.inl ⟨g i, hg.lt i hi, by simp only [renKey, renWord_blockPh f g hi]⟩)
  · rw [renKey_noPh f g h]; exact Or.inr (Or.inr h)

/-! ### the renaming on values is `mapV (renK (tri f g id))` -/

theorem renEs_nil (f g : Nat → Nat) : renEs f g [] = [] := by simp only [renEs]
theorem renEs_cons (f g : Nat → Nat) (k : Key) (v : Val) (es : Entries) :
    renEs f g ((k, v) :: es) = (renKey f g k, renV f g v) :: renEs f g es := by simp only [renEs]
theorem renV_dict (f g : Nat → Nat) (es : Entries) : renV f g (.dict es) = .dict (renEs f g es) := by simp only [renV]
theorem renV_leaf (f g : Nat → Nat) (x : Scalar) : renV f g (.leaf x) = .leaf (renScalar f g x) := by simp only [renV]
theorem renV_list (f g : Nat → Nat) (xs : List Val) : renV f g (.list xs) = .list (renXs f g xs) := by simp only [renV]
theorem renXs_nil (f g : Nat → Nat) : renXs f g [] = [] := by simp only [renXs]
theorem renXs_cons (f g : Nat → Nat) (v : Val) (xs : List Val) :
    renXs f g (v :: xs) = renV f g v :: renXs f g xs := by simp only [renXs]

theorem renScalar_eq (f g : Nat → Nat) (x : Scalar) : renScalar f g x = scalarMap (renK (tri f g id)) x := by
  cases x with
  | str s => rw [renScalar, renWord_eq]; rfl
  | _ => rfl

theorem ren_eq_map (f g : Nat → Nat) : (∀ v, renV f g v = mapV (renK (tri f g id)) v) ∧
    (∀ es, renEs f g es = mapEs (renK (tri f g id)) es) ∧ (∀ xs, renXs f g xs = mapXs (renK (tri f g id)) xs) :=
  Val.ind_all (fun x => by rw [renV_leaf, mapV_leaf, renScalar_eq]) (fun es h => by rw [renV_dict, mapV_dict, h])
    (fun xs h => by rw [renV_list, mapV_list, h]) (by rw [renEs_nil, mapEs_nil])
    (fun k v es hv hes => by rw [renEs_cons, mapEs_cons, renKey_eq, hv, hes]) (by rw [renXs_nil, mapXs_nil])
    (fun v xs hv hxs => by rw [renXs_cons, mapXs_cons, hv, hxs])

theorem renV_eq (f g : Nat → Nat) (v : Val) : renV f g v = mapV (renK (tri f g id)) v := (ren_eq_map f g).1 v
theorem renEs_eq (f g : Nat → Nat) (es : Entries) : renEs f g es = mapEs (renK (tri f g id)) es := (ren_eq_map f g).2.1 es
theorem renXs_eq (f g : Nat → Nat) (xs : List Val) : renXs f g xs = mapXs (renK (tri f g id)) xs := (ren_eq_map f g).2.2 xs

theorem renEs_append (f g : Nat → Nat) : ∀ a b : Entries, renEs f g (a ++ b) = renEs f g a ++ renEs f g b := fun a b => by
  rw [renEs_eq, renEs_eq, renEs_eq, mapEs_append]


/-! ## 2a. `_clean` commutes with the renaming -/

/-- two `SDict`s whose tables differ by the renaming (the data fields are not compared) -/
structure TRel (f g : Nat → Nat) (s s' : SD) : Prop where
  lineC : s'.lineC = renTbl f s.lineC
  blockC : s'.blockC = renTbl g s.blockC
  incl : s'.incl = s.incl
  exprs : s'.exprs = s.exprs

mutual
  /-- every key of every dict level that `_clean` visits (through dict nesting; lists are opaque to it) is admissible -/
  def PhWFV : Val → Prop
    | .dict es => PhWFEs es
    | _ => True
  def PhWFEs : Entries → Prop
    | [] => True
    | (k, v) :: es => KeyOK k ∧ PhWFV v ∧ PhWFEs es
end

theorem phWFEs_iff : ∀ {es : Entries}, PhWFEs es ↔ ∀ e ∈ es, KeyOK e.1 ∧ PhWFV e.2
  | [] => by simp [PhWFEs]
  | (k, v) :: es => by simp [PhWFEs, phWFEs_iff (es := es), and_assoc]

theorem phWFEs_keys {es : Entries} (h : PhWFEs es) : ∀ k ∈ keys es, KeyOK k := by
  intro k hk
  obtain ⟨e, he, rfl⟩ := List.mem_map.mp hk
  exact (phWFEs_iff.mp h e he).1

theorem phWFEs_setKey {k : Key} {v : Val} {es : Entries} (h : PhWFEs es) (hk : KeyOK k) (hv : PhWFV v) :
    PhWFEs (setKey k v es) :=
  phWFEs_iff.mpr (forall_mem_setKey (phWFEs_iff.mp h) ⟨hk, hv⟩)

theorem phWFEs_levels (lvl : Entries) (h : PhWFEs lvl) : ∀ e ∈ lvl, PhKey e.1 ∧ ∀ sub, e.2 = .dict sub → PhWFEs sub :=
  fun e he => ⟨(phWFEs_iff.mp h e he).1.ph, fun sub hs => by have := (phWFEs_iff.mp h e he).2; rwa [hs] at this⟩

theorem depthV_ren (f g : Nat → Nat) : ∀ v : Val, depthV (renV f g v) = depthV v := fun v => by
  rw [renV_eq, (depth_map _).1]
theorem depthEs_ren (f g : Nat → Nat) : ∀ es : Entries, depthV.depthEs (renEs f g es) = depthV.depthEs es := fun es => by
  rw [renEs_eq, (depth_map _).2.1]
theorem depthVs_ren (f g : Nat → Nat) : ∀ xs : List Val, depthV.depthVs (renXs f g xs) = depthV.depthVs xs := fun xs => by
  rw [renXs_eq, (depth_map _).2.2]

theorem renSD_eq (f g : Nat → Nat) (s : SD) : renSD f g s = renSDK (tri f g id) s :=
  sd_ext (renEs_eq f g s.data) rfl rfl rfl (renTbl_id _).symm

/-- **`_clean` commutes with the renaming** of placeholder ids -/
theorem clean_ren {f g : Nat → Nat} (hf : RenOK f) (hg : RenOK g) (s : SD) (hw : PhWFEs s.data) :
    (renSD f g s).clean = renSD f g s.clean := by
  rw [renSD_eq, renSD_eq]; exact clean_renSDK (tri_ok hf hg renOK_id) phWFEs_levels s hw


/-! ## 2b. the comment-free part of a document is untouched by the renaming -/

theorem ren_denSrcV (f g : Nat → Nat) : ∀ (v : Src) (d : Nat), SrcWFV d v = true → renV f g (denSrcV v) = denSrcV v :=
  fun v d h => by
    rw [renV_eq]
    exact mapV_denSrcV (renK_plain (tri f g id)) (renK_key_noPh (tri f g id)) v d h

theorem ren_denSrcEs (f g : Nat → Nat) : ∀ (es : SrcEntries) (d : Nat) (acc : Entries), SrcWFEs d es = true →
      (∀ e ∈ acc, renKey f g e.1 = e.1 ∧ renV f g e.2 = e.2) →
      ∀ e ∈ denSrcEs es acc, renKey f g e.1 = e.1 ∧ renV f g e.2 = e.2 := fun es d acc h hacc e he => by
  rw [renKey_eq, renV_eq]
  exact mapV_denSrcEs (renK_plain (tri f g id)) (renK_key_noPh (tri f g id)) es d acc h
    (fun e he => by rw [← renKey_eq, ← renV_eq]; exact hacc e he) e he

theorem ren_denSrcXs (f g : Nat → Nat) : ∀ (xs : List Src) (d : Nat), SrcWFXs d xs = true →
      renXs f g (denSrcXs xs) = denSrcXs xs := fun xs d h => by
  rw [renXs_eq]
  exact mapV_denSrcXs (renK_plain (tri f g id)) (renK_key_noPh (tri f g id)) xs d h


/-! ## 2c. the labelling of comments and directives is natural in the counters -/

mutual
  /-- number of line comments of a document -/
  def nLineV : CSrc → Nat
    | .lit _ => 0
    | .dict items => nLineI items
    | .list _ => 0
  def nLineI : List CItem → Nat
    | [] => 0
    | .entry _ v :: r => nLineV v + nLineI r
    | .lineC _ :: r => 1 + nLineI r
    | .blockC _ :: r => nLineI r
end

mutual
  /-- number of block comments of a document -/
  def nBlockV : CSrc → Nat
    | .lit _ => 0
    | .dict items => nBlockI items
    | .list _ => 0
  def nBlockI : List CItem → Nat
    | [] => 0
    | .entry _ v :: r => nBlockV v + nBlockI r
    | .lineC _ :: r => nBlockI r
    | .blockC _ :: r => 1 + nBlockI r
end

theorem nBlock_embC (items : List CItem) : nBlockII (embCItems items) = nBlockI items := by
  induction items using CItems.ind with
  | nil => simp only [embCItems, nBlockII, nBlockI]
  | lineC t r ih => simp only [embCItems, nBlockII, nBlockI, ih]
  | blockC t r ih => simp only [embCItems, nBlockII, nBlockI, ih]
  | lit k l r ih => simp only [embCItems, embCV, nBlockII, nBlockIV, nBlockI, nBlockV, ih]
  | list k xs r ih => simp only [embCItems, embCV, nBlockII, nBlockIV, nBlockI, nBlockV, ih]
  | dict k items r ihd ih => simp only [embCItems, embCV, nBlockII, nBlockIV, nBlockI, nBlockV, ihd, ih]

theorem nBlockV_embC (v : CSrc) : nBlockIV (embCV v) = nBlockV v := by
  cases v <;> simp only [embCV, nBlockIV, nBlockV, nBlock_embC]

theorem blockLen_labelV (v : CSrc) (st : CLabelSt) : (labelCV st v).1.blockC.length = st.blockC.length + nBlockV v := by
  have := blockLen_labelIV [] (embCV v) { c := st, icounter := none }
  rwa [C12.labelV_embC, nBlockV_embC] at this

theorem blockLen_labelI : ∀ (items : List CItem) (st : CLabelSt),
      (labelCItems st items).1.blockC.length = st.blockC.length + nBlockI items := fun items st => by
  have := blockLen_labelII [] (embCItems items) { c := st, icounter := none }
  rwa [C12.label_embC, nBlock_embC] at this

/-- `f` carries the ids the counter hands out from `c₁` to the ids it hands out from `c₂`, one by one -/
def CRel (f : Nat → Nat) (c₁ c₂ : Counter) : Prop :=
  ∀ k, (alloc Gen.counterLimit k c₁).map f = alloc Gen.counterLimit k c₂

theorem CRel.next {f : Nat → Nat} {c₁ c₂ : Counter} (h : CRel f c₁ c₂) :
    f (Counter.next Gen.counterLimit c₁).1 = (Counter.next Gen.counterLimit c₂).1 ∧
      CRel f (Counter.next Gen.counterLimit c₁).2 (Counter.next Gen.counterLimit c₂).2 := by
  refine ⟨?_, fun k => ?_⟩
  · have := h 1
    rw [alloc_succ, alloc_succ, List.map_cons] at this
    exact (List.cons.inj this).1
  · have := h (k + 1)
    rw [alloc_succ, alloc_succ, List.map_cons] at this
    exact (List.cons.inj this).2

/-- two labelling states that differ by the renaming of the line-comment ids -/
structure StRel (f : Nat → Nat) (st₁ st₂ : CLabelSt) : Prop where
  counter : CRel f st₁.counter st₂.counter
  lineC : st₂.lineC = renTbl f st₁.lineC
  blockC : st₂.blockC = st₁.blockC

theorem limit_eq : Gen.counterLimit = 999999 := rfl

theorem levels_phWF : Levels KeyOK PhWFV PhWFEs 1000000 where
  leaf _ := by simp only [PhWFV]
  list _ := by simp only [PhWFV]
  dict h := by simpa only [PhWFV] using h
  nil := by simp only [PhWFEs]
  set hk hv h := phWFEs_setKey h hk hv
  typed h := .inr (.inr h)
  line i hi := .inl ⟨i, hi, rfl⟩
  block i hi := .inr (.inl ⟨i, hi, rfl⟩)

/-- the meaning of a labelled commented document has admissible keys at every dict level -/
theorem phWF_labelV : ∀ (v : CSrc) (d : Nat) (st : CLabelSt), CSrcWFV d v = true →
    C13.ValidCounter Gen.counterLimit st.counter → st.blockC.length + nBlockV v ≤ 1000000 →
    PhWFV (denPV (labelCV st v).2) := fun v d st hw _ hb => by
  have := levels_labelIV levels_phWF [] (embCV v) d { c := st, icounter := none }
    ((C12.wfV_embC v d).trans hw) (by rw [nBlockV_embC]; exact hb)
    (.inl (by cases v <;> simp only [embCV, C12.inclsV, C12.incls_embC]))
  rwa [C12.labelV_embC] at this

theorem phWF_embC (dir : Str) (items : List CItem) (d : Nat) (st : ILabelSt) (acc : Entries)
    (hw : CSrcWFItems d items = true) (hb : st.c.blockC.length + nBlockI items ≤ 1000000) (hacc : PhWFEs acc) :
    PhWFEs (denPEs (labelIItems dir st (embCItems items)).2 acc) :=
  levels_labelII levels_phWF dir (embCItems items) d st acc ((C12.wf_embC items d).trans hw)
    (by rw [nBlock_embC]; exact hb) (.inl (C12.incls_embC items)) hacc

theorem phWF_labelI : ∀ (items : List CItem) (d : Nat) (st : CLabelSt) (acc : Entries), CSrcWFItems d items = true →
    C13.ValidCounter Gen.counterLimit st.counter → st.blockC.length + nBlockI items ≤ 1000000 → PhWFEs acc →
    PhWFEs (denPEs (labelCItems st items).2 acc) := fun items d st acc hw _ hb hacc => by
  have := phWF_embC [] items d { c := st, icounter := none } acc hw hb hacc
  rwa [C12.label_embC] at this


structure StRelI (f h : Nat → Nat) (st₁ st₂ : ILabelSt) : Prop where
  counter : CRel f st₁.c.counter st₂.c.counter
  icounter : CRel h st₁.icounter st₂.icounter
  lineC : st₂.c.lineC = renTbl f st₁.c.lineC
  blockC : st₂.c.blockC = st₁.c.blockC
  incl : st₂.incl = renTbl h st₁.incl

section
variable {f h : Nat → Nat} (hf : RenOK f) (hh : RenOK h)
include hf hh

set_option linter.unusedSectionVars false in
mutual
  theorem label_natIV (dir : Str) : ∀ (v : ISrc) (d : Nat) (st₁ st₂ : ILabelSt), ISrcWFV d v = true → StRelI f h st₁ st₂ →
      st₁.c.blockC.length + nBlockIV v ≤ 1000000 →
      StRelI f h (labelIV dir st₁ v).1 (labelIV dir st₂ v).1 ∧
        denPV (labelIV dir st₂ v).2 = mapV (renK (tri f id h)) (denPV (labelIV dir st₁ v).2)
    | .lit l, _, _, _, hw, hs, _ => by
      simp only [ISrcWFV, Bool.and_eq_true] at hw
      simp only [labelIV, denPV, mapV_leaf, scalarMap_den (renK_plain (tri f id h)) hw.1]
      exact ⟨hs, trivial⟩
    | .dict items, d, st₁, st₂, hw, hs, hb => by
      simp only [ISrcWFV] at hw
      simp only [nBlockIV] at hb
      have := label_natII dir items (d + 1) st₁ st₂ [] hw hs hb (fun _ hx => nomatch hx)
      rw [mapEs_nil] at this
      simp only [labelIV, denPV, mapV_dict]
      exact ⟨this.1, by rw [this.2]⟩
    | .list xs, d, _, _, hw, hs, _ => by
      simp only [ISrcWFV] at hw
      simp only [labelIV, denPV, mapV_list,
        mapV_denSrcXs (renK_plain (tri f id h)) (renK_key_noPh (tri f id h)) xs (d + 1) hw]
      exact ⟨hs, trivial⟩
  /-- **labelling from two pairs of counters**, the line-comment counters related by `f` and the include counters by `h`:
      the states stay related (the line-comment table re-keyed by `f`, the include table by `h`, the block-comment table
      equal), and the meanings of the labelled documents differ by the renaming.  The reader draws both kinds of id from
      one counter (`h = f`, `label_nat3V` of C08incl); a commented document draws no include id (`label_natV`). -/
  theorem label_natII (dir : Str) : ∀ (items : List IItem) (d : Nat) (st₁ st₂ : ILabelSt) (acc : Entries),
      ISrcWFItems d items = true → StRelI f h st₁ st₂ → st₁.c.blockC.length + nBlockII items ≤ 1000000 →
      (∀ x ∈ keys acc, PhKey x) →
      StRelI f h (labelIItems dir st₁ items).1 (labelIItems dir st₂ items).1 ∧
        denPEs (labelIItems dir st₂ items).2 (mapEs (renK (tri f id h)) acc) =
          mapEs (renK (tri f id h)) (denPEs (labelIItems dir st₁ items).2 acc)
    | [], _, _, _, _, _, hs, _, _ => by
      simp only [labelIItems, denPEs]
      exact ⟨hs, trivial⟩
    | .entry k v :: r, d, st₁, st₂, acc, hw, hs, hb, hacc => by
      simp only [ISrcWFItems, Bool.and_eq_true] at hw
      obtain ⟨⟨⟨hk, hkey⟩, hv⟩, hr⟩ := hw
      obtain ⟨key, hkey⟩ := Option.isSome_iff_exists.mp hkey
      have hp : isPhTok k = false := (C02.srcWord_facts hk).2.1
      simp only [nBlockII] at hb
      have hV := label_natIV dir v d st₁ st₂ hv hs (by omega)
      have hkOK : PhKey key := Or.inr (C02.Main.typedKey_noPh hk hkey)
      have hI := label_natII dir r d (labelIV dir st₁ v).1 (labelIV dir st₂ v).1
        (setKey key (denPV (labelIV dir st₁ v).2) acc) hr hV.1
        (by rw [blockLen_labelIV]; omega) (keysOK_setKey hkOK hacc)
      rw [setKey_map (renK_key_inj (tri_ok hf renOK_id hh)) hkOK _ acc hacc,
        renK_key_noPh (tri f id h) (C02.Main.typedKey_noPh hk hkey), ← hV.2] at hI
      simp only [labelIItems]
      rw [C12.denPEs_cons hp hkey, C12.denPEs_cons hp hkey]
      exact hI
    | .lineC x :: r, d, st₁, st₂, acc, hw, hs, hb, hacc => by
      simp only [ISrcWFItems, Bool.and_eq_true] at hw
      simp only [nBlockII] at hb
      obtain ⟨hn1, hn2⟩ := hs.counter.next
      have hi := C12.Incl.next_lt st₁.c.counter
      have hkOK : PhKey (.str (linePh (Counter.next Gen.counterLimit st₁.c.counter).1)) := Or.inl ⟨.line, _, hi, rfl⟩
      have hst : StRelI f h
          { st₁ with c := { st₁.c with counter := (Counter.next Gen.counterLimit st₁.c.counter).2,
                                       lineC := st₁.c.lineC.set (Counter.next Gen.counterLimit st₁.c.counter).1 ('/' :: '/' :: x) } }
          { st₂ with c := { st₂.c with counter := (Counter.next Gen.counterLimit st₂.c.counter).2,
                                       lineC := st₂.c.lineC.set (Counter.next Gen.counterLimit st₂.c.counter).1 ('/' :: '/' :: x) } } :=
        ⟨hn2, hs.icounter, by simp only [hs.lineC, ← hn1, renTbl_set hf.inj], hs.blockC, hs.incl⟩
      have hI := label_natII dir r d _ _
        (setKey (.str (linePh (Counter.next Gen.counterLimit st₁.c.counter).1))
          (.leaf (.str (linePh (Counter.next Gen.counterLimit st₁.c.counter).1))) acc) hw.2 hst hb
        (keysOK_setKey hkOK hacc)
      rw [setKey_map (renK_key_inj (tri_ok hf renOK_id hh)) hkOK _ acc hacc, mapV_leaf] at hI
      simp only [keyMap, scalarMap, renK_linePh (tri f id h) hi, tri, hn1] at hI
      simp only [labelIItems]
      rw [C12.denPEs_cons_ph (isPhTok_linePh _), C12.denPEs_cons_ph (isPhTok_linePh _)]
      exact hI
    | .blockC x :: r, d, st₁, st₂, acc, hw, hs, hb, hacc => by
      simp only [ISrcWFItems, Bool.and_eq_true] at hw
      simp only [nBlockII] at hb
      have hi : st₁.c.blockC.length < 1000000 := by omega
      have hkOK : PhKey (.str (blockPh st₁.c.blockC.length)) := Or.inl ⟨.block, _, hi, rfl⟩
      have hst : StRelI f h
          { st₁ with c := { st₁.c with blockC := st₁.c.blockC ++ [(st₁.c.blockC.length, '/' :: '*' :: x ++ ['*', '/'])] } }
          { st₂ with c := { st₂.c with blockC := st₂.c.blockC ++ [(st₂.c.blockC.length, '/' :: '*' :: x ++ ['*', '/'])] } } :=
        ⟨hs.counter, hs.icounter, hs.lineC, by simp only [hs.blockC], hs.incl⟩
      have hI := label_natII dir r d _ _
        (setKey (.str (blockPh st₁.c.blockC.length)) (.leaf (.str (blockPh st₁.c.blockC.length))) acc) hw.2 hst
        (by simp only [List.length_append, List.length_singleton]; omega) (keysOK_setKey hkOK hacc)
      rw [setKey_map (renK_key_inj (tri_ok hf renOK_id hh)) hkOK _ acc hacc, mapV_leaf] at hI
      simp only [keyMap, scalarMap, renK_blockPh (tri f id h) hi, tri, id] at hI
      simp only [labelIItems]
      rw [C12.denPEs_cons_ph (isPhTok_blockPh _), C12.denPEs_cons_ph (isPhTok_blockPh _), hs.blockC]
      rw [hs.blockC] at hI
      exact hI
    | .incl q n :: r, d, st₁, st₂, acc, hw, hs, hb, hacc => by
      simp only [ISrcWFItems, Bool.and_eq_true] at hw
      simp only [nBlockII] at hb
      obtain ⟨hn1, hn2⟩ := hs.icounter.next
      have hi := C12.Incl.next_lt st₁.icounter
      have hkOK : PhKey (.str (inclPh (Counter.next Gen.counterLimit st₁.icounter).1)) := Or.inl ⟨.incl, _, hi, rfl⟩
      have hst : StRelI f h
          { st₁ with icounter := (Counter.next Gen.counterLimit st₁.icounter).2,
                     incl := st₁.incl.set (Counter.next Gen.counterLimit st₁.icounter).1 (inclEntry dir q n) }
          { st₂ with icounter := (Counter.next Gen.counterLimit st₂.icounter).2,
                     incl := st₂.incl.set (Counter.next Gen.counterLimit st₂.icounter).1 (inclEntry dir q n) } :=
        ⟨hs.counter, hn2, hs.lineC, hs.blockC, by simp only [hs.incl, ← hn1, renTbl_set hh.inj]⟩
      have hI := label_natII dir r d _ _
        (setKey (.str (inclPh (Counter.next Gen.counterLimit st₁.icounter).1))
          (.leaf (.str (inclPh (Counter.next Gen.counterLimit st₁.icounter).1))) acc) hw.2 hst hb
        (keysOK_setKey hkOK hacc)
      rw [setKey_map (renK_key_inj (tri_ok hf renOK_id hh)) hkOK _ acc hacc, mapV_leaf] at hI
      simp only [keyMap, scalarMap, inclPh, renK_inclPh (tri f id h) hi, tri, hn1] at hI
      simp only [labelIItems]
      rw [C12.denPEs_cons_ph (isPhTok_inclPh _), C12.denPEs_cons_ph (isPhTok_inclPh _)]
      exact hI
end

end

/-! ### commented documents: no include id is drawn -/

theorem StRel.toI {f : Nat → Nat} {st₁ st₂ : CLabelSt} (hs : StRel f st₁ st₂) :
    StRelI f id { c := st₁, icounter := none } { c := st₂, icounter := none } :=
  ⟨hs.counter, fun _ => List.map_id _, hs.lineC, hs.blockC, rfl⟩

section
variable {f : Nat → Nat} (hf : RenOK f)
include hf

theorem label_natV : ∀ (v : CSrc) (d : Nat) (st₁ st₂ : CLabelSt), CSrcWFV d v = true → StRel f st₁ st₂ →
      C13.ValidCounter Gen.counterLimit st₁.counter → st₁.blockC.length + nBlockV v ≤ 1000000 →
      StRel f (labelCV st₁ v).1 (labelCV st₂ v).1 ∧
        denPV (labelCV st₂ v).2 = renV f id (denPV (labelCV st₁ v).2) := fun v d st₁ st₂ hw hs _ hb => by
  have h := label_natIV hf renOK_id [] (embCV v) d _ _ ((C12.wfV_embC v d).trans hw)
    hs.toI (by rw [nBlockV_embC]; exact hb)
  simp only [C12.labelV_embC, ← renV_eq] at h
  exact ⟨⟨h.1.counter, h.1.lineC, h.1.blockC⟩, h.2⟩

end


/-! ## 2d. `denC` is natural in the counter -/

/-- what a labelled document and its labelling state mean: `denI dir c items` is this of `labelI dir c items`, `denC` this
    of a labelling of the embedded document (`denC_sdOf`) -/
def sdOf (p : ILabelSt × SrcEntries) : SD :=
  ({ data := denPEs p.2 [], lineC := p.1.c.lineC, blockC := p.1.c.blockC, incl := p.1.incl } : SD).clean

theorem denC_sdOf (dir : Str) (c : Counter) (items : List CItem) :
    denC c items = sdOf (labelIItems dir { c := { counter := c }, icounter := none } (embCItems items)) := by
  rw [C12.label_embC]; rfl

/-- **"label, then `_clean`" is natural in the two counters.**  Labelling states related by `f` on the line-comment
    side and by `h` on the include side mean `SDict`s related by the renaming `tri f id h`.  `W` is any predicate that
    makes every key `_clean` looks at an exact placeholder word or placeholder-free and holds of the data labelled
    from `st₁` (`PhWFEs` here, `PhWF3Es` in `C08incl`). -/
theorem sdOf_natural {f h : Nat → Nat} (hf : RenOK f) (hh : RenOK h) {W : Entries → Prop}
    (hW : ∀ lvl, W lvl → ∀ e ∈ lvl, PhKey e.1 ∧ ∀ sub, e.2 = .dict sub → W sub) (dir : Str) {d : Nat} {items : List IItem}
    {st₁ st₂ : ILabelSt} (hwf : ISrcWFItems d items = true) (hs : StRelI f h st₁ st₂)
    (hb : st₁.c.blockC.length + nBlockII items ≤ 1000000) (hw : W (denPEs (labelIItems dir st₁ items).2 [])) :
    sdOf (labelIItems dir st₂ items) = renSDK (tri f id h) (sdOf (labelIItems dir st₁ items)) := by
  have hI := label_natII hf hh dir items d st₁ st₂ [] hwf hs hb (fun _ hx => nomatch hx)
  rw [mapEs_nil] at hI
  rw [sdOf, sdOf, ← clean_renSDK (tri_ok hf renOK_id hh) hW _ hw]
  congr 1
  exact sd_ext hI.2 rfl hI.1.lineC (by rw [hI.1.blockC]; exact (renTbl_id _).symm) hI.1.incl

/-- naturality for any renaming that carries the ids drawn from `c₁` to the ids drawn from `c₂` -/
theorem denC_natural_of {f : Nat → Nat} (hf : RenOK f) {d : Nat} {items : List CItem} {c₁ c₂ : Counter}
    (hwf : CSrcWFItems d items = true) (hrel : CRel f c₁ c₂) (hb : nBlockI items ≤ 1000000) :
    denC c₂ items = renSD f id (denC c₁ items) := by
  rw [denC_sdOf [], denC_sdOf [], renSD_eq]
  exact sdOf_natural hf renOK_id phWFEs_levels [] ((C12.wf_embC items d).trans hwf) (StRel.toI ⟨hrel, rfl, rfl⟩)
    (by rw [nBlock_embC]; simpa using hb) (phWF_embC [] items d _ [] hwf (by simpa using hb) (by simp only [PhWFEs]))

/-- the rotation of the id space `0 … 999999` that carries the ids handed out from `c₁` to those handed out from `c₂` -/
def shift (c₁ c₂ : Counter) (i : Nat) : Nat :=
  if i < 1000000 then (i + (C13.startOf c₂ % 1000000 + 1000000 - C13.startOf c₁ % 1000000)) % 1000000 else i

theorem shift_ok (c₁ c₂ : Counter) : RenOK (shift c₁ c₂) := by
  refine ⟨fun i j h => ?_, fun i hi => ?_⟩
  · simp only [shift] at h
    split at h <;> split at h <;> omega
  · simp only [shift, hi, if_true]
    omega

/-- the rotation maps the `j`-th id drawn from `c₁` to the `j`-th id drawn from `c₂`, for every `j` (also past the
    wrap-around) -/
theorem shift_rel {c₁ c₂ : Counter} (hc₁ : C13.ValidCounter Gen.counterLimit c₁)
    (hc₂ : C13.ValidCounter Gen.counterLimit c₂) : CRel (shift c₁ c₂) c₁ c₂ := by
  intro k
  rw [C13.alloc_eq_range hc₁, C13.alloc_eq_range hc₂, List.map_map]
  apply List.map_congr_left
  intro j _
  simp only [Function.comp, limit_eq, shift, show 999999 + 1 = 1000000 from rfl]
  rw [if_pos (Nat.mod_lt _ (by decide))]
  omega

/-- **naturality of the comment stages in the counter.**  Two valid counters; the rotation `shift c₁ c₂` of the id space
    is injective, keeps ids six-digit, maps the ids drawn from `c₁` to the ids drawn from `c₂` one by one, and the
    meaning of the document read from `c₂` is the meaning read from `c₁` with the line-comment ids renamed by it
    (block-comment ids are local to the text and are the same in both reads) -/
theorem denC_natural {d : Nat} {items : List CItem} {c₁ c₂ : Counter} (hwf : CSrcWFItems d items = true)
    (hc₁ : C13.ValidCounter Gen.counterLimit c₁) (hc₂ : C13.ValidCounter Gen.counterLimit c₂)
    (hb : nBlockI items ≤ 1000000) :
    Function.Injective (shift c₁ c₂) ∧
      (∀ k, (alloc Gen.counterLimit k c₁).map (shift c₁ c₂) = alloc Gen.counterLimit k c₂) ∧
      denC c₂ items = renSD (shift c₁ c₂) id (denC c₁ items) :=
  ⟨(shift_ok c₁ c₂).inj, shift_rel hc₁ hc₂, denC_natural_of (shift_ok c₁ c₂) hwf (shift_rel hc₁ hc₂) hb⟩


/-! ### the ids drawn are `alloc` lists -/

mutual
  theorem counter_labelV_adv : ∀ (v : CSrc) (st : CLabelSt),
      (labelCV st v).1.counter = C02.adv Gen.counterLimit (nLineV v) st.counter
    | .lit l, st => by simp only [labelCV, nLineV, C02.adv]
    | .dict items, st => by simp only [labelCV, nLineV, counter_labelI_adv items st]
    | .list xs, st => by simp only [labelCV, nLineV, C02.adv]
  /-- the counter after the comment stages: advanced once per line comment -/
  theorem counter_labelI_adv : ∀ (items : List CItem) (st : CLabelSt),
      (labelCItems st items).1.counter = C02.adv Gen.counterLimit (nLineI items) st.counter
    | [], st => by simp only [labelCItems, nLineI, C02.adv]
    | .entry k v :: r, st => by
      simp only [labelCItems, nLineI, counter_labelI_adv r _, counter_labelV_adv v st, C02.adv_add]
    | .lineC x :: r, st => by
      simp only [labelCItems, nLineI, counter_labelI_adv r _, Nat.add_comm 1, C02.adv]
    | .blockC x :: r, st => by simp only [labelCItems, nLineI, counter_labelI_adv r _]
end

theorem tbl_set_keys_new {α} (i : Nat) (a : α) (t : Tbl α) (h : i ∉ t.map (·.1)) :
    (Tbl.set i a t).map (·.1) = t.map (·.1) ++ [i] := by
  rw [tbl_set_of_not_mem h, List.map_append]; rfl

mutual
  theorem lineKeys_labelV : ∀ (v : CSrc) (st : CLabelSt),
      (st.lineC.map (·.1) ++ alloc Gen.counterLimit (nLineV v) st.counter).Nodup →
      (labelCV st v).1.lineC.map (·.1) = st.lineC.map (·.1) ++ alloc Gen.counterLimit (nLineV v) st.counter
    | .lit l, st, _ => by simp only [labelCV, nLineV, alloc, List.append_nil]
    | .dict items, st, h => by
      simp only [nLineV] at h
      simp only [labelCV, nLineV, lineKeys_labelI items st h]
    | .list xs, st, _ => by simp only [labelCV, nLineV, alloc, List.append_nil]
  /-- as long as the ids drawn do not collide with each other or with the table, the line-comment table (before
      `_clean`) grows by exactly the `alloc` list of the counter: one entry per line comment, in document order -/
  theorem lineKeys_labelI : ∀ (items : List CItem) (st : CLabelSt),
      (st.lineC.map (·.1) ++ alloc Gen.counterLimit (nLineI items) st.counter).Nodup →
      (labelCItems st items).1.lineC.map (·.1) = st.lineC.map (·.1) ++ alloc Gen.counterLimit (nLineI items) st.counter
    | [], st, _ => by simp only [labelCItems, nLineI, alloc, List.append_nil]
    | .entry k v :: r, st, h => by
      simp only [nLineI, C02.alloc_add, ← List.append_assoc] at h
      have hv := lineKeys_labelV v st (List.Nodup.sublist (List.sublist_append_left _ _) h)
      rw [← hv, ← counter_labelV_adv v st] at h
      simp only [labelCItems, nLineI, C02.alloc_add]
      rw [lineKeys_labelI r _ h, hv, counter_labelV_adv v st, List.append_assoc]
    | .lineC x :: r, st, h => by
      simp only [nLineI, Nat.add_comm 1, alloc_succ] at h
      have hi : (Counter.next Gen.counterLimit st.counter).1 ∉ st.lineC.map (·.1) := by
        intro hm
        exact (List.nodup_append.mp h).2.2 _ hm _ List.mem_cons_self rfl
      have hk := tbl_set_keys_new (Counter.next Gen.counterLimit st.counter).1 ('/' :: '/' :: x) st.lineC hi
      simp only [labelCItems, nLineI, Nat.add_comm 1, alloc_succ]
      rw [lineKeys_labelI r _ (by rw [hk, List.append_assoc]; exact h), hk, List.append_assoc]
      rfl
    | .blockC x :: r, st, h => by
      simp only [nLineI] at h
      simp only [labelCItems, nLineI]
      exact lineKeys_labelI r _ h
end

/-- **the ids drawn are an `alloc` list**: with at most `limit + 1` line comments, the line-comment table the comment
    stages build (before `_clean`) is keyed by the ids `alloc limit n c`, `n` the number of line comments, in document
    order; the counter afterwards is `c` advanced `n` times -/
theorem drawn_ids {items : List CItem} {c : Counter} (hc : C13.ValidCounter Gen.counterLimit c)
    (hn : nLineI items ≤ Gen.counterLimit + 1) :
    (labelCItems { counter := c } items).1.lineC.map (·.1) = alloc Gen.counterLimit (nLineI items) c ∧
      (labelCItems { counter := c } items).1.counter = C02.adv Gen.counterLimit (nLineI items) c := by
  refine ⟨?_, counter_labelI_adv items _⟩
  have := lineKeys_labelI items { counter := c } (by simpa using C13.alloc_nodup hn hc)
  simpa using this

/-! ## 3. the reader: two reads of the same text from two counter values -/

/-- the counter after the read (`C12_read_commented`): advanced by the line comments, then by the quoted strings -/
def counterAfter (c : Counter) (items : List CItem) : Counter :=
  C02.adv Gen.counterLimit (C02.countQuotedEs (plainItems items)) (labelCItems { counter := c } items).1.counter

/-- **C08 for commented documents.**  For every well-formed commented document in every admissible layout, every
    directory and every two valid counter values, both reads succeed, and the second result is the first one with the
    line-comment ids renamed by the rotation `shift c₁ c₂` (data: keys and string leaves; line-comment table re-keyed;
    block-comment table, whose ids are local to the text, identical).
    Hypotheses: those of `C12_read_commented` (for both counters), and at most one million block comments. -/
theorem C08_commented_read_natural {items : List CItem} {gaps : List Str} {tail : Str} (dir : Str) {c₁ c₂ : Counter}
    (hwf : CSrcWFItems 1 items = true) (hg : GapsOKC (ctoksItems items) gaps tail = true)
    (htail : items = [] → tail.all isWs = true)
    (hc₁ : C13.ValidCounter Gen.counterLimit c₁) (hc₂ : C13.ValidCounter Gen.counterLimit c₂)
    (hn : C02.countQuotedEs (plainItems items) ≤ Gen.counterLimit + 1)
    (hd : C02.DocKeysAbsent (plainItems items)) (hb : nBlockI items ≤ 1000000) :
    parseNative true dir c₁ (spreadC (ctoksItems items) gaps tail) = .ok (denC c₁ items, counterAfter c₁ items) ∧
    parseNative true dir c₂ (spreadC (ctoksItems items) gaps tail) =
      .ok (renSD (shift c₁ c₂) id (denC c₁ items), counterAfter c₂ items) := by
  refine ⟨C12.C12_read_commented dir c₁ hwf hg htail hc₁ hn hd, ?_⟩
  rw [C12.C12_read_commented dir c₂ hwf hg htail hc₂ hn hd, (denC_natural hwf hc₁ hc₂ hb).2.2]
  rfl

theorem CRel.adv {f : Nat → Nat} : ∀ (k : Nat) {c₁ c₂ : Counter}, CRel f c₁ c₂ →
    CRel f (C02.adv Gen.counterLimit k c₁) (C02.adv Gen.counterLimit k c₂)
  | 0, _, _, h => h
  | k + 1, _, _, h => by simp only [C02.adv]; exact CRel.adv k h.next.2

/-- the counters the two reads leave behind are related by the same rotation: a *sequence* of reads from `c₁` and the
    same sequence from `c₂` stay related by `shift c₁ c₂` -/
theorem counterAfter_rel {c₁ c₂ : Counter} (items : List CItem) (hc₁ : C13.ValidCounter Gen.counterLimit c₁)
    (hc₂ : C13.ValidCounter Gen.counterLimit c₂) :
    CRel (shift c₁ c₂) (counterAfter c₁ items) (counterAfter c₂ items) := by
  simp only [counterAfter, counter_labelI_adv]
  exact CRel.adv _ (CRel.adv _ (shift_rel hc₁ hc₂))

/-- what the renaming leaves alone: the comment texts in table order, and the whole block-comment table -/
theorem renSD_texts (f : Nat → Nat) (sd : SD) :
    (renSD f id sd).lineC.map (·.2) = sd.lineC.map (·.2) ∧ (renSD f id sd).blockC = sd.blockC ∧
      (renSD f id sd).exprs = sd.exprs ∧ (renSD f id sd).incl = sd.incl :=
  ⟨renTbl_texts f _, renTbl_id _, rfl, rfl⟩

/-- corollary: the data with the comment entries stripped, the line-comment texts in table order and the block-comment
    table are *equal* in the two reads -/
theorem C08_commented_read_stripped {items : List CItem} {gaps : List Str} {tail : Str} (dir : Str) {c₁ c₂ : Counter}
    (hwf : CSrcWFItems 1 items = true) (hg : GapsOKC (ctoksItems items) gaps tail = true)
    (htail : items = [] → tail.all isWs = true)
    (hc₁ : C13.ValidCounter Gen.counterLimit c₁) (hc₂ : C13.ValidCounter Gen.counterLimit c₂)
    (hn : C02.countQuotedEs (plainItems items) ≤ Gen.counterLimit + 1)
    (hd : C02.DocKeysAbsent (plainItems items)) (hb : nBlockI items ≤ 1000000) :
    ∃ sd₁ sd₂ c₁' c₂',
      parseNative true dir c₁ (spreadC (ctoksItems items) gaps tail) = .ok (sd₁, c₁') ∧
      parseNative true dir c₂ (spreadC (ctoksItems items) gaps tail) = .ok (sd₂, c₂') ∧
      C12.stripPhEs sd₂.data = C12.stripPhEs sd₁.data ∧
      sd₂.lineC.map (·.2) = sd₁.lineC.map (·.2) ∧ sd₂.blockC = sd₁.blockC := by
  obtain ⟨h₁, h₂⟩ := C08_commented_read_natural dir hwf hg htail hc₁ hc₂ hn hd hb
  refine ⟨_, _, _, _, h₁, h₂, ?_, (renSD_texts _ _).1, (renSD_texts _ _).2.1⟩
  rw [← (denC_natural hwf hc₁ hc₂ hb).2.2, C12.C12_data_on_off c₂ hwf, C12.C12_data_on_off c₁ hwf,
    C12.denCoff_data c₂ hwf, C12.denCoff_data c₁ hwf]


/-! ## 4. the canonical form: ids replaced by their rank of first appearance -/

/-- all line-comment ids of an `SDict`: those in the data (traversal order), then the keys of the table -/
def lineIdsSD (sd : SD) : List Nat := idsEs kwLine sd.data ++ sd.lineC.map (·.1)
def blockIdsSD (sd : SD) : List Nat := idsEs kwBlock sd.data ++ sd.blockC.map (·.1)

/-- the canonical form: every line-comment id replaced by its rank of first appearance among the line-comment ids,
    every block-comment id by its rank among the block-comment ids; tables re-keyed accordingly -/
def canonSD (sd : SD) : SD := renSD (rankOf (lineIdsSD sd)) (rankOf (blockIdsSD sd)) sd

/-! ### values -/

/-- the word-level fact `wordIds_renK`, for the keyword of a kind and the function that renames its ids -/
def WordNat (kw : Str) (h f g : Nat → Nat) : Prop :=
  ∀ s, (∀ i ∈ wordIds kw s, h i < 1000000) → wordIds kw (renWord f g s) = (wordIds kw s).map h

theorem wordNat_line (f g : Nat → Nat) : WordNat kwLine f f g := fun s hb => by
  rw [renWord_eq]; exact wordIds_renK (tri f g id) .line s hb
theorem wordNat_block (f g : Nat → Nat) : WordNat kwBlock g f g := fun s hb => by
  rw [renWord_eq]; exact wordIds_renK (tri f g id) .block s hb

theorem idsV_ren {kw : Str} {h f g : Nat → Nat} (hw : WordNat kw h f g) : ∀ (v : Val),
      (∀ i ∈ idsV kw v, h i < 1000000) → idsV kw (renV f g v) = (idsV kw v).map h := fun v hb => by
  rw [renV_eq]; exact idsV_map v fun w hm => renWord_eq f g w ▸ hw w fun i hi => hb i (mem_idsV hm hi)
theorem idsEs_ren {kw : Str} {h f g : Nat → Nat} (hw : WordNat kw h f g) : ∀ (es : Entries),
      (∀ i ∈ idsEs kw es, h i < 1000000) → idsEs kw (renEs f g es) = (idsEs kw es).map h := fun es hb => by
  rw [renEs_eq]; exact idsEs_map es fun w hm => renWord_eq f g w ▸ hw w fun i hi => hb i (mem_idsEs hm hi)
theorem idsXs_ren {kw : Str} {h f g : Nat → Nat} (hw : WordNat kw h f g) : ∀ (xs : List Val),
      (∀ i ∈ idsXs kw xs, h i < 1000000) → idsXs kw (renXs f g xs) = (idsXs kw xs).map h := fun xs hb => by
  rw [renXs_eq]; exact idsXs_map xs fun w hm => renWord_eq f g w ▸ hw w fun i hi => hb i (mem_idsXs hm hi)

theorem renWord_comp (F G f g : Nat → Nat) (w : Str) (hl : ∀ i ∈ wordIds kwLine w, f i < 1000000)
    (hb : ∀ i ∈ wordIds kwBlock w, g i < 1000000) :
    (renK (tri F G id) ∘ renK (tri f g id)) w = renK (tri (F ∘ f) (G ∘ g) id) w :=
  (renK_comp (tri F G id) (tri f g id) w fun | .line => hl | .block => hb | .incl => fun _ => wordIds_lt).trans
    (congrArg (renK · w) (tri_comp F G id f g id))

theorem renV_comp (F G f g : Nat → Nat) : ∀ (v : Val), (∀ i ∈ idsV kwLine v, f i < 1000000) →
      (∀ i ∈ idsV kwBlock v, g i < 1000000) → renV F G (renV f g v) = renV (F ∘ f) (G ∘ g) v := fun v hl hb => by
  rw [renV_eq f g, renV_eq F G, renV_eq, (map_comp _ _).1]
  exact map_congr.1 v fun w hw =>
    renWord_comp F G f g w (fun i hi => hl i (mem_idsV hw hi)) fun i hi => hb i (mem_idsV hw hi)
theorem renEs_comp (F G f g : Nat → Nat) : ∀ (es : Entries), (∀ i ∈ idsEs kwLine es, f i < 1000000) →
      (∀ i ∈ idsEs kwBlock es, g i < 1000000) → renEs F G (renEs f g es) = renEs (F ∘ f) (G ∘ g) es := fun es hl hb => by
  rw [renEs_eq f g, renEs_eq F G, renEs_eq, (map_comp _ _).2.1]
  exact map_congr.2.1 es fun w hw =>
    renWord_comp F G f g w (fun i hi => hl i (mem_idsEs hw hi)) fun i hi => hb i (mem_idsEs hw hi)
theorem renXs_comp (F G f g : Nat → Nat) : ∀ (xs : List Val), (∀ i ∈ idsXs kwLine xs, f i < 1000000) →
      (∀ i ∈ idsXs kwBlock xs, g i < 1000000) → renXs F G (renXs f g xs) = renXs (F ∘ f) (G ∘ g) xs := fun xs hl hb => by
  rw [renXs_eq f g, renXs_eq F G, renXs_eq, (map_comp _ _).2.2]
  exact map_congr.2.2 xs fun w hw =>
    renWord_comp F G f g w (fun i hi => hl i (mem_idsXs hw hi)) fun i hi => hb i (mem_idsXs hw hi)

theorem renWord_congr {F G F' G' : Nat → Nat} (w : Str) (hl : ∀ i ∈ wordIds kwLine w, F i = F' i)
    (hb : ∀ i ∈ wordIds kwBlock w, G i = G' i) : renK (tri F G id) w = renK (tri F' G' id) w :=
  renK_congr (ρ := tri F G id) (ρ' := tri F' G' id) w fun | .line => hl | .block => hb | .incl => fun _ _ => rfl

theorem renV_congr {F G F' G' : Nat → Nat} : ∀ (v : Val), (∀ i ∈ idsV kwLine v, F i = F' i) →
      (∀ i ∈ idsV kwBlock v, G i = G' i) → renV F G v = renV F' G' v := fun v hl hb => by
  rw [renV_eq, renV_eq]
  exact map_congr.1 v fun w hw => renWord_congr w (fun i hi => hl i (mem_idsV hw hi)) fun i hi => hb i (mem_idsV hw hi)
theorem renEs_congr {F G F' G' : Nat → Nat} : ∀ (es : Entries), (∀ i ∈ idsEs kwLine es, F i = F' i) →
      (∀ i ∈ idsEs kwBlock es, G i = G' i) → renEs F G es = renEs F' G' es := fun es hl hb => by
  rw [renEs_eq, renEs_eq]
  exact map_congr.2.1 es fun w hw => renWord_congr w (fun i hi => hl i (mem_idsEs hw hi)) fun i hi => hb i (mem_idsEs hw hi)
theorem renXs_congr {F G F' G' : Nat → Nat} : ∀ (xs : List Val), (∀ i ∈ idsXs kwLine xs, F i = F' i) →
      (∀ i ∈ idsXs kwBlock xs, G i = G' i) → renXs F G xs = renXs F' G' xs := fun xs hl hb => by
  rw [renXs_eq, renXs_eq]
  exact map_congr.2.2 xs fun w hw => renWord_congr w (fun i hi => hl i (mem_idsXs hw hi)) fun i hi => hb i (mem_idsXs hw hi)

theorem idsV_lt (kw : Str) : ∀ (v : Val), ∀ a ∈ idsV kw v, a < 1000000 := fun v => by
  rw [(ids_words kw).1]; exact flatMap_wordIds_lt kw _
theorem idsEs_lt (kw : Str) : ∀ (es : Entries), ∀ a ∈ idsEs kw es, a < 1000000 := fun es => by
  rw [(ids_words kw).2.1]; exact flatMap_wordIds_lt kw _
theorem idsXs_lt (kw : Str) : ∀ (xs : List Val), ∀ a ∈ idsXs kw xs, a < 1000000 := fun xs => by
  rw [(ids_words kw).2.2]; exact flatMap_wordIds_lt kw _


/-! ### ranks, and the invariance of the canonical form -/

theorem canonSD_eq (sd : SD) : canonSD sd = renSDK (tri (rankOf (idsSD .line sd)) (rankOf (idsSD .block sd)) id) sd :=
  renSD_eq ..

/-- **the canonical form forgets the ids**: it is invariant under every injective renaming that keeps ids six-digit
    (`renSDK_comp_congr`: what is needed is injectivity on the ids occurring in the `SDict`, data and table keys, per
    kind, and that those of the data stay six-digit) -/
theorem canonSD_ren' {f g : Nat → Nat} (hf : RenOK f) (hg : RenOK g) (sd : SD) :
    canonSD (renSD f g sd) = canonSD sd := by
  have hb := fun (a : Ph.Kind) i hi => (tri_ok hf hg renOK_id a).lt i (idsEs_lt a.kw sd.data i hi)
  rw [canonSD_eq, canonSD_eq, renSD_eq]
  refine renSDK_comp_congr _ _ (tri f g id) sd hb fun a i hi => ?_
  cases a
  · exact rankOf_idsSD_ren (tri f g id) .line sd (hb .line) (fun _ _ _ _ e => hf.inj e) hi
  · exact rankOf_idsSD_ren (tri f g id) .block sd (hb .block) (fun _ _ _ _ e => hg.inj e) hi
  · rfl

/-- **the canonical forms of the meanings from two counters are equal** -/
theorem C08_denC_canon {d : Nat} {items : List CItem} {c₁ c₂ : Counter} (hwf : CSrcWFItems d items = true)
    (hc₁ : C13.ValidCounter Gen.counterLimit c₁) (hc₂ : C13.ValidCounter Gen.counterLimit c₂)
    (hb : nBlockI items ≤ 1000000) :
    canonSD (denC c₂ items) = canonSD (denC c₁ items) := by
  rw [(denC_natural hwf hc₁ hc₂ hb).2.2, canonSD_ren' (shift_ok c₁ c₂) renOK_id]

/-- **C08, commented documents, canonical form** (what the harness compares on the real code): the canonical forms of
    the results of two reads of the same text from two valid counter values are equal; both reads succeed -/
theorem C08_commented_canon {items : List CItem} {gaps : List Str} {tail : Str} (dir : Str) {c₁ c₂ : Counter}
    (hwf : CSrcWFItems 1 items = true) (hg : GapsOKC (ctoksItems items) gaps tail = true)
    (htail : items = [] → tail.all isWs = true)
    (hc₁ : C13.ValidCounter Gen.counterLimit c₁) (hc₂ : C13.ValidCounter Gen.counterLimit c₂)
    (hn : C02.countQuotedEs (plainItems items) ≤ Gen.counterLimit + 1)
    (hd : C02.DocKeysAbsent (plainItems items)) (hb : nBlockI items ≤ 1000000) :
    (parseNative true dir c₁ (spreadC (ctoksItems items) gaps tail)).map (fun r => canonSD r.1) =
        .ok (canonSD (denC c₁ items)) ∧
      (parseNative true dir c₂ (spreadC (ctoksItems items) gaps tail)).map (fun r => canonSD r.1) =
        .ok (canonSD (denC c₁ items)) := by
  obtain ⟨h₁, h₂⟩ := C08_commented_read_natural dir hwf hg htail hc₁ hc₂ hn hd hb
  rw [h₁, h₂]
  exact ⟨rfl, by simp only [Except.map]; rw [canonSD_ren' (shift_ok c₁ c₂) renOK_id]⟩


/-- … in the form "the same whatever value the counter has reached" -/
theorem C08_commented_canon_eq {items : List CItem} {gaps : List Str} {tail : Str} (dir : Str) {c₁ c₂ : Counter}
    (hwf : CSrcWFItems 1 items = true) (hg : GapsOKC (ctoksItems items) gaps tail = true)
    (htail : items = [] → tail.all isWs = true)
    (hc₁ : C13.ValidCounter Gen.counterLimit c₁) (hc₂ : C13.ValidCounter Gen.counterLimit c₂)
    (hn : C02.countQuotedEs (plainItems items) ≤ Gen.counterLimit + 1)
    (hd : C02.DocKeysAbsent (plainItems items)) (hb : nBlockI items ≤ 1000000) :
    (parseNative true dir c₁ (spreadC (ctoksItems items) gaps tail)).map (fun r => canonSD r.1) =
      (parseNative true dir c₂ (spreadC (ctoksItems items) gaps tail)).map (fun r => canonSD r.1) := by
  obtain ⟨h₁, h₂⟩ := C08_commented_canon dir hwf hg htail hc₁ hc₂ hn hd hb
  rw [h₁, h₂]

/-! ## 5. non-vacuity: the example document of `C12stages`, read from a fresh counter and from `999998`
    (the wrap-around falls between the first and the second line comment) -/

open DictIO.C12 (exDoc exGaps exDoc_wf exGaps_ok)

theorem exDoc_blocks : nBlockI exDoc ≤ 1000000 := by decide +kernel

theorem ex_valid : C13.ValidCounter Gen.counterLimit (some 999998) := Or.inr ⟨999998, rfl, by decide⟩

/-- both reads succeed and differ by the renaming -/
theorem exDoc_reads (dir : Str) :
    parseNative true dir none (spreadC (ctoksItems exDoc) exGaps ['\n']) =
      .ok (denC none exDoc, counterAfter none exDoc) ∧
    parseNative true dir (some 999998) (spreadC (ctoksItems exDoc) exGaps ['\n']) =
      .ok (renSD (shift none (some 999998)) id (denC none exDoc), counterAfter (some 999998) exDoc) :=
  C08_commented_read_natural dir exDoc_wf exGaps_ok (fun h => by cases h) (Or.inl rfl) ex_valid (by decide +kernel)
    (by decide +kernel) exDoc_blocks

/-- the rotation on the example: `0 ↦ 999999`, `1 ↦ 0`, `2 ↦ 1` … -/
theorem exDoc_shift : (alloc Gen.counterLimit 5 none).map (shift none (some 999998)) = [999999, 0, 1, 2, 3] ∧
    alloc Gen.counterLimit 5 (some 999998) = [999999, 0, 1, 2, 3] := by decide +kernel

/-- the read from the fresh counter, evaluated: ids 0, 1, 2 survive `_clean` (3 and 4 repeat a text of their level) -/
theorem exDoc_none :
    (denC none exDoc).data =
      [ (.str "LINECOMMENT000000".toList, .leaf (.str "LINECOMMENT000000".toList)),
        (.str "BLOCKCOMMENT000000".toList, .leaf (.str "BLOCKCOMMENT000000".toList)),
        (.str ['a'], .leaf (.int 1)),
        (.str "LINECOMMENT000001".toList, .leaf (.str "LINECOMMENT000001".toList)),
        (.str ['n'], .dict [
          (.str "LINECOMMENT000002".toList, .leaf (.str "LINECOMMENT000002".toList)),
          (.str ['p'], .leaf (.str "x y".toList)),
          (.str "BLOCKCOMMENT000001".toList, .leaf (.str "BLOCKCOMMENT000001".toList))]),
        (.str ['l'], .list [.leaf (.int 1), .leaf (.str "it's".toList)]) ] ∧
    (denC none exDoc).lineC =
      [(0, "// first".toList), (1, "// tail 'q' ; { $x".toList), (2, "// nested".toList)] ∧
    (denC none exDoc).blockC = [(0, "/* hdr C++ x */".toList), (1, "/*blk\n two*/".toList)] := by
  literal_chars
  decide +kernel

/-- the read from `999998`, evaluated directly (not through the theorem): ids 999999, 0, 1 -/
theorem exDoc_wrap :
    (denC (some 999998) exDoc).data =
      [ (.str "LINECOMMENT999999".toList, .leaf (.str "LINECOMMENT999999".toList)),
        (.str "BLOCKCOMMENT000000".toList, .leaf (.str "BLOCKCOMMENT000000".toList)),
        (.str ['a'], .leaf (.int 1)),
        (.str "LINECOMMENT000000".toList, .leaf (.str "LINECOMMENT000000".toList)),
        (.str ['n'], .dict [
          (.str "LINECOMMENT000001".toList, .leaf (.str "LINECOMMENT000001".toList)),
          (.str ['p'], .leaf (.str "x y".toList)),
          (.str "BLOCKCOMMENT000001".toList, .leaf (.str "BLOCKCOMMENT000001".toList))]),
        (.str ['l'], .list [.leaf (.int 1), .leaf (.str "it's".toList)]) ] ∧
    (denC (some 999998) exDoc).lineC =
      [(999999, "// first".toList), (0, "// tail 'q' ; { $x".toList), (1, "// nested".toList)] ∧
    (denC (some 999998) exDoc).blockC = [(0, "/* hdr C++ x */".toList), (1, "/*blk\n two*/".toList)] := by
  literal_chars
  decide +kernel

/-- the renaming of the first read, evaluated: it is the second read (an evaluation that does not go through
    `denC_natural`) -/
theorem exDoc_renamed :
    (renSD (shift none (some 999998)) id (denC none exDoc)).data = (denC (some 999998) exDoc).data ∧
    (renSD (shift none (some 999998)) id (denC none exDoc)).lineC = (denC (some 999998) exDoc).lineC ∧
    (renSD (shift none (some 999998)) id (denC none exDoc)).blockC = (denC (some 999998) exDoc).blockC := by
  rw [renSD_data, renSD_lineC, renSD_blockC, exDoc_none.1, exDoc_none.2.1, exDoc_none.2.2, exDoc_wrap.1, exDoc_wrap.2.1,
    exDoc_wrap.2.2]
  literal_chars
  decide +kernel

/-- the two reads are different data … -/
theorem exDoc_differ : (denC (some 999998) exDoc).data ≠ (denC none exDoc).data := by
  rw [exDoc_none.1, exDoc_wrap.1]
  literal_chars
  decide +kernel

/-- … with the same canonical form, which on this example is the read from the fresh counter -/
theorem exDoc_canon : canonSD (denC (some 999998) exDoc) = canonSD (denC none exDoc) :=
  C08_denC_canon exDoc_wf (Or.inl rfl) ex_valid exDoc_blocks

theorem exDoc_canon_eval :
    (canonSD (denC (some 999998) exDoc)).data = (denC none exDoc).data ∧
    (canonSD (denC (some 999998) exDoc)).lineC = (denC none exDoc).lineC ∧
    (canonSD (denC (some 999998) exDoc)).blockC = (denC none exDoc).blockC := by
  rw [canonSD, renSD_data, renSD_lineC, renSD_blockC, lineIdsSD, blockIdsSD, exDoc_none.1, exDoc_none.2.1, exDoc_none.2.2,
    exDoc_wrap.1, exDoc_wrap.2.1, exDoc_wrap.2.2]
  literal_chars
  decide +kernel


/-! ## 6. what is false, on witnesses -/

/-- block-comment ids are *not* drawn from the counter: renaming them like the line-comment ids gives something else
    than the second read (this is why `denC_natural` renames with `id` on block comments) -/
theorem exDoc_block_ids_local :
    (renSD (shift none (some 999998)) (shift none (some 999998)) (denC none exDoc)).data ≠ (denC (some 999998) exDoc).data := by
  rw [renSD_data, exDoc_none.1, exDoc_wrap.1]
  literal_chars
  decide +kernel

def swap01 (i : Nat) : Nat := if i = 0 then 1 else if i = 1 then 0 else i

theorem swap01_ok : RenOK swap01 := by
  refine ⟨fun i j h => ?_, fun i hi => ?_⟩
  · simp only [swap01] at h
    split at h <;> split at h <;> (try split at h) <;> (try split at h) <;> omega
  · simp only [swap01]
    split
    · omega
    · split <;> omega

/-- **`_clean` does not commute with the renaming on arbitrary data**: a key that merely *contains* a placeholder
    (`xLINECOMMENT000001`) is read by `_clean` as a line comment with the id 1, but is no placeholder word and is not
    renamed.  Hence the hypothesis `PhWFEs` of `clean_ren` (every key `_clean` looks at is an exact placeholder word or
    contains none); the meanings of commented documents satisfy it (`phWF_labelI`). -/
theorem clean_ren_needs_wf :
    ¬ ∀ (f g : Nat → Nat) (s : SD), RenOK f → RenOK g → (renSD f g s).clean = renSD f g s.clean := by
  intro h
  have := congrArg SD.lineC (h swap01 id
    { data := [(.str "LINECOMMENT000000".toList, .leaf .none), (.str "xLINECOMMENT000001".toList, .leaf .none)],
      lineC := [(0, ['a']), (1, ['a'])] } swap01_ok renOK_id)
  revert this
  literal_chars
  decide +kernel

end DictIO.C08
