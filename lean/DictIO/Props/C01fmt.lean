/-
  C01 (writer side) — what the native writer produces for a dict of the value domain `DomC01`, seen as a source
  document of the documented grammar (`Grammar.lean`, second half).  This connects the writer model
  (`NativeFormat.lean`) to the reader-side theorems, which are stated for texts `spreadS (srcToksEs doc) gaps tail`.

    (1) `hoist_id`             on the domain the top-level reordering of placeholder keys is the identity
    (2) `written_text`         the token written for a scalar has exactly the text `format_value` produces (all scalars)
        `written_ok`           … and is an admissible source literal (bare source word / single-line quoted string)
        `srcOf_wf` (+V, Xs)    the written document `srcOfEs es` is a well-formed source document
    (5) `den_written`          it denotes the normalised dict:   denSrcEs (srcOfEs es) [] = normEs es
    (3) `fmt_is_layout`        `fmtEntries .native 0 es` (raw output) is `spreadS` of the document's tokens with
                               admissible gaps (`GapsOKS`) and a white-space tail
    (4) `rts_layout`           `remove_trailing_spaces` maps any admissible layout of "good" tokens (`TokGood`: non-empty,
                               last character not white space, no `\n`/`\r` inside) to an admissible layout of the
                               same tokens — for arbitrary white-space gaps, `\r` and `\r\n` included
        `fmtPlain_is_layout`   hence `fmtPlain .native es` is an admissible layout of the document's tokens
        `C01_writer`           (2c) + (5) + (4) in one statement
    (6) `exDict…`              a concrete dict of the domain, its raw and final text, its tokens, the theorems instantiated

  The structural facts (1), (2c), (3), (5) do not depend on the flavour: they are proved in `C01.Fl` for any `fl`,
  from what the flavour's written scalars are (`hok`: admissible literals, `hden`: they mean their normal form);
  `Fl.writer` collects them.  The names without prefix are the native instances, `C10.Foam.*_f` the Foam ones.

  Hypotheses.  (1)–(3), (5) are stated with `DomC01 .native es` (resp. `isDomScalar`, `domEs`) as their only hypothesis;
  `written_text` needs no hypothesis at all.  `rts_layout` has the added (decidable, `tokGoodB_iff`) hypothesis
  `∀ t ∈ ts, TokGood t`; `rts_layout_needs_nonblank_end` and `rts_layout_needs_no_nl` refute the statement without
  either half of it.  `hoist_id_needs_dom` and `fmt_is_layout_needs_dom` show that the domain restriction on keys is
  needed for (1) and (3).

  Proof idea of (3): a layout is a list of (gap, token) pairs (`layP`, `okFrom`); `Lays pd ts txt` says `txt` is an
  admissible layout of `ts` given whether a delimiter (or nothing) stands in front.  These are the layouts of writer
  tokens (`C12xtok`, where they are defined) all of whose tokens are `.tok` (`C12W.lays_iff`).  `Lays.append` glues two
  texts (the tail of the first joins the first gap of the second); every line of `format_dict` is a `Lays.tok` /
  `lays_line`.  In the writer's output every token is preceded by white space except a key at indentation 0 (preceded
  by `;`, `}`, `{` or nothing) and the glued `;` — a delimiter.
  Proof idea of (4): a good token is `C12W.Solid`, so `C12W.removeTrailing_lay` applies (`Lays.removeTrailing`).
-/
import DictIO.Model.Written
import DictIO.Props.C02lex
import DictIO.Props.C04
import DictIO.Props.C12xtok
import DictIO.Lemmas.Chars
import DictIO.Lemmas.Clean
import DictIO.Lemmas.SelMap

namespace DictIO.C01
open DictIO

/-! ### suffixes and substrings -/


theorem isInfix_false_iff {p s : Str} : isInfix p s = false ↔ ¬ ∃ a b, s = a ++ p ++ b := by
  rw [← isInfix_iff]; simp

/-! ### domain keys are no placeholder look-alikes -/

theorem domKey_not_ph {s : Str} (h : isDomKey (.str s) = true) :
    containsPh kwBlock s = false ∧ containsPh kwIncl s = false ∧ containsPh kwLine s = false := by
  simp only [isDomKey, Bool.and_eq_true] at h
  obtain ⟨_, hc, hi, _⟩ := C02.Main.srcWord_iff.mp h.1.1
  exact C02.noPh_of_noMarks hc hi

theorem domEs_eq_all (fl : Flavor) (d : Nat) : ∀ es : Entries,
    domEs fl d es = es.all fun e => isDomKey e.1 && domV fl d e.2
  | [] => rfl
  | (k, v) :: es => by simp only [domEs, List.all_cons, domEs_eq_all fl d es]

theorem domEs_mem {fl : Flavor} {d : Nat} {es : Entries} (h : domEs fl d es = true) (e : Key × Val) (he : e ∈ es) :
    isDomKey e.1 = true ∧ domV fl d e.2 = true := by
  rw [domEs_eq_all, List.all_eq_true] at h; exact Bool.and_eq_true_iff.mp (h e he)

theorem domEs_keys {fl : Flavor} {d : Nat} {es : Entries} (h : domEs fl d es = true) : ∀ e ∈ es, isDomKey e.1 = true :=
  fun e he => (domEs_mem h e he).1

theorem domKey_sel : ∀ {k : Key}, isDomKey k = true → C06.selB k = false ∧ C06.selI k = false ∧ C06.selL k = false
  | .int _, _ => ⟨rfl, rfl, rfl⟩
  | .str s, h => by simp [C06.selB, C06.selI, C06.selL, domKey_not_ph h]

/-! ### words made of "number characters" are source words -/

/-- the characters of `str(int)` and `repr(float)` -/
def numChars : List Char := "0123456789-+.e".toList

theorem numChars_facts : ∀ c ∈ numChars,
    isWs c = false ∧ c ∉ Gen.delimiters ∧ c ∉ Gen.openingBrackets ∧
    c ∉ Gen.closingBrackets ∧ isQuote c = false ∧ c ≠ '$' ∧ c ≠ '\\' ∧ c ∉ ['#', '/', 'C', 'I', 'S', 'E'] := by
  unfold numChars
  literal_chars; decide +kernel

/-- a word of number characters holds none of the characters a reserved word, a comment marker or an include
    directive begins with -/
theorem isSrcWord_of_numChars {w : Str} (hne : w ≠ []) (h : ∀ c ∈ w, c ∈ numChars) : isSrcWord w = true := by
  have hf := fun c hc => numChars_facts c (h c hc)
  have hnot : ∀ x ∈ ['#', '/', 'C', 'I', 'S', 'E'], x ∉ w := fun x hx hm => (hf x hm).2.2.2.2.2.2.2 hx
  rw [C02.Main.srcWord_iff]
  refine ⟨?_, isInfix_false_of_head (hnot 'C' (by decide)), isInfix_false_of_head (hnot 'I' (by decide)),
    isInfix_false_of_head (c := 'S') (hnot 'S' (by decide)), isInfix_false_of_head (c := 'E') (hnot 'E' (by decide)),
    fun c hc => ⟨(hf c hc).2.2.2.2.1, (hf c hc).2.2.2.2.2.1, (hf c hc).2.2.2.2.2.2.1⟩,
    isInfix_false_of_head (hnot '/' (by decide)), isInfix_false_of_head (hnot '/' (by decide)), ?_⟩
  · simp only [isWordTok, Bool.and_eq_true, Bool.not_eq_true', List.all_eq_true]
    refine ⟨⟨by simpa using hne, fun c hc => by simp [(hf c hc).1, (hf c hc).2.1]⟩, ?_⟩
    match w, hf with
    | [], _ => rfl
    | [c], hf => simp [(hf c (by simp)).2.2.1, (hf c (by simp)).2.2.2.1]
    | _ :: _ :: _, _ => rfl
  · intro e
    exact hnot '#' (by decide) (List.mem_of_mem_head? e)

theorem asciiDigit_numChar : ∀ c, C04.IsAsciiDigit c → c ∈ numChars := by
  unfold C04.IsAsciiDigit; decide

theorem intRepr_numChars (z : Int) : intRepr z ≠ [] ∧ ∀ c ∈ intRepr z, c ∈ numChars := by
  cases z with
  | ofNat n =>
    exact ⟨natDigits_ne_nil n, fun c hc => asciiDigit_numChar c (C04.natDigits_ascii n c hc)⟩
  | negSucc n =>
    refine ⟨by simp [intRepr], fun c hc => ?_⟩
    simp only [intRepr, List.mem_cons] at hc
    rcases hc with rfl | hc
    · decide
    · exact asciiDigit_numChar c (C04.natDigits_ascii _ c hc)

theorem isSrcWord_intRepr (z : Int) : isSrcWord (intRepr z) = true :=
  isSrcWord_of_numChars (intRepr_numChars z).1 (intRepr_numChars z).2

/-! ### the Bool recogniser of `repr(float)` and the declarative one of C04 -/

theorem asciiDigit_of_le {c : Char} (h : '0' ≤ c ∧ c ≤ '9') : C04.IsAsciiDigit c := by
  have key : ∀ n, n < 58 → 48 ≤ n → C04.IsAsciiDigit (Char.ofNat n) := by
    unfold C04.IsAsciiDigit; decide
  have h1 : 48 ≤ c.toNat := by
    have := h.1; rw [Char.le_def] at this; exact UInt32.le_iff_toNat_le.mp this
  have h2 : c.toNat ≤ 57 := by
    have := h.2; rw [Char.le_def] at this; exact UInt32.le_iff_toNat_le.mp this
  have := key c.toNat (by omega) h1
  rwa [Char.ofNat_toNat] at this

theorem asciiDigits_takeWhile (l : Str) : C04.AsciiDigits (l.takeWhile fun c => '0' ≤ c ∧ c ≤ '9') := by
  intro c hc
  have := mem_takeWhile_imp hc
  exact asciiDigit_of_le (by simpa using this)

theorem asciiDigits_of_is {s : Str} (h : isAsciiDigits s = true) : s ≠ [] ∧ C04.AsciiDigits s := by
  simp only [isAsciiDigits, Bool.and_eq_true, Bool.not_eq_true', List.all_eq_true] at h
  exact ⟨by simpa using h.1, fun c hc => asciiDigit_of_le (by simpa using h.2 c hc)⟩

/-- the body of `isPyFloatRepr` after the optional sign -/
def pyBody (l : Str) : Bool :=
  let ip := l.takeWhile fun c => '0' ≤ c ∧ c ≤ '9'
  let r := l.dropWhile fun c => '0' ≤ c ∧ c ≤ '9'
  let expOK (e : Str) : Bool := match e with
    | 'e' :: s :: ds => (s == '+' || s == '-') && isAsciiDigits ds && ds.length ≥ 2
    | _ => false
  !ip.isEmpty &&
  (match r with
   | '.' :: r' =>
     let fp := r'.takeWhile fun c => '0' ≤ c ∧ c ≤ '9'
     let r'' := r'.dropWhile fun c => '0' ≤ c ∧ c ≤ '9'
     !fp.isEmpty && (r''.isEmpty || expOK r'')
   | _ => expOK r)

theorem isPyFloatRepr_eq (l : Str) : isPyFloatRepr l = pyBody (match l with | '-' :: r => r | r => r) := rfl

theorem expOK_spec {e : Str}
    (h : (match e with
      | 'e' :: s :: ds => (s == '+' || s == '-') && isAsciiDigits ds && decide (ds.length ≥ 2)
      | _ => false) = true) : C04.IsPyExp e := by
  split at h
  · next s ds =>
    simp only [Bool.and_eq_true, Bool.or_eq_true, beq_iff_eq, decide_eq_true_eq] at h
    exact .mk s ds h.1.1 h.2 (asciiDigits_of_is h.1.2).2
  · cases h

theorem pyBody_spec {l neg : Str} (hn : neg = [] ∨ neg = ['-']) (h : pyBody l = true) : C04.IsPyFloatRepr (neg ++ l) := by
  have hsplit := (List.takeWhile_append_dropWhile (p := fun c => decide ('0' ≤ c ∧ c ≤ '9')) (l := l)).symm
  have hip := asciiDigits_takeWhile l
  simp only [pyBody, Bool.and_eq_true, Bool.not_eq_true'] at h
  obtain ⟨hne, hr⟩ := h
  have hne' : (l.takeWhile fun c => decide ('0' ≤ c ∧ c ≤ '9')) ≠ [] := by simpa using hne
  generalize l.takeWhile (fun c => decide ('0' ≤ c ∧ c ≤ '9')) = ip at *
  generalize l.dropWhile (fun c => decide ('0' ≤ c ∧ c ≤ '9')) = r at *
  subst hsplit
  split at hr
  · next r' =>
    have hsplit' := (List.takeWhile_append_dropWhile (p := fun c => decide ('0' ≤ c ∧ c ≤ '9')) (l := r')).symm
    have hfp := asciiDigits_takeWhile r'
    simp only [Bool.and_eq_true, Bool.not_eq_true', Bool.or_eq_true] at hr
    obtain ⟨hfne, hrest⟩ := hr
    have hfne' : (r'.takeWhile fun c => decide ('0' ≤ c ∧ c ≤ '9')) ≠ [] := by simpa using hfne
    generalize r'.takeWhile (fun c => decide ('0' ≤ c ∧ c ≤ '9')) = fp at *
    generalize r'.dropWhile (fun c => decide ('0' ≤ c ∧ c ≤ '9')) = r'' at *
    subst hsplit'
    rcases hrest with he | he
    · have : r'' = [] := by simpa using he
      subst this
      have := C04.IsPyFloatRepr.frac neg ip fp hn hne' hip hfne' hfp
      simpa using this
    · have := C04.IsPyFloatRepr.fracExp neg ip fp r'' hn hne' hip hfne' hfp (expOK_spec he)
      simpa using this
  · have := C04.IsPyFloatRepr.exp neg ip r hn hne' hip (expOK_spec hr)
    simpa using this

theorem pyFloatRepr_bridge {l : Str} (h : isPyFloatRepr l = true) : C04.IsPyFloatRepr l := by
  rw [isPyFloatRepr_eq] at h
  split at h
  · next r => exact pyBody_spec (neg := ['-']) (Or.inr rfl) h
  · exact pyBody_spec (neg := []) (Or.inl rfl) h

theorem pyExp_numChars {e : Str} (h : C04.IsPyExp e) : ∀ c ∈ e, c ∈ numChars := by
  cases h with
  | mk sg ds hs hl hd =>
    intro c hc
    simp only [List.mem_cons] at hc
    rcases hc with rfl | rfl | hc
    · decide
    · rcases hs with rfl | rfl <;> decide
    · exact asciiDigit_numChar c (hd c hc)

theorem neg_numChars {neg : Str} (h : neg = [] ∨ neg = ['-']) : ∀ c ∈ neg, c ∈ numChars := by
  rcases h with rfl | rfl <;> decide

theorem pyFloatRepr_numChars {l : Str} (h : C04.IsPyFloatRepr l) : l ≠ [] ∧ ∀ c ∈ l, c ∈ numChars := by
  have hd := fun {ds : Str} (h : C04.AsciiDigits ds) c hc => asciiDigit_numChar c (h c hc)
  cases h with
  | frac neg ds fs hn hne hds hfne hfs =>
    refine ⟨by simp [hne], fun c hc => ?_⟩
    simp only [List.mem_append, List.mem_cons] at hc
    rcases hc with (hc | hc) | rfl | hc
    · exact neg_numChars hn c hc
    · exact hd hds c hc
    · decide
    · exact hd hfs c hc
  | fracExp neg ds fs e hn hne hds hfne hfs he =>
    refine ⟨by simp [hne], fun c hc => ?_⟩
    simp only [List.mem_append, List.mem_cons] at hc
    rcases hc with ((hc | hc) | rfl | hc) | hc
    · exact neg_numChars hn c hc
    · exact hd hds c hc
    · decide
    · exact hd hfs c hc
    · exact pyExp_numChars he c hc
  | exp neg ds e hn hne hds he =>
    refine ⟨by simp [hne], fun c hc => ?_⟩
    simp only [List.mem_append] at hc
    rcases hc with (hc | hc) | hc
    · exact neg_numChars hn c hc
    · exact hd hds c hc
    · exact pyExp_numChars he c hc

/-! ### how scalars and keys are spelled -/

theorem formatString_shape (fl : Flavor) (s : Str) :
    formatString fl s = s ∨ ∃ q b, formatString fl s = q :: (b ++ [q]) := by
  have hsq : sq s = s ∨ ∃ q b, sq s = q :: (b ++ [q]) := Or.inr ⟨'\'', s, rfl⟩
  have hdq : ∀ t, dq t = s ∨ ∃ q b, dq t = q :: (b ++ [q]) := fun t => Or.inr ⟨'"', t, rfl⟩
  rcases C04.formatString_cases fl s with ⟨_, _, h⟩ | ⟨_, _, h⟩ | ⟨_, _, h⟩ | ⟨_, _, _, h⟩ | ⟨_, _, _, _, h⟩ | ⟨_, h⟩
  · exact Or.inl h
  · rw [h]; cases fl
    · exact hdq s
    · exact hdq s
    · exact Or.inl rfl
  · rw [h]; cases fl
    · exact hsq
    · exact hdq s
    · exact Or.inl rfl
  · rw [h]; cases fl
    · show (if _ then sq s else dq s) = s ∨ _
      split
      · exact hsq
      · exact hdq s
    · show (if _ then dq (escapeDq s) else dq s) = s ∨ _
      split
      · exact hdq _
      · exact hdq s
    · exact hsq
  · rw [h]; cases fl
    · exact hsq
    · exact hdq s
    · exact Or.inl rfl
  · exact Or.inl h

theorem writtenLit_bare {fl : Flavor} {s : Str} (h : formatString fl s = s) : writtenLit fl (.str s) = .bare s := by
  simp [writtenLit, formatScalar, h]

theorem writtenLit_quoted {fl : Flavor} {s b : Str} {q : Char} (h : formatString fl s = q :: (b ++ [q]))
    (hne : q :: (b ++ [q]) ≠ s) : writtenLit fl (.str s) = .quoted q b := by
  have hne : (q :: (b ++ [q]) == s) = false := by simpa using hne
  simp [writtenLit, formatScalar, h, hne]

/-- the text of the written literal is what `format_value` produces — for every scalar and every flavour -/
theorem writtenLit_tok_text (fl : Flavor) (x : Scalar) : (writtenLit fl x).tok.text = formatScalar fl x := by
  cases x with
  | str s =>
    rcases formatString_shape fl s with h | ⟨q, b, h⟩
    · rw [writtenLit_bare h]; simp [Lit.tok, STok.text, formatScalar, h]
    · by_cases e : q :: (b ++ [q]) = s
      · rw [writtenLit_bare (h.trans e)]; simp [Lit.tok, STok.text, formatScalar, h.trans e]
      · rw [writtenLit_quoted h e]; simp [Lit.tok, STok.text, formatScalar, h]
  | int z => rfl
  | float l => rfl
  | bool b => rfl
  | none => rfl

/-- (2a) the text of the written literal is what `format_value` produces — for every scalar, no domain needed -/
theorem written_text (x : Scalar) : (writtenLit .native x).tok.text = formatScalar .native x :=
  writtenLit_tok_text .native x

theorem isDomStr_iff {s : Str} : isDomStr .native s = true ↔
    (∀ c ∈ s, isLineBreak c = false ∧ c ≠ '$') ∧
    isInfix ['/', '/'] s = false ∧ isInfix ['/', '*'] s = false ∧ isInfix kwLit s = false ∧ isInfix kwExpr s = false ∧
    isInfix "COMMENT".toList s = false ∧ isInfix "INCLUDE".toList s = false ∧
    ¬ (s.contains '\'' = true ∧ s.contains '"' = true) ∧
    (s.isEmpty = true ∨ s.any isQuote = true ∨ s.any isComplexChar = true ∨ isSrcWord s = true ∨ startsInclude s = true) := by
  simp only [isDomStr, Bool.and_eq_true, Bool.not_eq_true', Bool.or_eq_true, List.all_eq_true, bne_iff_ne, ne_eq,
    and_assoc, Bool.and_eq_false_iff, and_true, not_and, Bool.not_eq_true, or_assoc]
  constructor
  · rintro ⟨a, b, c, d, e, f, g, h, i⟩
    refine ⟨a, b, c, d, e, f, g, ?_, i⟩
    intro h1; rcases h with h | h
    · rw [h1] at h; cases h
    · exact h
  · rintro ⟨a, b, c, d, e, f, g, h, i⟩
    refine ⟨a, b, c, d, e, f, g, ?_, i⟩
    cases h1 : s.contains '\'' with
    | false => exact Or.inl rfl
    | true => exact Or.inr (h h1)

theorem domStr_no_dollar {s : Str} (h : isDomStr .native s = true) : s.contains '$' = false := by
  obtain ⟨h, _⟩ := isDomStr_iff.mp h
  cases hc : s.contains '$' with
  | false => rfl
  | true => exact absurd rfl (h _ (List.contains_iff_mem.mp hc)).2

theorem domStr_quoted {s : Str} {q : Char} (h : isDomStr .native s = true) (hq : isQuote q = true)
    (hn : s.contains q = false) : isSrcQuoted q s = true := by
  obtain ⟨a, b, c, d, e, f, g, _, _⟩ := isDomStr_iff.mp h
  simp only [isSrcQuoted, hq, hn, b, c, d, e, f, g, Bool.not_false, Bool.and_true, Bool.true_and, List.all_eq_true,
    Bool.and_eq_true, Bool.not_eq_true', bne_iff_ne, ne_eq]
  exact a

/-- the key identity: on the domain `format_key(k)` is `str(k)`, whatever the flavour -/
theorem formatKey_dom {fl : Flavor} {k : Key} (h : isDomKey k = true) : formatKey fl k = keyStr k := by
  cases k with
  | int z => rfl
  | str s =>
    simp only [isDomKey, Bool.and_eq_true, Bool.not_eq_true'] at h
    obtain ⟨hw, _, _, _, _, hch, _⟩ := C02.Main.srcWord_iff.mp h.1.1
    simp only [formatKey, keyStr]
    have hhash := (C02.Main.srcWord_iff.mp h.1.1).2.2.2.2.2.2.2.2
    refine C04.formatString_of_bare ⟨?_, ?_, ?_, C04.startsInclude_of_head hhash⟩
    · intro hs; subst hs; simp [isWordTok] at hw
    · cases hc : s.contains '$' with
      | false => rfl
      | true => exact absurd rfl (hch _ (List.contains_iff_mem.mp hc)).2.1
    · refine (C04.all_plain_iff s).mpr ⟨?_, h.2⟩
      cases hq : s.any isQuote with
      | false => rfl
      | true =>
        obtain ⟨c, hc, hq⟩ := List.any_eq_true.mp hq
        rw [(hch c hc).1] at hq; cases hq

theorem domKey_word {k : Key} (h : isDomKey k = true) : isSrcWord (keyStr k) = true := by
  cases k with
  | int z => exact isSrcWord_intRepr z
  | str s =>
    simp only [isDomKey, Bool.and_eq_true] at h
    exact h.1.1

/-- keys type back to themselves -/
theorem domKey_types_back {k : Key} (h : isDomKey k = true) : keyOfScalar (parseKey (keyStr k)) = some k := by
  cases k with
  | int z =>
    have := C04.C04_format_parse_int .native z
    simp only [formatScalar] at this
    simp only [keyStr, parseKey, this, keyOfScalar]
  | str s =>
    simp only [isDomKey, Bool.and_eq_true, beq_iff_eq] at h
    simp only [keyStr, h.1.2, keyOfScalar]

/-! ### denotation of the written document, by structural induction -/

theorem den_bare {s : Str} (hall : s.all (fun c => !isQuote c && !isComplexChar c) = true) :
    (Lit.bare s).den = normScalar (.str s) := by
  obtain ⟨hq, _⟩ := (C04.all_plain_iff s).mp hall
  have hq' : ∀ c ∈ s, isQuote c = false := fun c hc => by
    cases hqc : isQuote c with
    | false => rfl
    | true => rw [List.any_eq_true.mpr ⟨c, hc, hqc⟩] at hq; cases hq
  simp only [Lit.den, normScalar]
  cases hp : parseValue s with
  | str t => rw [C04.C04_idem hp hq']
  | _ => rfl

/-- leaves: the written literal means the normalised scalar -/
theorem den_writtenLit {x : Scalar} (h : isDomScalar .native x = true) : (writtenLit .native x).den = normScalar x := by
  cases x with
  | int z => exact C04.C04_format_parse_int .native z
  | float l => exact C04.C04_format_parse_float .native (pyFloatRepr_bridge h)
  | bool b => exact C04.C04_format_parse_bool (Or.inl rfl) b
  | none => exact C04.C04_format_parse_none (Or.inl rfl)
  | str s =>
    have h : isDomStr .native s = true := h
    rcases C04.formatString_native_cases (domStr_no_dollar h) with ⟨hf, _, hall, _⟩ | ⟨hf, _⟩ | ⟨hf, _⟩
    · rw [writtenLit_bare hf]; exact den_bare hall
    · rw [writtenLit_quoted hf (C04.sq_ne s)]; rfl
    · rw [writtenLit_quoted hf (C04.dq_ne s)]; rfl

theorem keys_normEs (es : Entries) : keys (normEs es) = keys es := by
  rw [normEs_eq_selMap, selMap_true]; exact keys_mapVal normV es

/-! The structural facts about the written document hold for every flavour `fl`, given the two facts about the
  scalars it writes (`hden`: they mean their normal form, `hok`: they are admissible source literals).  They are
  stated in `Fl`; the native instances follow under the names without prefix. -/

namespace Fl
variable {fl : Flavor}

mutual
  theorem den_srcOfV (hden : ∀ {x}, isDomScalar fl x = true → (writtenLit fl x).den = normScalar x) :
      ∀ (d : Nat) (v : Val), domV fl d v = true → denSrcV (srcOfV fl v) = normV v
    | d, .leaf x, h => by
      simp only [domV, Bool.and_eq_true] at h
      simp only [srcOfV, denSrcV, normV, hden h.1]
    | d, .dict es, h => by
      simp only [domV, Bool.and_eq_true, decide_eq_true_eq] at h
      simp only [srcOfV, denSrcV, normV]
      rw [den_srcOfEs hden (d + 1) es [] h.1 h.2 (fun _ _ hk => by cases hk)]
      rfl
    | d, .list xs, h => by
      simp only [domV] at h
      simp only [srcOfV, denSrcV, normV, den_srcOfXs hden (d + 1) xs h]
  theorem den_srcOfEs (hden : ∀ {x}, isDomScalar fl x = true → (writtenLit fl x).den = normScalar x) :
      ∀ (d : Nat) (es acc : Entries), domEs fl d es = true → (keys es).Nodup →
        (∀ k ∈ keys es, k ∉ keys acc) → denSrcEs (srcOfEs fl es) acc = acc ++ normEs es
    | _, [], acc, _, _, _ => by simp [srcOfEs, denSrcEs, normEs]
    | d, (k, v) :: es, acc, h, hn, hdis => by
      simp only [domEs, Bool.and_eq_true] at h
      simp only [keys, List.map_cons, List.nodup_cons] at hn
      simp only [srcOfEs, denSrcEs, domKey_types_back h.1.1, den_srcOfV hden d v h.1.2]
      have hk : k ∉ keys acc := hdis k (by simp [keys])
      rw [setKey_of_not_mem k (normV v) acc hk]
      rw [den_srcOfEs hden d es (acc ++ [(k, normV v)]) h.2 hn.2]
      · simp [normEs]
      · intro k' hk' hmem
        simp only [keys, List.map_append, List.map_cons, List.map_nil, List.mem_append, List.mem_singleton] at hmem
        rcases hmem with hmem | rfl
        · exact hdis k' (by simp only [keys, List.map_cons, List.mem_cons]; exact Or.inr hk') hmem
        · exact hn.1 hk'
  theorem den_srcOfXs (hden : ∀ {x}, isDomScalar fl x = true → (writtenLit fl x).den = normScalar x) :
      ∀ (d : Nat) (xs : List Val), domXs fl d xs = true → denSrcXs (srcOfXs fl xs) = normXs xs
    | _, [], _ => by simp [srcOfXs, denSrcXs, normXs]
    | d, v :: xs, h => by
      simp only [domXs, Bool.and_eq_true] at h
      simp only [srcOfXs, denSrcXs, normXs, den_srcOfV hden d v h.1, den_srcOfXs hden d xs h.2]
end

end Fl

theorem den_srcOfV : ∀ (d : Nat) (v : Val), domV .native d v = true → denSrcV (srcOfV .native v) = normV v :=
  Fl.den_srcOfV den_writtenLit

theorem den_srcOfXs : ∀ (d : Nat) (xs : List Val), domXs .native d xs = true → denSrcXs (srcOfXs .native xs) = normXs xs :=
  Fl.den_srcOfXs den_writtenLit

/-! ### layouts as lists of (gap, token) pairs -/

/-- pair tokens with gaps exactly as `spread` does (missing gaps are empty) -/
def pairUp : List STok → List Str → List (Str × STok)
  | [], _ => []
  | t :: ts, g :: gs => (g, t) :: pairUp ts gs
  | t :: ts, [] => ([], t) :: pairUp ts []

theorem pairUp_toks : ∀ (ts : List STok) (gs : List Str), (pairUp ts gs).map Prod.snd = ts
  | [], _ => rfl
  | t :: ts, g :: gs => by simp [pairUp, pairUp_toks ts gs]
  | t :: ts, [] => by simp [pairUp, pairUp_toks ts []]

theorem spreadS_pairUp : ∀ (ts : List STok) (gs : List Str) (tail : Str), spreadS ts gs tail = layP (pairUp ts gs) tail
  | [], _, _ => by simp [spreadS, spread, pairUp, layP]
  | t :: ts, g :: gs, tail => by
    have := spreadS_pairUp ts gs tail
    simp only [spreadS] at this
    simp [spreadS, spread, pairUp, layP, this]
  | t :: ts, [], tail => by
    have := spreadS_pairUp ts [] tail
    simp only [spreadS] at this
    simp [spreadS, spread, pairUp, layP, this]

theorem spreadS_of_pairs : ∀ (l : List (Str × STok)) (tail : Str),
    spreadS (l.map Prod.snd) (l.map Prod.fst) tail = layP l tail
  | [], _ => by simp [spreadS, spread, layP]
  | (g, t) :: l, tail => by
    have := spreadS_of_pairs l tail
    simp only [spreadS] at this
    show spread (t.text :: (l.map Prod.snd).map STok.text) (g :: l.map Prod.fst) tail = _
    simp only [spread, layP, this, List.append_assoc]

theorem okFrom_mono {pd : Bool} {l : List (Str × STok)} (h : okFrom false l = true) : okFrom pd l = true := by
  rw [← C12W.okX_lift] at h ⊢
  exact C12W.okX_mono (fun u g => C12W.gapOK_ctxPd (fun e => by cases e) u [] g) h

theorem gapsOKS_of_okFrom : ∀ (l : List (Str × STok)) (pd : Bool), okFrom pd l = true →
    GapsOKS (l.map Prod.snd) (l.map Prod.fst) = true
  | [], _, _ => rfl
  | [(g, t)], pd, h => by
    simp only [okFrom, Bool.and_eq_true] at h
    simpa [GapsOKS] using h.1.1
  | (g, t) :: (g', u) :: l, pd, h => by
    have ih := gapsOKS_of_okFrom ((g', u) :: l) (isDelimSTok t)
    simp only [okFrom, Bool.and_eq_true, Bool.or_eq_true] at h ih
    simp only [List.map_cons, GapsOKS, Bool.and_eq_true, Bool.or_eq_true]
    refine ⟨⟨h.1.1, ?_⟩, ih h.2⟩
    rcases h.2.1.2 with (h1 | h1) | h1
    · exact Or.inl (Or.inl h1)
    · exact Or.inl (Or.inr h1)
    · exact Or.inr h1

theorem okFrom_of_gapsOKS : ∀ (ts : List STok) (gs : List Str), GapsOKS ts gs = true → okFrom true (pairUp ts gs) = true
  | [], _, _ => rfl
  | [t], [], _ => by simp [pairUp, okFrom]
  | [t], g :: gs, h => by
    simp only [GapsOKS] at h
    simp [pairUp, okFrom, h]
  | t :: u :: ts, [], h => by simp [GapsOKS] at h
  | t :: u :: ts, [g], h => by simp [GapsOKS] at h
  | t :: u :: ts, g :: g' :: gs, h => by
    simp only [GapsOKS, Bool.and_eq_true, Bool.or_eq_true] at h
    have ih := okFrom_of_gapsOKS (u :: ts) (g' :: gs) h.2
    simp only [pairUp, okFrom, Bool.and_eq_true, Bool.or_eq_true, Bool.true_or, and_true] at ih ⊢
    exact ⟨h.1.1, ⟨ih.1, h.1.2⟩, ih.2⟩

theorem lastDelim_append (pd : Bool) (ts us : List STok) : lastDelim pd (ts ++ us) = lastDelim (lastDelim pd ts) us := by
  induction ts generalizing pd with
  | nil => rfl
  | cons t ts ih => simp only [List.cons_append, lastDelim, ih]

theorem lastDelim_snoc (pd : Bool) (ts : List STok) (t : STok) (us : List STok) :
    lastDelim pd (ts ++ t :: us) = lastDelim (isDelimSTok t) us := by
  rw [lastDelim_append]; rfl

theorem Lays.ws (pd : Bool) {tail : Str} (h : tail.all isWs = true) : Lays pd [] tail :=
  ⟨[], tail, rfl, rfl, rfl, h⟩

theorem Lays.tok (pd : Bool) {g tail : Str} (t : STok) (hg : g.all isWs = true) (ht : tail.all isWs = true)
    (hsep : pd = true ∨ isDelimSTok t = true ∨ g ≠ []) : Lays pd [t] (g ++ t.text ++ tail) := by
  refine ⟨[(g, t)], tail, rfl, rfl, ?_, ht⟩
  simp only [okFrom, Bool.and_eq_true, Bool.or_eq_true, Bool.not_eq_true', and_true]
  refine ⟨hg, ?_⟩
  rcases hsep with h | h | h
  · exact Or.inl (Or.inl h)
  · exact Or.inl (Or.inr h)
  · exact Or.inr (by simpa using h)

theorem Lays.mono {pd : Bool} {ts : List STok} {txt : Str} (h : Lays false ts txt) : Lays pd ts txt := by
  obtain ⟨l, tail, h1, h2, h3, h4⟩ := h
  exact ⟨l, tail, h1, h2, okFrom_mono h3, h4⟩

/-- concatenation: the tail of the first text joins the first gap of the second -/
theorem Lays.append {pd pd' : Bool} {ts us : List STok} {a b : Str} (ha : Lays pd ts a) (hb : Lays pd' us b)
    (hsep : pd' = true → lastDelim pd ts = true) : Lays pd (ts ++ us) (a ++ b) := by
  obtain ⟨t1, ha⟩ := C12W.lays_iff.mp ha
  obtain ⟨t2, hb⟩ := C12W.lays_iff.mp hb
  rw [C12W.lays_iff, List.map_append]
  by_cases hne : us.map C12W.XTok.tok = []
  · rw [hne] at hb ⊢
    rw [List.append_nil]
    exact ⟨_, (C03c.LaysP.append_nil (.ofX ha) (.ofX hb)).toX⟩
  · refine ⟨t2, C12W.LaysX.append ha hb hne fun u g _ hg => ?_⟩
    rw [C12W.lastCtx_lift]
    exact C12W.gapOK_ctxPd hsep u t1 g hg

theorem Lays.to_spread {ts : List STok} {txt : Str} (h : Lays true ts txt) :
    ∃ gaps tail, txt = spreadS ts gaps tail ∧ GapsOKS ts gaps = true ∧ tail.all isWs = true := by
  obtain ⟨l, tail, rfl, rfl, ok, ht⟩ := h
  exact ⟨l.map Prod.fst, tail, (spreadS_of_pairs l tail).symm, gapsOKS_of_okFrom l true ok, ht⟩

theorem Lays.of_spread {ts : List STok} {gaps : List Str} {tail : Str} (hok : GapsOKS ts gaps = true)
    (ht : tail.all isWs = true) : Lays true ts (spreadS ts gaps tail) :=
  ⟨pairUp ts gaps, tail, pairUp_toks ts gaps, spreadS_pairUp ts gaps tail, okFrom_of_gapsOKS ts gaps hok, ht⟩

theorem spaces_ws (n : Nat) : (spaces n).all isWs = true := by
  simp only [spaces, List.all_eq_true, List.mem_replicate]
  rintro c ⟨_, rfl⟩; decide

theorem spaces_ne {n : Nat} (h : 0 < n) : spaces n ≠ [] := by
  cases n with
  | zero => omega
  | succ n => simp [spaces, List.replicate_succ]

/-! ### the writer's lines as layouts, by structural induction -/

theorem text_word (w : Str) : (STok.word w).text = w := rfl

theorem nil_ws : ([] : Str).all isWs = true := rfl

theorem delim_facts : isDelimSTok (.word ['{']) = true ∧ isDelimSTok (.word ['}']) = true ∧
    isDelimSTok (.word ['(']) = true ∧ isDelimSTok (.word [')']) = true ∧ isDelimSTok (.word [';']) = true := by decide

/-- a line holding one token -/
theorem lays_line (pd : Bool) (level : Nat) (t : STok) (h : pd = true ∨ isDelimSTok t = true ∨ 0 < level) :
    Lays pd [t] (fline level t.text) := by
  have := Lays.tok pd (g := spaces (4 * level)) (tail := ['\n']) t (spaces_ws _) nl_ws
    (by rcases h with h | h | h
        · exact Or.inl h
        · exact Or.inr (Or.inl h)
        · exact Or.inr (Or.inr (spaces_ne (by omega))))
  simpa [fline] using this

/-- the tokens of an entry end in `;` or `}` -/
theorem lastDelim_entries : ∀ (S : SrcEntries), lastDelim true (srcToksEs S) = true
  | [] => rfl
  | (k, .lit l) :: es => by
    simp only [srcToksEs, lastDelim, delim_facts.2.2.2.2]
    exact lastDelim_entries es
  | (k, .dict d) :: es => by
    rw [srcToksEs, List.append_assoc, List.singleton_append, lastDelim_snoc, delim_facts.2.1]
    exact lastDelim_entries es
  | (k, .list l) :: es => by
    rw [srcToksEs, lastDelim_append, lastDelim_snoc]
    simp only [lastDelim, delim_facts.2.2.2.2]
    exact lastDelim_entries es

namespace Fl
variable {fl : Flavor}

theorem lays_list {toks : List STok} (pd : Bool) (level : Nat) (inList : Bool) (xs : List Val)
    (h : Lays false toks (fmtItems fl level xs.length 0 true xs)) :
    Lays pd (.word ['('] :: toks ++ (if inList then [.word [')']] else [.word [')'], .word [';']]))
      (fmtList fl level inList xs) := by
  have h1 := lays_line pd level (.word ['(']) (Or.inr (Or.inl delim_facts.2.2.1))
  have h2 := h1.append h (fun h => by cases h)
  rw [fmtList]
  cases inList with
  | true =>
    have h3 := h2.append (lays_line false level (.word [')']) (Or.inr (Or.inl delim_facts.2.2.2.1))) (fun h => by cases h)
    simpa [STok.text] using h3
  | false =>
    have h3 := Lays.tok false (g := spaces (4 * level)) (tail := []) (.word [')']) (spaces_ws _) nil_ws
      (Or.inr (Or.inl delim_facts.2.2.2.1))
    have h4 := Lays.tok false (g := []) (tail := ['\n']) (.word [';']) nil_ws nl_ws
      (Or.inr (Or.inl delim_facts.2.2.2.2))
    have h5 := (h2.append h3 (fun h => by cases h)).append h4 (fun h => by cases h)
    simpa [STok.text, fline] using h5

theorem lays :
    (∀ (es : Entries) (d level : Nat), domEs fl d es = true →
      Lays true (srcToksEs (srcOfEs fl es)) (fmtEntries fl level es)) ∧
    (∀ (xs : List Val) (d level n idx : Nat) (first : Bool), domXs fl d xs = true →
      Lays false (srcToksXs (srcOfXs fl xs)) (fmtItems fl level n idx first xs)) := by
  refine Val.indEsXs ?_ ?_ ?_ ?_ ?_ ?_ ?_ ?_
  · intro d level _
    simp only [srcOfEs, srcToksEs, fmtEntries]
    exact Lays.ws true nil_ws
  · intro k x rest ih d level h
    simp only [domEs, Bool.and_eq_true] at h
    have h0 := Lays.tok true (g := spaces (4 * level)) (tail := []) (.word (keyStr k)) (spaces_ws _) nil_ws (Or.inl rfl)
    have h1 := Lays.tok false (g := spaces (max 8 (30 - (keyStr k).length - 4 * level))) (tail := [])
      (writtenLit fl x).tok (spaces_ws _) nil_ws (Or.inr (Or.inr (spaces_ne (by omega))))
    have h2 := Lays.tok false (g := []) (tail := ['\n']) (.word [';']) nil_ws nl_ws (Or.inr (Or.inl delim_facts.2.2.2.2))
    have h5 := ((h0.append h1 (fun h => by cases h)).append h2 (fun h => by cases h)).append (ih d level h.2)
      (fun _ => by simp [lastDelim, delim_facts])
    simpa [srcOfEs, srcOfV, srcToksEs, fmtEntries, text_word, fline, writtenLit_tok_text, formatKey_dom h.1.1] using h5
  · intro k es rest ihd ih d level h
    simp only [domEs, domV, Bool.and_eq_true] at h
    have h0 := lays_line true level (.word (keyStr k)) (Or.inl rfl)
    have h1 := lays_line false level (.word ['{']) (Or.inr (Or.inl delim_facts.1))
    have h3 := lays_line false level (.word ['}']) (Or.inr (Or.inl delim_facts.2.1))
    have h5 := (((h0.append h1 (fun h => by cases h)).append (ihd (d + 1) (level + 1) h.1.2.1)
      (fun _ => by simp [lastDelim, delim_facts])).append h3 (fun h => by cases h)).append (ih d level h.2)
      (fun _ => by simp [lastDelim_append, lastDelim, delim_facts])
    simpa [srcOfEs, srcOfV, srcToksEs, fmtEntries, text_word] using h5
  · intro k xs rest ihx ih d level h
    simp only [domEs, domV, Bool.and_eq_true] at h
    have h0 := lays_line true level (.word (keyStr k)) (Or.inl rfl)
    have h1 := lays_list (fl := fl) false level false xs (ihx (d + 1) level xs.length 0 true h.1.2)
    have h5 := (h0.append h1 (fun h => by cases h)).append (ih d level h.2)
      (fun _ => by simp [lastDelim_append, lastDelim, delim_facts])
    simpa [srcOfEs, srcOfV, srcToksEs, fmtEntries, text_word] using h5
  · intro d level n idx first _
    simp only [srcOfXs, srcToksXs, fmtItems]
    exact Lays.ws false nil_ws
  · intro x rest ih d level n idx first h
    simp only [domXs, Bool.and_eq_true] at h
    simp only [srcOfXs, srcOfV, srcToksXs, srcToksV, fmtItems]
    have hlev : 0 < (if first = true then level + 1 else 1) := by split <;> omega
    split
    · have h1 := lays_line false (if first = true then level + 1 else 1) (writtenLit fl x).tok (Or.inr (Or.inr hlev))
      have h2 := h1.append (ih d level n (idx + 1) true h.2) (fun h => by cases h)
      simpa [writtenLit_tok_text] using h2
    · have h1 := Lays.tok false (g := spaces (4 * (if first = true then level + 1 else 1)))
        (tail := spaces (14 - (formatScalar fl x).length)) (writtenLit fl x).tok (spaces_ws _) (spaces_ws _)
        (Or.inr (Or.inr (spaces_ne (by omega))))
      have h2 := h1.append (ih d level n (idx + 1) false h.2) (fun h => by cases h)
      simpa [writtenLit_tok_text, fline] using h2
  · intro es rest ihd ih d level n idx first h
    simp only [domXs, domV, Bool.and_eq_true] at h
    have h0 : Lays false [] (fline (level + 1) []) := Lays.ws false (by simp [fline, spaces_ws, isWs_nl])
    have h1 := lays_line false (level + 1) (.word ['{']) (Or.inr (Or.inl delim_facts.1))
    have h3 := lays_line false (level + 1) (.word ['}']) (Or.inr (Or.inl delim_facts.2.1))
    have h5 := (((h0.append h1 (fun h => by cases h)).append (ihd (d + 1) (level + 2) h.1.1)
      (fun _ => by simp [lastDelim, delim_facts])).append h3 (fun h => by cases h)).append
      (ih d level n (idx + 1) true h.2) (fun h => by cases h)
    simpa [srcOfXs, srcOfV, srcToksXs, srcToksV, fmtItems, text_word] using h5
  · intro ys rest ihy ih d level n idx first h
    simp only [domXs, domV, Bool.and_eq_true] at h
    have h1 := lays_list (fl := fl) false (level + 1) true ys (ihy (d + 1) (level + 1) ys.length 0 true h.1)
    have h2 := h1.append (ih d level n (idx + 1) first h.2) (fun h => by cases h)
    simpa [srcOfXs, srcOfV, srcToksXs, srcToksV, fmtItems] using h2

end Fl

theorem entries_lastDelim : ∀ (es : Entries), lastDelim true (srcToksEs (srcOfEs .native es)) = true :=
  fun _ => lastDelim_entries _

/-- a token text the line-wise processing cannot hurt: non-empty, ends in a non-blank, holds no `\n` / `\r` -/
def TokGood (t : STok) : Prop :=
  ∃ a z, t.text = a ++ [z] ∧ isWs z = false ∧ ∀ c ∈ t.text, c ≠ '\n' ∧ c ≠ '\r'

theorem solid_of_good {t : STok} (h : TokGood t) : C12W.Solid t.text := by
  obtain ⟨a, z, htx, hz, hch⟩ := h
  exact .of_line htx hz hch

/-! ### tokens of a well-formed source document are "good" -/

theorem tokGood_word {w : Str} (hne : w ≠ []) (h : ∀ c ∈ w, isWs c = false) : TokGood (.word w) := by
  refine ⟨w.dropLast, w.getLast hne, (List.dropLast_concat_getLast hne).symm, h _ (List.getLast_mem hne), fun c hc => ?_⟩
  have := h c hc
  constructor
  · rintro rfl; rw [isWs_nl] at this; cases this
  · rintro rfl; rw [isWs_cr] at this; cases this

theorem tokGood_srcWord {w : Str} (h : isSrcWord w = true) : TokGood (.word w) := by
  have hw := (C02.Main.srcWord_iff.mp h).1
  simp only [isWordTok, Bool.and_eq_true, Bool.not_eq_true', List.all_eq_true] at hw
  exact tokGood_word (by simpa using hw.1.1) (fun c hc => (hw.1.2 c hc).1)

theorem tokGood_quoted {q : Char} {b : Str} (h : isSrcQuoted q b = true) : TokGood (.quoted q b) := by
  simp only [isSrcQuoted, Bool.and_eq_true, Bool.not_eq_true', List.all_eq_true, bne_iff_ne, ne_eq] at h
  obtain ⟨⟨⟨⟨⟨⟨⟨⟨hq, _⟩, hb⟩, _⟩, _⟩, _⟩, _⟩, _⟩, _⟩ := h
  have h1 := (quote_facts hq).1
  have h2 : q ≠ '\n' := (ne_of_class (by decide) h1).symm
  have h3 : q ≠ '\r' := (ne_of_class (by decide) h1).symm
  refine ⟨q :: b, q, by simp [STok.text], h1, fun c hc => ?_⟩
  simp only [STok.text, List.mem_cons, List.mem_append, List.not_mem_nil, or_false] at hc
  rcases hc with (rfl | hc) | rfl
  · exact ⟨h2, h3⟩
  · have := (hb c hc).1
    constructor
    · rintro rfl; revert this; decide
    · rintro rfl; revert this; decide
  · exact ⟨h2, h3⟩

theorem tokGood_lit {l : Lit} (h : l.ok = true) : TokGood l.tok := by
  cases l with
  | bare w => exact tokGood_srcWord h
  | quoted q b => exact tokGood_quoted h

theorem tokGood_delim {c : Char} (hc : Gen.delimiters.contains c = true) : TokGood (.word [c]) :=
  tokGood_word (by simp) fun x hx => by rw [List.mem_singleton.mp hx]; exact C02.delim_not_ws c (by simpa using hc)

theorem toksEs_good (d : Nat) (es : SrcEntries) (h : SrcWFEs d es = true) : ∀ t ∈ srcToksEs es, TokGood t :=
  (C02.srcToks_forall (fun _ => tokGood_delim) (fun _ => tokGood_srcWord) (fun _ => tokGood_lit)).2.1 es d h

theorem toksXs_good : ∀ (d : Nat) (xs : List Src), SrcWFXs d xs = true → ∀ t ∈ srcToksXs xs, TokGood t :=
  fun d xs h =>
    (C02.srcToks_forall (fun _ => tokGood_delim) (fun _ => tokGood_srcWord) (fun _ => tokGood_lit)).2.2 xs d h

/-! ## the property -/

theorem domC01_dom {fl : Flavor} {es : Entries} (h : DomC01 fl es = true) : domEs fl 1 es = true := by
  simp only [DomC01, Bool.and_eq_true] at h; exact h.1

theorem domStr_bare_ok {s : Str} (h : isDomStr .native s = true) (hne : s ≠ [])
    (hall : s.all (fun c => !isQuote c && !isComplexChar c) = true) (hinc : startsInclude s = false) :
    isSrcWord s = true := by
  obtain ⟨hq, hcx⟩ := (C04.all_plain_iff s).mp hall
  rcases (isDomStr_iff.mp h).2.2.2.2.2.2.2.2 with h1 | h1 | h1 | h1 | h1
  · exact absurd (by simpa using h1) hne
  · rw [hq] at h1; cases h1
  · rw [hcx] at h1; cases h1
  · exact h1
  · rw [hinc] at h1; cases h1

theorem constWords_ok : ∀ fl ∈ [Flavor.native, .foam, .base],
    (∀ b ∈ [true, false], isSrcWord (formatScalar fl (.bool b)) = true) ∧ isSrcWord (formatScalar fl .none) = true := by
  decide +kernel

theorem written_ok_nonstr {fl : Flavor} : ∀ {x : Scalar}, (∀ s, x ≠ .str s) → isDomScalar fl x = true →
    (writtenLit fl x).ok = true
  | .int z, _, _ => isSrcWord_intRepr z
  | .float l, _, h => by
    have := pyFloatRepr_numChars (pyFloatRepr_bridge h)
    exact isSrcWord_of_numChars this.1 this.2
  | .bool b, _, _ => (constWords_ok fl (by cases fl <;> decide)).1 b (by cases b <;> decide)
  | .none, _, _ => (constWords_ok fl (by cases fl <;> decide)).2
  | .str s, hs, _ => absurd rfl (hs s)

/-- (2b) on the domain the written literal is an admissible source literal -/
theorem written_ok {x : Scalar} (h : isDomScalar .native x = true) : (writtenLit .native x).ok = true := by
  cases x with
  | str s =>
    have h : isDomStr .native s = true := h
    have hboth := (isDomStr_iff.mp h).2.2.2.2.2.2.2.1
    rcases C04.formatString_native_cases (domStr_no_dollar h) with ⟨hf, hne, hall, hinc⟩ | ⟨hf, hc⟩ | ⟨hf, _, hc⟩
    · rw [writtenLit_bare hf]
      exact domStr_bare_ok h hne hall hinc
    · rw [writtenLit_quoted hf (C04.sq_ne s)]
      refine domStr_quoted h (by decide) ?_
      rcases hc with rfl | hc | ⟨_, hc⟩
      · rfl
      · cases h1 : s.contains '\'' with
        | false => rfl
        | true => exact absurd ⟨h1, hc⟩ hboth
      · rw [C04.any_isQuote] at hc
        simp only [Bool.or_eq_false_iff] at hc
        exact hc.1
    · rw [writtenLit_quoted hf (C04.dq_ne s)]
      exact domStr_quoted h (by decide) hc
  | _ => exact written_ok_nonstr (fun _ e => by cases e) h

namespace Fl
variable {fl : Flavor}

/-- (1) the writer's top-level reordering does nothing on the domain -/
theorem hoist_id {es : Entries} (h : DomC01 fl es = true) : hoistPlaceholders es = es :=
  hoistPlaceholders_id fun e he => (domKey_sel (domEs_keys (domC01_dom h) e he)).imp_right And.left

mutual
  theorem srcOfV_wf (hok : ∀ {x}, isDomScalar fl x = true → (writtenLit fl x).ok = true) :
      ∀ (d : Nat) (v : Val), domV fl d v = true → SrcWFV d (srcOfV fl v) = true
    | d, .leaf x, h => by
      simp only [domV, Bool.and_eq_true] at h
      simp only [srcOfV, SrcWFV, Bool.and_eq_true]
      exact ⟨hok h.1, h.2⟩
    | d, .dict es, h => by
      simp only [domV, Bool.and_eq_true] at h
      simp only [srcOfV, SrcWFV]
      exact srcOf_wf hok (d + 1) es h.1
    | d, .list xs, h => by
      simp only [domV] at h
      simp only [srcOfV, SrcWFV]
      exact srcOfXs_wf hok (d + 1) xs h
  theorem srcOf_wf (hok : ∀ {x}, isDomScalar fl x = true → (writtenLit fl x).ok = true) :
      ∀ (d : Nat) (es : Entries), domEs fl d es = true → SrcWFEs d (srcOfEs fl es) = true
    | _, [], _ => by simp [srcOfEs, SrcWFEs]
    | d, (k, v) :: es, h => by
      simp only [domEs, Bool.and_eq_true] at h
      simp only [srcOfEs, SrcWFEs, Bool.and_eq_true]
      exact ⟨⟨⟨domKey_word h.1.1, by rw [domKey_types_back h.1.1]; rfl⟩, srcOfV_wf hok d v h.1.2⟩, srcOf_wf hok d es h.2⟩
  theorem srcOfXs_wf (hok : ∀ {x}, isDomScalar fl x = true → (writtenLit fl x).ok = true) :
      ∀ (d : Nat) (xs : List Val), domXs fl d xs = true → SrcWFXs d (srcOfXs fl xs) = true
    | _, [], _ => by simp [srcOfXs, SrcWFXs]
    | d, v :: xs, h => by
      simp only [domXs, Bool.and_eq_true] at h
      simp only [srcOfXs, SrcWFXs, Bool.and_eq_true]
      exact ⟨srcOfV_wf hok d v h.1, srcOfXs_wf hok d xs h.2⟩
end

/-- (5) the written document denotes the normalised dict -/
theorem den_written (hden : ∀ {x}, isDomScalar fl x = true → (writtenLit fl x).den = normScalar x) {es : Entries}
    (h : DomC01 fl es = true) : denSrcEs (srcOfEs fl es) [] = normEs es := by
  simp only [DomC01, Bool.and_eq_true, decide_eq_true_eq] at h
  rw [den_srcOfEs hden 1 es [] h.1 h.2 (fun _ _ hk => by cases hk)]
  rfl

/-- (3) the raw output of the writer (before trailing-space removal) is an admissible layout of the tokens of the
    written document -/
theorem fmt_is_layout {es : Entries} (h : DomC01 fl es = true) :
    ∃ gaps tail, fmtEntries fl 0 es = spreadS (srcToksEs (srcOfEs fl es)) gaps tail ∧
      GapsOKS (srcToksEs (srcOfEs fl es)) gaps = true ∧ tail.all isWs = true :=
  (lays.1 es 1 0 (domC01_dom h)).to_spread

end Fl

/-- (1) the writer's top-level reordering does nothing on the domain -/
theorem hoist_id {es : Entries} (h : DomC01 .native es = true) : hoistPlaceholders es = es := Fl.hoist_id h


theorem srcOfV_wf : ∀ (d : Nat) (v : Val), domV .native d v = true → SrcWFV d (srcOfV .native v) = true :=
  Fl.srcOfV_wf written_ok

/-- (2c) the written document is a well-formed source document -/
theorem srcOf_wf : ∀ (d : Nat) (es : Entries), domEs .native d es = true → SrcWFEs d (srcOfEs .native es) = true :=
  Fl.srcOf_wf written_ok

theorem srcOfXs_wf : ∀ (d : Nat) (xs : List Val), domXs .native d xs = true → SrcWFXs d (srcOfXs .native xs) = true :=
  Fl.srcOfXs_wf written_ok

/-- (5) the written document denotes the normalised dict -/
theorem den_written {es : Entries} (h : DomC01 .native es = true) : denSrcEs (srcOfEs .native es) [] = normEs es :=
  Fl.den_written den_writtenLit h

/-- (3) the raw output of the writer (before trailing-space removal) is an admissible layout of the tokens of the
    written document -/
theorem fmt_is_layout {es : Entries} (h : DomC01 .native es = true) :
    ∃ gaps tail, fmtEntries .native 0 es = spreadS (srcToksEs (srcOfEs .native es)) gaps tail ∧
      GapsOKS (srcToksEs (srcOfEs .native es)) gaps = true ∧ tail.all isWs = true :=
  Fl.fmt_is_layout h

/-! ### (4) trailing-space removal keeps the layout -/

theorem Lays.removeTrailing {pd : Bool} {ts : List STok} {txt : Str} (h : Lays pd ts txt) (hgood : ∀ t ∈ ts, TokGood t) :
    Lays pd ts (removeTrailingSpaces txt) := by
  obtain ⟨tail, l, hm, rfl, ok, ht⟩ := C12W.lays_iff.mp h
  obtain ⟨l', e, hm', ok', _⟩ := C12W.removeTrailing_lay C12W.XTok.text l _ tail ok fun p hp => by
    obtain ⟨t, ht, e⟩ := List.mem_map.mp (hm ▸ List.mem_map_of_mem hp : p.2 ∈ ts.map C12W.XTok.tok)
    rw [← e]
    exact solid_of_good (hgood t ht)
  simp only [C03c.layG_text] at e
  exact C12W.lays_iff.mpr ⟨_, l', hm'.trans hm, e, ok', removeTrailingSpaces_ws ht⟩

/-- (4) `remove_trailing_spaces` maps an admissible layout of tokens that hold no line break and end in a non-blank
    to an admissible layout of the same tokens (whatever white space the gaps consist of, `\r` included) -/
theorem rts_layout (ts : List STok) (gaps : List Str) (tail : Str) (hgood : ∀ t ∈ ts, TokGood t)
    (hok : GapsOKS ts gaps = true) (htail : tail.all isWs = true) :
    ∃ gaps' tail', removeTrailingSpaces (spreadS ts gaps tail) = spreadS ts gaps' tail' ∧
      GapsOKS ts gaps' = true ∧ tail'.all isWs = true :=
  ((Lays.of_spread hok htail).removeTrailing hgood).to_spread

/-- everything the reader-side theorems need about a writer: what it writes for a dict of the domain (reordering,
    formatting, trailing-space removal) is an admissible layout of a well-formed source document that means the
    normalised dict -/
theorem Fl.writer {fl : Flavor} (hok : ∀ {x}, isDomScalar fl x = true → (writtenLit fl x).ok = true)
    (hden : ∀ {x}, isDomScalar fl x = true → (writtenLit fl x).den = normScalar x) {es : Entries}
    (h : DomC01 fl es = true) :
    SrcWFEs 1 (srcOfEs fl es) = true ∧
    denSrcEs (srcOfEs fl es) [] = normEs es ∧
    ∃ gaps tail, removeTrailingSpaces (fmtEntries fl 0 (hoistPlaceholders es)) =
        spreadS (srcToksEs (srcOfEs fl es)) gaps tail ∧
      GapsOKS (srcToksEs (srcOfEs fl es)) gaps = true ∧ tail.all isWs = true := by
  have hwf := Fl.srcOf_wf hok 1 es (domC01_dom h)
  obtain ⟨gaps, tail, e, ok, ht⟩ := Fl.fmt_is_layout h
  rw [Fl.hoist_id h, e]
  exact ⟨hwf, Fl.den_written hden h, rts_layout _ gaps tail (toksEs_good 1 _ hwf) ok ht⟩

theorem C01_writer {es : Entries} (h : DomC01 .native es = true) :
    SrcWFEs 1 (srcOfEs .native es) = true ∧
    denSrcEs (srcOfEs .native es) [] = normEs es ∧
    ∃ gaps tail, fmtPlain .native es = spreadS (srcToksEs (srcOfEs .native es)) gaps tail ∧
      GapsOKS (srcToksEs (srcOfEs .native es)) gaps = true ∧ tail.all isWs = true :=
  Fl.writer written_ok den_writtenLit h

/-- (4, for the writer) the text the native writer produces for a dict of the domain is an admissible layout of the
    tokens of the written document -/
theorem fmtPlain_is_layout {es : Entries} (h : DomC01 .native es = true) :
    ∃ gaps tail, fmtPlain .native es = spreadS (srcToksEs (srcOfEs .native es)) gaps tail ∧
      GapsOKS (srcToksEs (srcOfEs .native es)) gaps = true ∧ tail.all isWs = true :=
  (C01_writer h).2.2

/-! ### an `SDict` whose side tables are empty

  Stated for every flavour, so that no header constant has to be compared with anything. -/

theorem insertBlockComments_nil (fl : Flavor) (t : Str) :
    insertBlockComments fl [] t = makeDefaultBlockComment fl [] ++ t := by
  simp only [insertBlockComments, List.foldl_nil, List.isEmpty_nil, if_true]

theorem fmtSD_plain (fl : Flavor) (e : Entries) :
    fmtSD fl { data := e } = some (removeTrailingSpaces (makeDefaultBlockComment fl [] ++
      fmtEntries fl 0 (hoistPlaceholders (match fl with | .foam => dropUnderscoreEs fl e | _ => e)))) := by
  simp only [fmtSD, insertBlockComments_nil, insertIncludes, insertLineComments, List.foldl_nil]
  rfl

theorem makeDefault_native_nil : makeDefaultBlockComment .native [] = nativeHeader := by
  unfold makeDefaultBlockComment
  simp only [containsCpp, Bool.false_eq_true, if_false, List.append_nil]

/-! ### (6) non-vacuity -/

/-- `{'k': 'a;b', 'l': [1, 'x y', {'q': "it's"}], 's': {'t': 2.5, 7: None}, 'e': ''}` -/
def exDict : Entries :=
  [(.str "k".toList, .leaf (.str "a;b".toList)),
   (.str "l".toList, .list [.leaf (.int 1), .leaf (.str "x y".toList), .dict [(.str "q".toList, .leaf (.str "it's".toList))]]),
   (.str "s".toList, .dict [(.str "t".toList, .leaf (.float "2.5".toList)), (.int 7, .leaf .none)]),
   (.str "e".toList, .leaf (.str []))]

theorem exDict_dom : DomC01 .native exDict = true := by decide +kernel

/-- lines to text (every line ends in `\n`); the expected texts are given line by line because the kernel unfolds a
    long string literal slowly -/
def unlines (ls : List String) : Str := ls.flatMap fun l => l.toList ++ ['\n']

/-- the raw text (before trailing-space removal: the line `1                 'x y'` ends in padding) -/
theorem exDict_raw : fmtEntries .native 0 exDict = unlines
    ["k                             'a;b';",
     "l",
     "(",
     "    1                 'x y'             ",
     "    {",
     "        q                     \"it's\";",
     "    }",
     ");",
     "s",
     "{",
     "    t                         2.5;",
     "    7                         NULL;",
     "}",
     "e                             '';"] := by
  simp only [unlines, List.flatMap_cons, List.flatMap_nil]
  literal_chars
  simp only [exDict, fmtEntries, fmtList, fmtItems, formatKey, keyStr, formatScalar]
  decide +kernel

theorem exDict_text : fmtPlain .native exDict = unlines
    ["k                             'a;b';",
     "l",
     "(",
     "    1                 'x y'",
     "    {",
     "        q                     \"it's\";",
     "    }",
     ");",
     "s",
     "{",
     "    t                         2.5;",
     "    7                         NULL;",
     "}",
     "e                             '';"] := by
  rw [show fmtPlain .native exDict = removeTrailingSpaces (fmtEntries .native 0 (hoistPlaceholders exDict)) from rfl,
    hoist_id exDict_dom, exDict_raw]
  simp only [unlines, List.flatMap_cons, List.flatMap_nil]
  literal_chars
  decide +kernel

theorem exDict_norm : normEs exDict = exDict := by decide +kernel

/-- the example instantiates the theorems: the writer's text is an admissible layout of a well-formed source
    document that denotes the dict itself (normalisation changes nothing here) -/
theorem exDict_writer :
    SrcWFEs 1 (srcOfEs .native exDict) = true ∧
    denSrcEs (srcOfEs .native exDict) [] = exDict ∧
    ∃ gaps tail, fmtPlain .native exDict = spreadS (srcToksEs (srcOfEs .native exDict)) gaps tail ∧
      GapsOKS (srcToksEs (srcOfEs .native exDict)) gaps = true ∧ tail.all isWs = true := by
  have := C01_writer exDict_dom
  rwa [exDict_norm] at this

/-- the tokens of the example document -/
theorem exDict_toks : (srcToksEs (srcOfEs .native exDict)).map STok.text =
    ["k", "'a;b'", ";", "l", "(", "1", "'x y'", "{", "q", "\"it's\"", ";", "}", ")", ";",
     "s", "{", "t", "2.5", ";", "7", "NULL", ";", "}", "e", "''", ";"].map String.toList := by
  simp only [exDict, srcOfEs, srcOfV, srcOfXs, srcToksEs, srcToksV, srcToksXs, List.map_cons, List.map_nil,
    written_text, text_word, keyStr, formatScalar, List.cons_append, List.nil_append]
  decide +kernel

/-! ### why the hypotheses are there -/

/-- decidable form of `TokGood` -/
def tokGoodB (t : STok) : Bool :=
  (match t.text.getLast? with | some z => !isWs z | none => false) && t.text.all fun c => c != '\n' && c != '\r'

theorem tokGoodB_iff (t : STok) : tokGoodB t = true ↔ TokGood t := by
  simp only [tokGoodB, TokGood, Bool.and_eq_true, List.all_eq_true, bne_iff_ne, ne_eq]
  constructor
  · rintro ⟨h1, h2⟩
    split at h1
    · next z hz =>
      obtain ⟨a, ha⟩ := List.getLast?_eq_some_iff.mp hz
      exact ⟨a, z, ha, by simpa using h1, h2⟩
    · cases h1
  · rintro ⟨a, z, ha, hz, h2⟩
    refine ⟨?_, h2⟩
    rw [ha, List.getLast?_concat]
    simp [hz]

instance (t : STok) : Decidable (TokGood t) := decidable_of_iff _ (tokGoodB_iff t)

/-- `rts_layout` needs more than "no token holds `\n` or `\r`": a token that ends in a blank is cut when it stands at
    the end of a line (here: of the text).  (No source token does: words hold no blank, quoted strings end in the quote.) -/
theorem rts_layout_needs_nonblank_end :
    ¬ ∀ (ts : List STok) (gaps : List Str) (tail : Str), (∀ t ∈ ts, ∀ c ∈ t.text, c ≠ '\n' ∧ c ≠ '\r') →
      GapsOKS ts gaps = true → tail.all isWs = true →
      ∃ gaps' tail', removeTrailingSpaces (spreadS ts gaps tail) = spreadS ts gaps' tail' ∧
        GapsOKS ts gaps' = true ∧ tail'.all isWs = true := by
  intro h
  obtain ⟨gaps', tail', e, _, _⟩ := h [.word "a ".toList] [[]] [] (by decide) (by decide) (by decide)
  have e0 : removeTrailingSpaces (spreadS [.word "a ".toList] [[]] []) = ['a'] := by decide
  rw [e0] at e
  have := congrArg List.length e
  cases gaps' <;> simp [spreadS, spread, STok.text] at this
  omega

/-- … and it needs "no token holds a line feed": blanks in front of a line feed inside a (quoted) token are removed -/
theorem rts_layout_needs_no_nl :
    ¬ ∀ (ts : List STok) (gaps : List Str) (tail : Str),
      (∀ t ∈ ts, ∃ a z, t.text = a ++ [z] ∧ isWs z = false) →
      GapsOKS ts gaps = true → tail.all isWs = true →
      ∃ gaps' tail', removeTrailingSpaces (spreadS ts gaps tail) = spreadS ts gaps' tail' ∧
        GapsOKS ts gaps' = true ∧ tail'.all isWs = true := by
  intro h
  obtain ⟨gaps', tail', e, _, _⟩ := h [.quoted '\'' "a \nb".toList] [[]] []
    (by intro t ht; simp only [List.mem_singleton] at ht; subst ht; exact ⟨"'a \nb".toList, '\'', by decide, by decide⟩)
    (by decide) (by decide)
  have e0 : removeTrailingSpaces (spreadS [.quoted '\'' "a \nb".toList] [[]] []) = "'a\nb'".toList := by decide
  rw [e0] at e
  have := congrArg List.length e
  cases gaps' <;> simp [spreadS, spread, STok.text] at this
  omega

/-- outside the domain the top-level reordering is not the identity: a key that looks like a block-comment
    placeholder moves to the front -/
theorem hoist_id_needs_dom :
    hoistPlaceholders [(.str "a".toList, .leaf (.int 1)), (.str "BLOCKCOMMENT000001".toList, .leaf (.int 2))] ≠
      [(.str "a".toList, .leaf (.int 1)), (.str "BLOCKCOMMENT000001".toList, .leaf (.int 2))] := by
  decide +kernel

/-- outside the domain the leaf-entry line spells the key by `format_key` (quoted when it holds a blank), which is
    not the word `str(key)`: the writer's line is no layout of the expected tokens -/
theorem fmt_is_layout_needs_dom :
    ¬ ∃ gaps tail, fmtEntries .native 0 [(.str "a b".toList, .leaf (.bool true))] =
        spreadS (srcToksEs (srcOfEs .native [(.str "a b".toList, .leaf (.bool true))])) gaps tail ∧
      GapsOKS (srcToksEs (srcOfEs .native [(.str "a b".toList, .leaf (.bool true))])) gaps = true := by
  rintro ⟨gaps, tail, e, ok⟩
  have e1 : fmtEntries .native 0 [(.str "a b".toList, .leaf (.bool true))] =
      '\'' :: ("a b'".toList ++ spaces 25 ++ "true;\n".toList) := by
    simp only [fmtEntries, formatKey, formatScalar]
    decide
  have e2 : srcToksEs (srcOfEs .native [(.str "a b".toList, .leaf (.bool true))]) =
      [.word "a b".toList, .word "true".toList, .word [';']] := by decide
  rw [e1, e2] at e
  rw [e2] at ok
  match gaps, ok with
  | g :: g' :: gs, ok =>
    simp only [GapsOKS, Bool.and_eq_true] at ok
    have hg := ok.1.1
    cases g with
    | nil => simp [spreadS, spread, STok.text] at e
    | cons c g =>
      simp only [spreadS, spread, List.map_cons, List.cons_append, List.cons.injEq] at e
      simp only [List.all_cons, Bool.and_eq_true] at hg
      rw [← e.1] at hg
      exact absurd hg.1 (by decide)

end DictIO.C01
