/-
  Library root.  A file Props/Cxx<suffix>.lean belongs to the check `./check Cxx` of its file name exactly when it is
  imported here (harness/check.py, `prop_modules`).
-/
import DictIO.Model.Value
import DictIO.Model.Chars
import DictIO.Model.Dict
import DictIO.Model.Order
import DictIO.Model.KeyPath
import DictIO.Lemmas.Order
import DictIO.Lemmas.Assoc
import DictIO.Lemmas.SelMap
import DictIO.Lemmas.List
import DictIO.Lemmas.Fold
import DictIO.Lemmas.Str
import DictIO.Lemmas.Rts
import DictIO.Lemmas.Digits
import DictIO.Lemmas.Counter
import DictIO.Lemmas.Tbl
import DictIO.Lemmas.Reader
import DictIO.Lemmas.Writer
import DictIO.Lemmas.Regex
import DictIO.Lemmas.Literal
import DictIO.Lemmas.Induct
import DictIO.Lemmas.InductSrc
import DictIO.Lemmas.Except
import DictIO.Lemmas.Clean
import DictIO.Lemmas.SubstPh
import DictIO.Lemmas.Merge
import DictIO.Lemmas.Chars
import DictIO.Lemmas.Ph
import DictIO.Lemmas.Refs
import DictIO.Props.C15
import DictIO.Model.Scalar
import DictIO.Props.C14
import DictIO.Model.Path
import DictIO.Model.Counter
import DictIO.Model.NativeFormat
import DictIO.Model.NativeParse
import DictIO.Model.Grammar
import DictIO.Model.GrammarC
import DictIO.Props.C07
import DictIO.Lemmas.Scalar
import DictIO.Props.C04
import DictIO.Model.Reader
import DictIO.Lemmas.DecEq
import DictIO.Props.C02
import DictIO.Props.C18
import DictIO.Props.C13name
import DictIO.Model.Written
import DictIO.Props.C02ins
import DictIO.Props.C02front
import DictIO.Model.Writer
import DictIO.Model.Cli
import DictIO.Props.C17
import DictIO.Props.C13
import DictIO.Model.Xml
import DictIO.Props.C02lex
import DictIO.Props.C01fmt
import DictIO.Props.C02main
import DictIO.Props.C01
import DictIO.Props.C16
import DictIO.Props.C09
import DictIO.Props.C03
import DictIO.Props.C05
import DictIO.Props.C06
import DictIO.Props.C08
import DictIO.Props.C10
import DictIO.Props.C11
import DictIO.Props.C12
import DictIO.Props.C01re
import DictIO.Props.C02re
import DictIO.Props.C03re
import DictIO.Props.C04re
import DictIO.Props.C05re
import DictIO.Props.C06re
import DictIO.Props.C07re
import DictIO.Props.C08re
import DictIO.Props.C09re
import DictIO.Props.C10re
import DictIO.Props.C11re
import DictIO.Props.C12re
import DictIO.Props.C13re
import DictIO.Props.C16re
import DictIO.Props.C17re
import DictIO.Props.C18re
import DictIO.Props.C12hdr
import DictIO.Props.C01dump
import DictIO.Props.C16fold
import DictIO.Props.C03bytes
import DictIO.Props.C12idoc
import DictIO.Props.C12scan
import DictIO.Props.C12stages
import DictIO.Props.C12rest
import DictIO.Props.C12read
import DictIO.Props.C12off
import DictIO.Props.C06fold
import DictIO.Props.C05eval
import DictIO.Props.C05acyclic
import DictIO.Props.C08ren
import DictIO.Props.C08nat
import DictIO.Props.C15file
import DictIO.Props.C10file
import DictIO.Props.C12xtok
import DictIO.Props.C12lay
import DictIO.Props.C12wtext
import DictIO.Props.C12write
import DictIO.Props.C12round
import DictIO.Props.C12incl
import DictIO.Props.C12top
import DictIO.Props.C03cycles
import DictIO.Props.C05read
import DictIO.Props.C09equiv
import DictIO.Props.C08incl
import DictIO.Props.C12wincl
import DictIO.Props.C09mixed
import DictIO.Model.Api
import DictIO.Props.C13api
import DictIO.Props.C14read
import DictIO.Props.C05nested
import DictIO.Props.C16sd
import DictIO.Props.C08api
import DictIO.Props.C16ext
import DictIO.Props.C10sd
import DictIO.Props.C03expr
import DictIO.Props.C03incl
